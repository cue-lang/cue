/-
Bridge for C01. The evaluator (scheduler, sharing, typocheck, disjunct2: ~20k lines) is NOT
transcribed: the CueCore model (Model/Core.lean) is tied to it by correspondence (O-level op
`eval`) and the property is checked directly on the implementation (rearrangement predicate).
The pins below fingerprint the anchored entry points the property's mechanisms live in; a
changed pin says "this function is no longer the one the correspondence was validated
against" and makes the check search for a failing input.
-/
import CueVerif.Gen.C01
namespace CueVerif.Bridge.C01
open CueVerif

theorem pin_scheduleVertexConjuncts : Gen.C01.pin_adt_nodeContext_scheduleVertexConjuncts = "c079f5f0eddcdb68" := rfl
theorem pin_insertArc : Gen.C01.pin_adt_nodeContext_insertArc = "fea0d37dafe6ba42" := rfl
theorem pin_shareIfPossible : Gen.C01.pin_adt_nodeContext_shareIfPossible = "11c45d1f8b9e8ca5" := rfl
theorem pin_unshare : Gen.C01.pin_adt_nodeContext_unshare = "240570efcc03624d" := rfl
theorem pin_appendDisjunct : Gen.C01.pin_adt_appendDisjunct = "8b8814151ffd0e28" := rfl
theorem pin_updateArcType : Gen.C01.pin_adt_Vertex_updateArcType = "f682055c0ea63d3e" := rfl
theorem pin_addResolver : Gen.C01.pin_adt_nodeContext_addResolver = "790fb6e8c931de77" := rfl
theorem pin_processListLit : Gen.C01.pin_adt_processListLit = "bd2dae69b1f2c488" := rfl
theorem pin_checkTypos : Gen.C01.pin_adt_nodeContext_checkTypos = "2d2e6da9e8a67d4f" := rfl

end CueVerif.Bridge.C01
