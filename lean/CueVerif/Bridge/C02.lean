/-
Bridge for C02: fingerprints of the normalised source of the functions the models
transcribe (Model/Sanitize.lean, Model/Toposort.lean, Model/VertexFeatures.lean, Model/ScanLoops.lean), regenerated from /repo on every run.
The models were validated (O-level correspondence, notes/C02.md) against exactly these
versions; a changed pin says "the hand model is no longer known to describe this function".
(`appendToList` appends to a clipped slice: how the list is BUILT is not part of the model, only
its element order.)
-/
import CueVerif.Gen.C02
namespace CueVerif.Bridge.C02
open CueVerif

theorem pin_errors_Sanitize : Gen.C02.pin_errors_Sanitize = "9782d93db99d683d" := rfl
theorem pin_errors_list_sanitize : Gen.C02.pin_errors_list_sanitize = "a97f023ff62f62a3" := rfl
theorem pin_errors_list_removeMultiples : Gen.C02.pin_errors_list_removeMultiples = "20c82bbbf43b2fb6" := rfl
theorem pin_errors_comparePosWithNoPosFirst : Gen.C02.pin_errors_comparePosWithNoPosFirst = "c164d7c7cd7818dd" := rfl
theorem pin_errors_Print : Gen.C02.pin_errors_Print = "90c9148cabe788e5" := rfl
theorem pin_errors_Errors : Gen.C02.pin_errors_Errors = "5f65bfc7f7b6839b" := rfl
theorem pin_errors_appendToList : Gen.C02.pin_errors_appendToList = "0e99e3e53321deb5" := rfl
theorem pin_token_Pos_Compare : Gen.C02.pin_token_Pos_Compare = "9318dfc39e699905" := rfl
theorem pin_token_Pos_IsValid : Gen.C02.pin_token_Pos_IsValid = "bde37ca2594d007d" := rfl
theorem pin_token_Pos_Filename : Gen.C02.pin_token_Pos_Filename = "6795ed360d790756" := rfl
theorem pin_token_Pos_Offset : Gen.C02.pin_token_Pos_Offset = "4eaca812afb1e38f" := rfl
theorem pin_token_Pos_HasAbsPos : Gen.C02.pin_token_Pos_HasAbsPos = "25edd0214c79bea2" := rfl
theorem pin_toposort_compareNodeByName : Gen.C02.pin_toposort_indexComparison_compareNodeByName = "d390e39c12c8479c" := rfl
theorem pin_toposort_compareComponentsByNodes : Gen.C02.pin_toposort_indexComparison_compareComponentsByNodes = "5470addf40591194" := rfl
theorem pin_toposort_Graph_Sort : Gen.C02.pin_toposort_Graph_Sort = "75d5d60eb8378346" := rfl
theorem pin_toposort_appendNodes : Gen.C02.pin_toposort_appendNodes = "64a660746af55357" := rfl
theorem pin_toposort_Graph_StronglyConnectedComponents : Gen.C02.pin_toposort_Graph_StronglyConnectedComponents = "6bb09fe37345ba74" := rfl
theorem pin_toposort_findSCC : Gen.C02.pin_toposort_sccFinderState_findSCC = "80221666e2e6d8c9" := rfl
theorem pin_toposort_GraphBuilder_Build : Gen.C02.pin_toposort_GraphBuilder_Build = "af42fde79b45233c" := rfl
theorem pin_toposort_GraphBuilder_AddEdge : Gen.C02.pin_toposort_GraphBuilder_AddEdge = "3ab62e6428ab5582" := rfl
theorem pin_toposort_GraphBuilder_EnsureNode : Gen.C02.pin_toposort_GraphBuilder_EnsureNode = "24ae4d60bca1f916" := rfl
-- graph construction from struct literals (Model/VertexFeatures.lean); `analyseStructs` and
-- `hasDynamic` are pinned because the model takes their OUTPUT as its input (positions and
-- explicitness per struct literal; no dynamic fields in the modelled fragment)
theorem pin_toposort_VertexFeatures : Gen.C02.pin_toposort_VertexFeatures = "6f05a62be47069a4" := rfl
theorem pin_toposort_addEdges : Gen.C02.pin_toposort_vertexFeatures_addEdges = "7cc89bdc9afb20db" := rfl
theorem pin_toposort_compareStructMeta : Gen.C02.pin_toposort_vertexFeatures_compareStructMeta = "7f95a9a8b35df426" := rfl
theorem pin_toposort_batch_isExplicit : Gen.C02.pin_toposort_structMetaBatch_isExplicit = "f7910ed74d3b5919" := rfl
theorem pin_toposort_appendBatch : Gen.C02.pin_toposort_structMetaBatches_appendBatch = "11b14324ec362601" := rfl
theorem pin_toposort_analyseStructs : Gen.C02.pin_toposort_analyseStructs = "a16ba8a946cc1a5b" := rfl
theorem pin_toposort_hasDynamic : Gen.C02.pin_toposort_structMeta_hasDynamic = "2a3e08d6ef51e3f8" := rfl

-- the scanner's dispatch and loops (Model/ScanLoops.lean)
theorem pin_scanner_next : Gen.C02.pin_scanner_Scanner_next = "4dd23fe72be50da9" := rfl
theorem pin_scanner_Init : Gen.C02.pin_scanner_Scanner_Init = "8a1daa0240f564d3" := rfl
theorem pin_scanner_isLetter : Gen.C02.pin_scanner_isLetter = "7aecc90050bc9728" := rfl
theorem pin_scanner_isDigit : Gen.C02.pin_scanner_isDigit = "da5acf79aeff31b3" := rfl
theorem pin_scanner_digitVal : Gen.C02.pin_scanner_digitVal = "10408a34ff508f9b" := rfl
theorem pin_scanner_scanIdentifier : Gen.C02.pin_scanner_Scanner_scanIdentifier = "ad41905e29154764" := rfl
theorem pin_scanner_scanFieldIdentifier : Gen.C02.pin_scanner_Scanner_scanFieldIdentifier = "8a2ef1e485ff91a2" := rfl
theorem pin_scanner_scanComment : Gen.C02.pin_scanner_Scanner_scanComment = "c15cdd15739ba840" := rfl
theorem pin_scanner_skipWhitespace : Gen.C02.pin_scanner_Scanner_skipWhitespace = "8ed44dd8247d3a8a" := rfl
theorem pin_scanner_recoverParen : Gen.C02.pin_scanner_Scanner_recoverParen = "049341926de4efdc" := rfl
theorem pin_scanner_consumeQuotes : Gen.C02.pin_scanner_Scanner_consumeQuotes = "90a17b53fb88b472" := rfl
theorem pin_scanner_scanHashes : Gen.C02.pin_scanner_Scanner_scanHashes = "b6afb35f43d723c9" := rfl
theorem pin_scanner_consumeStringClose : Gen.C02.pin_scanner_Scanner_consumeStringClose = "99ab59f3f07d775f" := rfl
theorem pin_scanner_scanEscape : Gen.C02.pin_scanner_Scanner_scanEscape = "797f428a147aef6f" := rfl
theorem pin_scanner_scanString : Gen.C02.pin_scanner_Scanner_scanString = "983ef5dcdf6576cb" := rfl
theorem pin_scanner_popInterpolation : Gen.C02.pin_scanner_Scanner_popInterpolation = "866cdcaf74bd11eb" := rfl
theorem pin_scanner_ResumeInterpolation : Gen.C02.pin_scanner_Scanner_ResumeInterpolation = "3aed8293d9693a6e" := rfl
theorem pin_scanner_scanAttribute : Gen.C02.pin_scanner_Scanner_scanAttribute = "a84ad2fdb4420f7d" := rfl
theorem pin_scanner_scanAttributeTokens : Gen.C02.pin_scanner_Scanner_scanAttributeTokens = "c26ed2004ce3c642" := rfl
theorem pin_scanner_switch2 : Gen.C02.pin_scanner_Scanner_switch2 = "4c47f82ae3efbba1" := rfl
theorem pin_scanner_Scan : Gen.C02.pin_scanner_Scanner_Scan = "e9b435645f244f67" := rfl

end CueVerif.Bridge.C02
