/-
Bridge for C03: facts regenerated from /repo (CueVerif.Gen.C03) versus the hand model
(CueVerif.Model.Scalar / Model.Dec).  Tables are compared cell by cell; `pin_*` are fingerprints
of the normalised source of the functions the model transcribes by hand — the model was
validated (correspondence, notes/C03.md) against exactly these versions.
-/
import CueVerif.Gen.C03
import CueVerif.Model.Scalar
namespace CueVerif.Bridge.C03
open CueVerif CueVerif.Scalar

/-! ### adt.Kind bits -/
theorem kind_bits :
    Gen.C03.NullKind = (Kind.null : Nat) ∧ Gen.C03.BoolKind = (Kind.bool : Nat) ∧
    Gen.C03.IntKind = (Kind.int : Nat) ∧ Gen.C03.FloatKind = (Kind.float : Nat) ∧
    Gen.C03.StringKind = (Kind.string : Nat) ∧ Gen.C03.BytesKind = (Kind.bytes : Nat) ∧
    Gen.C03.NumberKind = (Kind.number : Nat) ∧ Gen.C03.TopKind = (Kind.top : Nat) ∧
    Gen.C03.BottomKind = (Kind.bottom : Nat) := by decide

/-- the atoms' kind bits are the generated constants -/
theorem atom_kinds :
    (Atom.null.kind : Int) = Gen.C03.NullKind ∧ ((Atom.bool true).kind : Int) = Gen.C03.BoolKind ∧
    ((Atom.int 0).kind : Int) = Gen.C03.IntKind ∧ ((Atom.float ⟨0, 0⟩).kind : Int) = Gen.C03.FloatKind ∧
    ((Atom.str []).kind : Int) = Gen.C03.StringKind ∧ ((Atom.bytes []).kind : Int) = Gen.C03.BytesKind := by
  decide

/-- `TopKind &^ NullKind` -/
theorem nonNull_kind : (Kind.nonNull : Int) = Gen.C03.TopKind - Gen.C03.NullKind := rfl

/-! ### opInfo -/
def opName : Op → String
  | .lt => "LessThanOp" | .le => "LessEqualOp" | .gt => "GreaterThanOp" | .ge => "GreaterEqualOp"
  | .ne => "NotEqualOp" | .mat => "MatchOp" | .nmat => "NotMatchOp"

/-- the model's `opInfo` is the code's table (the `EqualOp` row is not reachable from CUE source
without the struct-comparison experiment's unary `==`, and not modelled) -/
theorem opInfo_eq :
    Gen.C03.opInfo.filter (fun r => r.1 != "EqualOp") =
      [Op.gt, .ge, .lt, .le, .ne, .mat, .nmat].map
        (fun op => (opName op, opName (opInfo op).1, (opInfo op).2)) := by decide

/-! ### cmpTonode -/
def relHolds (s : String) (o : Ordering) : Option Bool :=
  if s = "r == -1" then some (o == .lt)
  else if s = "r != 1" then some (o != .gt)
  else if s = "r == 0" then some (o == .eq)
  else if s = "r != 0" then some (o != .eq)
  else if s = "r != -1" then some (o != .lt)
  else if s = "r == 1" then some (o == .gt)
  else none

theorem cmpTonode_eq :
    [Op.lt, .le, .gt, .ge, .ne].all (fun op =>
      match Gen.C03.cmpTonode.lookup (opName op) with
      | some s => [Ordering.lt, .eq, .gt].all (fun o => relHolds s o == some (opHolds op o))
      | none => false) = true := by decide

/-! ### predeclared ranges -/
def rangeName : Range → String
  | .rune => "rune" | .int8 => "int8" | .int16 => "int16" | .int32 => "int32" | .int64 => "int64"
  | .int128 => "int128" | .uint => "uint" | .uint8 => "uint8" | .uint16 => "uint16"
  | .uint32 => "uint32" | .uint64 => "uint64" | .uint128 => "uint128"
  | .float32 => "float32" | .float64 => "float64"

def rangeEntry (r : Range) : String × String × Int × Int :=
  match r.intSpec with
  | none => (rangeName r, "float", r.floatMax.coeff, r.floatMax.exp)
  | some (lo, some hi) => (rangeName r, "int", lo, hi)
  | some (_, none) => (rangeName r, "uint", 0, 0)

theorem ranges_eq :
    Gen.C03.ranges =
      [Range.float32, .float64, .int128, .int16, .int32, .int64, .int8, .rune, .uint, .uint128,
       .uint16, .uint32, .uint64, .uint8].map rangeEntry := rfl

/-! ### precision of internal.BaseContext -/
theorem precision_eq : Gen.C03.basePrecision = Dec.basePrecision := rfl

/-! ### fingerprints of the hand-transcribed functions -/
theorem pin_adt_SimplifyBounds : Gen.C03.pin_adt_SimplifyBounds = "a045e09e37d9b75c" := rfl
theorem pin_adt_errIncompatibleBounds : Gen.C03.pin_adt_errIncompatibleBounds = "39ae5aa39eb08248" := rfl
theorem pin_adt_opInfo : Gen.C03.pin_adt_opInfo = "ac1dec46ed039f64" := rfl
theorem pin_adt_cmpTonode : Gen.C03.pin_adt_cmpTonode = "b3615dae370638bb" := rfl
theorem pin_adt_BinOpBool : Gen.C03.pin_adt_BinOpBool = "4bfdf810ebb3ce0b" := rfl
theorem pin_adt_BinOp : Gen.C03.pin_adt_BinOp = "3e59a3ba75fe3a9b" := rfl
theorem pin_adt_BoundValue_Kind : Gen.C03.pin_adt_BoundValue_Kind = "fc65d3abf272dcaa" := rfl
theorem pin_adt_BoundValue_validate : Gen.C03.pin_adt_BoundValue_validate = "7df3091fa67f5965" := rfl
theorem pin_adt_BoundExpr_evaluate : Gen.C03.pin_adt_BoundExpr_evaluate = "3923a73cb7270ef5" := rfl
theorem pin_adt_nodeContext_insertValueConjunct : Gen.C03.pin_adt_nodeContext_insertValueConjunct = "1216d9583fe9fd23" := rfl
theorem pin_adt_nodeContext_updateNodeType : Gen.C03.pin_adt_nodeContext_updateNodeType = "e18b2c95d3b5c06e" := rfl
theorem pin_adt_nodeContext_validateValue : Gen.C03.pin_adt_nodeContext_validateValue = "db535d39618051b6" := rfl
theorem pin_adt_nodeContext_getValidators : Gen.C03.pin_adt_nodeContext_getValidators = "616feacd6ddef777" := rfl
theorem pin_compile_mkIntRange : Gen.C03.pin_compile_mkIntRange = "9528daf201c782dc" := rfl
theorem pin_compile_mkFloatRange : Gen.C03.pin_compile_mkFloatRange = "47b45078d3d0730d" := rfl
theorem pin_compile_mkUint : Gen.C03.pin_compile_mkUint = "2307b669750d9952" := rfl
theorem pin_compile_newBound : Gen.C03.pin_compile_newBound = "921b7785015f7f8d" := rfl

end CueVerif.Bridge.C03
