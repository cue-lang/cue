/-
Bridge for C04: facts regenerated from /repo (CueVerif.Gen.C04) versus the hand model
CueVerif.Model.Disj.  The `defaultMode` constants, `combineDefault` and `combineDefault2`
are TRANSLATED from the Go source on every run and proved equal to the model's tables on
the whole (finite) domain; the functions transcribed by hand are pinned by a fingerprint of
their normalised source (the model was validated against exactly these versions).
-/
import CueVerif.Gen.C04
import CueVerif.Model.Disj
namespace CueVerif.Bridge.C04
open CueVerif CueVerif.Disj

/-- the Go constants have the numeric values (hence the order) the model's `toNat` uses -/
theorem mode_constants :
    Gen.C04.maybeDefault = (Mode.maybe.toNat : Int) ∧ Gen.C04.isDefault = (Mode.isDef.toNat : Int) ∧
    Gen.C04.notDefault = (Mode.notDef.toNat : Int) := ⟨rfl, rfl, rfl⟩

/-- `combineDefault` of the source = the model's, on every pair of modes -/
theorem combineDefault_eq (a b : Mode) :
    Gen.C04.combineDefault a.toNat b.toNat = (combineDefault a b).toNat := by
  cases a <;> cases b <;> rfl

/-- `combineDefault2` of the source = the model's, on every cell of the table -/
theorem combineDefault2_eq (a b : Mode) (da db : Bool) :
    Gen.C04.combineDefault2 a.toNat b.toNat da db = (combineDefault2 a b da db).toNat := by
  cases a <;> cases b <;> cases da <;> cases db <;> rfl

theorem pin_adt_mode : Gen.C04.pin_adt_mode = "ba42c6c9a0c947b7" := rfl
theorem pin_adt_nodeContext_processDisjunctions : Gen.C04.pin_adt_nodeContext_processDisjunctions = "0e983a4fee4d4234" := rfl
theorem pin_adt_nodeContext_crossProduct : Gen.C04.pin_adt_nodeContext_crossProduct = "c5322d8427df84dc" := rfl
theorem pin_adt_nodeContext_doDisjunct : Gen.C04.pin_adt_nodeContext_doDisjunct = "9d59162f14ed500d" := rfl
theorem pin_adt_appendDisjunct : Gen.C04.pin_adt_appendDisjunct = "8b8814151ffd0e28" := rfl
theorem pin_adt_nodeContext_finalizeDisjunctions : Gen.C04.pin_adt_nodeContext_finalizeDisjunctions = "b09b7732ee2a1ddd" := rfl
theorem pin_adt_Disjunction_Default : Gen.C04.pin_adt_Disjunction_Default = "062853d04b0152ca" := rfl
theorem pin_adt_Vertex_Default : Gen.C04.pin_adt_Vertex_Default = "96f19ad4f15b0e8a" := rfl
theorem pin_adt_Default : Gen.C04.pin_adt_Default = "c5fc4e461fc043a5" := rfl
theorem pin_adt_Vertex_DerefDisjunct : Gen.C04.pin_adt_Vertex_DerefDisjunct = "d1493c93dcba915a" := rfl
theorem pin_compile_compiler_addDisjunctionElem : Gen.C04.pin_compile_compiler_addDisjunctionElem = "fc5cf09f52615ada" := rfl
theorem pin_cue_Value_Default : Gen.C04.pin_cue_Value_Default = "43373f058dd7a7bf" := rfl

end CueVerif.Bridge.C04
