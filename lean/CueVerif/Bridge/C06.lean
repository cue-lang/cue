/-
Bridge for C06: facts regenerated from /repo (CueVerif.Gen.C06) versus the hand model
(Model/DecArith.lean, Model/NumVal.lean).  `pin_*` are fingerprints of the normalised source of
the functions the model transcribes; the model was validated (correspondence) against exactly
these versions.
-/
import CueVerif.Gen.C06
import CueVerif.Model.DecArith
import CueVerif.Model.NumVal
namespace CueVerif.Bridge.C06
open CueVerif

/-- `internal.BaseContext` has the precision the model rounds to -/
theorem basePrecision_eq : Gen.C06.basePrecision = Arith.prec := rfl
/-- … and is declared without a Rounding (apd default: half up, as `Arith.round`) -/
theorem baseContextSrc_eq : Gen.C06.baseContextSrc = "Context{*apd.BaseContext.WithPrecision(34)}" := rfl
/-- the literal package's own context (used only for `RoundToIntegralExact`, which does not
depend on the precision) -/
theorem litPrecision_eq : Gen.C06.litPrecision = Arith.prec := rfl
theorem litContextAssigns_eq :
    Gen.C06.litContextAssigns = ["baseContext = apd.BaseContext", "baseContext.Precision = 34"] := rfl
/-- the version of cockroachdb/apd whose contract (`round`, `quoRound`, exponent window, `fmtG`)
the model states -/
theorem apdVersion_eq : Gen.C06.apdVersion = "v3.2.3" := rfl

/-- `+ - * /` go through `internal.BaseContext` -/
theorem arithCtx_eq : Gen.C06.arithCtx =
    [("Add", "internal.BaseContext.Add"), ("Sub", "internal.BaseContext.Sub"),
     ("Mul", "internal.BaseContext.Mul"), ("Quo", "internal.BaseContext.Quo"),
     ("Pow", "internal.BaseContext.Pow")] := rfl

/-- `div mod quo rem` use big.Int `Div Mod` (Euclidean) and `Quo Rem` (truncated), as `Arith.intFn` -/
theorem intDivTable_eq : Gen.C06.intDivTable =
    [("IntDiv", "(*apd.BigInt).Div"), ("IntMod", "(*apd.BigInt).Mod"),
     ("IntQuo", "(*apd.BigInt).Quo"), ("IntRem", "(*apd.BigInt).Rem")] := rfl

theorem builtinTable_eq : Gen.C06.builtinTable =
    [("\"div\"", "[]adt.Param{intParam, intParam}", "adt.IntKind", "(*adt.OpContext).IntDiv call.Value(0) call.Value(1)"),
     ("\"mod\"", "[]adt.Param{intParam, intParam}", "adt.IntKind", "(*adt.OpContext).IntMod call.Value(0) call.Value(1)"),
     ("\"quo\"", "[]adt.Param{intParam, intParam}", "adt.IntKind", "(*adt.OpContext).IntQuo call.Value(0) call.Value(1)"),
     ("\"rem\"", "[]adt.Param{intParam, intParam}", "adt.IntKind", "(*adt.OpContext).IntRem call.Value(0) call.Value(1)")] := rfl

/-- the comparison table of `cmpTonode`, read as a function of the three-way result -/
def cmpRow (op : Arith.COp) : String × String :=
  match op with
  | .lt => ("LessThanOp", "r == -1")
  | .le => ("LessEqualOp", "r != 1")
  | .eq => ("EqualOp", "r == 0")
  | .ne => ("NotEqualOp", "r != 0")
  | .ge => ("GreaterEqualOp", "r != -1")
  | .gt => ("GreaterThanOp", "r == 1")

/-- meaning of the six source expressions over r ∈ {-1, 0, 1} -/
def evalRow (e : String) (r : Ordering) : Bool :=
  let v : Int := match r with | .lt => -1 | .eq => 0 | .gt => 1
  if e == "r == -1" then v == -1 else if e == "r != 1" then v != 1
  else if e == "r == 0" then v == 0 else if e == "r != 0" then v != 0
  else if e == "r != -1" then v != -1 else if e == "r == 1" then v == 1 else false

theorem cmpTonode_rows (op : Arith.COp) : cmpRow op ∈ Gen.C06.cmpTonode := by
  cases op <;> decide

theorem cmpTonode_eq (op : Arith.COp) (r : Ordering) :
    evalRow (cmpRow op).2 r = Arith.cmpTonode op r := by
  cases op <;> cases r <;> decide

/-- multiplier letters and their ranks (K M G T P are the ones the scanner admits) -/
theorem charToMul_eq : Gen.C06.charToMul =
    [(75, 1), (77, 2), (71, 3), (84, 4), (80, 5), (69, 6), (90, 7), (89, 8)] := rfl

theorem mulIndex_eq : ∀ p ∈ Gen.C06.charToMul, p.2 ≤ 5 → NumVal.mulIndex p.1 = p.2 := by decide

/-- SI multipliers are powers of 1000, IEC multipliers powers of 1024 (`NumVal.mulValue`) -/
theorem mulToRatInit_eq : Gen.C06.mulToRatInit =
    ["d := apd.New(1, 0)", "b := apd.New(1, 0)", "dm := apd.New(1000, 0)", "bm := apd.New(1024, 0)",
     "i := Multiplier(1); int(i) < len(charToMul); i++", "c.Mul(&dn, d, dm)", "c.Mul(&bn, b, bm)",
     "mulToRat[mulDec|i] = d", "mulToRat[mulBin|i] = b"] := rfl

/-- `NumInfo.decimal` returns the error of `UnmarshalText` (out-of-window exponents, no mantissa
digits): the model's `litExp = none ↦ .err` and `noMantissa ↦ .err` in `parseNumValue` (/repo 1674508) -/
theorem unmarshalStmt_eq : Gen.C06.unmarshalStmt =
    "if err := v.UnmarshalText(p.buf); err != nil { return p.errorf(\"invalid number: %v\", err) }" := rfl

/-- the multiplier product is computed with apd's unlimited-precision context: exact, as
`NumVal.decValue` (`Dec.mul`, no rounding) (/repo 06ced89) -/
theorem mulCall_eq : Gen.C06.mulCall = "apd.BaseContext.Mul(v, v, mulToRat[p.mul])" := rfl

theorem mulValue_eq (i : Nat) : NumVal.mulValue i false = 1000 ^ i ∧ NumVal.mulValue i true = 1024 ^ i := by
  simp [NumVal.mulValue]

theorem pin_adt_numOp : Gen.C06.pin_adt_numOp = "ced31eb6c138026a" := rfl
theorem pin_adt_intDivOp : Gen.C06.pin_adt_intDivOp = "135559593d8dba16" := rfl
theorem pin_adt_OpContext_Add : Gen.C06.pin_adt_OpContext_Add = "7036aadbe8bd463a" := rfl
theorem pin_adt_OpContext_Sub : Gen.C06.pin_adt_OpContext_Sub = "a072e2e6deff0b54" := rfl
theorem pin_adt_OpContext_Mul : Gen.C06.pin_adt_OpContext_Mul = "2bfd6c8f11fa750c" := rfl
theorem pin_adt_OpContext_Quo : Gen.C06.pin_adt_OpContext_Quo = "6b6b281138879512" := rfl
theorem pin_adt_OpContext_IntDiv : Gen.C06.pin_adt_OpContext_IntDiv = "e95272c1517ddf8a" := rfl
theorem pin_adt_OpContext_IntMod : Gen.C06.pin_adt_OpContext_IntMod = "21c4eed913e7ae6a" := rfl
theorem pin_adt_OpContext_IntQuo : Gen.C06.pin_adt_OpContext_IntQuo = "0a4572b497b066b1" := rfl
theorem pin_adt_OpContext_IntRem : Gen.C06.pin_adt_OpContext_IntRem = "41aa00b480f9762d" := rfl
theorem pin_adt_BinOp : Gen.C06.pin_adt_BinOp = "3e59a3ba75fe3a9b" := rfl
theorem pin_adt_cmpTonode : Gen.C06.pin_adt_cmpTonode = "b3615dae370638bb" := rfl
theorem pin_adt_OpContext_newNum : Gen.C06.pin_adt_OpContext_newNum = "657b12e052ea130f" := rfl
theorem pin_adt_UnaryExpr_evaluate : Gen.C06.pin_adt_UnaryExpr_evaluate = "ad1448027c0e3bcb" := rfl
theorem pin_adt_Num_Cmp : Gen.C06.pin_adt_Num_Cmp = "795f4e83ae9b565c" := rfl
theorem pin_internal_reduceKeepingFloats : Gen.C06.pin_internal_reduceKeepingFloats = "9706c7d675af4cbc" := rfl
theorem pin_internal_Context_Quo : Gen.C06.pin_internal_Context_Quo = "aa11236fac125b0d" := rfl
theorem pin_literal_NumInfo_decimal : Gen.C06.pin_literal_NumInfo_decimal = "aca1b0e83663d828" := rfl
theorem pin_literal_ParseNum : Gen.C06.pin_literal_ParseNum = "f62ad6ae0fe132dc" := rfl
theorem pin_literal_NumInfo_scanNumber : Gen.C06.pin_literal_NumInfo_scanNumber = "a20a9ef43ec46211" := rfl
theorem pin_literal_NumInfo_scanMantissa : Gen.C06.pin_literal_NumInfo_scanMantissa = "8f02c5a2db5ecd93" := rfl
theorem pin_literal_NumInfo_next : Gen.C06.pin_literal_NumInfo_next = "fec08a8bae3fc87b" := rfl
theorem pin_compile_intDivOp : Gen.C06.pin_compile_intDivOp = "01f89247371afec8" := rfl
theorem pin_compile_compiler_parse : Gen.C06.pin_compile_compiler_parse = "903a4b0507a82bf6" := rfl
theorem pin_export_exporter_num : Gen.C06.pin_export_exporter_num = "0b799d352730a988" := rfl
theorem pin_math_Floor : Gen.C06.pin_math_Floor = "51c4ecb8ebe6f19d" := rfl
theorem pin_math_Ceil : Gen.C06.pin_math_Ceil = "95a32502de5b776c" := rfl
theorem pin_math_Trunc : Gen.C06.pin_math_Trunc = "0fc44e1df060b560" := rfl
theorem pin_math_Round : Gen.C06.pin_math_Round = "52eb66d1a6d0b8c7" := rfl
theorem pin_math_RoundToEven : Gen.C06.pin_math_RoundToEven = "fd426251360f32a1" := rfl
theorem pin_math_toInt : Gen.C06.pin_math_toInt = "ad39c1aba6704d06" := rfl
theorem pin_math_MultipleOf : Gen.C06.pin_math_MultipleOf = "6cbea9504170d2e1" := rfl
theorem pin_math_Abs : Gen.C06.pin_math_Abs = "afb397890ef3c937" := rfl
theorem pin_math_Pow : Gen.C06.pin_math_Pow = "7c0c1a1a648594ca" := rfl

end CueVerif.Bridge.C06
