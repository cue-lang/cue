/-
Bridge for C07: facts regenerated from /repo (CueVerif.Gen.C07) versus the hand model
(CueVerif.Model.Export, and C03's Model.Scalar for the predeclared ranges).  Tables are compared
cell by cell; `pin_*` are fingerprints of the normalised source of the functions the model
transcribes by hand (or that the harness drives as entry points) — the model was validated
(correspondence, notes/C07.md) against exactly these versions.
-/
import CueVerif.Gen.C07
import CueVerif.Model.Export
namespace CueVerif.Bridge.C07
open CueVerif CueVerif.Scalar CueVerif.Export

/-! ### adt.Kind constants used by `boundSimplifier.add` / `MatchBuiltinRange` -/
theorem kinds : Gen.C07.IntKind = (Kind.int : Nat) ∧ Gen.C07.ScalarKinds = (scalarKinds : Nat) := by decide

/-! ### builtinrange.go: the model's tables are the code's tables (names, numbers, order) -/
theorem intRanges_eq :
    Gen.C07.intRanges.map (fun r => BuiltinRange.mk r.1 (Dec.ofInt r.2.1) (Dec.ofInt r.2.2)) =
      intBuiltinRanges := rfl

theorem floatRanges_eq :
    Gen.C07.floatRanges.map (fun r => BuiltinRange.mk r.1 ⟨r.2.1.1, r.2.1.2⟩ ⟨r.2.2.1, r.2.2.2⟩) =
      floatBuiltinRanges := rfl

/-! ### compile/predeclared.go: what the printed identifier means when it is read back is C03's
`Range` (`intSpec` / `floatMax`), under the spelling `Range.name` -/
def rangeEntry (r : Range) : String × String × Int × Int :=
  match r.intSpec with
  | none => (Range.name r, "float", r.floatMax.coeff, r.floatMax.exp)
  | some (lo, some hi) => (Range.name r, "int", lo, hi)
  | some (_, none) => (Range.name r, "uint", 0, 0)

theorem predefinedRanges_eq :
    Gen.C07.predefinedRanges =
      [Range.float32, .float64, .int128, .int16, .int32, .int64, .int8, .rune, .uint, .uint128,
       .uint16, .uint32, .uint64, .uint8].map rangeEntry := rfl

/-! ### the two tables of the SOURCE agree with each other (complete tables, by `decide`):
every row of builtinrange.go is the row of the same name of predefinedRanges with the same
numbers; `rune` has no row (so it is never printed) -/
theorem int_rows_predeclared :
    Gen.C07.intRanges.all (fun r => Gen.C07.predefinedRanges.contains (r.1, "int", r.2.1, r.2.2)) = true := by
  decide

theorem float_rows_predeclared :
    Gen.C07.floatRanges.all (fun r =>
      Gen.C07.predefinedRanges.contains (r.1, "float", r.2.2.1, r.2.2.2) &&
      r.2.1.1 == - r.2.2.1 && r.2.1.2 == r.2.2.2) = true := by
  decide

theorem no_rune_row :
    (Gen.C07.intRanges.map (·.1) ++ Gen.C07.floatRanges.map (·.1)).all (· != "rune") = true := by decide

/-- every sized predeclared range except `rune` has a row (nothing printable is missed) -/
theorem rows_complete :
    (Gen.C07.predefinedRanges.filter (fun r => r.2.1 != "uint" && r.1 != "rune")).all (fun r =>
      (Gen.C07.floatRanges.map (·.1) ++ Gen.C07.intRanges.map (·.1)).contains r.1) = true := by decide

/-! ### fingerprints -/
theorem pin_adt_MatchBuiltinRange : Gen.C07.pin_adt_MatchBuiltinRange = "6fbda06bbf9744ff" := rfl
theorem pin_adt_mustDec : Gen.C07.pin_adt_mustDec = "848bdb3845cb7825" := rfl
theorem pin_adt_BoundValue_Kind : Gen.C07.pin_adt_BoundValue_Kind = "fc65d3abf272dcaa" := rfl
theorem pin_adt_MakeIdentLabel : Gen.C07.pin_adt_MakeIdentLabel = "3a20dd3dfb38fb4a" := rfl
theorem pin_export_boundSimplifier_add : Gen.C07.pin_export_boundSimplifier_add = "d10a5f3492528d7d" := rfl
theorem pin_export_boundSimplifier_expr : Gen.C07.pin_export_boundSimplifier_expr = "1b98906d828b11dc" := rfl
theorem pin_export_wrapBin : Gen.C07.pin_export_wrapBin = "ab44f6442afd03d4" := rfl
theorem pin_export_exporter_stringLabel : Gen.C07.pin_export_exporter_stringLabel = "6c2ef819378900d4" := rfl
theorem pin_export_exporter_boundValue : Gen.C07.pin_export_exporter_boundValue = "25682c03e7135c2d" := rfl
theorem pin_export_exporter_num : Gen.C07.pin_export_exporter_num = "0b799d352730a988" := rfl
theorem pin_export_exporter_listComposite : Gen.C07.pin_export_exporter_listComposite = "757ac087d2ed28f1" := rfl
theorem pin_export_exporter_structComposite : Gen.C07.pin_export_exporter_structComposite = "4ac7cac16e9a451a" := rfl
theorem pin_export_exporter_vertex : Gen.C07.pin_export_exporter_vertex = "83c2267878d0f7b6" := rfl
theorem pin_export_Profile_Vertex : Gen.C07.pin_export_Profile_Vertex = "6f632b0e1de46076" := rfl
theorem pin_export_Profile_Def : Gen.C07.pin_export_Profile_Def = "dbec4570e288c2cb" := rfl
theorem pin_export_exporter_value_case_Conjunction : Gen.C07.pin_export_exporter_value_case_Conjunction = "93a4621608a7eb52" := rfl
theorem pin_export_exporter_value_case_Disjunction : Gen.C07.pin_export_exporter_value_case_Disjunction = "4af6d98441bee49e" := rfl
theorem pin_ast_NewStringLabel : Gen.C07.pin_ast_NewStringLabel = "9cfae78901d1695f" := rfl
theorem pin_ast_StringLabelNeedsQuoting : Gen.C07.pin_ast_StringLabelNeedsQuoting = "8e5531b8cb8df961" := rfl
theorem pin_ast_NewString : Gen.C07.pin_ast_NewString = "74737a73f6f38f24" := rfl
theorem pin_ast_IsValidIdent : Gen.C07.pin_ast_IsValidIdent = "da53dfe8880f02f2" := rfl
theorem pin_ast_NewBinExpr : Gen.C07.pin_ast_NewBinExpr = "e353bdd537a12679" := rfl
theorem pin_compile_compiler_label : Gen.C07.pin_compile_compiler_label = "41c27da0a7ccab57" := rfl
theorem pin_cue_Value_Syntax : Gen.C07.pin_cue_Value_Syntax = "7e6120eee295b400" := rfl
theorem pin_cue_Final : Gen.C07.pin_cue_Final = "be07c109362e2a7e" := rfl
theorem pin_cue_Concrete : Gen.C07.pin_cue_Concrete = "d4042096263fef42" := rfl
theorem pin_cue_All : Gen.C07.pin_cue_All = "e9911699a555f3bb" := rfl
theorem pin_cue_Hidden : Gen.C07.pin_cue_Hidden = "c1e8921d91f802ef" := rfl
theorem pin_cue_Definitions : Gen.C07.pin_cue_Definitions = "58842d95ad29da25" := rfl
theorem pin_cue_Optional : Gen.C07.pin_cue_Optional = "db08516d4eb87408" := rfl
theorem pin_cue_Attributes : Gen.C07.pin_cue_Attributes = "32088e5de2498d37" := rfl
theorem pin_cue_Docs : Gen.C07.pin_cue_Docs = "10ae63bb31109ff3" := rfl
theorem pin_cue_Raw : Gen.C07.pin_cue_Raw = "5c3e32c7f9c5d2fa" := rfl
theorem pin_cmd_runEval : Gen.C07.pin_cmd_runEval = "3a6c6ee5dc998abd" := rfl
theorem pin_encoding_NewEncoder : Gen.C07.pin_encoding_NewEncoder = "235d70a3abf52b88" := rfl

end CueVerif.Bridge.C07
