/-
Bridge for C08: facts regenerated from /repo (CueVerif.Gen.C08) versus the hand model
(Model/Fmt.lean).  The precedence table and the token numbering are translated definitions;
`pin_*` are fingerprints of the normalised source of the functions (or single type-switch arms)
the model transcribes, validated by the correspondence of harness/c08*.go.
The pinned UnaryExpr arm of exprRaw and cue/format's `unaryOpMergesWithOperand` are the versions
with the separation guard (commit ab8529a), which `Fmt.v1GuardEnabled = true` models.
-/
import CueVerif.Gen.C08
import CueVerif.Model.Fmt
namespace CueVerif.Bridge.C08
open CueVerif

/-- the model's precedence table IS token.Token.Precedence on every operator token -/
theorem precedence_eq (o : Fmt.OpTok) : Gen.C08.precedence o.code = o.prec := by
  cases o <;> decide

/-- no token number outside the model's binary operators has a precedence (checked over the whole
token range 0..63) -/
theorem precedence_other : ∀ n, n < 64 → Fmt.OpTok.ofCode n = none → Gen.C08.precedence n = 0 := by
  decide +kernel

theorem lowestPrec_eq : Gen.C08.lowestPrec = Fmt.lowestPrec := rfl
theorem unaryPrec_eq : Gen.C08.unaryPrec = Fmt.unaryPrec := rfl
theorem highestPrec_eq : Gen.C08.highestPrec = Fmt.highestPrec := rfl

/-- the token numbering -/
theorem token_codes :
    Gen.C08.tok_ADD = Fmt.OpTok.add.code ∧
    Gen.C08.tok_SUB = Fmt.OpTok.sub.code ∧
    Gen.C08.tok_MUL = Fmt.OpTok.mul.code ∧
    Gen.C08.tok_QUO = Fmt.OpTok.quo.code ∧
    Gen.C08.tok_AND = Fmt.OpTok.and.code ∧
    Gen.C08.tok_OR = Fmt.OpTok.or.code ∧
    Gen.C08.tok_LAND = Fmt.OpTok.land.code ∧
    Gen.C08.tok_LOR = Fmt.OpTok.lor.code ∧
    Gen.C08.tok_BIND = Fmt.OpTok.bind.code ∧
    Gen.C08.tok_EQL = Fmt.OpTok.eql.code ∧
    Gen.C08.tok_LSS = Fmt.OpTok.lss.code ∧
    Gen.C08.tok_GTR = Fmt.OpTok.gtr.code ∧
    Gen.C08.tok_NOT = Fmt.OpTok.not.code ∧
    Gen.C08.tok_ARROW = Fmt.OpTok.arrow.code ∧
    Gen.C08.tok_NEQ = Fmt.OpTok.neq.code ∧
    Gen.C08.tok_LEQ = Fmt.OpTok.leq.code ∧
    Gen.C08.tok_GEQ = Fmt.OpTok.geq.code ∧
    Gen.C08.tok_MAT = Fmt.OpTok.mat.code ∧
    Gen.C08.tok_NMAT = Fmt.OpTok.nmat.code ∧
    Gen.C08.tok_LPAREN = Fmt.OpTok.lparen.code ∧
    Gen.C08.tok_LBRACK = Fmt.OpTok.lbrack.code ∧
    Gen.C08.tok_LBRACE = Fmt.OpTok.lbrace.code ∧
    Gen.C08.tok_COMMA = Fmt.OpTok.comma.code ∧
    Gen.C08.tok_PERIOD = Fmt.OpTok.period.code ∧
    Gen.C08.tok_ELLIPSIS = Fmt.OpTok.ellipsis.code ∧
    Gen.C08.tok_RPAREN = Fmt.OpTok.rparen.code ∧
    Gen.C08.tok_RBRACK = Fmt.OpTok.rbrack.code ∧
    Gen.C08.tok_RBRACE = Fmt.OpTok.rbrace.code ∧
    Gen.C08.tok_SEMICOLON = Fmt.OpTok.semicolon.code ∧
    Gen.C08.tok_COLON = Fmt.OpTok.colon.code ∧
    Gen.C08.tok_OPTION = Fmt.OpTok.option.code ∧
    Gen.C08.tok_TILDE = Fmt.OpTok.tilde.code := by
  decide

theorem pin_scanner_Scanner_Scan : Gen.C08.pin_scanner_Scanner_Scan = "e9b435645f244f67" := rfl
theorem pin_scanner_Scanner_switch2 : Gen.C08.pin_scanner_Scanner_switch2 = "4c47f82ae3efbba1" := rfl
theorem pin_scanner_Scanner_scanFieldIdentifier : Gen.C08.pin_scanner_Scanner_scanFieldIdentifier = "8a2ef1e485ff91a2" := rfl
theorem pin_scanner_isLetter : Gen.C08.pin_scanner_isLetter = "7aecc90050bc9728" := rfl
theorem pin_scanner_isDigit : Gen.C08.pin_scanner_isDigit = "da5acf79aeff31b3" := rfl
theorem pin_parser_parser_parseBinaryExpr : Gen.C08.pin_parser_parser_parseBinaryExpr = "d055dc8b265bcab7" := rfl
theorem pin_parser_parser_parseBinaryExprTail : Gen.C08.pin_parser_parser_parseBinaryExprTail = "cbe964e3f4df2745" := rfl
theorem pin_parser_parser_parseUnaryExpr : Gen.C08.pin_parser_parser_parseUnaryExpr = "73ff9f45116d3361" := rfl
theorem pin_format_formatter_exprRaw_case_BinaryExpr : Gen.C08.pin_format_formatter_exprRaw_case_BinaryExpr = "663998a7789358a0" := rfl
theorem pin_format_formatter_exprRaw_case_UnaryExpr : Gen.C08.pin_format_formatter_exprRaw_case_UnaryExpr = "4d6c2b56986a320a" := rfl
theorem pin_format_unaryOpMergesWithOperand : Gen.C08.pin_format_unaryOpMergesWithOperand = "0b112c9bd5fbed28" := rfl
/-- cue/format's guard is textually the guard of internal/pretty (same normalised source) -/
theorem v1_guard_is_v2_guard : Gen.C08.pin_format_unaryOpMergesWithOperand = Gen.C08.pin_pretty_unaryOpMergesWithOperand := rfl
theorem pin_format_formatter_exprRaw_case_ParenExpr : Gen.C08.pin_format_formatter_exprRaw_case_ParenExpr = "0245dbdb235de0b9" := rfl
theorem pin_format_formatter_exprRaw_case_Ident : Gen.C08.pin_format_formatter_exprRaw_case_Ident = "42e2a2f6715eeb3a" := rfl
theorem pin_format_formatter_exprRaw_case_BasicLit : Gen.C08.pin_format_formatter_exprRaw_case_BasicLit = "5a03cd8a6eb9588d" := rfl
theorem pin_format_formatter_binaryExpr : Gen.C08.pin_format_formatter_binaryExpr = "cd3255f94ebe1166" := rfl
theorem pin_format_walkBinary : Gen.C08.pin_format_walkBinary = "acd7959a416b37aa" := rfl
theorem pin_format_cutoff : Gen.C08.pin_format_cutoff = "03d3b2303126e299" := rfl
theorem pin_format_diffPrec : Gen.C08.pin_format_diffPrec = "c95a6ff12b378cd8" := rfl
theorem pin_format_reduceDepth : Gen.C08.pin_format_reduceDepth = "9ea082e54eb4346d" := rfl
theorem pin_format_mayCombine : Gen.C08.pin_format_mayCombine = "726478e87021d4f8" := rfl
theorem pin_format_formatter_expr : Gen.C08.pin_format_formatter_expr = "4efe3acdd45daa68" := rfl
theorem pin_format_formatter_expr0 : Gen.C08.pin_format_formatter_expr0 = "eb222f9b6d020d40" := rfl
theorem pin_format_formatter_expr1 : Gen.C08.pin_format_formatter_expr1 = "48de812ceacdeaa2" := rfl
theorem pin_pretty_converter_unaryExpr : Gen.C08.pin_pretty_converter_unaryExpr = "92e440c03424ff28" := rfl
theorem pin_pretty_converter_binaryExprPrec : Gen.C08.pin_pretty_converter_binaryExprPrec = "d1ea087bb72b426e" := rfl
theorem pin_pretty_converter_binaryOperand : Gen.C08.pin_pretty_converter_binaryOperand = "da598aeeebc10671" := rfl
theorem pin_pretty_wrapForPrecedence : Gen.C08.pin_pretty_wrapForPrecedence = "1d1f2b32281240f3" := rfl
theorem pin_pretty_binaryCutoff : Gen.C08.pin_pretty_binaryCutoff = "cd948a8b0d9c0d81" := rfl
theorem pin_pretty_binaryWalk : Gen.C08.pin_pretty_binaryWalk = "2fc939ada3b668af" := rfl
theorem pin_pretty_binaryDiffPrec : Gen.C08.pin_pretty_binaryDiffPrec = "0ca04347bb5e16ca" := rfl
theorem pin_pretty_operatorsWouldMerge : Gen.C08.pin_pretty_operatorsWouldMerge = "7b986f7113b3b7a8" := rfl
theorem pin_pretty_unaryOpMergesWithOperand : Gen.C08.pin_pretty_unaryOpMergesWithOperand = "0b112c9bd5fbed28" := rfl
theorem pin_pretty_converter_parenExpr : Gen.C08.pin_pretty_converter_parenExpr = "9eee671d7f978005" := rfl
theorem pin_format_Node : Gen.C08.pin_format_Node = "7e9e109c7b04913e" := rfl
theorem pin_format_Source : Gen.C08.pin_format_Source = "b44f02e64d25d337" := rfl
theorem pin_cmd_formatFile : Gen.C08.pin_cmd_formatFile = "a2f3fdd10f04f21b" := rfl

end CueVerif.Bridge.C08
