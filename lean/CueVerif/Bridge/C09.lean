/-
Bridge for C09: facts regenerated from /repo (CueVerif.Gen.C09) versus the hand models.
`pin_*` are fingerprints of the normalised source of the functions the models transcribe
(cue/literal quote.go, string.go, num.go; cue/scanner scanner.go: `Scan` and everything it calls;
cue/token position.go and `token.Lookup`; ast.IsValidIdent; parser.parseInterpolation); the models
were validated by correspondence against exactly these versions.
-/
import CueVerif.Gen.C09
import CueVerif.Model.Quote
import CueVerif.Model.NumLit
import CueVerif.Model.TokenFile
import CueVerif.Spec.Scan
namespace CueVerif.Bridge.C09
open CueVerif

/-- the scanner's `digitVal` is the model's (the literal package's copy is pinned) -/
theorem scannerDigitVal_eq (c : Nat) : Gen.C09.scannerDigitVal c = NumLit.digitVal c := by
  -- the same chain of tests, written with `Bool` on one side and `Prop` on the other
  simp only [Gen.C09.scannerDigitVal, NumLit.digitVal, Bool.and_eq_true, decide_eq_true_eq, beq_iff_eq]

/-- surrogate range constants used by `QuoteInfo.Unquote` (model: 0xD800, 0xDC00, 0xE000) -/
theorem surrogates : Gen.C09.surHigh = 0xD800 ∧ Gen.C09.surLow = 0xDC00 ∧ Gen.C09.surEnd = 0xE000 := by
  decide

/-- the three sentinels of the unquote loop are negative (an overflowing `\\U` is rejected by `v < 0`) -/
theorem sentinels : Gen.C09.terminatedByQuote = -1 ∧ Gen.C09.terminatedByExpr = -2 ∧
    Gen.C09.escapedNewline = -3 := by decide

theorem pin_literal_Form_WithTabIndent : Gen.C09.pin_literal_Form_WithTabIndent = "48e78396d5f334c0" := rfl
theorem pin_literal_Form_WithOptionalTabIndent : Gen.C09.pin_literal_Form_WithOptionalTabIndent = "9e2240aeb258d940" := rfl
theorem pin_literal_Form_WithOptionalHashes : Gen.C09.pin_literal_Form_WithOptionalHashes = "facff4b30f5a673a" := rfl
theorem pin_literal_Form_WithASCIIOnly : Gen.C09.pin_literal_Form_WithASCIIOnly = "d0eb4e16866813c2" := rfl
theorem pin_literal_Form_WithGraphicOnly : Gen.C09.pin_literal_Form_WithGraphicOnly = "36c7dafd44120bc3" := rfl
theorem pin_literal_Form_Quote : Gen.C09.pin_literal_Form_Quote = "87be0ceb5a591315" := rfl
theorem pin_literal_Form_Append : Gen.C09.pin_literal_Form_Append = "47703ec039748d13" := rfl
theorem pin_literal_Form_appendEscaped : Gen.C09.pin_literal_Form_appendEscaped = "e4f6399a7269d77d" := rfl
theorem pin_literal_Form_appendEscapedRune : Gen.C09.pin_literal_Form_appendEscapedRune = "e0ff2bfd13206a30" := rfl
theorem pin_literal_Form_appendEscape : Gen.C09.pin_literal_Form_appendEscape = "c346718b56327bb7" := rfl
theorem pin_literal_Form_isPrint : Gen.C09.pin_literal_Form_isPrint = "3d316aeedf9d6502" := rfl
theorem pin_literal_Form_singleLineHashCount : Gen.C09.pin_literal_Form_singleLineHashCount = "9a4778e0d4d7b936" := rfl
theorem pin_literal_Form_requiredHashCount : Gen.C09.pin_literal_Form_requiredHashCount = "4eb9d80ad5e3db37" := rfl
theorem pin_literal_Unquote : Gen.C09.pin_literal_Unquote = "7b1fcfe81d6cf8c0" := rfl
theorem pin_literal_ParseQuotes : Gen.C09.pin_literal_ParseQuotes = "1a310404c68d538c" := rfl
theorem pin_literal_QuoteInfo_Unquote : Gen.C09.pin_literal_QuoteInfo_Unquote = "3ece8a915cb385ba" := rfl
theorem pin_literal_hasClosingDelimPrefix : Gen.C09.pin_literal_hasClosingDelimPrefix = "85d7628bc292aca8" := rfl
theorem pin_literal_skipWhitespaceAfterNewline : Gen.C09.pin_literal_skipWhitespaceAfterNewline = "d005110dccadd904" := rfl
theorem pin_literal_isSimple : Gen.C09.pin_literal_isSimple = "0526fd3c4a39e411" := rfl
theorem pin_literal_unquoteChar : Gen.C09.pin_literal_unquoteChar = "eab3a8cb37686ae3" := rfl
theorem pin_literal_unhex : Gen.C09.pin_literal_unhex = "e828f60dd9a61aa5" := rfl
theorem pin_literal_ParseNum : Gen.C09.pin_literal_ParseNum = "f62ad6ae0fe132dc" := rfl
theorem pin_literal_NumInfo_next : Gen.C09.pin_literal_NumInfo_next = "fec08a8bae3fc87b" := rfl
theorem pin_literal_NumInfo_digitVal : Gen.C09.pin_literal_NumInfo_digitVal = "b72d7578cbdf111a" := rfl
theorem pin_literal_NumInfo_scanMantissa : Gen.C09.pin_literal_NumInfo_scanMantissa = "8f02c5a2db5ecd93" := rfl
theorem pin_literal_NumInfo_scanNumber : Gen.C09.pin_literal_NumInfo_scanNumber = "a20a9ef43ec46211" := rfl
theorem pin_scanner_Scanner_scanNumber : Gen.C09.pin_scanner_Scanner_scanNumber = "e16e2044fdc3af71" := rfl
theorem pin_scanner_Scanner_scanMantissa : Gen.C09.pin_scanner_Scanner_scanMantissa = "d6c742f674995ae6" := rfl
theorem pin_scanner_Scanner_scanFieldIdentifier : Gen.C09.pin_scanner_Scanner_scanFieldIdentifier = "8a2ef1e485ff91a2" := rfl
theorem pin_scanner_Scanner_scanIdentifier : Gen.C09.pin_scanner_Scanner_scanIdentifier = "ad41905e29154764" := rfl
theorem pin_scanner_isLetter : Gen.C09.pin_scanner_isLetter = "7aecc90050bc9728" := rfl
theorem pin_scanner_isDigit : Gen.C09.pin_scanner_isDigit = "da5acf79aeff31b3" := rfl
theorem pin_scanner_Scanner_next : Gen.C09.pin_scanner_Scanner_next = "4dd23fe72be50da9" := rfl
theorem pin_ast_IsValidIdent : Gen.C09.pin_ast_IsValidIdent = "da53dfe8880f02f2" := rfl
theorem pin_ast_isLetter : Gen.C09.pin_ast_isLetter = "7aecc90050bc9728" := rfl
theorem pin_ast_isDigit : Gen.C09.pin_ast_isDigit = "da5acf79aeff31b3" := rfl
theorem pin_literal_NumInfo_decimal : Gen.C09.pin_literal_NumInfo_decimal = "aca1b0e83663d828" := rfl

/-! ### the position table of cue/token/position.go -/

/-- the packing constants of `token.Pos`: the model's `relUnit = 64 = 1 << relShift`, and every
flag bit (`relMask`, `commaBit`, `scannedBit`) lies below it, so the `rel` argument of
`C09_pos_offset_roundtrip` (0 ≤ rel < 64) covers every `WithRel/WithComma/WithScanned` value -/
theorem pos_packing : Gen.C09.relShift = (TokenFile.relShift : Int) ∧
    TokenFile.relUnit = 2 ^ TokenFile.relShift ∧
    Gen.C09.relMask + Gen.C09.commaBit + Gen.C09.scannedBit < TokenFile.relUnit := by decide

/-- `AddLineInfo` has no caller in the tree (outside tests): `f.infos` is always empty, as the
model assumes; neither have `MergeLine` and `SetLines` (tables come from `AddLine` /
`SetLinesForContent` only) -/
theorem no_line_infos : Gen.C09.addLineInfoCallSites = 0 ∧ Gen.C09.mergeLineCallSites = 0 ∧
    Gen.C09.setLinesCallSites = 0 := by decide

theorem pin_token_NewFile : Gen.C09.pin_token_NewFile = "7b716289b579b46f" := rfl
theorem pin_token_File_fixOffset : Gen.C09.pin_token_File_fixOffset = "35cfec5838f6f825" := rfl
theorem pin_token_File_AddLine : Gen.C09.pin_token_File_AddLine = "22bba488d464a0c8" := rfl
theorem pin_token_File_SetLines : Gen.C09.pin_token_File_SetLines = "3f2049ee756080b5" := rfl
theorem pin_token_File_SetLinesForContent : Gen.C09.pin_token_File_SetLinesForContent = "896619cb77799e8f" := rfl
theorem pin_token_File_Pos : Gen.C09.pin_token_File_Pos = "84b33d31cc204b28" := rfl
theorem pin_token_File_Offset : Gen.C09.pin_token_File_Offset = "d7288801105deb49" := rfl
theorem pin_token_File_unpack : Gen.C09.pin_token_File_unpack = "9e89eb838fdaf524" := rfl
theorem pin_token_File_position : Gen.C09.pin_token_File_position = "c23b3d59c22388ac" := rfl
theorem pin_token_File_PositionFor : Gen.C09.pin_token_File_PositionFor = "1907fe29c4a320b8" := rfl
theorem pin_token_File_Position : Gen.C09.pin_token_File_Position = "745f22f2d221733d" := rfl
theorem pin_token_searchInts : Gen.C09.pin_token_searchInts = "717df8d5211cdc60" := rfl
theorem pin_token_toPos : Gen.C09.pin_token_toPos = "94a6f4cf62ac3973" := rfl
theorem pin_token_Pos_index : Gen.C09.pin_token_Pos_index = "cf850c1e8cdb09b8" := rfl
theorem pin_token_Pos_Add : Gen.C09.pin_token_Pos_Add = "9cafc369f1cc8371" := rfl
theorem pin_token_Pos_Position : Gen.C09.pin_token_Pos_Position = "35970aed643f09bf" := rfl
theorem pin_token_Pos_Offset : Gen.C09.pin_token_Pos_Offset = "4eaca812afb1e38f" := rfl
theorem pin_token_Pos_HasAbsPos : Gen.C09.pin_token_Pos_HasAbsPos = "25edd0214c79bea2" := rfl
theorem pin_token_Pos_IsValid : Gen.C09.pin_token_Pos_IsValid = "bde37ca2594d007d" := rfl
theorem pin_token_File_Lines : Gen.C09.pin_token_File_Lines = "e0a9bac230361178" := rfl
theorem pin_token_File_LineCount : Gen.C09.pin_token_File_LineCount = "1833ee8d55e4c23e" := rfl

/-! ### the scanner as a total function (Model/Scan.lean) -/

/-- the keyword table `token.Lookup` uses (regenerated from the constants between
`keywordBeg` and `keywordEnd`) is the model's -/
theorem scan_keywords : Gen.C09.keywords.map (fun s => s.toList.map Char.toNat) = Scan.keywords := by decide

/-- doc/ref/spec.md §Commas, regenerated and translated into token kinds by the extractor,
is the list `Scan.specCommaKinds` that `C09_comma_rule_*` speak about -/
theorem scan_spec_commas : Gen.C09.specCommaKinds = Scan.specCommaKinds.map Scan.kindName := rfl

theorem scan_spec_comma_text : Gen.C09.specCommaBullets =
    ["an identifier, keyword, or bottom", "a number or string literal, including an interpolation",
     "one of the characters `)`, `]`, `}`, or `?`", "an ellipsis `...`"] := rfl

theorem pin_scanner_Scanner_Scan : Gen.C09.pin_scanner_Scanner_Scan = "e9b435645f244f67" := rfl
theorem pin_scanner_Scanner_Init : Gen.C09.pin_scanner_Scanner_Init = "8a1daa0240f564d3" := rfl
theorem pin_scanner_Scanner_skipWhitespace : Gen.C09.pin_scanner_Scanner_skipWhitespace = "8ed44dd8247d3a8a" := rfl
theorem pin_scanner_Scanner_scanComment : Gen.C09.pin_scanner_Scanner_scanComment = "c15cdd15739ba840" := rfl
theorem pin_scanner_Scanner_scanString : Gen.C09.pin_scanner_Scanner_scanString = "983ef5dcdf6576cb" := rfl
theorem pin_scanner_Scanner_scanEscape : Gen.C09.pin_scanner_Scanner_scanEscape = "797f428a147aef6f" := rfl
theorem pin_scanner_Scanner_consumeQuotes : Gen.C09.pin_scanner_Scanner_consumeQuotes = "90a17b53fb88b472" := rfl
theorem pin_scanner_Scanner_consumeStringClose : Gen.C09.pin_scanner_Scanner_consumeStringClose = "99ab59f3f07d775f" := rfl
theorem pin_scanner_Scanner_scanHashes : Gen.C09.pin_scanner_Scanner_scanHashes = "b6afb35f43d723c9" := rfl
theorem pin_scanner_stripCR : Gen.C09.pin_scanner_stripCR = "01f48a82622ecdaa" := rfl
theorem pin_scanner_Scanner_scanAttribute : Gen.C09.pin_scanner_Scanner_scanAttribute = "a84ad2fdb4420f7d" := rfl
theorem pin_scanner_Scanner_scanAttributeTokens : Gen.C09.pin_scanner_Scanner_scanAttributeTokens = "c26ed2004ce3c642" := rfl
theorem pin_scanner_Scanner_recoverParen : Gen.C09.pin_scanner_Scanner_recoverParen = "049341926de4efdc" := rfl
theorem pin_scanner_Scanner_switch2 : Gen.C09.pin_scanner_Scanner_switch2 = "4c47f82ae3efbba1" := rfl
theorem pin_scanner_Scanner_popInterpolation : Gen.C09.pin_scanner_Scanner_popInterpolation = "866cdcaf74bd11eb" := rfl
theorem pin_scanner_Scanner_ResumeInterpolation : Gen.C09.pin_scanner_Scanner_ResumeInterpolation = "3aed8293d9693a6e" := rfl
theorem pin_scanner_Scanner_Offset : Gen.C09.pin_scanner_Scanner_Offset = "3552722d27f70f1e" := rfl
theorem pin_scanner_Scanner_errf : Gen.C09.pin_scanner_Scanner_errf = "cff7056d7ce6f951" := rfl
theorem pin_token_Lookup : Gen.C09.pin_token_Lookup = "cbc48ba334be51ed" := rfl
theorem pin_parser_parser_parseInterpolation : Gen.C09.pin_parser_parser_parseInterpolation = "03e6f1e1327ccc2d" := rfl

end CueVerif.Bridge.C09
