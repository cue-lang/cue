/-
Bridge for C10: facts regenerated from the working tree (CueVerif.Gen.C10) versus the models.

* `safeSet_eq`: Go's encoding/json `safeSet` table (the characters `appendString` copies
  unescaped when HTML escaping is off), re-read from the toolchain the repository selects, is
  the model's `safeAscii` on every ASCII code point.
* apd's exponent limits and the "0E-n is printed in full down to -2000" constant are the model's.
* the parser's nesting limit the harness relies on for its "very deep" documents.
* `pin_*`: fingerprints of the normalised source of every function the C10 models transcribe or
  compose — in the repository (encoding/json, internal/encoding/json, cue/types.go appenders,
  the scanner's string lexing, NumInfo.decimal, UnaryExpr.evaluate, the CUE builtins, and the
  C09 functions behind `unquote`/`parseNum`), in Go's encoding/json (`appendString`) and in
  cockroachdb/apd (Append, fmtE, fmtF, setString, setExponent, SetString, Neg, Round).
  Not pinned: Go's encoding/base64 and encoding/json's byte-slice encoder behind `base64Std`
  (Model/JsonDocErr.lean); they are compared with the model on every run (op `encerr`).
-/
import CueVerif.Gen.C10
import CueVerif.Model.Json
namespace CueVerif.Bridge.C10
open CueVerif

/-- the regenerated `safeSet` lists exactly the code points 0x20..0x7F, in order -/
theorem safeSet_keys : Gen.C10.safeSet.map (·.1) = List.range' 32 96 := by decide

/-- on each of them it agrees with the model's `safeAscii` -/
theorem safeSet_eq : ∀ p ∈ Gen.C10.safeSet, Json.safeAscii p.1 = p.2 := by decide

/-- code points below 0x20 are not listed (array default `false`), and the model escapes them -/
theorem safeSet_controls : ∀ b, b < 32 → Json.safeAscii b = false := by
  intro b hb; simp [Json.safeAscii]; omega

theorem apd_limits : Gen.C10.apdMaxExponent = Json.apdMaxExponent ∧ Gen.C10.apdMinExponent = Json.apdMinExponent ∧
    Gen.C10.apdLowestZeroExp = -2000 := by decide

theorem parser_nest_limit : Gen.C10.parserMaxNestLevel = 10000 := rfl

theorem pin_encjson_Extract : Gen.C10.pin_encjson_Extract = "f202da04c04aa001" := rfl
theorem pin_encjson_extract : Gen.C10.pin_encjson_extract = "d7f9f6146ca02e1c" := rfl
theorem pin_encjson_NewDecoder : Gen.C10.pin_encjson_NewDecoder = "718e78aff9e02950" := rfl
theorem pin_encjson_Decoder_Extract : Gen.C10.pin_encjson_Decoder_Extract = "d34315d1d228a8b8" := rfl
theorem pin_encjson_Decoder_extract : Gen.C10.pin_encjson_Decoder_extract = "8abd6f8ec76898aa" := rfl
theorem pin_encjson_Decoder_patchPos : Gen.C10.pin_encjson_Decoder_patchPos = "fcaaad333e5ee4df" := rfl
theorem pin_intjson_Marshal : Gen.C10.pin_intjson_Marshal = "4a0f73266f10cd69" := rfl
theorem pin_intjson_PatchExpr : Gen.C10.pin_intjson_PatchExpr = "c3b8318ad223e020" := rfl
theorem pin_intjson_hasSpaces : Gen.C10.pin_intjson_hasSpaces = "45bf7992c6f9a803" := rfl
theorem pin_cue_Value_MarshalJSON : Gen.C10.pin_cue_Value_MarshalJSON = "c119efe777c4c639" := rfl
theorem pin_cue_Value_appendJSON : Gen.C10.pin_cue_Value_appendJSON = "bdf200d1b2ed2b14" := rfl
theorem pin_cue_structValue_appendJSON : Gen.C10.pin_cue_structValue_appendJSON = "c73afa3fb3e56a3b" := rfl
theorem pin_cue_listAppendJSON : Gen.C10.pin_cue_listAppendJSON = "975c4ce28ad58bce" := rfl
theorem pin_scanner_Scanner_scanString : Gen.C10.pin_scanner_Scanner_scanString = "983ef5dcdf6576cb" := rfl
theorem pin_scanner_Scanner_scanEscape : Gen.C10.pin_scanner_Scanner_scanEscape = "797f428a147aef6f" := rfl
theorem pin_scanner_Scanner_next : Gen.C10.pin_scanner_Scanner_next = "4dd23fe72be50da9" := rfl
theorem pin_literal_NumInfo_decimal : Gen.C10.pin_literal_NumInfo_decimal = "aca1b0e83663d828" := rfl
theorem pin_literal_NumInfo_Decimal : Gen.C10.pin_literal_NumInfo_Decimal = "8cfcbed371c9b5b7" := rfl
theorem pin_adt_UnaryExpr_evaluate : Gen.C10.pin_adt_UnaryExpr_evaluate = "ad1448027c0e3bcb" := rfl
theorem pin_literal_Unquote : Gen.C10.pin_literal_Unquote = "7b1fcfe81d6cf8c0" := rfl
theorem pin_literal_ParseQuotes : Gen.C10.pin_literal_ParseQuotes = "1a310404c68d538c" := rfl
theorem pin_literal_QuoteInfo_Unquote : Gen.C10.pin_literal_QuoteInfo_Unquote = "3ece8a915cb385ba" := rfl
theorem pin_literal_hasClosingDelimPrefix : Gen.C10.pin_literal_hasClosingDelimPrefix = "85d7628bc292aca8" := rfl
theorem pin_literal_skipWhitespaceAfterNewline : Gen.C10.pin_literal_skipWhitespaceAfterNewline = "d005110dccadd904" := rfl
theorem pin_literal_isSimple : Gen.C10.pin_literal_isSimple = "0526fd3c4a39e411" := rfl
theorem pin_literal_unquoteChar : Gen.C10.pin_literal_unquoteChar = "eab3a8cb37686ae3" := rfl
theorem pin_literal_unhex : Gen.C10.pin_literal_unhex = "e828f60dd9a61aa5" := rfl
theorem pin_literal_ParseNum : Gen.C10.pin_literal_ParseNum = "f62ad6ae0fe132dc" := rfl
theorem pin_literal_NumInfo_next : Gen.C10.pin_literal_NumInfo_next = "fec08a8bae3fc87b" := rfl
theorem pin_literal_NumInfo_digitVal : Gen.C10.pin_literal_NumInfo_digitVal = "b72d7578cbdf111a" := rfl
theorem pin_literal_NumInfo_scanMantissa : Gen.C10.pin_literal_NumInfo_scanMantissa = "8f02c5a2db5ecd93" := rfl
theorem pin_literal_NumInfo_scanNumber : Gen.C10.pin_literal_NumInfo_scanNumber = "a20a9ef43ec46211" := rfl
theorem pin_scanner_Scanner_scanNumber : Gen.C10.pin_scanner_Scanner_scanNumber = "e16e2044fdc3af71" := rfl
theorem pin_scanner_Scanner_scanMantissa : Gen.C10.pin_scanner_Scanner_scanMantissa = "d6c742f674995ae6" := rfl
theorem pin_pkgjson_Marshal : Gen.C10.pin_pkgjson_Marshal = "65b3ee95f457ab93" := rfl
theorem pin_pkgjson_MarshalStream : Gen.C10.pin_pkgjson_MarshalStream = "fc55323b44aca028" := rfl
theorem pin_pkgjson_Unmarshal : Gen.C10.pin_pkgjson_Unmarshal = "659c54ac187d445f" := rfl
theorem pin_pkgjson_UnmarshalStream : Gen.C10.pin_pkgjson_UnmarshalStream = "4eecab088aa6d95c" := rfl
theorem pin_stdjson_appendString : Gen.C10.pin_stdjson_appendString = "62c0a9ab1945d55d" := rfl
theorem pin_apd_Decimal_Append : Gen.C10.pin_apd_Decimal_Append = "cfd3bd90f2f28473" := rfl
theorem pin_apd_fmtE : Gen.C10.pin_apd_fmtE = "788149eda2f0f080" := rfl
theorem pin_apd_fmtF : Gen.C10.pin_apd_fmtF = "cc23cd99169f8061" := rfl
theorem pin_apd_Decimal_setString : Gen.C10.pin_apd_Decimal_setString = "6f5cbc31068a7b0e" := rfl
theorem pin_apd_Decimal_setExponent : Gen.C10.pin_apd_Decimal_setExponent = "9eecb04fa4c309fb" := rfl
theorem pin_apd_Context_SetString : Gen.C10.pin_apd_Context_SetString = "3f21482eeda1c71c" := rfl
theorem pin_apd_Decimal_SetString : Gen.C10.pin_apd_Decimal_SetString = "d74f67213545ec10" := rfl
theorem pin_apd_Decimal_UnmarshalText : Gen.C10.pin_apd_Decimal_UnmarshalText = "a5d924b31a5e8957" := rfl
theorem pin_apd_Decimal_Neg : Gen.C10.pin_apd_Decimal_Neg = "b36a2f4862b3204a" := rfl
theorem pin_apd_Rounder_Round : Gen.C10.pin_apd_Rounder_Round = "6b169e4de3ca017d" := rfl

end CueVerif.Bridge.C10
