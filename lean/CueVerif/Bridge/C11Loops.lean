/-
C11 — bridge lemmas for the definitions TRANSLATED from the Go source by extract/lib_loops.go
(Gen/C11.lean: needsSingleQuoting, singleQuoted, yamlUnprintable, blockLiteralSafe, shouldQuote,
quoteScalar, numberKind, yaml11OctalToCUE, v3 shouldQuote): each equals the hand-written model
function for ALL inputs.  The theorems proper are restated in Bridge/C11.lean (audited there).
-/
import CueVerif.Gen.C11
import CueVerif.Model.YamlEmit
import CueVerif.Proofs.Utf8
namespace CueVerif.Bridge.C11Loops
open CueVerif CueVerif.Yaml
open CueVerif.Quote (Bytes decodeRune)


theorem lpContains_eq (p s : Bytes) : Gen.C11.lpContains p s = containsSub p s := by
  induction s with
  | nil => rfl
  | cons c t ih => simp only [Gen.C11.lpContains, containsSub, ih]

theorem lpReplaceByte_nil (o : Nat) (s : Bytes) : Gen.C11.lpReplaceByte o [] s = s.filter (· != o) := by
  induction s with
  | nil => rfl
  | cons c t ih =>
    simp only [Gen.C11.lpReplaceByte, ih, List.filter_cons]
    by_cases h : c = o <;> simp [h]

theorem lpReplaceByte_flatMap (o : Nat) (n s : Bytes) :
    Gen.C11.lpReplaceByte o n s = s.flatMap (fun c => if c == o then n else [c]) := by
  induction s with
  | nil => rfl
  | cons c t ih => simp only [Gen.C11.lpReplaceByte, ih, List.flatMap_cons]

theorem lt_of_drop_eq_cons {s : Bytes} {i c : Nat} {t : Bytes} (h : s.drop i = c :: t) : i < s.length := by
  rcases Nat.lt_or_ge i s.length with hlt | hge
  · exact hlt
  · rw [List.drop_eq_nil_of_le hge] at h; cases h

theorem needsSingleQuoting_eq (s : Bytes) : Gen.C11.needsSingleQuoting s = Yaml.needsSingleQuoting s := by
  have h1 : b "?" = [63] := by decide +kernel
  have h2 : b "? " = [63, 32] := by decide +kernel
  have h3 : b "<<" = [60, 60] := by decide +kernel
  have h4 : b "..." = [46, 46, 46] := by decide +kernel
  simp only [Gen.C11.needsSingleQuoting, Yaml.needsSingleQuoting, hasPrefix, hasSuffix, h1, h2, h3, h4]

theorem singleQuoted_eq (s : Bytes) : Gen.C11.singleQuoted s = Yaml.singleQuoted s := by
  simp only [Gen.C11.singleQuoted, Yaml.singleQuoted, lpReplaceByte_flatMap]
  rfl

/-! ### yamlUnprintable: `for i, r := range s` -/

/-- both loops spend one unit of fuel per rune: no bound relating fuel and index is needed -/
theorem unprintable_loop (P : IsPrint) (s : Bytes) : ∀ (fuel i : Nat),
    Gen.C11.yamlUnprintable_loop1 decodeRune P fuel s i = yamlUnprintableLoop P fuel (s.drop i) := by
  intro fuel
  induction fuel with
  | zero => intro i; rw [Gen.C11.yamlUnprintable_loop1, yamlUnprintableLoop]
  | succ f ih =>
    intro i
    cases hct : s.drop i with
    | nil =>
      have hlt : ¬ i < s.length := by have := List.drop_eq_nil_iff.mp hct; omega
      simp [Gen.C11.yamlUnprintable_loop1, yamlUnprintableLoop, hlt]
    | cons c t =>
      have hlt := lt_of_drop_eq_cons hct
      have hw : max (decodeRune (c :: t)).2 1 = (decodeRune (c :: t)).2 :=
        Nat.max_eq_left (Quote.decodeRune_width_pos c t).1
      have hdrop : ∀ w, (c :: t).drop w = s.drop (i + w) := fun w => by rw [← hct, List.drop_drop]
      rw [Gen.C11.yamlUnprintable_loop1, yamlUnprintableLoop, if_pos (by simpa using hlt)]
      simp only [hct, hw, hdrop, ih, unprintableRune]
      -- what is left of the two bodies differs only in how the last test is written
      generalize decodeRune (c :: t) = rw
      have last : ∀ X : Bool, (if (rw.1 == 65533) = true then (if (rw.2 == 1) = true then true else X) else X) =
          if (rw.1 == 65533 && rw.2 == 1) = true then true else X := by
        intro X; cases rw.1 == 65533 <;> cases rw.2 == 1 <;> rfl
      rw [last]

theorem yamlUnprintable_eq (P : IsPrint) (s : Bytes) :
    Gen.C11.yamlUnprintable decodeRune P s = Yaml.yamlUnprintable P s :=
  unprintable_loop P s s.length 0

theorem contains10 : (fun c : Nat => List.contains ([10] : List Nat) c) = (· == 10) := by
  funext c
  cases h : (c == 10) <;> simp [List.contains, List.elem, h]

theorem blockLiteralSafe_eq (P : IsPrint) (s : Bytes) :
    Gen.C11.blockLiteralSafe decodeRune P s = Yaml.blockLiteralSafe P s := by
  cases s with
  | nil => rfl
  | cons c t =>
    simp only [Gen.C11.blockLiteralSafe, Yaml.blockLiteralSafe, contains10, lpContains_eq, yamlUnprintable_eq,
      hasSuffix, List.length_cons, List.getD_cons_zero]
    have h0 : (t.length + 1 == 0) = false := by simp
    rw [h0, Bool.false_or]
    generalize (c == 32 || c == 9) = A
    cases hf : List.dropWhile (· == 10) (c :: t) with
    | nil => cases A <;> simp
    | cons f r =>
      simp only [List.getD_cons_zero]
      have h1 : ((f :: r) == ([] : List Nat)) = false := rfl
      rw [h1, Bool.false_or]
      generalize (f == 32 || f == 9) = B
      rfl

/-- the externs of the translated `shouldQuote` instantiated with the model's tables,
regexp matcher, lexer-verdict reading, UTF-8 decoder and `IsPrint` -/
theorem shouldQuote_eq (P : IsPrint) (lx : Lex) (s : Bytes) :
    Gen.C11.shouldQuote (fun x => Yaml.legacyStrings.contains x) reUseQuote.matches reAnyOctal.matches
      (Yaml.decodesAsNonString lx) decodeRune P s = Yaml.shouldQuote P lx s := by
  have hr : regexpStarts = [45, 43, 48, 49, 50, 51, 52, 53, 54, 55, 56, 57, 58, 46, 32, 9] := by decide +kernel
  cases s with
  | nil => rfl
  | cons c t =>
    simp only [Gen.C11.shouldQuote, Yaml.shouldQuote, shouldQuoteCore, yamlUnprintable_eq, hr, List.getD_cons_zero]
    have h0 : ((c :: t) == ([] : List Nat)) = false := rfl
    rw [h0, Bool.false_or]
    generalize Yaml.legacyStrings.contains (c :: t) = A
    generalize (List.contains [45, 43, 48, 49, 50, 51, 52, 53, 54, 55, 56, 57, 58, 46, 32, 9] c &&
          (reUseQuote.matches (c :: t) || reAnyOctal.matches (c :: t))) = B
    generalize (Yaml.decodesAsNonString lx (c :: t) || List.contains (c :: t) 9) = D
    cases A <;> cases B <;> simp

theorem quoteScalar_eq (P : IsPrint) (lx : Lex) (q : Bytes → Bytes) (s : Bytes) :
    Gen.C11.quoteScalar (fun x => Yaml.legacyStrings.contains x) reUseQuote.matches reAnyOctal.matches
      (Yaml.decodesAsNonString lx) decodeRune P q s = (Yaml.quoteScalar P lx s).text q s := by
  simp only [Gen.C11.quoteScalar, Yaml.quoteScalar, shouldQuote_eq, yamlUnprintable_eq, needsSingleQuoting_eq,
    singleQuoted_eq]
  generalize (Yaml.needsSingleQuoting s && !Yaml.yamlUnprintable P s && !List.contains s 10) = A
  generalize (Yaml.shouldQuote P lx s || Yaml.needsSingleQuoting s) = B
  cases A <;> cases B <;> simp [Decision.text]

theorem token_codes : Gen.C11.token_ILLEGAL = NumKind.illegal.code ∧ Gen.C11.token_INT = NumKind.int.code ∧
    Gen.C11.token_FLOAT = NumKind.float.code := by decide

theorem numberKind_eq (s : Bytes) :
    Gen.C11.numberKind reYamlInt.matches reYamlFloat.matches s = (Yaml.numberKind s).code := by
  cases s with
  | nil => rfl
  | cons c t =>
    simp only [Gen.C11.numberKind, Yaml.numberKind, lpReplaceByte_nil, List.getD_cons_zero]
    have h0 : ((c :: t) == ([] : List Nat)) = false := rfl
    rw [h0, Bool.false_or]
    generalize (c == 95) = A
    generalize reYamlInt.matches (List.filter (· != 95) (c :: t)) = B
    generalize reYamlFloat.matches (List.filter (· != 95) (c :: t)) = C
    cases A <;> cases B <;> cases C <;> simp [NumKind.code]

theorem shouldQuoteV3_eq (s : Bytes) :
    Gen.C11.shouldQuoteV3 (fun x => Yaml.legacyStrings.contains x) reUseQuote.matches s = Yaml.shouldQuoteV3 s := rfl

/-! ### yaml11OctalToCUE: `for _, c := range rest` over runes vs the model's byte-wise `all` -/

def octOrUnderscore (c : Nat) : Bool := (decide (48 ≤ c) && decide (c ≤ 55)) || c == 95

theorem not_octOrUnderscore (r : Nat) :
    ((decide (r < 48) || decide (r > 55)) && r != 95) = !octOrUnderscore r := by
  rw [Bool.eq_iff_iff]
  simp only [octOrUnderscore, Bool.and_eq_true, Bool.or_eq_true, decide_eq_true_eq, bne_iff_ne, Bool.not_eq_true',
    Bool.or_eq_false_iff, Bool.and_eq_false_iff, decide_eq_false_iff_not, beq_eq_false_iff_ne]
  omega

theorem octOrUnderscore_high (r : Nat) (h : 0x80 ≤ r) : octOrUnderscore r = false := by
  simp only [octOrUnderscore, Bool.or_eq_false_iff, Bool.and_eq_false_iff, decide_eq_false_iff_not, beq_eq_false_iff_ne]
  omega

/-- on an ASCII byte rune and byte coincide; a byte ≥ 0x80 and the rune decoded at it both fail
the test -/
theorem octal_loop (value sign digits rest : Bytes) (ok : Bool) : ∀ (fuel i : Nat), rest.length - i ≤ fuel →
    Gen.C11.yaml11OctalToCUE_loop1 decodeRune fuel value sign digits rest ok i =
      if (rest.drop i).all octOrUnderscore then (sign ++ [48, 111]) ++ rest else value := by
  intro fuel
  induction fuel with
  | zero => intro i h; rw [List.drop_eq_nil_of_le (by omega)]; rfl
  | succ f ih =>
    intro i h
    cases hct : rest.drop i with
    | nil =>
      have hlt : ¬ i < rest.length := by have := List.drop_eq_nil_iff.mp hct; omega
      simp [Gen.C11.yaml11OctalToCUE_loop1, hlt]
    | cons c t =>
      have hlt := lt_of_drop_eq_cons hct
      have ht : rest.drop (i + 1) = t := by rw [← List.drop_drop, hct]; rfl
      rw [Gen.C11.yaml11OctalToCUE_loop1, if_pos (by simpa using hlt), hct, List.all_cons]
      simp only [not_octOrUnderscore]
      by_cases hc : c < 0x80
      · rw [Quote.decodeRune_ascii c t hc, ih (i + 1) (by omega), ht]
        cases octOrUnderscore c <;> rfl
      · rw [octOrUnderscore_high c (by omega), octOrUnderscore_high _ (Quote.decodeRune_high c t (by omega)).1]
        rfl

theorem yaml11OctalToCUE_eq (v : Bytes) : Gen.C11.yaml11OctalToCUE decodeRune v = Yaml.yaml11OctalToCUE v := by
  have hb : b "0o" = [48, 111] := by decide +kernel
  have tail : ∀ (sign digits : Bytes) (v : Bytes),
      (let rest := if List.isPrefixOf [48] digits then digits.drop 1 else digits
       if (!List.isPrefixOf [48] digits || rest == []) = true then v
       else Gen.C11.yaml11OctalToCUE_loop1 decodeRune (rest.length - 0) v sign digits rest (List.isPrefixOf [48] digits) 0) =
      (match digits with
       | 48 :: rest => if rest.isEmpty then v else if rest.all octOrUnderscore then sign ++ [48, 111] ++ rest else v
       | _ => v) := by
    intro sign digits v
    cases digits with
    | nil => simp
    | cons d r =>
      by_cases hd : d = 48
      · subst hd
        cases r with
        | nil => simp
        | cons r0 r1 =>
          simp only [List.isPrefixOf, beq_self_eq_true, Bool.true_and, if_true, List.drop_succ_cons, List.drop_zero,
            Bool.not_true, Bool.false_or, List.isEmpty_cons]
          rw [octal_loop v sign _ _ _ _ 0 (Nat.le_refl _)]
          simp
      · have : List.isPrefixOf [48] (d :: r) = false := by
          simp [List.isPrefixOf, Ne.symm hd]
        simp only [this, Bool.not_false, Bool.true_or, if_true]
        split
        · rename_i heq
          injection heq with h1 _
          exact absurd h1 hd
        · rfl
  simp only [Gen.C11.yaml11OctalToCUE, Yaml.yaml11OctalToCUE, hb]
  cases v with
  | nil => simp
  | cons c r =>
    simp only [List.length_cons, List.getD_cons_zero, List.take_succ_cons, List.take_zero, List.drop_succ_cons,
      List.drop_zero]
    have h0 : decide (r.length + 1 > 0) = true := by simp
    rw [h0, Bool.true_and]
    by_cases hs : (c == 43 || c == 45) = true
    · simp only [hs, if_true]
      exact tail [c] r (c :: r)
    · simp only [hs]
      exact tail [] (c :: r) (c :: r)

end CueVerif.Bridge.C11Loops
