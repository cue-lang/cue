/-
Bridge for C12: fingerprints (regenerated from /repo on every run, CueVerif.Gen.C12) of the
functions Model/Toml.lean transcribes by hand.  The correspondence ops tomldecode / tomlemit /
tomlround (notes/C12.md) compare the model with exactly these versions.
-/
import CueVerif.Gen.C12
namespace CueVerif.Bridge.C12
open CueVerif

theorem pin_toml_NewDecoder : Gen.C12.pin_toml_NewDecoder = "f9760b3ba650ee7c" := rfl
theorem pin_toml_Decoder_Decode : Gen.C12.pin_toml_Decoder_Decode = "57f0c30cc7f6772b" := rfl
theorem pin_toml_Decoder_nextRootNode : Gen.C12.pin_toml_Decoder_nextRootNode = "3a7aaba85e52bb47" := rfl
theorem pin_toml_Decoder_decodeField : Gen.C12.pin_toml_Decoder_decodeField = "1f06d984521b347b" := rfl
theorem pin_toml_Decoder_findArray : Gen.C12.pin_toml_Decoder_findArray = "7090637c1997eb31" := rfl
theorem pin_toml_Decoder_findArrayPrefix : Gen.C12.pin_toml_Decoder_findArrayPrefix = "22b6f9e6b3f31538" := rfl
theorem pin_toml_Decoder_decodeKey : Gen.C12.pin_toml_Decoder_decodeKey = "bc8fc10728632f60" := rfl
theorem pin_toml_Decoder_inlineFields : Gen.C12.pin_toml_Decoder_inlineFields = "23eac75c4a252a4f" := rfl
theorem pin_toml_quoteLabelIfNeeded : Gen.C12.pin_toml_quoteLabelIfNeeded = "09e2e903431cf364" := rfl
theorem pin_toml_Decoder_label : Gen.C12.pin_toml_Decoder_label = "b4388d785a0834c4" := rfl
theorem pin_toml_Decoder_decodeExpr : Gen.C12.pin_toml_Decoder_decodeExpr = "1bffacbeafcfb10e" := rfl
theorem pin_toml_NewEncoder : Gen.C12.pin_toml_NewEncoder = "cf1c6e3886ff9e65" := rfl
theorem pin_toml_Encoder_Encode : Gen.C12.pin_toml_Encoder_Encode = "317c39faf2384837" := rfl
theorem pin_toml_checkNoNull : Gen.C12.pin_toml_checkNoNull = "41102bb25a8d3b2a" := rfl
-- the code of repaired defects (fixed: lines of known-findings.d/C12.txt)
theorem pin_cue_Value_Int64 : Gen.C12.pin_cue_Value_Int64 = "b228d48ce9787d3f" := rfl
theorem pin_cmd_buildPlan_placeOrphans : Gen.C12.pin_cmd_buildPlan_placeOrphans = "36080d5bde0cf77e" := rfl
-- how output files are opened (O_EXCL without --force, O_TRUNC with it); exercised by harness/c12_overwrite.go
theorem pin_encoding_writer : Gen.C12.pin_encoding_writer = "7fbebf1e946da055" := rfl
theorem pin_ast_StringLabelNeedsQuoting : Gen.C12.pin_ast_StringLabelNeedsQuoting = "8e5531b8cb8df961" := rfl

end CueVerif.Bridge.C12
