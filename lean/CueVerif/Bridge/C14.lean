/-
Bridge for C14: facts regenerated from /repo (CueVerif.Gen.C14) versus the hand model.
`pin_*` are fingerprints of the normalised source of the functions the models transcribe
(Model/Semver, Mvs, MvsOps, Work, Queue, VersionsMax) or, for modrequirements, the harness drives.
-/
import CueVerif.Gen.C14
import CueVerif.Model.Semver
namespace CueVerif.Bridge.C14
open CueVerif

theorem isIdentChar_eq (c : Nat) : Gen.C14.isIdentChar c = Semver.isIdentChar c := by
  simp [Gen.C14.isIdentChar, Semver.isIdentChar]

theorem pin_semver_parse : Gen.C14.pin_semver_parse = "e7c6fb938e61a7b3" := rfl
theorem pin_semver_parseInt : Gen.C14.pin_semver_parseInt = "0449fec35beaf025" := rfl
theorem pin_semver_parsePrerelease : Gen.C14.pin_semver_parsePrerelease = "02ac32791d3a8096" := rfl
theorem pin_semver_parseBuild : Gen.C14.pin_semver_parseBuild = "91edad8ec4851cb1" := rfl
theorem pin_semver_isBadNum : Gen.C14.pin_semver_isBadNum = "2bfcfffd8fd7d09c" := rfl
theorem pin_semver_isNum : Gen.C14.pin_semver_isNum = "04ce231c4ef9a733" := rfl
theorem pin_semver_compareInt : Gen.C14.pin_semver_compareInt = "dab43449e17b3fdd" := rfl
theorem pin_semver_comparePrerelease : Gen.C14.pin_semver_comparePrerelease = "760ecf733fb10812" := rfl
theorem pin_semver_nextIdent : Gen.C14.pin_semver_nextIdent = "1378ee15c1c34384" := rfl
theorem pin_semver_Compare : Gen.C14.pin_semver_Compare = "3152fc2e75e98801" := rfl
theorem pin_semver_Canonical : Gen.C14.pin_semver_Canonical = "79b0a11c1b1be345" := rfl
theorem pin_semver_IsValid : Gen.C14.pin_semver_IsValid = "0ebe9e13a142d9bd" := rfl
theorem pin_mvs_NewGraph : Gen.C14.pin_mvs_NewGraph = "b3d1d3d773e927b4" := rfl
theorem pin_mvs_Graph_Require : Gen.C14.pin_mvs_Graph_Require = "459690ccac9090c0" := rfl
theorem pin_mvs_Graph_Selected : Gen.C14.pin_mvs_Graph_Selected = "351bb1d52f3a1b41" := rfl
theorem pin_mvs_Graph_BuildList : Gen.C14.pin_mvs_Graph_BuildList = "99e65de8aacc1814" := rfl
theorem pin_mvs_buildList : Gen.C14.pin_mvs_buildList = "5ce555382d1b344b" := rfl
theorem pin_mvs_BuildList : Gen.C14.pin_mvs_BuildList = "0d31ae8820effc61" := rfl
theorem pin_par_Work_Add : Gen.C14.pin_par_Work_Add = "6738a1ce978fcc9e" := rfl
theorem pin_par_Work_Do : Gen.C14.pin_par_Work_Do = "1e8a1bbaababcce9" := rfl
theorem pin_par_Work_runner : Gen.C14.pin_par_Work_runner = "6b01f4e5287be4b9" := rfl
theorem pin_par_Work_init : Gen.C14.pin_par_Work_init = "4f02859d38cf9746" := rfl
theorem pin_module_Versions_Max : Gen.C14.pin_module_Versions_Max = "08d5d658d9c458c1" := rfl

theorem pin_modrequirements_readModGraph : Gen.C14.pin_modrequirements_Requirements_readModGraph = "df0a79d42396c97c" := rfl
theorem pin_modrequirements_cueModSummary : Gen.C14.pin_modrequirements_Requirements_cueModSummary = "e2c55a394541410f" := rfl
theorem pin_modrequirements_NewRequirements : Gen.C14.pin_modrequirements_NewRequirements = "d873cd55fff924b1" := rfl
theorem pin_modrequirements_Graph : Gen.C14.pin_modrequirements_Requirements_Graph = "c1d156011aae530b" := rfl
theorem pin_modrequirements_cmpVersion : Gen.C14.pin_modrequirements_cmpVersion = "0b033df76a48c581" := rfl
theorem pin_par_NewQueue : Gen.C14.pin_par_NewQueue = "f89211cea39e8ea6" := rfl
theorem pin_par_Queue_Add : Gen.C14.pin_par_Queue_Add = "b1793b1d2f696e9c" := rfl
theorem pin_par_Queue_Idle : Gen.C14.pin_par_Queue_Idle = "f90cee8ecea242a1" := rfl

-- Req, Upgrade, UpgradeAll, Downgrade, override (Model/MvsOps.lean)
theorem pin_mvs_Req : Gen.C14.pin_mvs_Req = "863698a5eddfa5f0" := rfl
theorem pin_mvs_Upgrade : Gen.C14.pin_mvs_Upgrade = "ec442e9c2af06a50" := rfl
theorem pin_mvs_UpgradeAll : Gen.C14.pin_mvs_UpgradeAll = "a48222a8a8a47bf6" := rfl
theorem pin_mvs_Downgrade : Gen.C14.pin_mvs_Downgrade = "1025aa7a8a373dfe" := rfl
theorem pin_mvs_override_Required : Gen.C14.pin_mvs_override_Required = "949714b36fe3000f" := rfl

end CueVerif.Bridge.C14
