/-
Bridge for C15: facts regenerated from /repo (CueVerif.Gen.C15) versus the hand model.
`pin_*` are fingerprints of the normalised source of the functions the model transcribes;
the model was validated (correspondence) against exactly these versions.
-/
import CueVerif.Gen.C15
import CueVerif.Model.Modzip
import CueVerif.Model.ModzipDir
namespace CueVerif.Bridge.C15
open CueVerif

theorem maxZipFile_eq : Gen.C15.maxZipFile = (Modzip.maxZipFile : Int) := rfl
theorem maxCUEMod_eq : Gen.C15.maxCUEMod = (Modzip.maxCUEMod : Int) := rfl
theorem maxLICENSE_eq : Gen.C15.maxLICENSE = (Modzip.maxLICENSE : Int) := rfl

theorem fileNameOK_ascii : ∀ k, k < 128 →
    Gen.C15.fileNameOK (fun _ => false) k = Modzip.fileNameOK (fun _ => false) k := by decide +kernel

/-- module.fileNameOK, for every rune and every interpretation of unicode.IsLetter -/
theorem fileNameOK_eq (isLetter : Nat → Bool) (r : Nat) :
    Gen.C15.fileNameOK isLetter r = Modzip.fileNameOK isLetter r := by
  unfold Gen.C15.fileNameOK Modzip.fileNameOK Modzip.fileNameAllowed
  by_cases h : r < 128
  · simp only [h, decide_true, if_true]
    have := fileNameOK_ascii r h
    unfold Gen.C15.fileNameOK Modzip.fileNameOK Modzip.fileNameAllowed at this
    simpa only [h, decide_true, if_true] using this
  · simp [h]

theorem badWindowsNames_eq : Gen.C15.badWindowsNames = Modzip.badWindowsNames := rfl

/-- the VCS directory names pruned by listFilesInDir and the prefix of isVendoredPackage, as
regenerated from the source, are the model's -/
theorem vcsNames_eq : Gen.C15.vcsNames = Modzip.vcsNames := rfl
theorem vendorPrefix_eq : Gen.C15.vendorPrefix = Modzip.sVendorPrefix := rfl

/-- every extraction of the module cache goes through modzip.Unzip from Cache.Fetch, and the
registry client checks uploads with modzip.CheckZip from checkModule -/
theorem callers_Unzip : Gen.C15.callers_modcache_Unzip = ["Cache.Fetch"] := rfl
theorem callers_CheckZip : Gen.C15.callers_modregistry_CheckZip = ["checkModule"] := rfl

theorem pin_module_checkPath : Gen.C15.pin_module_checkPath = "dcda10e6f1ec6893" := rfl
theorem pin_module_checkElem : Gen.C15.pin_module_checkElem = "170379e46b975543" := rfl
theorem pin_module_CheckFilePath : Gen.C15.pin_module_CheckFilePath = "5b217e6b65b17098" := rfl
theorem pin_module_escapeString : Gen.C15.pin_module_escapeString = "f7ec47cd068f9159" := rfl
theorem pin_module_EscapePath : Gen.C15.pin_module_EscapePath = "cf1d3b0dc5b77ab4" := rfl
theorem pin_module_EscapeVersion : Gen.C15.pin_module_EscapeVersion = "1e43fedccbc294c9" := rfl
theorem pin_modzip_CheckedFiles_Err : Gen.C15.pin_modzip_CheckedFiles_Err = "71aa6c4aeed8e63e" := rfl
theorem pin_modzip_CheckFiles : Gen.C15.pin_modzip_CheckFiles = "f619999066d89dfb" := rfl
theorem pin_modzip_checkFiles : Gen.C15.pin_modzip_checkFiles = "27b2f4dc4f67d323" := rfl
theorem pin_modzip_CheckDir : Gen.C15.pin_modzip_CheckDir = "e611e0450101d285" := rfl
theorem pin_modzip_CheckZipFile : Gen.C15.pin_modzip_CheckZipFile = "153a4f9c1942602d" := rfl
theorem pin_modzip_CheckZip : Gen.C15.pin_modzip_CheckZip = "683ddceaeb7c0621" := rfl
theorem pin_modzip_Create : Gen.C15.pin_modzip_Create = "e782b72b64d78000" := rfl
theorem pin_modzip_CreateFromDir : Gen.C15.pin_modzip_CreateFromDir = "4137de7409d04af3" := rfl
theorem pin_modzip_isVendoredPackage : Gen.C15.pin_modzip_isVendoredPackage = "ba02e225c8df63ef" := rfl
theorem pin_modzip_Unzip : Gen.C15.pin_modzip_Unzip = "ce3101a2a84ee4d0" := rfl
theorem pin_modzip_collisionChecker_check : Gen.C15.pin_modzip_collisionChecker_check = "6eee451de485e3a6" := rfl
theorem pin_modzip_listFilesInDir : Gen.C15.pin_modzip_listFilesInDir = "01b2d147f5832d5a" := rfl
theorem pin_modzip_strToFold : Gen.C15.pin_modzip_strToFold = "63924d5cff538f49" := rfl
theorem pin_modzip_splitCUEMod : Gen.C15.pin_modzip_splitCUEMod = "a87f8d3862e2a04d" := rfl
theorem pin_modzip_dirFileIO_Path : Gen.C15.pin_modzip_dirFileIO_Path = "65bb6481fa5f45a4" := rfl
theorem pin_modzip_dirFileIO_Lstat : Gen.C15.pin_modzip_dirFileIO_Lstat = "7bb801578503a380" := rfl
theorem pin_modzip_dirFileIO_Open : Gen.C15.pin_modzip_dirFileIO_Open = "878b7d16c8122e44" := rfl

end CueVerif.Bridge.C15
