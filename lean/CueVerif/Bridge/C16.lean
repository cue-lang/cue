/-
Bridge for C16: facts regenerated from /repo (CueVerif.Gen.C16) versus the hand model.
 * `fx_*`: the watched calls (file-system effects, lock operations, registry calls) and hook
   points of every transcribed function, in source order, equal the lists the model's
   program points were written against;
 * `hook_order_*`: the hook points of the model's clean runs, in the model's STEP order, are
   the hook points of the source in source order (Unzip's per-file hooks repeated per file);
 * `pin_*`: fingerprints of the normalised source of the transcribed functions.
-/
import CueVerif.Gen.C16
import CueVerif.Model.ModCache
import CueVerif.Model.ModCachePaths
namespace CueVerif.Bridge.C16
open CueVerif

theorem fx_Fetch : Gen.C16.fx_Fetch = ModCache.goFetch := rfl
theorem fx_FetchFromCache : Gen.C16.fx_FetchFromCache = ModCache.goFetchFromCache := rfl
theorem fx_downloadDir : Gen.C16.fx_downloadDir = ModCache.goDownloadDir := rfl
theorem fx_downloadZip : Gen.C16.fx_downloadZip = ModCache.goDownloadZip := rfl
theorem fx_downloadZip1 : Gen.C16.fx_downloadZip1 = ModCache.goDownloadZip1 := rfl
theorem fx_Unzip : Gen.C16.fx_Unzip = ModCache.goUnzip := rfl
theorem fx_ModFile : Gen.C16.fx_ModFile = ModCache.goModFile := rfl
theorem fx_fetchModFileData : Gen.C16.fx_fetchModFileData = ModCache.goFetchModFileData := rfl
theorem fx_downloadModFile1 : Gen.C16.fx_downloadModFile1 = ModCache.goDownloadModFile1 := rfl
theorem fx_readDiskCache : Gen.C16.fx_readDiskCache = ModCache.goReadDiskCache := rfl
theorem fx_writeDiskCache : Gen.C16.fx_writeDiskCache = ModCache.goWriteDiskCache := rfl
theorem fx_lockVersion : Gen.C16.fx_lockVersion = ModCache.goLockVersion := rfl

/-- what Fetch removes under the version lock: entries of the parent directory named
`filepath.Base(dir) + ".tmp-" + <digits>` that are not themselves named after a version
(`ok && isAllDigits(suffix) && !isVersionDir(entry.Name())`), and `dir` itself when partial;
`isAllDigits` and `isVersionDir` are pinned and transcribed in Model/ModCachePaths.lean -/
theorem fx_Fetch_removes : Gen.C16.fx_Fetch_removes = ModCache.goFetchRemoves := rfl
theorem fx_Fetch_defs : Gen.C16.fx_Fetch_defs = ModCache.goFetchDefs := rfl
theorem cleanup_tmp_suffix : Gen.C16.cleanup_tmp_suffix = ModCache.tmpSuffixText := rfl
theorem tmp_suffix_bytes : ModCache.tmpSuffixText.toList.map Char.toNat = ModCache.tmpSuffix := rfl

/-- the model's cold Fetch passes the source's hook points in the source's order -/
theorem hook_order_fetch_0 : ModCache.coldHooks 0 .fetch =
    ModCache.composeHooks 0 Gen.C16.fx_downloadZip1_hooks Gen.C16.fx_Fetch_hooks Gen.C16.fx_Unzip_hooks := rfl
theorem hook_order_fetch_1 : ModCache.coldHooks 1 .fetch =
    ModCache.composeHooks 1 Gen.C16.fx_downloadZip1_hooks Gen.C16.fx_Fetch_hooks Gen.C16.fx_Unzip_hooks := rfl
theorem hook_order_fetch_3 : ModCache.coldHooks 3 .fetch =
    ModCache.composeHooks 3 Gen.C16.fx_downloadZip1_hooks Gen.C16.fx_Fetch_hooks Gen.C16.fx_Unzip_hooks := rfl
theorem hook_order_modfile : ModCache.coldHooks 3 .modFile = Gen.C16.fx_writeDiskCache_hooks := rfl
/-- on a warm cache Fetch and FetchFromCache pass exactly downloadDir's hook point (between the
two stat calls: the directory first, then the marker) -/
theorem hook_order_warm_fetch :
    (match ModCache.next 3 { ModCache.VSt.init with dir := some ⟨3, false, true⟩, zip := some .full } (0, 0) { start := .fetch } with
     | some (s1, _) => ModCache.hooksAlone 3 (0, 0) 10 s1 []
     | none => []) = Gen.C16.fx_downloadDir_hooks := rfl
theorem hook_order_warm_fromcache :
    (match ModCache.next 3 { ModCache.VSt.init with dir := some ⟨3, false, true⟩, zip := some .full } (0, 0) { start := .fetchFromCache } with
     | some (s1, _) => ModCache.hooksAlone 3 (0, 0) 10 s1 []
     | none => []) = Gen.C16.fx_downloadDir_hooks := rfl
theorem hook_order_fromcache : ModCache.coldHooks 3 .fetchFromCache = Gen.C16.fx_FetchFromCache_hooks := rfl

theorem pin_modcache_Cache_Fetch : Gen.C16.pin_modcache_Cache_Fetch = "5ea76b9d3c232af1" := rfl
theorem pin_modcache_Cache_FetchFromCache : Gen.C16.pin_modcache_Cache_FetchFromCache = "e2bff6dd2316d2b5" := rfl
theorem pin_modcache_Cache_downloadZip : Gen.C16.pin_modcache_Cache_downloadZip = "a0701c8899cddee4" := rfl
theorem pin_modcache_Cache_downloadZip1 : Gen.C16.pin_modcache_Cache_downloadZip1 = "5d5ed189ad24fcc0" := rfl
theorem pin_modcache_Cache_downloadDir : Gen.C16.pin_modcache_Cache_downloadDir = "2d28fa0f75e2b582" := rfl
theorem pin_modcache_Cache_cachePath : Gen.C16.pin_modcache_Cache_cachePath = "2fe45abf740296ec" := rfl
theorem pin_modcache_Cache_lockVersion : Gen.C16.pin_modcache_Cache_lockVersion = "646ffb9c6ce0e9a1" := rfl
theorem pin_modcache_Cache_writeDiskCache : Gen.C16.pin_modcache_Cache_writeDiskCache = "a9ab77214d3dd39b" := rfl
theorem pin_modcache_Cache_readDiskCache : Gen.C16.pin_modcache_Cache_readDiskCache = "0470dabf41445587" := rfl
theorem pin_modcache_Cache_readDiskModFile : Gen.C16.pin_modcache_Cache_readDiskModFile = "c0249a0b722f76b8" := rfl
theorem pin_modcache_Cache_writeDiskModFile : Gen.C16.pin_modcache_Cache_writeDiskModFile = "a00597693a692fe3" := rfl
theorem pin_modcache_Cache_fetchModFileData : Gen.C16.pin_modcache_Cache_fetchModFileData = "69b213a816c1241f" := rfl
theorem pin_modcache_Cache_downloadModFile1 : Gen.C16.pin_modcache_Cache_downloadModFile1 = "17aef2eb5298777e" := rfl
theorem pin_modcache_Cache_ModFile : Gen.C16.pin_modcache_Cache_ModFile = "2687568602fb0782" := rfl
theorem pin_modcache_tempFile : Gen.C16.pin_modcache_tempFile = "fc3a5158eca0beee" := rfl
theorem pin_modcache_RemoveAll : Gen.C16.pin_modcache_RemoveAll = "4e7a3edb52d6cba1" := rfl
theorem pin_modcache_downloadDirPartialError_Is : Gen.C16.pin_modcache_downloadDirPartialError_Is = "f6431a07bcd424a9" := rfl
theorem pin_modzip_Unzip : Gen.C16.pin_modzip_Unzip = "ce3101a2a84ee4d0" := rfl
theorem pin_par_ErrCache_Do : Gen.C16.pin_par_ErrCache_Do = "3072b8324b408a24" := rfl
theorem pin_par_Cache_Do : Gen.C16.pin_par_Cache_Do = "383de71de7cd18a6" := rfl
theorem pin_robustio_Rename : Gen.C16.pin_robustio_Rename = "8d8bc43bddb78277" := rfl
theorem pin_robustio_RemoveAll : Gen.C16.pin_robustio_RemoveAll = "908cbc1ce348c8cb" := rfl
theorem pin_robustio_WriteFile : Gen.C16.pin_robustio_WriteFile = "58be92685c92f3a0" := rfl
theorem pin_robustio_ReadFile : Gen.C16.pin_robustio_ReadFile = "3a3b398ea3a9343c" := rfl
theorem pin_modregistry_Module_GetZip : Gen.C16.pin_modregistry_Module_GetZip = "7c679de0fdba6785" := rfl
theorem pin_modregistry_Module_ModuleFile : Gen.C16.pin_modregistry_Module_ModuleFile = "6ee0d8f24b966d1b" := rfl
theorem pin_modcache_isAllDigits : Gen.C16.pin_modcache_isAllDigits = "8e75289aa85939f3" := rfl
theorem pin_modcache_isVersionDir : Gen.C16.pin_modcache_isVersionDir = "bc45db5be54fe908" := rfl

end CueVerif.Bridge.C16
