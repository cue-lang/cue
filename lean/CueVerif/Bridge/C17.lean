/-
Bridge for C17: fingerprints (regenerated from /repo on every run as CueVerif.Gen.C17) of the
normalised source of every function the hand models transcribe: Model/Tidy.lean (modload,
modpkgload, modrequirements, modimports), Model/Modfile.lean (modfile, modfiledata) and the CLI
entry point the harness mirrors (cmd/cue/cmd.runModTidy).  The models were validated by
correspondence against exactly these versions.
-/
import CueVerif.Gen.C17
namespace CueVerif.Bridge.C17
open CueVerif

theorem pin_modload_tidy : Gen.C17.pin_modload_tidy = "c2f586c4d7605d7e" := rfl
theorem pin_modload_loader_tidyOnce : Gen.C17.pin_modload_loader_tidyOnce = "f7032ae09963f788" := rfl
theorem pin_modload_loader_resolveDependencies : Gen.C17.pin_modload_loader_resolveDependencies = "5de029eb8d8c8b62" := rfl
theorem pin_modload_loader_resolveMissingImports : Gen.C17.pin_modload_loader_resolveMissingImports = "963c3040770894b0" := rfl
theorem pin_modload_loader_updateRoots : Gen.C17.pin_modload_loader_updateRoots = "08bdfd5e711c382d" := rfl
theorem pin_modload_loader_tidyRoots : Gen.C17.pin_modload_loader_tidyRoots = "c06070f3fb1e6038" := rfl
theorem pin_modload_keepImpliedDefaults : Gen.C17.pin_modload_keepImpliedDefaults = "c8881a8d433ced9e" := rfl
theorem pin_modload_modfileFromRequirements : Gen.C17.pin_modload_modfileFromRequirements = "5d5423764d898ba3" := rfl
theorem pin_modload_equalRequirements : Gen.C17.pin_modload_equalRequirements = "93c7b7eea67cc542" := rfl
theorem pin_modload_mergeRequirements : Gen.C17.pin_modload_mergeRequirements = "b3d3e5c28d9dc855" := rfl
theorem pin_modload_loader_queryImport : Gen.C17.pin_modload_loader_queryImport = "c8ef035ba6f0289d" := rfl
theorem pin_modload_loader_queryLatestModules : Gen.C17.pin_modload_loader_queryLatestModules = "2231f59303defef0" := rfl
theorem pin_modload_LatestVersion : Gen.C17.pin_modload_LatestVersion = "c264105b71fb3811" := rfl
theorem pin_modload_loader_shouldIncludePkgFile : Gen.C17.pin_modload_loader_shouldIncludePkgFile = "2796c92644cb99cb" := rfl
theorem pin_modload_withoutIgnoredFiles : Gen.C17.pin_modload_withoutIgnoredFiles = "a77211007bd082a1" := rfl
theorem pin_modload_readPublishedModuleFile : Gen.C17.pin_modload_readPublishedModuleFile = "b12518f4e98761d2" := rfl
theorem pin_modpkgload_LoadPackages : Gen.C17.pin_modpkgload_LoadPackages = "bcbfdf9690c117d2" := rfl
theorem pin_modpkgload_Packages_load : Gen.C17.pin_modpkgload_Packages_load = "3c476827f948a07d" := rfl
theorem pin_modpkgload_Packages_addPkg : Gen.C17.pin_modpkgload_Packages_addPkg = "779f0055eff7401e" := rfl
theorem pin_modpkgload_Packages_applyPkgFlags : Gen.C17.pin_modpkgload_Packages_applyPkgFlags = "12145cc6db2632de" := rfl
theorem pin_modpkgload_Packages_buildStacks : Gen.C17.pin_modpkgload_Packages_buildStacks = "f09ba35413dee7b5" := rfl
theorem pin_modpkgload_Packages_importFromModules : Gen.C17.pin_modpkgload_Packages_importFromModules = "5d3e27c4696931ae" := rfl
theorem pin_modpkgload_FindPackageLocations : Gen.C17.pin_modpkgload_FindPackageLocations = "f6e400d197c7cee7" := rfl
theorem pin_modpkgload_locInModule : Gen.C17.pin_modpkgload_locInModule = "4cc2b4506de6d850" := rfl
theorem pin_modpkgload_Packages_fetch : Gen.C17.pin_modpkgload_Packages_fetch = "5240d5f28821b091" := rfl
theorem pin_modpkgload_pathAncestors : Gen.C17.pin_modpkgload_pathAncestors = "ba629f80fa0e0732" := rfl
theorem pin_modpkgload_IsStdlibPackage : Gen.C17.pin_modpkgload_IsStdlibPackage = "b46fdbfab49ac550" := rfl
theorem pin_modrequirements_NewRequirements : Gen.C17.pin_modrequirements_NewRequirements = "d873cd55fff924b1" := rfl
theorem pin_modrequirements_Requirements_WithDefaultMajorVersions : Gen.C17.pin_modrequirements_Requirements_WithDefaultMajorVersions = "8a073e46c349cfd3" := rfl
theorem pin_modrequirements_Requirements_initDefaultMajorVersions : Gen.C17.pin_modrequirements_Requirements_initDefaultMajorVersions = "777b73c11e2a9ec3" := rfl
theorem pin_modrequirements_Requirements_RootSelected : Gen.C17.pin_modrequirements_Requirements_RootSelected = "3a5112ecab33dc60" := rfl
theorem pin_modrequirements_Requirements_DefaultMajorVersion : Gen.C17.pin_modrequirements_Requirements_DefaultMajorVersion = "9d99323c30c2149c" := rfl
theorem pin_modrequirements_Requirements_DependencyDefaultMajorVersion : Gen.C17.pin_modrequirements_Requirements_DependencyDefaultMajorVersion = "3b9679c5344f441b" := rfl
theorem pin_modrequirements_Requirements_readModGraph : Gen.C17.pin_modrequirements_Requirements_readModGraph = "df0a79d42396c97c" := rfl
theorem pin_modrequirements_Requirements_Graph : Gen.C17.pin_modrequirements_Requirements_Graph = "c1d156011aae530b" := rfl
theorem pin_modrequirements_ModuleGraph_Selected : Gen.C17.pin_modrequirements_ModuleGraph_Selected = "3ebd300a30a2807d" := rfl
theorem pin_modrequirements_cmpVersion : Gen.C17.pin_modrequirements_cmpVersion = "0b033df76a48c581" := rfl
theorem pin_modimports_AllImports : Gen.C17.pin_modimports_AllImports = "a4cbd1da483dbb18" := rfl
theorem pin_modimports_PackageFiles : Gen.C17.pin_modimports_PackageFiles = "ac4937d807ee9499" := rfl
theorem pin_modimports_AllModuleFiles : Gen.C17.pin_modimports_AllModuleFiles = "6c45cbff217c4d7f" := rfl
theorem pin_modimports_yieldAllModFiles : Gen.C17.pin_modimports_yieldAllModFiles = "16a1f7e93e0dcd75" := rfl
theorem pin_modfiledata_File_init : Gen.C17.pin_modfiledata_File_init = "db0970ff56007b86" := rfl
theorem pin_modfiledata_File_QualifiedModule : Gen.C17.pin_modfiledata_File_QualifiedModule = "b0a212c52bf34634" := rfl
theorem pin_modfiledata_File_DepVersions : Gen.C17.pin_modfiledata_File_DepVersions = "0f63c0df6d2bfc04" := rfl
theorem pin_modfiledata_File_DefaultMajorVersions : Gen.C17.pin_modfiledata_File_DefaultMajorVersions = "d718c3ac131e5b06" := rfl
theorem pin_modfile_Parse : Gen.C17.pin_modfile_Parse = "e64304c37b46f173" := rfl
theorem pin_modfile_ParseNonStrict : Gen.C17.pin_modfile_ParseNonStrict = "70a7a7a57e4f53c8" := rfl
theorem pin_modfile_parse : Gen.C17.pin_modfile_parse = "6df114fbba760df0" := rfl
theorem pin_modfile_Format : Gen.C17.pin_modfile_Format = "ad06e05950acf7ee" := rfl
theorem pin_cmd_runModTidy : Gen.C17.pin_cmd_runModTidy = "1894f77fbe5580ba" := rfl

end CueVerif.Bridge.C17
