/-
Bridge for C18: facts regenerated from /repo/tools/flow (CueVerif.Gen.C18) versus the model.
Translated facts are compared with the model's definitions; `pin_*` are fingerprints of the
normalised source of the functions Model/Flow.lean transcribes by hand and of those it leaves
to its environment (`Task.Fill`, `getTask`, `findRootTasks`, `markTaskDependencies`,
`findImpliedTask`, `addCycleError`, `Value`); the trace correspondence (DESIGN.md §C18) was
run against these versions.
-/
import CueVerif.Gen.C18
import CueVerif.Model.Flow
namespace CueVerif.Bridge.C18
open CueVerif CueVerif.Flow

/-- the numeric values of the `State` constants are the model's ranks -/
theorem state_order :
    Gen.C18.stateWaiting = (TState.waiting.rank : Int) ∧ Gen.C18.stateReady = (TState.ready.rank : Int) ∧
    Gen.C18.stateRunning = (TState.running.rank : Int) ∧ Gen.C18.stateTerminated = (TState.terminated.rank : Int) := by
  decide

/-- `Task.done` is the model's `doneRank`, on every numeric state -/
theorem done_eq (state : Nat) : Gen.C18.done state = doneRank state := by
  simp [Gen.C18.done, doneRank]

/-- hence on the four states: only Terminated is done -/
theorem done_states (st : TState) : Gen.C18.done st.rank = decide (st = .terminated) := by
  cases st <;> decide

/-- `Task.isReady` has the shape "every element of depTasks is done" (model: `isReady`) -/
theorem isReady_shape : Gen.C18.isReady_shape = "all depTasks done" := rfl

/-- `markReady` moves exactly Waiting tasks that are ready to Ready (model: `markReady`) -/
theorem markReady_states :
    Gen.C18.markReady_from = (TState.waiting.rank : Int) ∧ Gen.C18.markReady_to = (TState.ready.rank : Int) := by
  decide

/-- `runLoop` dispatches Ready → Running, marks a received completion Terminated, and loops
while no error is recorded (model: `dispatchOne`, `onComplete`, `loopHead`) -/
theorem runLoop_states :
    Gen.C18.dispatch_from = (TState.ready.rank : Int) ∧ Gen.C18.dispatch_to = (TState.running.rank : Int) ∧
    Gen.C18.complete_to = (TState.terminated.rank : Int) ∧ Gen.C18.loop_cond = "c.errs == nil" := by
  decide

theorem pin_Task_done : Gen.C18.pin_flow_Task_done = "62411de68365b7d8" := rfl
theorem pin_Task_isReady : Gen.C18.pin_flow_Task_isReady = "a8044e7989aceef9" := rfl
theorem pin_Task_addDep : Gen.C18.pin_flow_Task_addDep = "a6870504039cfc8b" := rfl
theorem pin_Task_Fill : Gen.C18.pin_flow_Task_Fill = "a2c5cd9a205a03b4" := rfl
theorem pin_runLoop : Gen.C18.pin_flow_Controller_runLoop = "c07cff43c34659a3" := rfl
theorem pin_markReady : Gen.C18.pin_flow_Controller_markReady = "f6013ad823fb1f64" := rfl
theorem pin_updateValue : Gen.C18.pin_flow_Controller_updateValue = "d9340605ab8d0923" := rfl
theorem pin_updateTaskValue : Gen.C18.pin_flow_Controller_updateTaskValue = "f8dc358d891e2598" := rfl
theorem pin_updateTaskResults : Gen.C18.pin_flow_Controller_updateTaskResults = "c10f56df809a9f5a" := rfl
theorem pin_initTasks : Gen.C18.pin_flow_Controller_initTasks = "3e1d4711fdc352d4" := rfl
theorem pin_getTask : Gen.C18.pin_flow_Controller_getTask = "fd68f0957ff2e1cc" := rfl
theorem pin_findRootTasks : Gen.C18.pin_flow_Controller_findRootTasks = "ff01a70569fae591" := rfl
theorem pin_markTaskDependencies : Gen.C18.pin_flow_Controller_markTaskDependencies = "a2f6ebb42851e878" := rfl
theorem pin_findImpliedTask : Gen.C18.pin_flow_Controller_findImpliedTask = "c143f84e21a215dc" := rfl
theorem pin_checkCycle : Gen.C18.pin_flow_checkCycle = "cfa8fff037bea7dd" := rfl
theorem pin_isCyclic : Gen.C18.pin_flow_cycleChecker_isCyclic = "b2a18ba8e4542092" := rfl
theorem pin_addCycleError : Gen.C18.pin_flow_cycleChecker_addCycleError = "98f7ff5de58dac16" := rfl
theorem pin_New : Gen.C18.pin_flow_New = "d39c679cdc5c6132" := rfl
theorem pin_Run : Gen.C18.pin_flow_Controller_Run = "d602e18a0abe3b4f" := rfl
theorem pin_Value : Gen.C18.pin_flow_Controller_Value = "cc90ce78bc90318f" := rfl

end CueVerif.Bridge.C18
