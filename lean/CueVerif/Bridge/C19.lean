/-
Bridge for C19: the lock/access protocols REGENERATED from /repo by extract/c19.go
(`CueVerif.Gen.C19`) versus the lock machine and the intern-table model.

* `getKey_protocol`, `indexToString_protocol`: the two model programs the linearizability
  theorems are about ARE the regenerated protocols.
* `*_wellLocked`: EVERY function of the scanned packages that touches the watched shared
  state passes the strict static lockset check, so `C19_lockset`, `C19_no_fatal_unlock`,
  `C19_no_lock_leak`, `C19_no_deadlock` apply to the protocols of the source tree under /repo
  (a write moved under RLock, an unlocked fast-path read, a lock leaked on an early
  return, a new function reading a shared map without the lock: the `decide` fails).
* `*_decls`: the watched variables still have the types the classification relies on
  (`sync.Map`, `atomic.Uint64`, `sync.RWMutex`, plain maps/slices).
* `ctor_exact`: the only unlocked write to watched state is the one in `Runtime.Init`
  (before the runtime is shared).
* `frozen_*`/`register_*`: the builtin tables read without a lock are written only by
  `registerBuiltin`, reachable only from `init` functions.
* `pin_*`: source fingerprints of the two functions whose DATA effect is hand-transcribed
  (`getKey`, `index.IndexToString`) and of their exported wrappers on `Runtime`.
-/
import CueVerif.Gen.C19
import CueVerif.Model.Intern
import CueVerif.Proofs.Lockset
namespace CueVerif.Bridge.C19
open CueVerif CueVerif.Lockset

theorem getKey_protocol : Prog.ofRaw Gen.C19.proto_getKey = Intern.getKeyProg := by decide +kernel

theorem indexToString_protocol :
    Prog.ofRaw Gen.C19.proto_index_IndexToString = Intern.indexToStringProg := by decide +kernel

/-- every protocol of internal/core/runtime passes the strict lockset check -/
theorem runtime_wellLocked :
    (Gen.C19.protocols.all fun p => wellLocked Intern.guard true (Prog.ofRaw p.2)) = true := by decide +kernel

/-- the type caches are only ever used through their internally synchronised methods -/
theorem convert_wellLocked :
    (Gen.C19.convert_protocols.all fun p => wellLocked Intern.guard true (Prog.ofRaw p.2)) = true := by decide +kernel
theorem cue_wellLocked :
    (Gen.C19.cue_protocols.all fun p => wellLocked Intern.guard true (Prog.ofRaw p.2)) = true := by decide +kernel
theorem adt_wellLocked :
    (Gen.C19.adt_protocols.all fun p => wellLocked Intern.guard true (Prog.ofRaw p.2)) = true := by decide +kernel
theorem cuego_wellLocked :
    (Gen.C19.cuego_protocols.all fun p => wellLocked Intern.guard true (Prog.ofRaw p.2)) = true := by decide +kernel

/-- the protocols of internal/core/runtime, regenerated from the source -/
def runtimeProgs : List Prog := Gen.C19.protocols.map fun p => Prog.ofRaw p.2

theorem runtimeProgs_ok : ∀ p ∈ runtimeProgs, wellLocked Intern.guard true p = true := by
  intro p hp
  simp only [runtimeProgs, List.mem_map] at hp
  obtain ⟨q, hq, rfl⟩ := hp
  exact (List.all_eq_true.mp runtime_wellLocked) q hq

/-! THE LOCKSET THEOREMS APPLIED TO THE REGENERATED SOURCE PROTOCOLS: any number of
goroutines calling getKey / IndexToString / AddInst / LoadBuiltin / LoadInstance /
GetInstanceFromNode / getNodeFromInstance / SetBuildData / BuildData / getNextUniqueID /
LoadType / StoreType in any interleaving, under any data semantics: no two conflicting
accesses to labelMap, labels, imports, importsByBuild, loaded, nextUniqueID are ever
simultaneously enabled; no unlock of an unlocked mutex; no lock leaked; no deadlock. -/
theorem runtime_race_free {D L : Type} (sem : Sem D L) (initL : L → Prop) (d0 : D)
    (s : St D L) (hr : Run sem runtimeProgs initL d0 s) : ¬ Race s :=
  Lockset.no_race sem runtimeProgs initL d0 Intern.guard true runtimeProgs_ok s hr

theorem runtime_no_fatal_unlock {D L : Type} (sem : Sem D L) (initL : L → Prop) (d0 : D)
    (s : St D L) (hr : Run sem runtimeProgs initL d0 s) : ∀ t ∈ s.ths, ¬ FatalUnlock t :=
  Lockset.no_fatal_unlock sem runtimeProgs initL d0 Intern.guard true runtimeProgs_ok s hr

theorem runtime_no_lock_leak {D L : Type} (sem : Sem D L) (initL : L → Prop) (d0 : D)
    (s : St D L) (hr : Run sem runtimeProgs initL d0 s) : ∀ t ∈ s.ths, t.st = .done → t.held = [] :=
  Lockset.no_lock_leak sem runtimeProgs initL d0 Intern.guard true runtimeProgs_ok s hr

theorem runtime_no_deadlock {D L : Type} (sem : Sem D L) (initL : L → Prop) (d0 : D)
    (s : St D L) (hr : Run sem runtimeProgs initL d0 s) : ¬ Deadlock sem s :=
  Lockset.no_deadlock sem runtimeProgs initL d0 Intern.guard runtimeProgs_ok s hr

theorem runtime_decls : Gen.C19.decls =
    [("importPaths", "map[string]*build.Instance"), ("imports", "map[*adt.Vertex]*build.Instance"),
     ("importsByBuild", "map[*build.Instance]*adt.Vertex"),
     ("instances", "map[*build.Instance]func(*Runtime) (*adt.Vertex, error)"),
     ("labelMap", "map[string]int"), ("labels", "[]string"),
     ("loaded", "map[*build.Instance]interface{}"), ("lock", "sync.RWMutex"),
     ("mutex", "sync.RWMutex"), ("nextUniqueID", "uint64"),
     ("shortNames", "map[string]*build.Instance"), ("typeCache", "sync.Map")] := rfl
theorem convert_decls : Gen.C19.convert_decls = [("astTypeCache", "sync.Map")] := rfl
theorem cue_decls : Gen.C19.cue_decls = [("fieldCache", "sync.Map")] := rfl
theorem adt_decls : Gen.C19.adt_decls = [("contextGeneration", "atomic.Uint64")] := rfl
theorem cuego_decls : Gen.C19.cuego_decls = [("typeCache", "sync.Map")] := rfl

/-- constructors: exactly one, with exactly one (unlocked, pre-sharing) write -/
theorem ctor_exact : Gen.C19.ctor_protocols =
    [("Runtime.Init", [("br", "r.index != nil", "", 1), ("ret", "", "", 0), ("acc", "loaded", "assign", 0)])] :=
  rfl
theorem convert_ctor_exact : Gen.C19.convert_ctor_protocols = [] := rfl
theorem cue_ctor_exact : Gen.C19.cue_ctor_protocols = [] := rfl
theorem adt_ctor_exact : Gen.C19.adt_ctor_protocols = [] := rfl
theorem cuego_ctor_exact : Gen.C19.cuego_ctor_protocols = [] := rfl

/-- the builtin tables are written by `registerBuiltin` only … -/
theorem frozen_writers : Gen.C19.frozen_writers =
    [("importPaths", ["builtins.registerBuiltin"]), ("instances", ["builtins.registerBuiltin"]),
     ("shortNames", ["builtins.registerBuiltin"])] := rfl
/-- … which is reachable only through runtime.RegisterBuiltin ← internal/pkg.Register ←
`init` functions, i.e. before any goroutine of the program can run -/
theorem registerBuiltin_inner_callers :
    Gen.C19.registerBuiltin_inner_callers = ["internal/core/runtime:RegisterBuiltin"] := rfl
theorem registerBuiltin_callers : Gen.C19.registerBuiltin_callers = ["internal/pkg:Register"] := rfl
theorem register_only_from_init : Gen.C19.register_not_init = [] := rfl

theorem pin_runtime_getKey : Gen.C19.pin_runtime_getKey = "e1d40b7038f38638" := rfl
theorem pin_runtime_index_IndexToString : Gen.C19.pin_runtime_index_IndexToString = "7451202b9f434ac3" := rfl
theorem pin_runtime_Runtime_StringToIndex : Gen.C19.pin_runtime_Runtime_StringToIndex = "e815bd1c88950d63" := rfl
theorem pin_runtime_Runtime_IndexToString : Gen.C19.pin_runtime_Runtime_IndexToString = "d4f7b778ae6900a6" := rfl

end CueVerif.Bridge.C19
