/-
Bridge for C20: facts regenerated from /repo (CueVerif.Gen.C20) versus the model.
`subsumeProfile` is the translated composite literal behind trim's `equallySpecific`
(Model/Trim.lean `equallySpecific` = defaults applied on both sides).  trimv3.go is NOT
transcribed; its functions are pinned so that any rewrite is flagged and answered by the
translation-validation harness (failing-input search).
-/
import CueVerif.Gen.C20
import CueVerif.Model.Trim
namespace CueVerif.Bridge.C20
open CueVerif

/-- the profile the model's `equallySpecific` describes: `Defaults` (right operand = the
candidate conjuncts) and `LeftDefault` (left operand = the vertex), nothing else -/
def modelProfile : List String := ["Defaults=true", "LeftDefault=true"]

theorem subsumeProfile_eq : Gen.C20.subsumeProfile = modelProfile := rfl
theorem subsumeProfile_type : Gen.C20.subsumeProfile_type = "subsume.Profile" := rfl

theorem pin_trim_Files : Gen.C20.pin_trim_Files = "fd38f297ce180caa" := rfl
theorem pin_trim_filesV3 : Gen.C20.pin_trim_filesV3 = "9aad79a964bdf4dd" := rfl
theorem pin_trim_trimmerV3_findStaticDependencies : Gen.C20.pin_trim_trimmerV3_findStaticDependencies = "1310e081cb75fbb7" := rfl
theorem pin_trim_trimmerV3_findPatterns : Gen.C20.pin_trim_trimmerV3_findPatterns = "06abce3aba5b76fb" := rfl
theorem pin_trim_trimmerV3_findDisjunctions : Gen.C20.pin_trim_trimmerV3_findDisjunctions = "4e322769923cc2da" := rfl
theorem pin_trim_trimmerV3_keepAllChildren : Gen.C20.pin_trim_trimmerV3_keepAllChildren = "9220ff521149747c" := rfl
theorem pin_trim_trimmerV3_findConjunctForStruct : Gen.C20.pin_trim_trimmerV3_findConjunctForStruct = "2b54185921bba89a" := rfl
theorem pin_trim_trimmerV3_findRedundancies : Gen.C20.pin_trim_trimmerV3_findRedundancies = "eceb1b0821319701" := rfl
theorem pin_trim_trimmerV3_linkResolvers : Gen.C20.pin_trim_trimmerV3_linkResolvers = "6441a1d1c4f22729" := rfl
theorem pin_trim_trimmerV3_linkResolversOrig : Gen.C20.pin_trim_trimmerV3_linkResolversOrig = "2063d6aa19bb00da" := rfl
theorem pin_trim_trimmerV3_linkStructComprehension : Gen.C20.pin_trim_trimmerV3_linkStructComprehension = "d8d2964c8bbc7122" := rfl
theorem pin_trim_trimmerV3_resolveElemAll : Gen.C20.pin_trim_trimmerV3_resolveElemAll = "9f8249791202a5a9" := rfl
theorem pin_trim_trimmerV3_equallySpecific : Gen.C20.pin_trim_trimmerV3_equallySpecific = "17e4dbaae901695c" := rfl
theorem pin_trim_trimmerV3_solvePending : Gen.C20.pin_trim_trimmerV3_solvePending = "0016e88feb1d4edb" := rfl
theorem pin_trim_trimmerV3_solveUndecideds : Gen.C20.pin_trim_trimmerV3_solveUndecideds = "86f241a7dbf05233" := rfl
theorem pin_trim_trimmerV3_trim : Gen.C20.pin_trim_trimmerV3_trim = "edccbe79648885ce" := rfl
theorem pin_trim_trimmerV3_getNodeMeta : Gen.C20.pin_trim_trimmerV3_getNodeMeta = "cab3e13a976e961d" := rfl
theorem pin_trim_nodeMeta_isRequired : Gen.C20.pin_trim_nodeMeta_isRequired = "3643c40e270c51ad" := rfl
theorem pin_trim_nodeMeta__isRequired : Gen.C20.pin_trim_nodeMeta__isRequired = "f09de943bcf05ec6" := rfl
theorem pin_trim_nodeMeta_isRequiredBy : Gen.C20.pin_trim_nodeMeta_isRequiredBy = "6b00d1ed9c27b8e8" := rfl
theorem pin_trim_nodeMeta__isRequiredBy : Gen.C20.pin_trim_nodeMeta__isRequiredBy = "ad85324f4238578f" := rfl
theorem pin_trim_nodeMeta_isEmbedded : Gen.C20.pin_trim_nodeMeta_isEmbedded = "badeae4a982453e0" := rfl
theorem pin_trim_nodeMeta_comprehensionDependsOn : Gen.C20.pin_trim_nodeMeta_comprehensionDependsOn = "37dc019b97dbbbce" := rfl
theorem pin_trim_nodeMeta_isAncestorOf : Gen.C20.pin_trim_nodeMeta_isAncestorOf = "11e71c5b3309d811" := rfl
theorem pin_trim_nodeMeta_addRequiredBy : Gen.C20.pin_trim_nodeMeta_addRequiredBy = "b327303898e0aa80" := rfl
theorem pin_trim_nodeMeta_markRequired : Gen.C20.pin_trim_nodeMeta_markRequired = "f888a6d2390b9f08" := rfl
theorem pin_trim_nodeMetas_sort : Gen.C20.pin_trim_nodeMetas_sort = "9e4c161fc80f4ad5" := rfl
theorem pin_trim_nodeMetas_seenCountSum : Gen.C20.pin_trim_nodeMetas_seenCountSum = "f4f17206c2673cbb" := rfl
theorem pin_trim_nodeMetas_hasRequired : Gen.C20.pin_trim_nodeMetas_hasRequired = "fa9f777446a7735e" := rfl
theorem pin_cmd_runTrim : Gen.C20.pin_cmd_runTrim = "350cc4c5f996ae3e" := rfl
theorem pin_subsume_Profile_Value : Gen.C20.pin_subsume_Profile_Value = "3d8414c439e5422b" := rfl
theorem pin_adt_Vertex_Default : Gen.C20.pin_adt_Vertex_Default = "96f19ad4f15b0e8a" := rfl
theorem pin_adt_Disjunction_Default : Gen.C20.pin_adt_Disjunction_Default = "062853d04b0152ca" := rfl

end CueVerif.Bridge.C20
