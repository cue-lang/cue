/-
C05 — the small algebras under the closedness proofs: the arc-type merge (`Closed.Kind.merge` ←
`Vertex.updateArcType`, `Closed.mergeK` on optional arcs) and the shapes of the spec (`Shape.meet`,
`Shape.live`); and the required-field rule of `validate`.
-/
import CueVerif.Spec.Closed
namespace CueVerif.Closed

theorem Kind.merge_comm (a b : Kind) : a.merge b = b.merge a := by
  cases a <;> cases b <;> rfl

theorem Kind.merge_assoc (a b c : Kind) : (a.merge b).merge c = a.merge (b.merge c) := by
  cases a <;> cases b <;> cases c <;> rfl

theorem Kind.merge_idem (a : Kind) : a.merge a = a := by
  cases a <;> rfl

theorem Kind.merge_member (a : Kind) : a.merge .member = .member := by
  cases a <;> rfl

theorem Kind.merge_optional (a : Kind) : a.merge .optional = a := by
  cases a <;> rfl

theorem Kind.merge_required_member : Kind.required.merge .member = .member := rfl
theorem Kind.merge_required_optional : Kind.required.merge .optional = .required := rfl

/-- the merge is the meet of the linear order member < required < optional -/
theorem Kind.merge_rank (a b : Kind) : (a.merge b).rank = min a.rank b.rank := by
  cases a <;> cases b <;> decide

theorem Kind.merge_eq_left_or_right (a b : Kind) : a.merge b = a ∨ a.merge b = b := by
  cases a <;> cases b <;> simp [Kind.merge, Kind.rank]

/-- `mergeK`: absent arcs are the unit -/
theorem mergeK_none_left (b : Option Kind) : mergeK none b = b := by
  cases b <;> rfl
theorem mergeK_none_right (a : Option Kind) : mergeK a none = a := by
  cases a <;> rfl
theorem mergeK_comm (a b : Option Kind) : mergeK a b = mergeK b a := by
  cases a <;> cases b <;> simp [mergeK, Kind.merge_comm]
theorem mergeK_assoc (a b c : Option Kind) : mergeK (mergeK a b) c = mergeK a (mergeK b c) := by
  cases a <;> cases b <;> cases c <;> simp [mergeK, Kind.merge_assoc]
theorem mergeK_idem (a : Option Kind) : mergeK a a = a := by
  cases a <;> simp [mergeK, Kind.merge_idem]
/-- a regular field anywhere makes the arc a regular field -/
theorem mergeK_member (a : Option Kind) : mergeK a (some .member) = some .member := by
  cases a <;> simp [mergeK, Kind.merge_member]

/-! ### shapes: `top` is the unit of the meet; a live shape (`st` or `top`) can still have fields -/

def Shape.live : Shape → Bool
  | .st => true
  | .top => true
  | _ => false

theorem meet_top (a : Shape) : a.meet .top = a := by
  cases a <;> rfl

theorem top_meet (a : Shape) : Shape.top.meet a = a := by
  cases a <;> rfl

theorem live_meet {a b : Shape} (h : (a.meet b).live = true) : a.live = true ∧ b.live = true := by
  cases a <;> cases b
  case sc.sc s t =>
    simp only [Shape.meet] at h
    cases hm : s.meet t <;> rw [hm] at h <;> simp [Shape.live] at h
  all_goals simp_all [Shape.meet, Shape.live]

theorem live_cases {a : Shape} (h : a.live = true) : a = .st ∨ a = .top := by
  cases a <;> simp_all [Shape.live]

/-! ### the required-field rule -/

/-- model (`validate`, transcribing adt/validate.go): a struct that passes
`Validate(Concrete(true))` in a regular context has no arc that is still a required
constraint -/
theorem validate_no_required (labels : List Label) (kind : Label → Option Kind) (val : Label → Val)
    (hard soft : List Pred) (names wide : Pred) (r e : Bool)
    (h : validate true (.st labels kind val hard soft names wide r e) = true) :
    ∀ l ∈ labels, kind l ≠ some .required := by
  intro l hl hk
  unfold validate at h
  rw [List.all_eq_true] at h
  have := h l hl
  simp [hk] at this

/-- … and a struct with such an arc fails -/
theorem validate_required_fails (labels : List Label) (kind : Label → Option Kind) (val : Label → Val)
    (hard soft : List Pred) (names wide : Pred) (r e : Bool) (l : Label)
    (hl : l ∈ labels) (hk : kind l = some .required) :
    validate true (.st labels kind val hard soft names wide r e) = false := by
  cases hv : validate true (.st labels kind val hard soft names wide r e)
  · rfl
  · exact absurd hk (validate_no_required labels kind val hard soft names wide r e hv l hl)

/-- below a hidden/definition field (`full = false`) a required constraint is not an error
(validate.go does not descend there with the required check) -/
theorem validate_required_hidden_ok (l : Label) (v : Val) :
    validate false (single l .required v) = true := by
  simp [single, validate]

end CueVerif.Closed
