/-
C06 helper lemmas: div/mod (Euclidean) and quo/rem (truncated) identities for all
operand signs, zero divisors.  Core Lean only.
-/
import CueVerif.Model.DecArith
import CueVerif.Spec.Arith
namespace CueVerif.Proofs.ArithDiv
open CueVerif CueVerif.Arith CueVerif.Spec.Arith

/-- `big.Int.Div/Mod` semantics satisfy the spec's Euclidean identity -/
theorem div_mod (x y : Int) (hy : y ≠ 0) : EuclidSpec x y (intFn .div x y) (intFn .mod x y) := by
  refine ⟨?_, ?_, ?_⟩
  · show x = y * (x / y) + x % y
    have := Int.mul_ediv_add_emod x y
    omega
  · exact Int.emod_nonneg x hy
  · exact Int.emod_lt x hy

theorem tmod_sign (x y : Int) : Int.tmod x y = 0 ∨ (Int.tmod x y).sign = x.sign := by
  rcases Int.lt_trichotomy x 0 with hx | hx | hx
  · -- x < 0: tmod ≤ 0
    have h1 : Int.tmod x y ≤ 0 := by
      have := Int.tmod_nonneg (a := -x) y (by omega)
      rw [Int.neg_tmod] at this
      omega
    rcases Int.lt_or_eq_of_le h1 with h | h
    · right; rw [Int.sign_eq_neg_one_of_neg h, Int.sign_eq_neg_one_of_neg hx]
    · left; exact h
  · subst hx; left; simp
  · have h1 : 0 ≤ Int.tmod x y := Int.tmod_nonneg y (by omega)
    rcases Int.lt_or_eq_of_le h1 with h | h
    · right; rw [Int.sign_eq_one_of_pos h, Int.sign_eq_one_of_pos hx]
    · left; exact h.symm

/-- `big.Int.Quo/Rem` semantics satisfy the spec's truncated identity -/
theorem quo_rem (x y : Int) (hy : y ≠ 0) : TruncSpec x y (intFn .quo x y) (intFn .rem x y) := by
  refine ⟨?_, ?_, tmod_sign x y⟩
  · show x = Int.tdiv x y * y + Int.tmod x y
    have := Int.mul_tdiv_add_tmod x y
    rw [Int.mul_comm] at this
    omega
  · show (Int.tmod x y).natAbs < y.natAbs
    rw [Int.natAbs_tmod]
    exact Nat.mod_lt _ (by omega)

/-- the quotient is truncated towards zero: `|q·y| ≤ |x|` -/
theorem quo_trunc (x y : Int) : (Int.tdiv x y * y).natAbs ≤ x.natAbs := by
  rw [Int.natAbs_mul, Int.natAbs_tdiv]
  exact Nat.div_mul_le_self _ _

theorem intDivOp_spec (op : IOp) (a b : Num) (ha : a.k = .int) (hb : b.k = .int)
    (hz : b.d.coeff ≠ 0) :
    intDivOp op a b = .num ⟨.int, Dec.ofInt (intFn op (toIntegral a.d) (toIntegral b.d))⟩ := by
  simp [intDivOp, ha, hb, hz]

theorem toIntegral_of_nonneg (d : Dec) (h : 0 ≤ d.exp) : toIntegral d = d.coeff * 10 ^ d.exp.toNat := by
  simp [toIntegral, h]

theorem toIntegral_ne_zero (d : Dec) (h : 0 ≤ d.exp) (hz : d.coeff ≠ 0) : toIntegral d ≠ 0 := by
  rw [toIntegral_of_nonneg d h]
  have : (10 : Int) ^ d.exp.toNat ≠ 0 := Int.pow_ne_zero (by decide)
  exact Int.mul_ne_zero hz this

/-- every division form is an error on a zero divisor -/
theorem zero_div (a b : Num) (hz : b.d.coeff = 0) :
    (∀ op, ∃ e, intDivOp op a b = .err e) ∧ quoOp a b = .err .divZero := by
  refine ⟨fun op => ?_, ?_⟩
  · unfold intDivOp
    by_cases hk : (a.k != .int || b.k != .int) = true
    · exact ⟨.argKind, by simp [hk]⟩
    · exact ⟨.divZero, by simp [hk, hz]⟩
  · simp [quoOp, hz]

/-- … and only then (for int operands): no spurious errors -/
theorem intDivOp_ok (op : IOp) (a b : Num) (ha : a.k = .int) (hb : b.k = .int)
    (hz : b.d.coeff ≠ 0) : ∃ n, intDivOp op a b = .num n ∧ n.k = .int ∧ n.d.exp = 0 :=
  ⟨_, intDivOp_spec op a b ha hb hz, rfl, rfl⟩

end CueVerif.Proofs.ArithDiv
