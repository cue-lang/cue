/-
C06: the value of a `Dec` in ℚ, digit counts, and rounding half up.  `halfUp`, `half_ulp` and
`exact_iff` say what replacing `N/D` by `q` or `q+1` achieves, `rem_zero_of_fits` that nothing is
lost when the value fits the precision; `Arith.round` is brought into that form here, `quoRound` in
ArithQuo.  Core Lean (`Rat` is core); no Mathlib.
-/
import CueVerif.Model.DecArith
import CueVerif.Spec.Arith
namespace CueVerif.Proofs.ArithExact
open CueVerif CueVerif.Arith CueVerif.Spec.Arith

def aop : AOp → ArithOp
  | .add => .add | .sub => .sub | .mul => .mul

def cop : COp → CmpOp
  | .eq => .eq | .ne => .ne | .lt => .lt | .le => .le | .gt => .gt | .ge => .ge

/-- int-kinded numbers carry a non-negative exponent (true of every literal; preserved by the
operators: `int_closed`) -/
def WF (n : Num) : Prop := n.k = .int → 0 ≤ n.d.exp

theorem ten_ne : (10 : Rat) ≠ 0 := by decide
theorem ten_pos : (0 : Rat) < 10 := by decide
theorem tenz_pos (e : Int) : (0 : Rat) < (10 : Rat) ^ e := Rat.zpow_pos ten_pos

theorem toRat_mk (c e : Int) : toRat ⟨c, e⟩ = (c : Rat) * (10 : Rat) ^ e := rfl

theorem toRat_mul_pow (c : Int) (k : Nat) (e : Int) : toRat ⟨c * 10 ^ k, e⟩ = toRat ⟨c, e + k⟩ := by
  rw [toRat, toRat, Rat.intCast_mul, Rat.intCast_pow, Rat.intCast_ofNat, Rat.zpow_add ten_ne,
    Rat.zpow_natCast, Rat.mul_assoc, Rat.mul_comm ((10 : Rat) ^ k)]

theorem toRat_shift (d : Dec) (e : Int) (h : e ≤ d.exp) :
    toRat d = (Dec.shift d e : Rat) * (10 : Rat) ^ e := by
  rw [← toRat_mk, Dec.shift, toRat_mul_pow, show e + ((d.exp - e).toNat : Int) = d.exp by omega]

theorem toRat_min (a b : Dec) :
    toRat a = (Dec.shift a (min a.exp b.exp) : Rat) * (10 : Rat) ^ min a.exp b.exp ∧
    toRat b = (Dec.shift b (min a.exp b.exp) : Rat) * (10 : Rat) ^ min a.exp b.exp :=
  ⟨toRat_shift a _ (by omega), toRat_shift b _ (by omega)⟩

theorem toRat_add (a b : Dec) : toRat (Dec.add a b) = toRat a + toRat b := by
  rw [(toRat_min a b).1, (toRat_min a b).2]
  simp only [Dec.add, toRat_mk, Rat.intCast_add, Rat.add_mul]

theorem toRat_sub (a b : Dec) : toRat (Dec.sub a b) = toRat a - toRat b := by
  rw [(toRat_min a b).1, (toRat_min a b).2]
  simp only [Dec.sub, toRat_mk, Rat.intCast_sub]
  grind

theorem toRat_mul (a b : Dec) : toRat (Dec.mul a b) = toRat a * toRat b := by
  simp only [Dec.mul, toRat, Rat.intCast_mul, Rat.zpow_add ten_ne]
  grind

theorem toRat_exact (op : AOp) (a b : Dec) :
    toRat (exact op a b) = specOp (aop op) (toRat a) (toRat b) := by
  cases op
  · exact toRat_add a b
  · exact toRat_sub a b
  · exact toRat_mul a b

theorem toRat_neg (a : Dec) : toRat (Dec.neg a) = - toRat a := by
  simp only [Dec.neg, toRat, Rat.intCast_neg]
  grind

theorem cmp_lt_iff (a b : Dec) : Dec.cmp a b = .lt ↔ toRat a < toRat b := by
  rw [(toRat_min a b).1, (toRat_min a b).2, Rat.mul_lt_mul_right (tenz_pos _),
    Rat.intCast_lt_intCast, Dec.cmp, Int.compare_eq_lt]

theorem cmp_gt_iff (a b : Dec) : Dec.cmp a b = .gt ↔ toRat b < toRat a := by
  rw [(toRat_min a b).1, (toRat_min a b).2, Rat.mul_lt_mul_right (tenz_pos _),
    Rat.intCast_lt_intCast, Dec.cmp, Int.compare_eq_gt]

theorem rat_mul_right_cancel {a b E : Rat} (hE : E ≠ 0) (h : a * E = b * E) : a = b := by
  rw [← Rat.mul_div_cancel (a := a) hE, h, Rat.mul_div_cancel hE]

theorem cmp_eq_iff (a b : Dec) : Dec.cmp a b = .eq ↔ toRat a = toRat b := by
  rw [(toRat_min a b).1, (toRat_min a b).2, Dec.cmp, Int.compare_eq_eq, ← Rat.intCast_inj]
  exact ⟨fun h => by rw [h], rat_mul_right_cancel (Rat.ne_of_gt (tenz_pos _))⟩

theorem cmp_num (op : COp) (x y : Num) :
    cmpOp op (.num x) (.num y) = .bool (specCmp (cop op) (toRat x.d) (toRat y.d)) := by
  show Res.bool (cmpTonode op (Dec.cmp x.d y.d)) = _
  have sw : Dec.cmp y.d x.d = .lt ↔ Dec.cmp x.d y.d = .gt :=
    (cmp_lt_iff _ _).trans (cmp_gt_iff _ _).symm
  -- the spec's comparisons of values as statements about `Dec.cmp x.d y.d`, then its three cases
  cases op <;>
    simp only [cop, specCmp, cmpTonode, ne_eq, ← Rat.not_lt, ← cmp_lt_iff, ← cmp_eq_iff, sw] <;>
    cases Dec.cmp x.d y.d <;> rfl

theorem numOp_eq (op : AOp) (x y r : Num) (h : numOp op x y = .num r) :
    r = ⟨kindAnd x.k y.k, (round34 (exact op x.d y.d)).1⟩ ∧ alignOk op x.d y.d = true ∧
      inWindow (round34 (exact op x.d y.d)).1 = true := by
  unfold numOp at h
  split at h
  · cases h
  · simp only at h
    split at h
    · cases h
    · cases h
      simp_all

theorem kind_rule (op : AOp) (x y r : Num) (h : numOp op x y = .num r) :
    (r.k = .int ↔ (x.k = .int ∧ y.k = .int)) := by
  rw [(numOp_eq op x y r h).1]
  cases x.k <;> cases y.k <;> simp [kindAnd]

theorem arith_total (op : AOp) (x y : Num) :
    (∃ r, numOp op x y = .num r) ∨
      (numOp op x y = .err .failed ∧
        (alignOk op x.d y.d = false ∨ inWindow (round34 (exact op x.d y.d)).1 = false)) := by
  unfold numOp
  cases h1 : alignOk op x.d y.d
  · simp
  · cases h2 : inWindow (round34 (exact op x.d y.d)).1 <;> simp [h2]

/-! #### bytewise order -/

theorem bytesCmp_spec (a b : List Nat) :
    (bytesCmp a b = .lt ↔ a < b) ∧ (bytesCmp a b = .eq ↔ a = b) ∧ (bytesCmp a b = .gt ↔ b < a) := by
  induction a generalizing b with
  | nil => cases b <;> simp [bytesCmp]
  | cons x xs ih =>
    cases b with
    | nil => simp [bytesCmp]
    | cons y ys =>
      simp only [bytesCmp, List.cons_lt_cons_iff, List.cons.injEq]
      by_cases h1 : x < y
      · simp [h1]; omega
      · by_cases h2 : y < x
        · simp [h1, h2]; omega
        · obtain rfl : x = y := by omega
          simp [ih]

theorem bytesCmp_eq_iff (a b : List Nat) : bytesCmp a b = .eq ↔ a = b := (bytesCmp_spec a b).2.1

theorem bytesCmp_lt_iff (a b : List Nat) : bytesCmp a b = .lt ↔ a < b := (bytesCmp_spec a b).1

theorem bytesCmp_swap (a b : List Nat) : bytesCmp a b = .lt ↔ bytesCmp b a = .gt :=
  (bytesCmp_spec a b).1.trans (bytesCmp_spec b a).2.2.symm

theorem bytesCmp_trans (a b c : List Nat) (h1 : bytesCmp a b = .lt) (h2 : bytesCmp b c = .lt) :
    bytesCmp a c = .lt := by
  rw [bytesCmp_lt_iff] at *
  exact List.lt_trans h1 h2

/-! #### `numDigits` -/

theorem numDigitsAux_eq (n : Nat) : ∀ fuel, n ≤ fuel →
    Dec.numDigitsAux fuel n = if n < 10 then 1 else 1 + Dec.numDigits (n / 10) := by
  induction n using Nat.strongRecOn with
  | _ n ih =>
    intro fuel hf
    cases fuel with
    | zero => obtain rfl : n = 0 := by omega
              rfl
    | succ f =>
      rw [Dec.numDigitsAux]
      split
      · rfl
      · rw [ih (n / 10) (by omega) f (by omega)]
        exact congrArg _ (ih (n / 10) (by omega) _ (Nat.le_refl _)).symm

theorem numDigits_eq (n : Nat) :
    Dec.numDigits n = if n < 10 then 1 else 1 + Dec.numDigits (n / 10) :=
  numDigitsAux_eq n n (Nat.le_refl n)

theorem numDigits_lt10 {n : Nat} (h : n < 10) : Dec.numDigits n = 1 := by
  rw [numDigits_eq, if_pos h]

theorem numDigits_ge10 {n : Nat} (h : 10 ≤ n) : Dec.numDigits n = 1 + Dec.numDigits (n / 10) := by
  rw [numDigits_eq, if_neg (by omega)]

/-- `0` has one digit -/
theorem numDigits_bounds (n : Nat) :
    1 ≤ Dec.numDigits n ∧ n < 10 ^ Dec.numDigits n ∧ (0 < n → 10 ^ (Dec.numDigits n - 1) ≤ n) := by
  induction n using Nat.strongRecOn with
  | _ n ih =>
    by_cases h : n < 10
    · rw [numDigits_lt10 h]; exact ⟨Nat.le_refl _, h, fun h => h⟩
    · obtain ⟨i1, i2, i3⟩ := ih (n / 10) (by omega)
      rw [numDigits_ge10 (by omega), Nat.add_comm, Nat.add_sub_cancel, Nat.pow_succ]
      have i3 := i3 (by omega)
      have e : 10 ^ Dec.numDigits (n / 10) = 10 ^ (Dec.numDigits (n / 10) - 1) * 10 := by
        rw [← Nat.pow_succ]; congr 1; omega
      exact ⟨by omega, by omega, fun _ => by omega⟩

theorem numDigits_pos (n : Nat) : 1 ≤ Dec.numDigits n := (numDigits_bounds n).1
theorem numDigits_lt (n : Nat) : n < 10 ^ Dec.numDigits n := (numDigits_bounds n).2.1
theorem numDigits_le (n : Nat) (h : 0 < n) : 10 ^ (Dec.numDigits n - 1) ≤ n := (numDigits_bounds n).2.2 h

theorem ten_dvd_of_carry (q : Nat) (h : Dec.numDigits q < Dec.numDigits (q + 1)) : 10 ∣ q + 1 := by
  have h1 := numDigits_lt q
  have h2 := numDigits_le (q + 1) (by omega)
  have h3 := numDigits_pos q
  have h4 : 10 ^ Dec.numDigits q ≤ 10 ^ (Dec.numDigits (q + 1) - 1) :=
    Nat.pow_le_pow_right (by decide) (by omega)
  have h5 : q + 1 = 10 ^ (Dec.numDigits q - 1 + 1) := by
    rw [Nat.sub_add_cancel h3]; omega
  rw [h5, Nat.pow_succ]
  exact Nat.dvd_mul_left _ _

/-! #### rounding half up -/

/-- `N = q·D + R` rounded half up: within `D/2`, exact iff `R = 0` -/
theorem halfUp (D q R : Nat) (hR : R < D) :
    2 * ((if D ≤ 2 * R then q + 1 else q) * D) ≤ 2 * (q * D + R) + D ∧
    2 * (q * D + R) ≤ 2 * ((if D ≤ 2 * R then q + 1 else q) * D) + D ∧
    ((if D ≤ 2 * R then q + 1 else q) * D = q * D + R ↔ R = 0) := by
  split
  · rw [Nat.add_mul, Nat.one_mul]; omega
  · omega

/-- `v = ±(N/D)·w` against `±M·w`, `M` being `N/D` rounded to within half a unit -/
theorem half_ulp (σ v w : Rat) (N D M : Nat) (hσ : σ = 1 ∨ σ = -1) (hw : 0 < w) (hD : 0 < D)
    (hv : v * D = σ * (N * w)) (h1 : 2 * (M * D) ≤ 2 * N + D) (h2 : 2 * N ≤ 2 * (M * D) + D) :
    2 * (v - σ * (M * w)) ≤ w ∧ 2 * (σ * (M * w) - v) ≤ w := by
  have hD' : (0 : Rat) < D := Rat.natCast_pos.2 hD
  have h1' := Rat.natCast_le_natCast.2 h1
  have h2' := Rat.natCast_le_natCast.2 h2
  simp only [Rat.natCast_add, Rat.natCast_mul, Rat.natCast_ofNat] at h1' h2'
  have a := Rat.mul_le_mul_of_nonneg_right h1' (Rat.le_of_lt hw)
  have b := Rat.mul_le_mul_of_nonneg_right h2' (Rat.le_of_lt hw)
  -- times `D`, with `hv`, each claim is `±2·(N − M·D)·w ≤ D·w`, i.e. `a` or `b`
  constructor <;> apply Rat.le_of_mul_le_mul_right (c := (D : Rat)) _ hD' <;>
    rcases hσ with rfl | rfl <;> grind

theorem exact_iff (σ v w : Rat) (N D M : Nat) (hσ : σ = 1 ∨ σ = -1) (hw : 0 < w) (hD : 0 < D)
    (hv : v * D = σ * (N * w)) : σ * (M * w) = v ↔ M * D = N := by
  have hD' : (D : Rat) ≠ 0 := Rat.ne_of_gt (Rat.natCast_pos.2 hD)
  have hw' : w ≠ 0 := Rat.ne_of_gt hw
  rw [← Rat.natCast_inj (a := M * D), Rat.natCast_mul]
  constructor
  · intro h
    apply rat_mul_right_cancel hw'
    rw [← h] at hv
    rcases hσ with rfl | rfl <;> grind
  · intro h
    apply rat_mul_right_cancel hD'
    rw [hv, ← h]
    grind

theorem sgnMul_natAbs (c : Int) : sgnMul (decide (c < 0)) c.natAbs = c := by
  unfold sgnMul
  by_cases h : c < 0 <;> simp [h] <;> omega

theorem round_le (p : Nat) (d : Dec) (h : Dec.numDigits d.coeff.natAbs ≤ p) :
    round p d = (d, false) := by
  unfold round
  simp only []
  rw [if_pos h]

/-- on the carry `99…9 + 1` one more zero moves into the exponent, hence `q2`, `k2` beside `q1`, `k` -/
theorem round_gt (p : Nat) (d : Dec) (h : ¬ Dec.numDigits d.coeff.natAbs ≤ p) :
    ∃ k q r q1 q2 k2 : Nat, k = Dec.numDigits d.coeff.natAbs - p ∧
      d.coeff.natAbs = q * 10 ^ k + r ∧ r < 10 ^ k ∧ q1 = (if 10 ^ k ≤ 2 * r then q + 1 else q) ∧
      round p d = (⟨sgnMul (decide (d.coeff < 0)) q2, d.exp + (k2 : Int)⟩, r != 0) ∧
      k ≤ k2 ∧ q2 ≤ q1 ∧ q2 * 10 ^ k2 = q1 * 10 ^ k := by
  unfold round
  simp only []
  rw [if_neg h]
  generalize Dec.numDigits d.coeff.natAbs - p = k
  generalize d.coeff.natAbs = m
  refine ⟨k, m / 10 ^ k, m % 10 ^ k, _, _, _, rfl, ?_, Nat.mod_lt _ (Nat.pow_pos (by decide)), rfl, rfl, ?_⟩
  · rw [Nat.mul_comm]; exact (Nat.div_add_mod m (10 ^ k)).symm
  · by_cases hup : 10 ^ k ≤ 2 * (m % 10 ^ k)
    · by_cases hc : Dec.numDigits (m / 10 ^ k) < Dec.numDigits (m / 10 ^ k + 1)
      · simp only [hup, hc, decide_true, if_true, Bool.true_and]
        refine ⟨by omega, Nat.div_le_self _ _, ?_⟩
        rw [Nat.pow_succ, Nat.mul_comm _ 10, ← Nat.mul_assoc, Nat.div_mul_cancel (ten_dvd_of_carry _ hc)]
      · simp only [hup, hc, decide_true, decide_false, if_true, Bool.and_false]
        exact ⟨Nat.le_refl _, Nat.le_refl _, rfl⟩
    · simp only [hup, decide_false, if_false, Bool.false_and]
      exact ⟨Nat.le_refl _, Nat.le_refl _, rfl⟩

theorem round_form (p : Nat) (d : Dec) :
    ∃ M k2 : Nat,
      (round p d).1 = ⟨sgnMul (decide (d.coeff < 0)) M, d.exp + (k2 : Int)⟩ ∧
      M ≤ 10 ^ p ∧
      2 * (M * 10 ^ k2) ≤ 2 * d.coeff.natAbs + 10 ^ k2 ∧
      2 * d.coeff.natAbs ≤ 2 * (M * 10 ^ k2) + 10 ^ k2 ∧
      ((round p d).2 = false ↔ M * 10 ^ k2 = d.coeff.natAbs) := by
  by_cases h : Dec.numDigits d.coeff.natAbs ≤ p
  · refine ⟨d.coeff.natAbs, 0, ?_, ?_, by omega, by omega, ?_⟩
    · rw [round_le p d h, sgnMul_natAbs]; simp
    · exact Nat.le_of_lt (Nat.lt_of_lt_of_le (numDigits_lt _) (Nat.pow_le_pow_right (by decide) h))
    · rw [round_le p d h]; simp
  · obtain ⟨k, q, r, q1, q2, k2, hk, hm, hr, hq1, e, hk2, hq2, hM⟩ := round_gt p d h
    obtain ⟨b1, b2, b3⟩ := halfUp (10 ^ k) q r hr
    rw [← hq1, ← hm] at b1 b2 b3
    have hpow := Nat.pow_le_pow_right (n := 10) (by decide) hk2
    refine ⟨q2, k2, by rw [e], ?_, by rw [hM]; omega, by rw [hM]; omega, by rw [e, hM, b3]; simp⟩
    · have hlt := numDigits_lt d.coeff.natAbs
      rw [show Dec.numDigits d.coeff.natAbs = p + k by omega, Nat.pow_add, hm] at hlt
      have : q < 10 ^ p := Nat.lt_of_mul_lt_mul_right (Nat.lt_of_le_of_lt (Nat.le_add_right _ _) hlt)
      rw [hq1] at hq2; split at hq2 <;> omega

theorem sgnMul_mul (b : Bool) (a k : Nat) : sgnMul b a * (k : Int) = sgnMul b (a * k) := by
  unfold sgnMul; cases b <;> simp [Int.neg_mul]

theorem natAbs_sgnMul (b : Bool) (m : Nat) : (sgnMul b m).natAbs = m := by
  unfold sgnMul; split <;> omega

def sgn (neg : Bool) : Rat := if neg then -1 else 1

theorem sgn_cases (b : Bool) : sgn b = 1 ∨ sgn b = -1 := by
  cases b <;> simp [sgn]

theorem cast_sgnMul (b : Bool) (m : Nat) : ((sgnMul b m : Int) : Rat) = sgn b * (m : Rat) := by
  cases b <;> simp [sgnMul, sgn, Rat.intCast_neg, Rat.intCast_natCast, Rat.neg_mul]

theorem toRat_sgnMul (b : Bool) (m : Nat) (e : Int) :
    toRat ⟨sgnMul b m, e⟩ = sgn b * ((m : Rat) * (10 : Rat) ^ e) := by
  rw [toRat, cast_sgnMul, Rat.mul_assoc]

theorem toRat_eq_sgn (d : Dec) :
    toRat d = sgn (decide (d.coeff < 0)) * ((d.coeff.natAbs : Rat) * (10 : Rat) ^ d.exp) := by
  rw [← toRat_sgnMul, sgnMul_natAbs]

theorem round_scale (d : Dec) (k2 : Nat) :
    toRat d * ((10 ^ k2 : Nat) : Rat) =
      sgn (decide (d.coeff < 0)) * ((d.coeff.natAbs : Rat) * (10 : Rat) ^ (d.exp + (k2 : Int))) := by
  rw [toRat_eq_sgn, Rat.zpow_add ten_ne, Rat.zpow_natCast, Rat.natCast_pow]
  simp only [Rat.natCast_ofNat, Rat.mul_assoc]

theorem round_isRounding (p : Nat) (d : Dec) : IsRounding p (round p d).1 (toRat d) := by
  obtain ⟨M, k2, e, hM, h1, h2, -⟩ := round_form p d
  rw [e, IsRounding, toRat_sgnMul, natAbs_sgnMul]
  exact ⟨hM, half_ulp _ _ _ _ _ M (sgn_cases _) (tenz_pos _) (Nat.pow_pos (by decide))
    (round_scale d k2) h1 h2⟩

theorem round_flag (p : Nat) (d : Dec) :
    (round p d).2 = false ↔ toRat (round p d).1 = toRat d := by
  obtain ⟨M, k2, e, -, -, -, hf⟩ := round_form p d
  rw [hf, e, toRat_sgnMul]
  exact (exact_iff _ _ _ _ _ M (sgn_cases _) (tenz_pos _) (Nat.pow_pos (by decide))
    (round_scale d k2)).symm

/-- `c·D·10^E = (q0·D + R)·10^w` at the common exponent: for `w ≤ E` the left side is a multiple
of `D`; for `w > E` the right side would have more than `p` digits -/
theorem fits_exact (p q0 R D c : Nat) (E w : Int)
    (h : c * D * 10 ^ (E - min E w).toNat = (q0 * D + R) * 10 ^ (w - min E w).toNat)
    (hR : R < D) (hq0 : 10 ^ (p - 1) ≤ q0) (hc : c < 10 ^ p) : R = 0 := by
  by_cases hE : w ≤ E
  · rw [show (w - min E w).toNat = 0 by omega, Nat.pow_zero, Nat.mul_one, Nat.mul_right_comm] at h
    exact Nat.eq_zero_of_dvd_of_lt
      ((Nat.dvd_add_iff_right (Nat.dvd_mul_left _ _)).2 ⟨_, h.symm.trans (Nat.mul_comm _ _)⟩) hR
  · exfalso
    obtain ⟨m, hm⟩ : ∃ m, (w - min E w).toNat = m + 1 := ⟨(w - E).toNat - 1, by omega⟩
    rw [show (E - min E w).toNat = 0 by omega, Nat.pow_zero, Nat.mul_one, hm] at h
    have h1 : c * D < 10 ^ p * D := Nat.mul_lt_mul_of_pos_right hc (by omega)
    have h2 := Nat.mul_le_mul_right D hq0
    have h3 := Nat.mul_le_mul_left (q0 * D + R)
      (Nat.pow_le_pow_right (n := 10) (by decide) (Nat.le_add_left 1 m))
    have h4 := Nat.mul_le_mul_right D
      (Nat.pow_le_pow_right (n := 10) (by decide) (show p ≤ p - 1 + 1 by omega))
    rw [Nat.pow_succ, Nat.mul_right_comm] at h4
    omega

/-- For a half-up rounding in the form of `halfUp` whose `q0` carries exactly `p` digits: a value
of at most `p` digits leaves no remainder.  `round` and `quoRound` are both brought into this form. -/
theorem rem_zero_of_fits (p : Nat) (neg : Bool) (v : Rat) (w : Int) (q0 R D : Nat) (hRD : R < D)
    (hlo : 10 ^ (p - 1) ≤ q0)
    (hv : v * (D : Rat) = sgn neg * (((q0 * D + R : Nat) : Rat) * (10 : Rat) ^ w))
    (hf : FitsVal p v) : R = 0 := by
  obtain ⟨⟨_, e⟩, ⟨c, j, hc, rfl⟩, hd⟩ := hf
  have h : toRat ⟨c * D, e + j⟩ = toRat ⟨sgnMul neg (q0 * D + R), w⟩ := by
    rw [toRat_sgnMul, ← hv, ← hd, toRat_mul_pow, toRat_mk, toRat_mk, Rat.intCast_mul,
      Rat.intCast_natCast, Rat.mul_assoc, Rat.mul_assoc, Rat.mul_comm (D : Rat)]
  -- both sides as integers at the common exponent
  rw [← cmp_eq_iff, Dec.cmp, Int.compare_eq_eq] at h
  have h := congrArg Int.natAbs h
  simp only [Dec.shift, Int.natAbs_mul, Int.natAbs_pow, natAbs_sgnMul, Int.natAbs_natCast] at h
  exact fits_exact p q0 R D c.natAbs (e + j) w h hRD hlo hc

/-- conversely, without remainder the value is `±q0·10^w` -/
theorem fits_of_rem_zero (p : Nat) (neg : Bool) (v : Rat) (w : Int) (q0 D : Nat) (hD : 0 < D)
    (hhi : q0 < 10 ^ p)
    (hv : v * (D : Rat) = sgn neg * (((q0 * D + 0 : Nat) : Rat) * (10 : Rat) ^ w)) : FitsVal p v := by
  refine ⟨⟨sgnMul neg q0, w⟩, ⟨sgnMul neg q0, 0, by rw [natAbs_sgnMul]; exact hhi, by simp⟩, ?_⟩
  apply rat_mul_right_cancel (Rat.ne_of_gt (Rat.natCast_pos.2 hD))
  rw [hv, toRat_sgnMul, Nat.add_zero, Rat.natCast_mul]
  grind

/-- the leading `p` digits of a number of more than `p` digits -/
theorem lead_ge (p m q k r : Nat) (hp : 0 < p) (hk : k = Dec.numDigits m - p)
    (hnd : ¬ Dec.numDigits m ≤ p) (hm : m = q * 10 ^ k + r) (hr : r < 10 ^ k) : 10 ^ (p - 1) ≤ q := by
  have h0 : 0 < m := by
    apply Nat.pos_of_ne_zero
    rintro rfl
    exact hnd hp
  have h1 := numDigits_le m h0
  rw [show Dec.numDigits m - 1 = p - 1 + k by omega, Nat.pow_add, hm] at h1
  have : 10 ^ (p - 1) * 10 ^ k < (q + 1) * 10 ^ k := by rw [Nat.add_mul, Nat.one_mul]; omega
  exact Nat.le_of_lt_succ (Nat.lt_of_mul_lt_mul_right this)

theorem round_snd_of_fits (p : Nat) (hp : 0 < p) (d : Dec) (h : FitsVal p (toRat d)) :
    (round p d).2 = false := by
  by_cases hnd : Dec.numDigits d.coeff.natAbs ≤ p
  · rw [round_le p d hnd]
  · obtain ⟨k, q, r, q1, q2, k2, hk, hm, hr, -, e, -⟩ := round_gt p d hnd
    have hv := round_scale d k
    rw [hm] at hv
    rw [e, rem_zero_of_fits p _ _ _ q r (10 ^ k) hr (lead_ge p _ q k r hp hk hnd hm hr) hv h]
    rfl

theorem arith_exact (op : AOp) (x y r : Num) (h : numOp op x y = .num r)
    (hf : FitsVal prec (specOp (aop op) (toRat x.d) (toRat y.d))) :
    toRat r.d = specOp (aop op) (toRat x.d) (toRat y.d) := by
  rw [← toRat_exact] at hf ⊢
  rw [(numOp_eq op x y r h).1]
  exact (round_flag prec _).1 (round_snd_of_fits prec (by decide) _ hf)

theorem arith_rounded (op : AOp) (x y r : Num) (h : numOp op x y = .num r) :
    IsRounding prec r.d (specOp (aop op) (toRat x.d) (toRat y.d)) := by
  rw [(numOp_eq op x y r h).1, ← toRat_exact]
  exact round_isRounding prec _

theorem round_exp_ge (p : Nat) (d : Dec) : d.exp ≤ (round p d).1.exp := by
  obtain ⟨q2, k2, e, -⟩ := round_form p d
  rw [e]; simp only []; omega

theorem exact_exp_nonneg (op : AOp) (a b : Dec) (ha : 0 ≤ a.exp) (hb : 0 ≤ b.exp) :
    0 ≤ (exact op a b).exp := by
  cases op <;> simp only [exact, Dec.add, Dec.sub, Dec.mul] <;> omega

theorem int_closed (op : AOp) (x y r : Num) (hx : WF x) (hy : WF y)
    (kx : x.k = .int) (ky : y.k = .int) (h : numOp op x y = .num r) :
    r.k = .int ∧ WF r ∧ ∃ z : Int, toRat r.d = (z : Rat) := by
  have hk := (kind_rule op x y r h).2 ⟨kx, ky⟩
  have he : 0 ≤ r.d.exp := by
    rw [(numOp_eq op x y r h).1]
    exact Int.le_trans (exact_exp_nonneg op _ _ (hx kx) (hy ky)) (round_exp_ge _ _)
  refine ⟨hk, fun _ => he, Dec.shift r.d 0, ?_⟩
  rw [toRat_shift r.d 0 he]
  simp

/-- without the digit hypothesis: refuted below -/
def mul_exact_stmt : Prop :=
  ∀ x y r : Num, numOp .mul x y = .num r → toRat r.d = toRat x.d * toRat y.d
def add_exact_stmt : Prop :=
  ∀ x y r : Num, numOp .add x y = .num r → toRat r.d = toRat x.d + toRat y.d
def sub_exact_stmt : Prop :=
  ∀ x y r : Num, numOp .sub x y = .num r → toRat r.d = toRat x.d - toRat y.d

/-- `100000000000000000001 * 100000000000000000001` -/
theorem mul_exact_false : ¬ mul_exact_stmt := by
  intro h
  have h1 := h ⟨.int, ⟨100000000000000000001, 0⟩⟩ ⟨.int, ⟨100000000000000000001, 0⟩⟩
    ⟨.int, ⟨1000000000000000000020000000000000, 7⟩⟩ (by decide)
  rw [← toRat_mul, ← cmp_eq_iff] at h1
  revert h1
  decide

/-- `12345678901234567890123456789012345678901234567890 + 1` -/
theorem add_exact_false : ¬ add_exact_stmt := by
  intro h
  have h1 := h ⟨.int, ⟨12345678901234567890123456789012345678901234567890, 0⟩⟩ ⟨.int, ⟨1, 0⟩⟩
    ⟨.int, ⟨1234567890123456789012345678901235, 16⟩⟩ (by decide)
  rw [← toRat_add, ← cmp_eq_iff] at h1
  revert h1
  decide

/-- `12345678901234567890123456789012345678901234567890 - 1` -/
theorem sub_exact_false : ¬ sub_exact_stmt := by
  intro h
  have h1 := h ⟨.int, ⟨12345678901234567890123456789012345678901234567890, 0⟩⟩ ⟨.int, ⟨1, 0⟩⟩
    ⟨.int, ⟨1234567890123456789012345678901235, 16⟩⟩ (by decide)
  rw [← toRat_sub, ← cmp_eq_iff] at h1
  revert h1
  decide
end CueVerif.Proofs.ArithExact
