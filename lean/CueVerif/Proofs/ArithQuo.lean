/-
C06: `/` is the correctly rounded 34-digit quotient.  `quoRound_core` writes `quoRound` out as a
half-up rounding of `N/D`; the rest is `halfUp`, `half_ulp`, `exact_iff` of ArithExact, as for
`round`.  Core Lean (`Rat` is core).
-/
import CueVerif.Proofs.ArithExact
namespace CueVerif.Proofs.ArithQuo
open CueVerif CueVerif.Arith CueVerif.Spec.Arith CueVerif.Proofs.ArithExact

theorem numDigits_pos (n : Nat) : 1 ≤ Dec.numDigits n := ArithExact.numDigits_pos n

/-! #### `reduceKeepingFloats` -/

theorem toRat_of_coeff_zero (d : Dec) (h : d.coeff = 0) : toRat d = 0 := by
  rw [toRat, h]; exact Rat.zero_mul _

theorem toRat_strip (e : Int) (fuel : Nat) : ∀ (c : Int) (k : Nat),
    toRat ⟨(Dec.stripZerosAux fuel c k).1, e + ((Dec.stripZerosAux fuel c k).2 : Nat)⟩ = toRat ⟨c, e + k⟩ := by
  induction fuel with
  | zero => intro c k; simp [Dec.stripZerosAux]
  | succ f ih =>
    intro c k
    simp only [Dec.stripZerosAux]
    split
    · rename_i h
      have h10 : c % 10 = 0 := by simpa using (by simpa using h : _ ∧ _).2
      rw [ih, Int.natCast_add, ← Int.add_assoc, ← toRat_mul_pow (c / 10) 1,
        show c / 10 * 10 ^ 1 = c by omega]
    · rfl

theorem toRat_normalize (d : Dec) : toRat (Dec.normalize d) = toRat d := by
  unfold Dec.normalize
  split
  · rename_i h
    rw [toRat_of_coeff_zero _ rfl, toRat_of_coeff_zero d (by simpa using h)]
  · have := toRat_strip d.exp d.coeff.natAbs d.coeff 0
    simpa using this

theorem toRat_reduceKeepingFloats (d : Dec) : toRat (reduceKeepingFloats d) = toRat d := by
  unfold reduceKeepingFloats
  simp only
  split
  · rw [← Int.pow_one 10, toRat_mul_pow,
      show (Dec.normalize d).exp - 1 + ((1 : Nat) : Int) = (Dec.normalize d).exp by omega]
    exact toRat_normalize d
  · exact toRat_normalize d

/-! #### the quotient -/

theorem zpow_sub' (m n : Int) : (10 : Rat) ^ (m - n) = 10 ^ m * (10 ^ n)⁻¹ := by
  rw [Int.sub_eq_add_neg, Rat.zpow_add ten_ne, Rat.zpow_neg]

theorem scale_id (na nb : Rat) (hnb : nb ≠ 0) (ea eb : Int) (s k : Nat) :
    (na * 10 ^ ea) / (nb * 10 ^ eb) * (nb * 10 ^ k) =
      (na * 10 ^ s) * (10 : Rat) ^ (ea - eb - (s : Int) + (k : Int)) := by
  rw [Rat.zpow_add ten_ne, zpow_sub', zpow_sub', Rat.zpow_natCast, Rat.zpow_natCast]
  have h1 : (10 : Rat) ^ eb ≠ 0 := Rat.ne_of_gt (tenz_pos eb)
  have h2 : (10 : Rat) ^ s ≠ 0 := Rat.ne_of_gt (Rat.pow_pos ten_pos)
  grind

theorem div_sgn (x y : Bool) (A B : Rat) (hB : B ≠ 0) :
    (sgn x * A) / (sgn y * B) = sgn (x != y) * (A / B) := by
  cases x <;> cases y <;> simp [sgn] <;> grind

theorem quo_nat (p na nb : Nat) (hp : 0 < p) (ha : 0 < na) (hb : 0 < nb) :
    let q := na * 10 ^ (p + Dec.numDigits nb) / nb
    let k := Dec.numDigits q - p
    10 ^ (p - 1) ≤ q / 10 ^ k ∧ q / 10 ^ k < 10 ^ p := by
  intro q k
  have hq : 10 ^ p ≤ q := by
    apply (Nat.le_div_iff_mul_le hb).2
    rw [Nat.pow_add, ← Nat.mul_assoc]
    exact Nat.mul_le_mul (Nat.le_mul_of_pos_left _ ha) (Nat.le_of_lt (numDigits_lt nb))
  have hq0 : 0 < q := Nat.lt_of_lt_of_le (Nat.pow_pos (by decide)) hq
  have hlt := numDigits_lt q
  have hge := numDigits_le q hq0
  have hnd : p < Dec.numDigits q :=
    (Nat.pow_lt_pow_iff_right (by decide : 1 < 10)).1 (Nat.lt_of_le_of_lt hq hlt)
  have h10k : 0 < 10 ^ k := Nat.pow_pos (by decide)
  constructor
  · apply (Nat.le_div_iff_mul_le h10k).2
    rw [← Nat.pow_add, show p - 1 + k = Dec.numDigits q - 1 by omega]; exact hge
  · apply (Nat.div_lt_iff_lt_mul h10k).2
    rw [← Nat.pow_add, show p + k = Dec.numDigits q by omega]; exact hlt

/-- dividing by `b` and then by `T` is dividing by `T·b`; the two remainders make up the one -/
theorem div_div_rem (N b T : Nat) (hb : 0 < b) (hT : 0 < T) :
    N = N / b / T * (T * b) + (N / b % T * b + N % b) ∧ N / b % T * b + N % b < T * b := by
  constructor
  · rw [← Nat.add_assoc, ← Nat.mul_assoc, ← Nat.add_mul, Nat.mul_comm _ T, Nat.div_add_mod,
      Nat.mul_comm, Nat.div_add_mod]
  · have h : (N / b % T + 1) * b ≤ T * b := Nat.mul_le_mul_right _ (Nat.mod_lt _ hT)
    have := Nat.mod_lt N hb
    rw [Nat.add_mul] at h; omega

/-- with `N = |a|·10^s = q0·D + R` and `D = 10^k·|b|` -/
theorem quoRound_core (p : Nat) (hp : 0 < p) (a b : Dec) (ha : a.coeff ≠ 0) (hb : b.coeff ≠ 0) :
    ∃ (q0 R D : Nat) (neg : Bool) (w : Int),
      (quoRound p a b).1 = ⟨sgnMul neg (if D ≤ 2 * R then q0 + 1 else q0), w⟩ ∧
      ((quoRound p a b).2 = false ↔ R = 0) ∧ R < D ∧ 10 ^ (p - 1) ≤ q0 ∧ q0 < 10 ^ p ∧
      toRat a / toRat b * (D : Rat) = sgn neg * (((q0 * D + R : Nat) : Rat) * (10 : Rat) ^ w) := by
  have hna : 0 < a.coeff.natAbs := by omega
  have hnb : 0 < b.coeff.natAbs := by omega
  rw [toRat_eq_sgn a, toRat_eq_sgn b]
  unfold quoRound
  simp only []
  generalize a.coeff.natAbs = na at hna ⊢
  generalize b.coeff.natAbs = nb at hnb ⊢
  obtain ⟨hq0lo, hq0hi⟩ := quo_nat p na nb hp hna hnb
  generalize p + Dec.numDigits nb = s at hq0lo hq0hi ⊢
  generalize Dec.numDigits (na * 10 ^ s / nb) - p = k at hq0lo hq0hi ⊢
  obtain ⟨hND, hRD⟩ := div_div_rem (na * 10 ^ s) nb (10 ^ k) hnb (Nat.pow_pos (by decide))
  generalize na * 10 ^ s / nb / 10 ^ k = q0 at hq0lo hq0hi hND ⊢
  generalize na * 10 ^ s / nb % 10 ^ k = r1 at hND hRD ⊢
  generalize na * 10 ^ s % nb = rem at hND hRD ⊢
  simp only [decide_eq_true_eq]
  refine ⟨q0, r1 * nb + rem, 10 ^ k * nb, _, _, rfl, ?_, hRD, hq0lo, hq0hi, ?_⟩
  · simp only [Bool.or_eq_false_iff, bne_eq_false_iff_eq]
    constructor
    · rintro ⟨rfl, rfl⟩; simp
    · intro h
      have : r1 * nb = 0 ∧ rem = 0 := by omega
      exact ⟨(Nat.mul_eq_zero.1 this.1).resolve_right (by omega), this.2⟩
  · rw [div_sgn _ _ _ _ (Rat.ne_of_gt (Rat.mul_pos (Rat.natCast_pos.2 hnb) (tenz_pos _))),
      Rat.mul_assoc, ← hND, Rat.natCast_mul (10 ^ k), Rat.mul_comm ((10 ^ k : Nat) : Rat),
      Rat.natCast_pow, Rat.natCast_ofNat,
      scale_id _ _ (Rat.ne_of_gt (Rat.natCast_pos.2 hnb)) _ _ s k, Rat.natCast_mul, Rat.natCast_pow,
      Rat.natCast_ofNat]

theorem quoRound_isRounding (p : Nat) (hp : 0 < p) (a b : Dec) (ha : a.coeff ≠ 0) (hb : b.coeff ≠ 0) :
    IsRounding p (quoRound p a b).1 (toRat a / toRat b) := by
  obtain ⟨q0, R, D, neg, w, e, -, hRD, -, hhi, hv⟩ := quoRound_core p hp a b ha hb
  obtain ⟨b1, b2, -⟩ := halfUp D q0 R hRD
  rw [e, IsRounding, toRat_sgnMul, natAbs_sgnMul]
  exact ⟨by split <;> omega,
    half_ulp _ _ _ _ D _ (sgn_cases _) (tenz_pos _) (by omega) hv b1 b2⟩

theorem quoRound_flag (p : Nat) (hp : 0 < p) (a b : Dec) (ha : a.coeff ≠ 0) (hb : b.coeff ≠ 0) :
    (quoRound p a b).2 = false ↔ toRat (quoRound p a b).1 = toRat a / toRat b := by
  obtain ⟨q0, R, D, neg, w, e, hfl, hRD, -, -, hv⟩ := quoRound_core p hp a b ha hb
  rw [hfl, e, toRat_sgnMul, exact_iff _ _ _ _ D _ (sgn_cases _) (tenz_pos _) (by omega) hv]
  exact (halfUp D q0 R hRD).2.2.symm

/-- apd's `Inexact` condition of `Quo` is raised exactly when the quotient does not fit -/
theorem quoRound_inexact_iff (p : Nat) (hp : 0 < p) (a b : Dec) (ha : a.coeff ≠ 0) (hb : b.coeff ≠ 0) :
    (quoRound p a b).2 = false ↔ FitsVal p (toRat a / toRat b) := by
  obtain ⟨q0, R, D, neg, w, -, hfl, hRD, hlo, hhi, hv⟩ := quoRound_core p hp a b ha hb
  rw [hfl]
  constructor
  · rintro rfl
    exact fits_of_rem_zero p neg _ w q0 D hRD hhi hv
  · exact rem_zero_of_fits p neg _ w q0 R D hRD hlo hv

theorem quoRound_of_fits (p : Nat) (hp : 0 < p) (a b : Dec) (ha : a.coeff ≠ 0) (hb : b.coeff ≠ 0)
    (hf : FitsVal p (toRat a / toRat b)) : toRat (quoRound p a b).1 = toRat a / toRat b :=
  (quoRound_flag p hp a b ha hb).1 ((quoRound_inexact_iff p hp a b ha hb).2 hf)

theorem zero_div_rat (x : Rat) : (0 : Rat) / x = 0 := by
  rw [Rat.div_def]; exact Rat.zero_mul _

theorem quoOp_num (x y r : Num) (h : quoOp x y = .num r) :
    y.d.coeff ≠ 0 ∧ r.k = .float ∧
      ((x.d.coeff = 0 ∧ r.d = reduceKeepingFloats ⟨0, x.d.exp - y.d.exp⟩) ∨
       (x.d.coeff ≠ 0 ∧ r.d = reduceKeepingFloats (quoRound prec x.d y.d).1)) := by
  unfold quoOp at h
  split at h
  · cases h
  · rename_i hy
    refine ⟨by simpa using hy, ?_⟩
    split at h
    · rename_i hx
      split at h
      · cases h; exact ⟨rfl, Or.inl ⟨by simpa using hx, rfl⟩⟩
      · cases h
    · rename_i hx
      simp only at h
      split at h
      · cases h
      · cases h; exact ⟨rfl, Or.inr ⟨by simpa using hx, rfl⟩⟩

theorem quo_rounded (x y r : Num) (h : quoOp x y = .num r) :
    r.k = .float ∧ ∃ r0 : Dec, IsRounding prec r0 (toRat x.d / toRat y.d) ∧ toRat r.d = toRat r0 := by
  obtain ⟨hy, hk, hc⟩ := quoOp_num x y r h
  refine ⟨hk, ?_⟩
  rcases hc with ⟨hx, hr⟩ | ⟨hx, hr⟩
  · refine ⟨⟨0, 0⟩, ?_, by
      rw [hr, toRat_reduceKeepingFloats, toRat_of_coeff_zero _ rfl, toRat_of_coeff_zero _ rfl]⟩
    rw [toRat_of_coeff_zero _ hx, zero_div_rat, IsRounding, toRat_of_coeff_zero ⟨0, 0⟩ rfl,
      Rat.sub_self, Rat.mul_zero]
    exact ⟨Nat.zero_le _, Rat.le_of_lt (tenz_pos _), Rat.le_of_lt (tenz_pos _)⟩
  · exact ⟨_, quoRound_isRounding prec (by decide) _ _ hx hy, by rw [hr, toRat_reduceKeepingFloats]⟩

theorem quo_exact (x y r : Num) (h : quoOp x y = .num r)
    (hf : FitsVal prec (toRat x.d / toRat y.d)) : toRat r.d = toRat x.d / toRat y.d := by
  obtain ⟨hy, hk, hc⟩ := quoOp_num x y r h
  rcases hc with ⟨hx, hr⟩ | ⟨hx, hr⟩
  · rw [hr, toRat_reduceKeepingFloats, toRat_of_coeff_zero _ hx, zero_div_rat, toRat_of_coeff_zero _ rfl]
  · rw [hr, toRat_reduceKeepingFloats]
    exact quoRound_of_fits prec (by decide) _ _ hx hy hf

theorem quo_total (x y : Num) :
    (∃ r, quoOp x y = .num r ∧ y.d.coeff ≠ 0) ∨
    (quoOp x y = .err .divZero ∧ y.d.coeff = 0) ∨
    (quoOp x y = .err .failed ∧ y.d.coeff ≠ 0) := by
  unfold quoOp
  by_cases hy : y.d.coeff = 0
  · simp [hy]
  · simp only [beq_iff_eq, hy, if_false]
    split <;> split <;> simp [hy]

end CueVerif.Proofs.ArithQuo
