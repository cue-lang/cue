import CueVerif.Proofs.ClosedRep
import CueVerif.Proofs.ClosedSpec

/-!
C05 (closedness): the model's verdict `accepts` is the spec checker's `admits`.
The model evaluates bottom-up to values (ClosedRep: `rep`), the checker walks the schema top-down (ClosedSpec); here
they meet: validation of a value is the checker without data (`validate_ev`), and data comes in as one more
conjunct (`admitsN_and_data`).  At the end, the facts about the checker that are obtained through the model.
-/
namespace CueVerif.Closed

/-! ### validation of a single schema = the checker without data -/

/-- `validate` read through the observers, in the form of `admitsN_succ` -/
theorem validate_eq (full : Bool) (V : Val) :
    validate full V =
      match vshape V with
      | .bot => false
      | .top => !full
      | .sc s => s.concrete || !full
      | .st => (vlabels V).all fun l =>
        match vkind V l with
        | none => true
        | some .optional => true
        | some .required => !full
        | some .member =>
          (!l.isReg || allP (vhard V) l) && validate (full && l.isReg) (child V l) := by
  cases V <;> rfl

theorem validate_ev (n : Nat) : ∀ (full : Bool) (e : Expr), depth e < n →
    validate full (ev e) = admitsN n full e none := by
  induction n with
  | zero => intro _ _ h; omega
  | succ n ih =>
    intro full e hd
    rw [validate_eq, admitsN_succ, vshape_ev, show optShape none = Shape.top from rfl, meet_top]
    cases hs : shape e with
    | bot | top | sc => rfl
    | st =>
      have R := (rep e (by rw [hs]; rfl)).1
      show (vlabels (ev e)).all _ = (fieldLabels e ++ []).all _
      rw [List.append_nil, R.labels]
      congr 1
      funext l
      rw [R.kind, R.hard, R.child]
      unfold declK dk
      cases hm : hasDecl .member e l
      · rw [admitsAt_absent (Bool.or_eq_false_iff.2 ⟨rfl, hm⟩)]
        cases hasDecl .required e l <;> cases hasDecl .optional e l <;> simp
      · have h1 := hasDecl_depth _ _ _ hm
        have h2 := depth_sub l e
        rw [admitsAt_present (Bool.or_eq_true_iff.2 (.inr hm)), ih (full && l.isReg) (sub l e) (by omega)]
        rfl

theorem validate_and_data (n : Nat) (full : Bool) (e : Expr) (d : Data) (hd : d.WF = true)
    (hn : max (depth e) d.depth < n) :
    validate full (ev (.and e d.toExpr)) = admitsN n full e (some d) := by
  rw [validate_ev n full (.and e d.toExpr)
    (by show max (depth e) (depth d.toExpr) < n; rw [depth_toExpr]; exact hn)]
  exact admitsN_and_data n full e _ _ (DataRep.base d hd)

theorem accepts_eq_admits (s : Expr) (d : Data) (hd : d.WF = true) : accepts s d = admits s d :=
  validate_and_data _ true s d hd (by omega)

/-- a statement about the checker alone, read off the model: `validate` has no fuel -/
theorem admitsN_fuel (n m : Nat) (full : Bool) (e : Expr) (d : Data) (hd : d.WF = true)
    (hn : max (depth e) d.depth < n) (hm : max (depth e) d.depth < m) :
    admitsN n full e (some d) = admitsN m full e (some d) :=
  (validate_and_data n full e d hd hn).symm.trans (validate_and_data m full e d hd hm)

/-! ### closedness -/

/-- again about the checker alone: the value of an open schema has no closer, and `allowedBy` is what its
closers say -/
theorem allowedBy_of_open_live (e : Expr) (l : Label) (hs : (shape e).live = true)
    (h : closed e = false) : allowedBy e l = true := by
  have R := (rep e hs).1
  rw [← R.hard l, List.isEmpty_iff.1 (R.cl.trans (by rw [h]; rfl))]; rfl

theorem allowedBy_of_open (e : Expr) (l : Label) (hs : shape e = .st) (h : closed e = false) :
    allowedBy e l = true :=
  allowedBy_of_open_live e l (by rw [hs]; rfl) h

theorem accepts_disallowed (s : Expr) (d : Data) (l : Label) (hd : d.WF = true)
    (hl : d.labels.contains l = true) (hr : l.isReg = true) (hna : allowedBy s l = false) :
    accepts s d = false := by
  rw [accepts_eq_admits s d hd]
  exact admitsN_disallowed _ _ _ _ l hl hr hna

/-! ### the sole embedding -/

/-- embedding a schema without definition references in an otherwise empty literal under
construction changes nothing -/
theorem admitsN_emb_top (n : Nat) : ∀ (full : Bool) (x : Expr) (od : Option Data),
    noDef x = true → admitsN n full (.emb x .top) od = admitsN n full x od := by
  induction n with
  | zero => intros; rfl
  | succ n ih =>
    intro full x od hn
    refine admitsN_congr (congrArg (·.meet (optShape od)) (meet_top (shape x)))
      (by show fieldLabels x ++ [] ++ _ = _; rw [List.append_nil]) fun hm l => ?_
    have hlive : (shape x).live = true := (live_meet (b := optShape od) (by rw [hm]; rfl)).1
    refine admitsAt_congr (by show (_ || (hasDecl .member x l || false)) = (_ || _); rw [Bool.or_false])
      ?_ (Bool.or_false _) fun _ => ?_
    · show (true && ((allowedBy x l && true) ||
        (dSel (closed x) (allowedBy x l) (names x l) || false))) = _
      cases hc : closed x
      · rw [allowedBy_of_open_live x l hlive hc]; rfl
      · cases allowedBy x l <;> rfl
    · have h3 : sub l (.emb x .top) = .emb (sub l x) .top := by
        show wrapDef (recC x || false) (.emb (sub l x) .top) = _
        rw [(noDef_flags x hn).1]; rfl
      rw [h3]; exact ih _ _ _ (noDef_sub l x hn)

theorem sole_embedding_noDef (s : Expr) (d : Data) (hs : shape s = .st) (hn : noDef s = true) :
    admits (.emb s .nil) d = admits s d := by
  unfold admits
  have hd : depth (.emb s .nil) = depth s := Nat.max_zero _
  rw [hd]
  show admitsN ((depth s + d.depth + 1) + 1) true (.emb s .nil) (some d) =
    admitsN ((depth s + d.depth + 1) + 1) true s (some d)
  rw [admitsN_emb_nil _ _ _ _ hs, admitsN_emb_top _ _ _ _ hn]

/-! ### an optional constraint on an absent field -/

theorem admits_and_optional (s : Expr) (d : Data) (l : Label) (v : Expr) (hd : d.WF = true)
    (hs : shape s = .st) (hl : d.labels.contains l = false) (hm : hasDecl .member s l = false) :
    admits (.and s (.field l .optional v .nil)) d = admits s d := by
  unfold admits
  have hdep : depth s ≤ depth (.and s (.field l .optional v .nil)) := Nat.le_max_left _ _
  rw [admitsN_fuel (depth s + d.depth + 2)
    (depth (.and s (.field l .optional v .nil)) + d.depth + 2) true s d hd (by omega) (by omega)]
  exact admitsN_and_optional _ true s (some d) l v hs (Bool.or_eq_false_iff.2 ⟨hl, hm⟩)

end CueVerif.Closed
