import CueVerif.Proofs.ArcType

/-!
C05 (closedness), model side: what `ev e` / `evS e` compute, in the terms of the spec.
A value is looked at through ten observers; every operation of the model is a homomorphism on them
(`sealV_obs`, `asEmb_obs`, `asOwn_obs`, `closeV_obs`, `closeRec_obs`, `unify_live`).  The representation
theorem `rep` then says: every observer of `ev e` / `evS e` is the spec function of `e` of the same name,
and `child (ev e) l = ev (sub l e)`.  Nothing here mentions the checker `admitsN`.
-/
namespace CueVerif.Closed

/-! ### observers on values -/

def child : Val → Label → Val
  | .st _ _ v _ _ _ _ _ _, l => v l
  | .top, _ => .top
  | .bot, _ => .bot
  | .sc _, _ => .bot

def vshape : Val → Shape
  | .bot => .bot
  | .top => .top
  | .sc s => .sc s
  | .st .. => .st

def vlabels : Val → List Label
  | .st l _ _ _ _ _ _ _ _ => l
  | _ => []

def vkind : Val → Label → Option Kind
  | .st _ k _ _ _ _ _ _ _, l => k l
  | _, _ => none

def vhard : Val → List Pred
  | .st _ _ _ h _ _ _ _ _ => h
  | _ => []

def vsoft : Val → List Pred
  | .st _ _ _ _ s _ _ _ _ => s
  | _ => []

def vnames : Val → Label → Bool
  | .st _ _ _ _ _ n _ _ _, l => n l
  | _, _ => false

def vwide : Val → Label → Bool
  | .st _ _ _ _ _ _ w _ _, l => w l
  | _, _ => false

def vrec : Val → Bool
  | .st _ _ _ _ _ _ _ r _ => r
  | _ => false

def verec : Val → Bool
  | .st _ _ _ _ _ _ _ _ e => e
  | _ => false

theorem unify_top (X : Val) : unify X .top = X := by
  cases X <;> rfl

theorem unify_bot (X : Val) : unify X .bot = .bot := by
  cases X <;> rfl

theorem top_unify (X : Val) : unify .top X = X := by
  cases X <;> rfl

theorem allP_nil (l : Label) : allP [] l = true := rfl

theorem allP_append (a b : List Pred) (l : Label) : allP (a ++ b) l = (allP a l && allP b l) := by
  simp [allP, List.all_append]

theorem allP_single (p : Pred) (l : Label) : allP [p] l = p l := by
  simp [allP]

theorem allP_widen (s : List Pred) (w : Pred) (l : Label) :
    allP (s.map (fun r x => r x || w x)) l = (allP s l || w l) := by
  induction s with
  | nil => simp [allP]
  | cons r s ih =>
    simp only [allP, List.map_cons, List.all_cons] at ih ⊢
    rw [ih]
    cases r l <;> cases w l <;> simp

theorem dOf_eq (h : List Pred) (n : Pred) (l : Label) :
    dOf h n l = dSel (!h.isEmpty) (allP h l) (n l) := by
  unfold dOf dSel
  cases h.isEmpty <;> simp

theorem vshape_unify (A B : Val) : vshape (unify A B) = (vshape A).meet (vshape B) := by
  cases A <;> cases B
  case sc.sc s t =>
    show vshape (match s.meet t with | some r => Val.sc r | none => Val.bot) =
      (match s.meet t with | some r => Shape.sc r | none => Shape.bot)
    cases s.meet t <;> rfl
  all_goals rfl

theorem vshape_sealV (V : Val) : vshape (sealV V) = vshape V := by cases V <;> rfl

theorem vshape_asEmb (V : Val) : vshape (asEmb V) = vshape V := by cases V <;> rfl

theorem vshape_asOwn (V : Val) : vshape (asOwn V) = vshape V := by cases V <;> rfl

theorem vshape_closeV (V : Val) : vshape (closeV V) = vshape V := by cases V <;> rfl

theorem vshape_closeRec (V : Val) : vshape (closeRec V) = vshape V := by cases V <;> rfl

theorem vshape_top {V : Val} (h : vshape V = .top) : V = .top := by
  cases V <;> simp_all [vshape]

theorem child_unify (A B : Val) (l : Label) :
    child (unify A B) l = unify (child A l) (child B l) := by
  cases A <;> cases B
  case sc.sc s t =>
    show child (match s.meet t with | some r => Val.sc r | none => Val.bot) l = Val.bot
    cases s.meet t <;> rfl
  all_goals simp [unify, child, unify_top, unify_bot]

theorem child_sealV (G : Val) (l : Label) :
    child (sealV G) l = if verec G then closeRec (sealV (child G l)) else sealV (child G l) := by
  cases G with
  | st _ _ _ _ _ _ _ _ e => cases e <;> rfl
  | _ => rfl

theorem child_asEmb (V : Val) (l : Label) : child (asEmb V) l = asEmb (child V l) := by
  cases V <;> rfl

theorem child_asOwn (V : Val) (l : Label) : child (asOwn V) l = asOwn (child V l) := by
  cases V <;> rfl

theorem child_closeV (V : Val) (l : Label) : child (closeV V) l = child V l := by
  cases V <;> rfl

theorem child_closeRec (V : Val) (l : Label) : child (closeRec V) l = closeRec (child V l) := by
  cases V <;> rfl

/-! ### what each operation does to the observers -/

theorem sealV_obs (V : Val) :
    vlabels (sealV V) = vlabels V ∧ vkind (sealV V) = vkind V ∧
    vhard (sealV V) = vhard V ++ (vsoft V).map (fun r x => r x || vwide V x) ∧
    vsoft (sealV V) = [] ∧ vnames (sealV V) = vnames V ∧ vrec (sealV V) = vrec V := by
  cases V <;> exact ⟨rfl, rfl, rfl, rfl, rfl, rfl⟩

theorem asEmb_obs (V : Val) :
    vlabels (asEmb V) = vlabels V ∧ vkind (asEmb V) = vkind V ∧ vhard (asEmb V) = [] ∧
    vsoft (asEmb V) = vhard V ∧ vnames (asEmb V) = vnames V ∧
    vwide (asEmb V) = dOf (vhard V) (vnames V) ∧ vrec (asEmb V) = vrec V ∧
    verec (asEmb V) = vrec V := by
  cases V <;> exact ⟨rfl, rfl, rfl, rfl, rfl, rfl, rfl, rfl⟩

theorem asOwn_obs (V : Val) :
    vlabels (asOwn V) = vlabels V ∧ vkind (asOwn V) = vkind V ∧ vhard (asOwn V) = vhard V ∧
    vsoft (asOwn V) = vsoft V ∧ vnames (asOwn V) = vnames V ∧ vwide (asOwn V) = vnames V ∧
    vrec (asOwn V) = vrec V ∧ verec (asOwn V) = false := by
  cases V <;> exact ⟨rfl, rfl, rfl, rfl, rfl, rfl, rfl, rfl⟩

theorem closeV_obs (V : Val) :
    vlabels (closeV V) = vlabels V ∧ vkind (closeV V) = vkind V ∧
    (∀ l, allP (vhard (closeV V)) l =
      (allP (vhard V) l && (vshape V != .st || dOf (vhard V) (vnames V) l))) ∧
    (vhard (closeV V)).isEmpty = (vshape V != .st) ∧
    vsoft (closeV V) = vsoft V ∧ vnames (closeV V) = vnames V ∧ vrec (closeV V) = vrec V := by
  cases V with
  | st _ _ _ h _ n _ _ _ =>
    refine ⟨rfl, rfl, fun l => ?_, by cases h <;> rfl, rfl, rfl, rfl⟩
    show allP (h ++ [dOf h n]) l = _
    rw [allP_append, allP_single]
    rfl
  | _ => exact ⟨rfl, rfl, fun _ => rfl, rfl, rfl, rfl, rfl⟩

/-- `closeRec` differs from `closeV` in the flag and in the children only -/
theorem closeRec_obs (V : Val) :
    vlabels (closeRec V) = vlabels (closeV V) ∧ vkind (closeRec V) = vkind (closeV V) ∧
    vhard (closeRec V) = vhard (closeV V) ∧ vsoft (closeRec V) = vsoft (closeV V) ∧
    vnames (closeRec V) = vnames (closeV V) ∧ vrec (closeRec V) = (vshape V == .st) := by
  cases V <;> exact ⟨rfl, rfl, rfl, rfl, rfl, rfl⟩

/-- `top` observes as the unit of each of the operations on the right -/
theorem unify_live {A B : Val} (ha : (vshape A).live = true) (hb : (vshape B).live = true) :
    vlabels (unify A B) = vlabels A ++ vlabels B ∧
    (∀ l, vkind (unify A B) l = mergeK (vkind A l) (vkind B l)) ∧
    vhard (unify A B) = vhard A ++ vhard B ∧
    vsoft (unify A B) = vsoft A ++ vsoft B ∧
    (∀ l, vnames (unify A B) l = (vnames A l || vnames B l)) ∧
    (∀ l, vwide (unify A B) l = (vwide A l || vwide B l)) ∧
    vrec (unify A B) = (vrec A || vrec B) ∧
    verec (unify A B) = (verec A || verec B) := by
  cases A <;> cases ha <;> cases B <;> cases hb <;>
    simp [unify, vlabels, vkind, vhard, vsoft, vnames, vwide, vrec, verec, mergeK_none_right,
      mergeK_none_left]

/-! ### the arc type at a label, from the declarations -/

def dk (m r o : Bool) : Option Kind :=
  if m then some .member else if r then some .required else if o then some .optional else none

theorem mergeK_dk (m r o m' r' o' : Bool) :
    mergeK (dk m r o) (dk m' r' o') = dk (m || m') (r || r') (o || o') := by
  cases m <;> cases r <;> cases o <;> cases m' <;> cases r' <;> cases o' <;> rfl

theorem dk_false : dk false false false = none := rfl

def declK (e : Expr) (l : Label) : Option Kind :=
  dk (hasDecl .member e l) (hasDecl .required e l) (hasDecl .optional e l)

theorem declK_or (e a b : Expr) (l : Label)
    (h : ∀ k, hasDecl k e l = (hasDecl k a l || hasDecl k b l)) :
    declK e l = mergeK (declK a l) (declK b l) := by
  unfold declK
  rw [mergeK_dk, h, h, h]

/-! ### what `ev e` / `evS e` look like, in terms of the spec's functions -/

structure RepV (V : Val) (e : Expr) : Prop where
  labels : vlabels V = fieldLabels e
  kind : ∀ l, vkind V l = declK e l
  soft : vsoft V = []
  hard : ∀ l, allP (vhard V) l = allowedBy e l
  cl : (vhard V).isEmpty = !closed e
  names : ∀ l, vnames V l = names e l
  rc : vrec V = recC e
  child : ∀ l, child V l = ev (sub l e)

structure RepS (S : Val) (e : Expr) : Prop where
  labels : vlabels S = fieldLabels e
  kind : ∀ l, vkind S l = declK e l
  hard : ∀ l, allP (vhard S) l = ownA e l
  soft : ∀ l, allP (vsoft S) l = embA e l
  cl : ((vhard S).isEmpty && (vsoft S).isEmpty) = !closed e
  names : ∀ l, vnames S l = names e l
  wide : ∀ l, vwide S l = wideS e l
  rc : vrec S = recC e
  erec : verec S = embRec e
  child : ∀ l, child S l = evS (subS l e)

theorem repV_top : RepV .top .top :=
  ⟨rfl, fun _ => rfl, rfl, fun _ => rfl, rfl, fun _ => rfl, rfl, fun _ => rfl⟩

theorem repS_top : RepS .top .top :=
  ⟨rfl, fun _ => rfl, fun _ => rfl, fun _ => rfl, rfl, fun _ => rfl, fun _ => rfl, rfl, rfl,
    fun _ => rfl⟩

/-- the projections produced by `subS` are always read as literals under construction -/
theorem ev_subS (l : Label) (e : Expr) : ev (subS l e) = sealV (evS (subS l e)) := by
  induction e with
  | field l' k v rest _ ih | pat p v rest _ ih =>
    simp only [subS]
    split
    · rfl
    · exact ih
  | ell rest ih => exact ih
  | top | bot | sc | nil | emb | own | close | defn | and => rfl

theorem ev_wrapDef (b : Bool) (x : Expr) :
    ev (wrapDef b x) = if b then closeRec (ev x) else ev x := by
  cases b <;> rfl

theorem isEmpty_app {α : Type} (a b : List α) : (a ++ b).isEmpty = (a.isEmpty && b.isEmpty) := by
  cases a <;> cases b <;> rfl

theorem repV_seal {S : Val} {e : Expr} (h : RepS S e)
    (hall : ∀ l, allowedBy e l = (ownA e l && (embA e l || wideS e l)))
    (hsub : ∀ l, sub l e = wrapDef (embRec e) (subS l e)) : RepV (sealV S) e := by
  obtain ⟨sl, sk, sh, ss, sn, sr⟩ := sealV_obs S
  exact {
    labels := by rw [sl, h.labels]
    kind := fun l => by rw [sk, h.kind]
    soft := ss
    hard := fun l => by rw [sh, allP_append, allP_widen, h.hard, h.soft, h.wide, hall]
    cl := by rw [sh, isEmpty_app, List.isEmpty_map, h.cl]
    names := fun l => by rw [sn, h.names]
    rc := by rw [sr, h.rc]
    child := fun l => by rw [child_sealV, h.child, ← ev_subS, h.erec, hsub, ev_wrapDef] }

theorem repS_asEmb {V : Val} {e : Expr} (h : RepV V e)
    (hown : ∀ l, ownA e l = true) (hemb : ∀ l, embA e l = allowedBy e l)
    (hwide : ∀ l, wideS e l = dSel (closed e) (allowedBy e l) (names e l))
    (hrec : embRec e = recC e)
    (hsub : ∀ l, subS l e = .emb (sub l e) .top) : RepS (asEmb V) e := by
  obtain ⟨el, ek, eh, es, en, ew, er, ee⟩ := asEmb_obs V
  exact {
    labels := by rw [el, h.labels]
    kind := fun l => by rw [ek, h.kind]
    hard := fun l => by rw [eh, hown]; rfl
    soft := fun l => by rw [es, h.hard, hemb]
    cl := by rw [eh, es, h.cl]; rfl
    names := fun l => by rw [en, h.names]
    wide := fun l => by rw [ew, dOf_eq, h.cl, h.hard, h.names, hwide, Bool.not_not]
    rc := by rw [er, h.rc]
    erec := by rw [ee, h.rc, hrec]
    child := fun l => by
      rw [child_asEmb, h.child, hsub]
      exact (unify_top _).symm }

theorem vshape_lit {A R : Val} {a r : Shape} (hA : vshape A = a) (hR : vshape R = r) :
    vshape (sealV (unify A R)) = a.meet r ∧ vshape (unify A R) = a.meet r := by
  rw [vshape_sealV, vshape_unify, hA, hR]; exact ⟨rfl, rfl⟩

theorem vshape_val {V : Val} {s : Shape} (h : vshape V = s) :
    vshape V = s ∧ vshape (asEmb V) = s :=
  ⟨h, (vshape_asEmb V).trans h⟩

theorem shapes (e : Expr) : vshape (ev e) = shape e ∧ vshape (evS e) = shape e := by
  induction e with
  | top | bot | sc | nil => exact ⟨rfl, rfl⟩
  | field _ _ _ _ _ ih | pat _ _ _ _ ih | ell _ ih => exact vshape_lit rfl ih.2
  | emb e rest ihe ih => exact vshape_lit ((vshape_asEmb _).trans ihe.1) ih.2
  | own e rest ihe ih => exact vshape_lit ((vshape_asOwn _).trans ihe.1) ih.2
  | close e ih => exact vshape_val ((vshape_closeV _).trans ih.1)
  | defn e ih => exact vshape_val ((vshape_closeRec _).trans ih.1)
  | and a b iha ihb =>
    exact vshape_val ((vshape_unify _ _).trans (by rw [iha.1, ihb.1]; rfl))

theorem vshape_ev (e : Expr) : vshape (ev e) = shape e := (shapes e).1
theorem vshape_evS (e : Expr) : vshape (evS e) = shape e := (shapes e).2

/-- `e` is a literal, `A` the value of its first piece, `rest` its other pieces: each spec function of `e` on the spine
is the observer of `A` combined with the spec function of `rest`; in value position the literal is sealed -/
structure Piece (A : Val) (e rest : Expr) : Prop where
  live : (vshape A).live = true
  allowed : ∀ l, allowedBy e l = (ownA e l && (embA e l || wideS e l))
  sub : ∀ l, sub l e = wrapDef (embRec e) (subS l e)
  labels : fieldLabels e = vlabels A ++ fieldLabels rest
  kind : ∀ l, declK e l = mergeK (vkind A l) (declK rest l)
  hard : ∀ l, ownA e l = (allP (vhard A) l && ownA rest l)
  soft : ∀ l, embA e l = (allP (vsoft A) l && embA rest l)
  cl : closed e = (!((vhard A).isEmpty && (vsoft A).isEmpty) || closed rest)
  names : ∀ l, names e l = (vnames A l || names rest l)
  wide : ∀ l, wideS e l = (vwide A l || wideS rest l)
  rc : recC e = (vrec A || recC rest)
  erec : embRec e = (verec A || embRec rest)
  child : ∀ l, evS (subS l e) = unify (child A l) (evS (subS l rest))

theorem Piece.repS {A : Val} {e rest : Expr} (p : Piece A e rest)
    (hr : (shape rest).live = true) (hR : RepS (evS rest) rest) : RepS (unify A (evS rest)) e := by
  obtain ⟨ul, uk, uh, us, un, uw, ur, ue⟩ := unify_live p.live ((vshape_evS rest).symm ▸ hr)
  exact {
    labels := by rw [ul, hR.labels, p.labels]
    kind := fun l => by rw [uk, hR.kind, p.kind]
    hard := fun l => by rw [uh, allP_append, hR.hard, p.hard]
    soft := fun l => by rw [us, allP_append, hR.soft, p.soft]
    cl := by
      rw [uh, us, isEmpty_app, isEmpty_app, p.cl, Bool.not_or, Bool.not_not, ← hR.cl]
      ac_rfl
    names := fun l => by rw [un, hR.names, p.names]
    wide := fun l => by rw [uw, hR.wide, p.wide]
    rc := by rw [ur, hR.rc, p.rc]
    erec := by rw [ue, hR.erec, p.erec]
    child := fun l => by rw [child_unify, hR.child, p.child] }

theorem Piece.rep {A : Val} {e rest : Expr} (p : Piece A e rest)
    (hr : (shape rest).live = true) (hR : RepS (evS rest) rest) :
    RepV (sealV (unify A (evS rest))) e ∧ RepS (unify A (evS rest)) e :=
  have hS := p.repS hr hR
  ⟨repV_seal hS p.allowed p.sub, hS⟩

theorem repV_and {a b : Expr} (hla : (shape a).live = true) (hlb : (shape b).live = true)
    (ha : RepV (ev a) a) (hb : RepV (ev b) b) : RepV (unify (ev a) (ev b)) (.and a b) := by
  obtain ⟨ul, uk, uh, us, un, _, ur, _⟩ :=
    unify_live ((vshape_ev a).symm ▸ hla) ((vshape_ev b).symm ▸ hlb)
  exact {
    labels := by rw [ul, ha.labels, hb.labels]; rfl
    kind := fun l => by rw [uk, ha.kind, hb.kind, declK_or (.and a b) a b l (fun _ => rfl)]
    soft := by rw [us, ha.soft, hb.soft]; rfl
    hard := fun l => by rw [uh, allP_append, ha.hard, hb.hard]; rfl
    cl := by rw [uh, isEmpty_app, ha.cl, hb.cl, ← Bool.not_or]; rfl
    names := fun l => by rw [un, ha.names, hb.names]; rfl
    rc := by rw [ur, ha.rc, hb.rc]; rfl
    child := fun l => by rw [child_unify, ha.child, hb.child]; rfl }

theorem repV_close {V : Val} {e : Expr} (hs : vshape V = shape e) (h : RepV V e) :
    RepV (closeV V) (.close e) := by
  obtain ⟨cl, ck, ch, cc, cs, cn, cr⟩ := closeV_obs V
  exact {
    labels := by rw [cl, h.labels]; rfl
    kind := fun l => by rw [ck, h.kind]; rfl
    soft := by rw [cs, h.soft]
    hard := fun l => by rw [ch, dOf_eq, h.cl, h.hard, h.names, hs, Bool.not_not]; rfl
    cl := by rw [cc, hs]; rfl
    names := fun l => by rw [cn, h.names]; rfl
    rc := by rw [cr, h.rc]; rfl
    child := fun l => by rw [child_closeV, h.child]; rfl }

theorem repV_defn {V : Val} {e : Expr} (hs : vshape V = shape e) (h : RepV V e) :
    RepV (closeRec V) (.defn e) := by
  obtain ⟨rl, rk, rh, rs, rn, rr⟩ := closeRec_obs V
  have c := repV_close hs h
  exact {
    labels := by rw [rl]; exact c.labels
    kind := by rw [rk]; exact c.kind
    soft := by rw [rs]; exact c.soft
    hard := by rw [rh]; exact c.hard
    cl := by rw [rh]; exact c.cl
    names := by rw [rn]; exact c.names
    rc := by rw [rr, hs]; rfl
    child := fun l => by rw [child_closeRec, h.child]; rfl }

/-! ### the pieces of a literal -/

theorem vkind_single (l' : Label) (k : Kind) (W : Val) (l : Label) :
    vkind (single l' k W) l =
      dk (l == l' && Kind.member == k) (l == l' && Kind.required == k) (l == l' && Kind.optional == k) := by
  show (if l = l' then some k else none) = _
  by_cases h : l = l'
  · subst h; cases k <;> simp [dk]
  · have : (l == l') = false := by simpa using h
    simp [h, this, dk]

theorem child_single (l' : Label) (k : Kind) (W : Val) (l : Label) :
    child (single l' k W) l = if l = l' then W else .top := rfl

theorem child_patV (p : Pat) (W : Val) (l : Label) :
    child (patV p W) l = if p.matches l then W else .top := rfl

theorem repS_nil : RepS emptySt .nil :=
  ⟨rfl, fun _ => rfl, fun _ => rfl, fun _ => rfl, rfl, fun _ => rfl, fun _ => rfl, rfl, rfl,
    fun _ => rfl⟩

theorem piece_field (l' : Label) (k : Kind) (v rest : Expr) :
    Piece (single l' k (asOwn (ev v))) (.field l' k v rest) rest where
  live := rfl
  allowed _ := rfl
  sub _ := rfl
  labels := rfl
  kind l := by
    rw [vkind_single]
    unfold declK
    rw [mergeK_dk]
    rfl
  hard _ := rfl
  soft _ := rfl
  cl := rfl
  names _ := rfl
  wide _ := rfl
  rc := rfl
  erec := rfl
  child l := by
    rw [child_single]
    show evS (if l = l' then .own v (subS l rest) else subS l rest) = _
    split
    · rfl
    · exact (top_unify _).symm

theorem piece_pat (p : Pat) (v rest : Expr) : Piece (patV p (asOwn (ev v))) (.pat p v rest) rest where
  live := rfl
  allowed _ := rfl
  sub _ := rfl
  labels := rfl
  kind _ := rfl
  hard _ := rfl
  soft _ := rfl
  cl := rfl
  names _ := rfl
  wide _ := rfl
  rc := rfl
  erec := rfl
  child l := by
    rw [child_patV]
    show evS (if p.matches l then .own v (subS l rest) else subS l rest) = _
    split
    · rfl
    · exact (top_unify _).symm

theorem piece_ell (rest : Expr) : Piece ellV (.ell rest) rest where
  live := rfl
  allowed _ := rfl
  sub _ := rfl
  labels := rfl
  kind _ := rfl
  hard _ := rfl
  soft _ := rfl
  cl := rfl
  names _ := rfl
  wide _ := rfl
  rc := rfl
  erec := rfl
  child _ := (top_unify _).symm

theorem piece_emb {e : Expr} (rest : Expr) (he : (shape e).live = true) (hE : RepV (ev e) e) :
    Piece (asEmb (ev e)) (.emb e rest) rest := by
  obtain ⟨el, ek, eh, es, en, ew, er, ee⟩ := asEmb_obs (ev e)
  exact {
    live := by rw [vshape_asEmb, vshape_ev]; exact he
    allowed := fun _ => rfl
    sub := fun _ => rfl
    labels := by rw [el, hE.labels]; rfl
    kind := fun l => by rw [ek, hE.kind]; exact declK_or _ _ _ l (fun _ => rfl)
    hard := fun l => by rw [eh]; rfl
    soft := fun l => by rw [es, hE.hard]; rfl
    cl := by
      rw [eh, es, hE.cl]
      show (closed e || closed rest) = _
      cases closed e <;> rfl
    names := fun l => by rw [en, hE.names]; rfl
    wide := fun l => by rw [ew, dOf_eq, hE.cl, hE.hard, hE.names, Bool.not_not]; rfl
    rc := by rw [er, hE.rc]; rfl
    erec := by rw [ee, hE.rc]; rfl
    child := fun l => by rw [child_asEmb, hE.child]; rfl }

theorem piece_own {e : Expr} (rest : Expr) (he : (shape e).live = true) (hE : RepV (ev e) e) :
    Piece (asOwn (ev e)) (.own e rest) rest := by
  obtain ⟨dl, dk, dh, ds, dn, dw, dr, de⟩ := asOwn_obs (ev e)
  exact {
    live := by rw [vshape_asOwn, vshape_ev]; exact he
    allowed := fun _ => rfl
    sub := fun _ => rfl
    labels := by rw [dl, hE.labels]; rfl
    kind := fun l => by rw [dk, hE.kind]; exact declK_or _ _ _ l (fun _ => rfl)
    hard := fun l => by rw [dh, hE.hard]; rfl
    soft := fun l => by rw [ds, hE.soft]; rfl
    cl := by
      rw [dh, ds, hE.cl, hE.soft]
      show (closed e || closed rest) = _
      cases closed e <;> rfl
    names := fun l => by rw [dn, hE.names]; rfl
    wide := fun l => by rw [dw, hE.names]; rfl
    rc := by rw [dr, hE.rc]; rfl
    erec := by rw [de]; rfl
    child := fun l => by rw [child_asOwn, hE.child]; rfl }

/-! ### the representation theorem -/

theorem rep (e : Expr) : (shape e).live = true → RepV (ev e) e ∧ RepS (evS e) e := by
  intro h
  induction e with
  | top => exact ⟨repV_top, repS_top⟩
  | bot | sc => cases h
  | nil => exact ⟨repV_seal repS_nil (fun _ => rfl) (fun _ => rfl), repS_nil⟩
  | field l k v rest _ ih =>
    have hr := (live_meet h).2
    exact (piece_field l k v rest).rep hr (ih hr).2
  | pat p v rest _ ih =>
    have hr := (live_meet h).2
    exact (piece_pat p v rest).rep hr (ih hr).2
  | ell rest ih =>
    have hr := (live_meet h).2
    exact (piece_ell rest).rep hr (ih hr).2
  | emb e rest ihe ih =>
    have hh := live_meet h
    exact (piece_emb rest hh.1 (ihe hh.1).1).rep hh.2 (ih hh.2).2
  | own e rest ihe ih =>
    have hh := live_meet h
    exact (piece_own rest hh.1 (ihe hh.1).1).rep hh.2 (ih hh.2).2
  | close e ih =>
    have hV : RepV (ev (.close e)) (.close e) := repV_close (vshape_ev e) (ih h).1
    exact ⟨hV, repS_asEmb hV (fun _ => rfl) (fun _ => rfl) (fun _ => rfl) rfl (fun _ => rfl)⟩
  | defn e ih =>
    have hV : RepV (ev (.defn e)) (.defn e) := repV_defn (vshape_ev e) (ih h).1
    exact ⟨hV, repS_asEmb hV (fun _ => rfl) (fun _ => rfl) (fun _ => rfl) rfl (fun _ => rfl)⟩
  | and a b iha ihb =>
    have hh := live_meet h
    have hV : RepV (ev (.and a b)) (.and a b) := repV_and hh.1 hh.2 (iha hh.1).1 (ihb hh.2).1
    exact ⟨hV, repS_asEmb hV (fun _ => rfl) (fun _ => rfl) (fun _ => rfl) rfl (fun _ => rfl)⟩

end CueVerif.Closed
