import CueVerif.Proofs.ArcType
import CueVerif.Spec.ClosedDenied

/-!
C05 (closedness): the spec checker `admitsN` on its own; no value of the model occurs here.
Projections of a schema get shallower; one level of the checker (`admitsAt`) with the lemmas that give two schemas
the same verdict (`admitsN_congr`) or make one verdict imply the other (`admitsN_imp`); data is one more conjunct
(`DataRep`, `admitsN_and_data`); and the laws of the checker that follow from these alone.
-/
namespace CueVerif.Closed

/-! ### projections get shallower; a declared label is swept -/

theorem depth_wrapDef (b : Bool) (x : Expr) : depth (wrapDef b x) = depth x := by
  cases b <;> rfl

theorem le_pred_max_left {a a' b' : Nat} (h : a ≤ a' - 1) : a ≤ max a' b' - 1 :=
  Nat.le_trans h (Nat.sub_le_sub_right (Nat.le_max_left ..) 1)

theorem le_pred_max_right {b a' b' : Nat} (h : b ≤ b' - 1) : b ≤ max a' b' - 1 :=
  Nat.le_trans h (Nat.sub_le_sub_right (Nat.le_max_right ..) 1)

theorem max_le_pred_max {a b a' b' : Nat} (ha : a ≤ a' - 1) (hb : b ≤ b' - 1) :
    max a b ≤ max a' b' - 1 :=
  Nat.max_le.2 ⟨le_pred_max_left ha, le_pred_max_right hb⟩

/-- either `sub l e` is `subS l e`, possibly wrapped as a definition, or `subS l e` embeds it -/
theorem depth_sub_le_subS (l : Label) (e : Expr) : depth (sub l e) ≤ depth (subS l e) := by
  cases e with
  | top | bot | sc | nil => exact Nat.le_refl _
  | field | pat | ell | emb | own => exact Nat.le_of_eq (depth_wrapDef _ _)
  | close | defn | and => exact Nat.le_max_left _ 0

/-- a field value `v` sits at depth `depth v + 1` -/
theorem depth_subS (l : Label) (e : Expr) : depth (subS l e) ≤ depth e - 1 := by
  induction e with
  | top | bot | sc | nil => exact Nat.le_refl _
  | field l' k v rest _ ih | pat p v rest _ ih =>
    simp only [subS]
    split
    · exact max_le_pred_max (Nat.le_refl _) ih
    · exact le_pred_max_right ih
  | ell rest ih => exact ih
  | emb e rest ihe ih | own e rest ihe ih =>
    exact max_le_pred_max (Nat.le_trans (depth_sub_le_subS l e) ihe) ih
  | close e ih | defn e ih =>
    exact Nat.max_le.2 ⟨Nat.le_trans (depth_sub_le_subS l e) ih, Nat.zero_le _⟩
  | and a b iha ihb =>
    exact Nat.max_le.2 ⟨max_le_pred_max (Nat.le_trans (depth_sub_le_subS l a) iha)
      (Nat.le_trans (depth_sub_le_subS l b) ihb), Nat.zero_le _⟩

theorem depth_sub (l : Label) (e : Expr) : depth (sub l e) ≤ depth e - 1 :=
  Nat.le_trans (depth_sub_le_subS l e) (depth_subS l e)

theorem hasDecl_depth (k : Kind) (e : Expr) (l : Label) (h : hasDecl k e l = true) : 1 ≤ depth e := by
  induction e with
  | top | bot | sc | nil => cases h
  | field l' k' v rest _ _ | pat p v rest _ _ =>
    exact Nat.le_trans (Nat.le_add_left 1 _) (Nat.le_max_left ..)
  | ell e ih | close e ih | defn e ih => exact ih h
  | emb e rest ihe ih | own e rest ihe ih | and e rest ihe ih =>
    rcases Bool.or_eq_true_iff.1 h with h1 | h1
    · exact Nat.le_trans (ihe h1) (Nat.le_max_left ..)
    · exact Nat.le_trans (ih h1) (Nat.le_max_right ..)

theorem hasDecl_mem (k : Kind) (e : Expr) (l : Label) (h : hasDecl k e l = true) :
    l ∈ fieldLabels e := by
  induction e with
  | top | bot | sc | nil => cases h
  | field l' k' v rest _ ih =>
    rcases Bool.or_eq_true_iff.1 h with h1 | h1
    · rw [show l = l' by simpa using (Bool.and_eq_true_iff.1 h1).1]; exact List.mem_cons_self
    · exact List.mem_cons_of_mem _ (ih h1)
  | pat p v e _ ih | ell e ih | close e ih | defn e ih => exact ih h
  | emb e rest ihe ih | own e rest ihe ih | and e rest ihe ih =>
    exact List.mem_append.2 ((Bool.or_eq_true_iff.1 h).imp ihe ih)

/-! ### one level of the checker -/

def olabels : Option Data → List Label
  | some d => d.labels
  | none => []

def olookup (l : Label) : Option Data → Option Data
  | some d => d.lookup l
  | none => none

/-- the check of `admitsN` for one label of its sweep -/
def admitsAt (n : Nat) (full : Bool) (e : Expr) (od : Option Data) (l : Label) : Bool :=
  if presentIn e (olabels od) l then
    (!l.isReg || allowedBy e l) && admitsN n (full && l.isReg) (sub l e) (olookup l od)
  else !(full && hasDecl .required e l)

section
variable {n : Nat} {full : Bool} {e e' : Expr} {od od' : Option Data} {l : Label}

theorem admitsAt_present (h : presentIn e (olabels od) l = true) :
    admitsAt n full e od l =
      ((!l.isReg || allowedBy e l) && admitsN n (full && l.isReg) (sub l e) (olookup l od)) :=
  if_pos h

theorem admitsAt_absent (h : presentIn e (olabels od) l = false) :
    admitsAt n full e od l = !(full && hasDecl .required e l) :=
  if_neg (by rw [h]; exact Bool.false_ne_true)

theorem admitsN_succ (n : Nat) (full : Bool) (e : Expr) (od : Option Data) :
    admitsN (n + 1) full e od =
      match (shape e).meet (optShape od) with
      | .bot => false
      | .top => !full
      | .sc s => s.concrete || !full
      | .st => (fieldLabels e ++ olabels od).all (admitsAt n full e od) := by
  cases od <;> simp only [admitsN, olabels] <;> cases (shape e).meet _ <;> rfl

theorem admitsAt_congr
    (hp : presentIn e' (olabels od') l = presentIn e (olabels od) l)
    (ha : allowedBy e' l = allowedBy e l) (hr : hasDecl .required e' l = hasDecl .required e l)
    (hsub : presentIn e (olabels od) l = true →
      admitsN n (full && l.isReg) (sub l e') (olookup l od') =
        admitsN n (full && l.isReg) (sub l e) (olookup l od)) :
    admitsAt n full e' od' l = admitsAt n full e od l := by
  unfold admitsAt
  rw [hp, ha, hr]
  split
  · rw [hsub ‹_›]
  · rfl

theorem admitsN_congr_all
    (hs : (shape e').meet (optShape od') = (shape e).meet (optShape od))
    (hall : (shape e).meet (optShape od) = .st →
      (fieldLabels e' ++ olabels od').all (admitsAt n full e' od') =
        (fieldLabels e ++ olabels od).all (admitsAt n full e od)) :
    admitsN (n + 1) full e' od' = admitsN (n + 1) full e od := by
  rw [admitsN_succ, admitsN_succ, hs]
  cases hm : (shape e).meet (optShape od) with
  | st => exact hall hm
  | bot | top | sc => rfl

theorem admitsN_congr
    (hs : (shape e').meet (optShape od') = (shape e).meet (optShape od))
    (hl : fieldLabels e' ++ olabels od' = fieldLabels e ++ olabels od)
    (hat : (shape e).meet (optShape od) = .st →
      ∀ l, admitsAt n full e' od' l = admitsAt n full e od l) :
    admitsN (n + 1) full e' od' = admitsN (n + 1) full e od :=
  admitsN_congr_all hs fun hm => by rw [hl, funext (hat hm)]

theorem admitsAt_imp
    (hd : ∀ k, hasDecl k e' l = hasDecl k e l) (ha : allowedBy e' l = true → allowedBy e l = true)
    (hsub : ∀ full', admitsN n full' (sub l e') (olookup l od) = true →
      admitsN n full' (sub l e) (olookup l od) = true)
    (h : admitsAt n full e' od l = true) : admitsAt n full e od l = true := by
  unfold admitsAt presentIn at h ⊢
  rw [hd, hd] at h
  split
  · rw [if_pos ‹_›, Bool.and_eq_true, Bool.or_eq_true] at h
    rw [Bool.and_eq_true, Bool.or_eq_true]
    exact ⟨h.1.imp_right ha, hsub _ h.2⟩
  · rwa [if_neg ‹_›] at h

theorem admitsN_imp
    (hs : shape e' = shape e) (hl : fieldLabels e' = fieldLabels e)
    (hat : ∀ l, admitsAt n full e' od l = true → admitsAt n full e od l = true)
    (h : admitsN (n + 1) full e' od = true) : admitsN (n + 1) full e od = true := by
  rw [admitsN_succ] at h ⊢
  rw [hs, hl] at h
  cases hm : (shape e).meet (optShape od) with
  | st =>
    rw [hm] at h
    exact List.all_eq_true.2 fun x hx => hat x (List.all_eq_true.1 h x hx)
  | bot | top | sc => rw [hm] at h; exact h

end

/-- spec (`admitsN`): in a regular context every label the schema declares `l!:` must be
present in the result — from the data or as a regular field of some conjunct -/
theorem admitsN_required_present (n : Nat) (e : Expr) (od : Option Data) (l : Label)
    (hs : (shape e).meet (optShape od) = .st)
    (h : admitsN (n + 1) true e od = true)
    (hr : hasDecl .required e l = true) : presentIn e (olabels od) l = true := by
  rw [admitsN_succ, hs] at h
  have hat := List.all_eq_true.1 h l (List.mem_append_left _ (hasDecl_mem _ _ _ hr))
  cases hp : presentIn e (olabels od) l
  · rw [admitsAt_absent hp, hr] at hat; cases hat
  · rfl

/-! ### data as a schema -/

theorem WF_cons {l : Label} {v rest : Data} (h : (Data.cons l v rest).WF = true) :
    v.WF = true ∧ rest.WF = true ∧ rest.labels.contains l = false ∧ rest.shape = .st := by
  cases rest <;> simp_all [Data.WF, Data.shape]

theorem shape_toExpr (d : Data) (h : d.WF = true) : shape d.toExpr = d.shape := by
  induction d with
  | atom | nil => rfl
  | cons l v rest _ ih =>
    have hw := WF_cons h
    show Shape.st.meet (shape rest.toExpr) = .st
    rw [ih hw.2.1, hw.2.2.2]; rfl

theorem fieldLabels_toExpr (d : Data) : fieldLabels d.toExpr = d.labels := by
  induction d with
  | atom | nil => rfl
  | cons l v rest _ ih =>
    show l :: fieldLabels rest.toExpr = l :: rest.labels
    rw [ih]

theorem hasDecl_toExpr (k : Kind) (d : Data) (l : Label) :
    hasDecl k d.toExpr l = (k == .member && d.labels.contains l) := by
  induction d with
  | atom | nil => simp [Data.toExpr, hasDecl, Data.labels]
  | cons l' v rest _ ih =>
    show ((l == l' && k == .member) || hasDecl k rest.toExpr l) = (k == .member && (l' :: rest.labels).contains l)
    rw [ih, List.contains_cons]
    cases (l == l') <;> cases (k == Kind.member) <;> simp

theorem embRec_toExpr (d : Data) : embRec d.toExpr = false := by
  induction d with
  | atom | nil => rfl
  | cons l v rest _ ih => exact ih

theorem depth_toExpr (d : Data) : depth d.toExpr = d.depth := by
  induction d with
  | atom | nil => rfl
  | cons l v rest ihv ih =>
    show max (depth v.toExpr + 1) (depth rest.toExpr) = max (v.depth + 1) rest.depth
    rw [ihv, ih]

theorem ownA_embA_toExpr (d : Data) (l : Label) :
    ownA d.toExpr l = true ∧ embA d.toExpr l = true := by
  induction d with
  | atom | nil => exact ⟨rfl, rfl⟩
  | cons l' v rest _ ih => exact ih

theorem allowedBy_toExpr (d : Data) (l : Label) : allowedBy d.toExpr l = true := by
  cases d with
  | atom | nil => rfl
  | cons l' v rest =>
    show (ownA rest.toExpr l && (embA rest.toExpr l || (l == l' || wideS rest.toExpr l))) = true
    rw [(ownA_embA_toExpr rest l).1, (ownA_embA_toExpr rest l).2]; rfl

theorem lookup_none (d : Data) (l : Label) (h : d.labels.contains l = false) : d.lookup l = none := by
  induction d with
  | atom | nil => rfl
  | cons l' v rest _ ih =>
    have h' : (l' :: rest.labels).contains l = false := h
    rw [List.contains_cons, Bool.or_eq_false_iff] at h'
    show (if l = l' then some v else rest.lookup l) = none
    have hne : ¬ l = l' := by simpa using h'.1
    rw [if_neg hne]
    exact ih h'.2

theorem lookup_WF (d : Data) (l : Label) (v : Data) (h : d.WF = true) (hl : d.lookup l = some v) :
    v.WF = true := by
  induction d with
  | atom | nil => cases hl
  | cons l' v' rest _ ih =>
    have hw := WF_cons h
    have hl' : (if l = l' then some v' else rest.lookup l) = some v := hl
    split at hl'
    · cases hl'; exact hw.1
    · exact ih hw.2.1 hl'

theorem subS_toExpr (l : Label) (d : Data) (h : d.WF = true) (hs : d.shape = .st) :
    subS l d.toExpr = match d.lookup l with
      | some v => .own v.toExpr .top
      | none => .top := by
  induction d with
  | atom s => cases hs
  | nil => rfl
  | cons l' v rest _ ih =>
    have hw := WF_cons h
    show (if l = l' then Expr.own v.toExpr (subS l rest.toExpr) else subS l rest.toExpr) =
      match (if l = l' then some v else rest.lookup l) with
      | some v => .own v.toExpr .top
      | none => .top
    have ih' := ih hw.2.1 hw.2.2.2
    by_cases hl : l = l'
    · rw [if_pos hl, if_pos hl, ih', lookup_none rest l (hl ▸ hw.2.2.1)]
    · rw [if_neg hl, if_neg hl, ih']

theorem sub_toExpr (l : Label) (d : Data) (h : d.WF = true) (hs : d.shape = .st) :
    sub l d.toExpr = match d.lookup l with
      | some v => .own v.toExpr .top
      | none => .top := by
  rw [← subS_toExpr l d h hs]
  cases d with
  | atom s => cases hs
  | nil => rfl
  | cons l' v rest =>
    show wrapDef (embRec rest.toExpr) _ = _
    rw [embRec_toExpr]; rfl

/-- schemas that stand for (projections of) data -/
inductive DataRep : Expr → Option Data → Prop
  | base (d : Data) : d.WF = true → DataRep d.toExpr (some d)
  | own {D : Expr} {od : Option Data} : DataRep D od → DataRep (.own D .top) od
  | none : DataRep .top none

/-- one level of a schema that stands for data: it has the data's shape and labels, declares them
as regular fields and closes nothing -/
theorem dr_level {D : Expr} {od : Option Data} (h : DataRep D od) :
    shape D = optShape od ∧ fieldLabels D = olabels od ∧
    (∀ k l, hasDecl k D l = (k == .member && (olabels od).contains l)) ∧
    ∀ l, allowedBy D l = true := by
  induction h with
  | base d hd =>
    exact ⟨shape_toExpr d hd, fieldLabels_toExpr d, fun k l => hasDecl_toExpr k d l,
      allowedBy_toExpr d⟩
  | @own D od _ ih =>
    obtain ⟨hs, hl, hd, ha⟩ := ih
    refine ⟨?_, ?_, fun k l => ?_, fun l => ?_⟩
    · show (shape D).meet Shape.top = _
      rw [meet_top, hs]
    · show fieldLabels D ++ [] = _
      rw [List.append_nil, hl]
    · show (hasDecl k D l || false) = _
      rw [Bool.or_false, hd]
    · show ((allowedBy D l && true) && (true || (names D l || false))) = true
      rw [ha]; rfl
  | none => exact ⟨rfl, rfl, fun _ _ => by simp [hasDecl, olabels], fun _ => rfl⟩

theorem dr_sub {D : Expr} {od : Option Data} (h : DataRep D od) (l : Label)
    (hl : (optShape od).live = true) : DataRep (sub l D) (olookup l od) := by
  induction h with
  | base d hd =>
    have hs : d.shape = .st := by
      cases d with
      | atom => cases hl
      | nil | cons => rfl
    rw [sub_toExpr l d hd hs]
    show DataRep _ (d.lookup l)
    cases hlk : d.lookup l with
    | none => exact DataRep.none
    | some w => exact DataRep.own (DataRep.base w (lookup_WF _ l w hd hlk))
  | own _ ih => exact DataRep.own (ih hl)
  | none => exact DataRep.none


/-! ### the checker with data = the checker on `schema & data` -/

theorem admitsN_and_data (n : Nat) : ∀ (full : Bool) (e D : Expr) (od : Option Data),
    DataRep D od → admitsN n full (.and e D) none = admitsN n full e od := by
  induction n with
  | zero => intros; rfl
  | succ n ih =>
    intro full e D od hD
    obtain ⟨ds, dl, dd, da⟩ := dr_level hD
    refine admitsN_congr ?_ ?_ fun hm l => ?_
    · show ((shape e).meet (shape D)).meet .top = _
      rw [meet_top, ds]
    · show fieldLabels e ++ fieldLabels D ++ [] = _
      rw [List.append_nil, dl]
    · have hlive : (optShape od).live = true := (live_meet (a := shape e) (by rw [hm]; rfl)).2
      have h1 : ∀ k, hasDecl k (.and e D) l =
          (hasDecl k e l || (k == .member && (olabels od).contains l)) := fun k => by
        show (hasDecl k e l || hasDecl k D l) = _
        rw [dd]
      refine admitsAt_congr ?_ ?_ ?_ fun _ => ih _ (sub l e) (sub l D) _ (dr_sub hD l hlive)
      · unfold presentIn; rw [h1]; simp [olabels, Bool.or_comm]
      · show (allowedBy e l && allowedBy D l) = _
        rw [da, Bool.and_true]
      · rw [h1]; exact Bool.or_false _

/-! ### closedness -/

theorem matches_nonreg (p : Pat) (l : Label) (h : l.isReg = false) : p.matches l = false := by
  unfold Pat.matches
  rw [h]; rfl

/-- spec (`admitsN`): a regular label that is present in the result — from the data or as a regular field of some
conjunct — and that some closed conjunct does not allow makes the node fail -/
theorem admitsN_not_allowed (n : Nat) (full : Bool) (e : Expr) (od : Option Data) (l : Label)
    (hs : (shape e).meet (optShape od) = .st) (hp : presentIn e (olabels od) l = true)
    (hr : l.isReg = true) (hna : allowedBy e l = false) : admitsN (n + 1) full e od = false := by
  rw [admitsN_succ, hs]
  refine List.all_eq_false.2 ⟨l, List.mem_append.2 ?_, ?_⟩
  · exact (Bool.or_eq_true_iff.1 hp).symm.imp (hasDecl_mem _ _ _) List.contains_iff_mem.1
  · rw [admitsAt_present hp, hr, hna]
    exact Bool.false_ne_true

theorem admitsN_disallowed (n : Nat) (full : Bool) (e : Expr) (d : Data) (l : Label)
    (hl : d.labels.contains l = true) (hr : l.isReg = true) (hna : allowedBy e l = false) :
    admitsN n full e (some d) = false := by
  cases n with
  | zero => rfl
  | succ n =>
    have hds : optShape (some d) = .st := by
      cases d with
      | cons _ _ _ => rfl
      | atom _ | nil => cases hl
    cases hs : shape e with
    | bot | sc => rw [admitsN_succ, hs, hds]; rfl
    | top | st =>
      exact admitsN_not_allowed n full e _ l (by rw [hs, hds]; rfl) (Bool.or_eq_true_iff.2 (.inl hl)) hr hna

/-! ### definitions and close() only restrict -/

theorem admitsN_defn_imp (n : Nat) : ∀ (full : Bool) (e : Expr) (od : Option Data),
    admitsN n full (.defn e) od = true → admitsN n full e od = true := by
  induction n with
  | zero => intro _ _ _ h; cases h
  | succ n ih =>
    intro full e od h
    exact admitsN_imp (e' := .defn e) rfl rfl (fun l => admitsAt_imp (e' := .defn e) (fun _ => rfl)
      (fun ha => (Bool.and_eq_true_iff.1 ha).1) fun full' => ih full' (sub l e) _) h

theorem admitsN_close_imp (n : Nat) (full : Bool) (e : Expr) (od : Option Data)
    (h : admitsN n full (.close e) od = true) : admitsN n full e od = true := by
  cases n with
  | zero => cases h
  | succ n =>
    exact admitsN_imp (e' := .close e) rfl rfl (fun l => admitsAt_imp (e' := .close e) (fun _ => rfl)
      (fun ha => (Bool.and_eq_true_iff.1 ha).1) fun _ hh => hh) h

/-! ### the sole embedding: a witness against `{s}` = `s` -/

private def wb : Label := ⟨.reg, [98]⟩
private def wc : Label := ⟨.reg, [99]⟩
private def wz : Label := ⟨.reg, [122, 122]⟩
private def wS : Expr :=
  .and (.defn (.field wb .optional .top .nil))
    (.field wb .optional (.field wc .optional (.sc .int) .nil) .nil)
private def wD : Data := .cons wb (.cons wz (.atom (.i 1)) .nil) .nil

theorem sole_embedding_false :
    ¬ (∀ (s : Expr) (d : Data), shape s = .st → d.WF = true →
        admits (.emb s .nil) d = admits s d) := by
  intro h
  have h1 := h wS wD (by decide) (by decide)
  have h2 : admits wS wD = true := by decide
  have h3 : admits (.emb wS .nil) wD = false := by decide
  rw [h2, h3] at h1
  cases h1


/-! ### schemas without definition references: `noDef` is kept by projection (for them `{s}` = `s`, see Closed.lean) -/

theorem noDef_flags (x : Expr) (h : noDef x = true) : recC x = false ∧ embRec x = false := by
  induction x with
  | top | bot | sc | nil => exact ⟨rfl, rfl⟩
  | field l k v rest _ ih | pat p v rest _ ih => exact ih (Bool.and_eq_true_iff.1 h).2
  | ell rest ih => exact ih h
  | emb e rest ihe ih =>
    obtain ⟨he, hr⟩ := Bool.and_eq_true_iff.1 h
    exact ⟨Bool.or_eq_false_iff.2 ⟨(ihe he).1, (ih hr).1⟩,
      Bool.or_eq_false_iff.2 ⟨(ihe he).1, (ih hr).2⟩⟩
  | own e rest ihe ih =>
    obtain ⟨he, hr⟩ := Bool.and_eq_true_iff.1 h
    exact ⟨Bool.or_eq_false_iff.2 ⟨(ihe he).1, (ih hr).1⟩, (ih hr).2⟩
  | close e ih => exact ⟨(ih h).1, (ih h).1⟩
  | defn e _ => cases h
  | and a b iha ihb =>
    obtain ⟨ha, hb⟩ := Bool.and_eq_true_iff.1 h
    have : (recC a || recC b) = false := Bool.or_eq_false_iff.2 ⟨(iha ha).1, (ihb hb).1⟩
    exact ⟨this, this⟩

theorem noDef_wrapDef {b : Bool} {x : Expr} (hb : b = false) (hx : noDef x = true) :
    noDef (wrapDef b x) = true := by
  rw [hb]; exact hx

theorem noDef_sub_of_subS (l : Label) (x : Expr) (h : noDef x = true)
    (hS : noDef (subS l x) = true) : noDef (sub l x) = true := by
  cases x with
  | top | bot | sc | nil => rfl
  | field | pat | ell | emb | own => exact noDef_wrapDef (noDef_flags _ h).2 hS
  | close | defn | and => exact (Bool.and_eq_true_iff.1 hS).1

theorem noDef_subS (l : Label) (x : Expr) (h : noDef x = true) : noDef (subS l x) = true := by
  induction x with
  | top | bot | sc | nil => rfl
  | field l' k v rest _ ih | pat p v rest _ ih =>
    have h' := Bool.and_eq_true_iff.1 h
    simp only [subS]
    split
    · exact Bool.and_eq_true_iff.2 ⟨h'.1, ih h'.2⟩
    · exact ih h'.2
  | ell rest ih => exact ih h
  | emb e rest ihe ih | own e rest ihe ih =>
    have h' := Bool.and_eq_true_iff.1 h
    exact Bool.and_eq_true_iff.2 ⟨noDef_sub_of_subS l e h'.1 (ihe h'.1), ih h'.2⟩
  | close e ih => exact Bool.and_eq_true_iff.2 ⟨noDef_sub_of_subS l e h (ih h), rfl⟩
  | defn e _ => cases h
  | and a b iha ihb =>
    have h' := Bool.and_eq_true_iff.1 h
    exact Bool.and_eq_true_iff.2 ⟨Bool.and_eq_true_iff.2
      ⟨noDef_sub_of_subS l a h'.1 (iha h'.1), noDef_sub_of_subS l b h'.2 (ihb h'.2)⟩, rfl⟩

theorem noDef_sub (l : Label) (x : Expr) (h : noDef x = true) : noDef (sub l x) = true :=
  noDef_sub_of_subS l x h (noDef_subS l x h)

theorem admitsN_emb_nil (n : Nat) (full : Bool) (s : Expr) (od : Option Data) (hs : shape s = .st) :
    admitsN (n + 1) full (.emb s .nil) od = admitsN (n + 1) full (.emb s .top) od := by
  refine admitsN_congr_all ?_ fun _ => rfl
  show ((shape s).meet .st).meet _ = ((shape s).meet .top).meet _
  rw [hs]; rfl

/-! ### an optional constraint on an absent field -/

theorem admitsN_and_top (n : Nat) : ∀ (full : Bool) (y : Expr) (od : Option Data),
    admitsN n full (.and y .top) od = admitsN n full y od := by
  induction n with
  | zero => intros; rfl
  | succ n ih =>
    intro full y od
    refine admitsN_congr (congrArg (·.meet (optShape od)) (meet_top (shape y)))
      (by show fieldLabels y ++ [] ++ _ = _; rw [List.append_nil]) fun _ l => ?_
    exact admitsAt_congr (by show (_ || (hasDecl .member y l || false)) = (_ || _); rw [Bool.or_false])
      (Bool.and_true _) (Bool.or_false _) fun _ => ih _ (sub l y) _

theorem admitsN_and_optional (n : Nat) (full : Bool) (s : Expr) (od : Option Data) (l : Label)
    (v : Expr) (hs : shape s = .st) (ha : presentIn s (olabels od) l = false) :
    admitsN (n + 1) full (.and s (.field l .optional v .nil)) od = admitsN (n + 1) full s od := by
  refine admitsN_congr_all ?_ fun _ => ?_
  · show ((shape s).meet (Shape.st.meet .st)).meet _ = _
    rw [hs]; rfl
  have hf : ∀ x, admitsAt n full (.and s (.field l .optional v .nil)) od x = admitsAt n full s od x := by
    intro x
    refine admitsAt_congr ?_ (Bool.and_true _) ?_ fun hc => ?_
    · show (_ || (hasDecl .member s x || ((x == l && false) || false))) = (_ || _)
      simp
    · show (hasDecl .required s x || ((x == l && false) || false)) = _
      simp
    · have hne : ¬ x = l := fun hxl => by rw [hxl, ha] at hc; cases hc
      have h4 : sub x (.and s (.field l .optional v .nil)) = .and (sub x s) .top := by
        show Expr.and (sub x s) (wrapDef false (if x = l then .own v .top else .top)) = _
        rw [if_neg hne]; rfl
      rw [h4, admitsN_and_top]
  -- and the extra label `l` passes as soon as the labels of `s` do
  have hgl : (fieldLabels s).all (admitsAt n full s od) = true → admitsAt n full s od l = true := by
    intro hall
    cases hr : hasDecl .required s l
    · rw [admitsAt_absent ha, hr, Bool.and_false]; rfl
    · exact List.all_eq_true.1 hall l (hasDecl_mem _ _ _ hr)
  show ((fieldLabels s ++ [l] ++ olabels od).all _) = _
  rw [funext hf, List.all_append, List.all_append, List.all_append]
  cases ha : (fieldLabels s).all (admitsAt n full s od)
  · rfl
  · simp [hgl ha]

end CueVerif.Closed
