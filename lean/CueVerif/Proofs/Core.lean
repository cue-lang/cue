/-
C01: evaluation.  `eval` yields normal forms; a declaration list evaluates by a homomorphism
from (lists, `++`) to (values, `unify`), which is commutative: hence permutations, files, field
splitting, embedding, and the general rearrangement theorem.
-/
import CueVerif.Proofs.CoreWF
import CueVerif.Spec.Core
namespace CueVerif.Core

/-! ### one-arc structs -/

theorem wf_single (l : Nat) (s : Slot) : (single l s).wf = s.wf := by
  induction l with
  | zero => simp [single, Slots.wf]
  | succ l ih => simp [single, Slots.wf, Slot.wf, ih]

theorem noTrail_single (l : Nat) (s : Slot) (h : s.isSome = true) : (single l s).noTrail = true := by
  induction l with
  | zero => simp [single, Slots.noTrail, h]
  | succ l ih => cases l <;> simp_all [single, Slots.noTrail, Slots.isNil]

theorem hasRegBot_single (l : Nat) (s : Slot) : (single l s).hasRegBot = s.isRegBot := by
  induction l with
  | zero => simp [single, Slots.hasRegBot]
  | succ l ih => simp [single, Slots.hasRegBot, Slot.isRegBot, ih]

theorem mergeSlots_single (l : Nat) (s s' : Slot) (c d : Bool) :
    mergeSlots (single l s) c (single l s') d = single l (mergeSlot s c s' d) := by
  induction l with
  | zero => simp [single, mergeSlots, closeBy]
  | succ l ih => simp [single, mergeSlots, mergeSlot, ih]

theorem wf_fieldV (l : Nat) (t : ArcTy) (v : Val) (h : v.wf = true) : (fieldV l t v).wf = true := by
  unfold fieldV
  exact wf_normS _ _ (by simpa [wf_single, Slot.wf] using h) (noTrail_single l _ rfl)

theorem fieldV_unify (l : Nat) (t : ArcTy) (v w : Val) :
    unify (fieldV l t v) (fieldV l t w) = fieldV l t (unify v w) := by
  simp [fieldV, unify_normS_normS, mergeSlots_single, mergeSlot, ArcTy.min_idem]

/-! ### evaluation yields normal forms -/

theorem litV_eq (s : Sc) : litV s = s.norm.elim .bot .sc := by
  unfold litV; cases s.norm <;> rfl

theorem wf_litV (s : Sc) : (litV s).wf = true :=
  litV_eq s ▸ wf_elim_bot _ _ (Sc.norm_wf s)

theorem wf_closeV (v : Val) (h : v.wf = true) : (closeV v).wf = true := by
  cases v <;> simp_all [closeV, Val.wf]

mutual
theorem eval_wf : ∀ e : Expr, (eval e).wf = true
  | .bot => by simp [eval, Val.wf]
  | .top => by simp [eval, Val.wf]
  | .lit s => by simpa [eval] using wf_litV s
  | .and a b => by simpa [eval] using unify_wf _ _ (eval_wf a) (eval_wf b)
  | .struct .nil => by simp [eval, Val.wf, Slots.wf, Slots.noTrail, Slots.hasRegBot]
  | .struct (.cons d ds) => by simpa [eval] using evalDecls_wf (.cons d ds)
  | .close e => by simpa [eval] using wf_closeV _ (eval_wf e)
  | .list es => by simpa [eval] using wf_normL _ (evalList_wf es)
termination_by structural e => e
theorem evalDecls_wf : ∀ ds : Decls, (evalDecls ds).wf = true
  | .nil => by simp [evalDecls, Val.wf]
  | .cons d ds => by simpa [evalDecls] using unify_wf _ _ (evalDecl_wf d) (evalDecls_wf ds)
termination_by structural ds => ds
theorem evalDecl_wf : ∀ d : Decl, (evalDecl d).wf = true
  | .field l t e => by simpa [evalDecl] using wf_fieldV l t _ (eval_wf e)
  | .embed e => by simpa [evalDecl] using eval_wf e
termination_by structural d => d
theorem evalList_wf : ∀ es : Exprs, (evalList es).wf = true
  | .nil => rfl
  | .cons e es => by
    simp only [evalList, Vals.wf, Bool.and_eq_true]
    exact ⟨eval_wf e, evalList_wf es⟩
termination_by structural es => es
end

/-! ### declaration lists -/

@[simp] theorem evalDeclsL_nil : evalDeclsL [] = .top := rfl

@[simp] theorem evalDeclsL_cons (d : Decl) (ds : List Decl) :
    evalDeclsL (d :: ds) = unify (evalDecl d) (evalDeclsL ds) := by
  simp [evalDeclsL, Decls.ofList, evalDecls]

theorem evalDeclsL_append (ds ds' : List Decl) :
    evalDeclsL (ds ++ ds') = unify (evalDeclsL ds) (evalDeclsL ds') := by
  induction ds with
  | nil => simp
  | cons d ds ih => simp [ih, unify_assoc]

theorem evalDeclsL_perm {ds ds' : List Decl} (h : ds.Perm ds') : evalDeclsL ds = evalDeclsL ds' := by
  induction h with
  | nil => rfl
  | cons d _ ih => simp [ih]
  | swap d d' ds => simp [unify_left_comm]
  | trans _ _ ih1 ih2 => exact ih1.trans ih2

theorem eval_structL_nil : eval (.structL []) = .struct .nil false := by
  simp [Expr.structL, Decls.ofList, eval]

theorem eval_structL_cons (d : Decl) (ds : List Decl) :
    eval (.structL (d :: ds)) = evalDeclsL (d :: ds) := by
  simp [Expr.structL, Decls.ofList, eval, evalDeclsL]

theorem eval_structL_ne (ds : List Decl) (h : ds ≠ []) : eval (.structL ds) = evalDeclsL ds := by
  cases ds with
  | nil => exact absurd rfl h
  | cons d ds => exact eval_structL_cons d ds

theorem eval_structL_mid (pre post : List Decl) (d : Decl) :
    eval (.structL (pre ++ d :: post)) = evalDeclsL (pre ++ d :: post) :=
  eval_structL_ne _ (by simp)

theorem eval_structL_perm {ds ds' : List Decl} (h : ds.Perm ds') :
    eval (.structL ds) = eval (.structL ds') := by
  cases ds with
  | nil => rw [List.Perm.nil_eq h]
  | cons d ds =>
    cases ds' with
    | nil => exact absurd h.symm.nil_eq (by simp)
    | cons d' ds' => rw [eval_structL_cons, eval_structL_cons, evalDeclsL_perm h]

/-! ### files -/

theorem evalFiles_flatten (fs : List (List Decl)) : evalFiles fs = evalDeclsL fs.flatten := by
  induction fs with
  | nil => rfl
  | cons f fs ih =>
    have : evalFiles (f :: fs) = unify (evalDeclsL f) (evalFiles fs) := rfl
    rw [this, ih, List.flatten_cons, evalDeclsL_append]

theorem evalFiles_perm (fs fs' : List (List Decl)) (h : fs.flatten.Perm fs'.flatten) :
    evalFiles fs = evalFiles fs' := by
  rw [evalFiles_flatten, evalFiles_flatten, evalDeclsL_perm h]

/-! ### splitting a field -/

theorem evalDecl_split (l : Nat) (t : ArcTy) (a b : Expr) :
    evalDecl (.field l t (.and a b)) = unify (evalDecl (.field l t a)) (evalDecl (.field l t b)) := by
  simp [evalDecl, eval, fieldV_unify]

theorem evalDeclsL_split (pre post : List Decl) (l : Nat) (t : ArcTy) (a b : Expr) :
    evalDeclsL (pre ++ .field l t (.and a b) :: post) =
      evalDeclsL (pre ++ .field l t a :: .field l t b :: post) := by
  simp [evalDeclsL_append, evalDecl_split, unify_assoc]

theorem eval_split (pre post : List Decl) (l : Nat) (t : ArcTy) (a b : Expr) :
    eval (.structL (pre ++ .field l t (.and a b) :: post)) =
      eval (.structL (pre ++ .field l t a :: .field l t b :: post)) := by
  rw [eval_structL_mid, eval_structL_mid, evalDeclsL_split]

theorem eval_embed (e : Expr) : eval (.structL [.embed e]) = eval e := by
  simp [eval_structL_cons, evalDecl]

/-! ### list literals -/

theorem evalList_congr (pre post : List Expr) (a a' : Expr) (h : eval a = eval a') :
    evalList (Exprs.ofList (pre ++ a :: post)) = evalList (Exprs.ofList (pre ++ a' :: post)) := by
  induction pre with
  | nil => simp [Exprs.ofList, evalList, h]
  | cons p pre ih => simp [Exprs.ofList, evalList, ih]

theorem eval_listL_congr (pre post : List Expr) (a a' : Expr) (h : eval a = eval a') :
    eval (.listL (pre ++ a :: post)) = eval (.listL (pre ++ a' :: post)) := by
  simp [Expr.listL, eval, evalList_congr pre post a a' h]

/-! ### the general statement -/

theorem eval_rearr {e e' : Expr} (h : Rearr e e') : eval e = eval e' := by
  induction h with
  | refl e => rfl
  | symm _ ih => exact ih.symm
  | trans _ _ ih1 ih2 => exact ih1.trans ih2
  | and_congr _ _ ih1 ih2 => simp [eval, ih1, ih2]
  | close_congr _ ih => simp [eval, ih]
  | field_congr pre post l t _ ih =>
    rw [eval_structL_mid, eval_structL_mid]
    simp [evalDeclsL_append, evalDecl, ih]
  | embed_congr pre post _ ih =>
    rw [eval_structL_mid, eval_structL_mid]
    simp [evalDeclsL_append, evalDecl, ih]
  | list_congr pre post _ ih => exact eval_listL_congr pre post _ _ ih
  | perm h => exact eval_structL_perm h
  | and_comm a b => simp [eval, unify_comm (eval a)]
  | and_assoc a b c => simp [eval, unify_assoc]
  | and_dup a => simp [eval, unify_idem _ (eval_wf a)]
  | and_top a => simp [eval]
  | split pre post l t a b => exact eval_split pre post l t a b
  | embed e => exact (eval_embed e).symm

end CueVerif.Core
