/-
C01: top-level disjunctions with default marks.

A `DVal` is read through two flagged lists: `eff` (what `&` sees: without marks every disjunct
is a default) and `expl` (what `|` sees: without marks no disjunct is).  In its view each
operation is a list operation: `unifyD` is `prodU` on `eff` (`eff_unifyD`), `orD` is `++` on `expl`
(`expl_orD`), `markD` keeps `eff`.  `has d l` is the set of non-bottom values of a flagged list
(all of them, or with `d` the defaults only), and `DEquiv` is agreement of `has` in either view
(`DEquiv_iff_eff`, `DEquiv_iff_expl`), so a law is proved for members and defaults at a time.
-/
import CueVerif.Proofs.Core
import CueVerif.Spec.CoreDisj
namespace CueVerif.Core

/-! ### flagged lists -/

/-- the non-bottom values of a flagged list; with `d`, only those flagged as defaults -/
def has (d : Bool) (l : List (Val × Bool)) (v : Val) : Prop :=
  v ≠ .bot ∧ ∃ b, (d = true → b = true) ∧ (v, b) ∈ l

theorem has.any {d : Bool} {l : List (Val × Bool)} {v : Val} (h : has d l v) : has false l v :=
  ⟨h.1, h.2.imp fun _ h => ⟨nofun, h.2⟩⟩

theorem has_append (d : Bool) (l l' : List (Val × Bool)) :
    has d (l ++ l') = fun v => has d l v ∨ has d l' v := by
  funext v; simp only [has, List.mem_append, and_or_left, exists_or]

theorem has_single (d : Bool) (a : Val) : has d [(a, true)] = fun v => v ≠ .bot ∧ v = a := by
  funext v; simp [has]

theorem mem_prodU (xs ys : List (Val × Bool)) (w : Val) (c : Bool) :
    (w, c) ∈ prodU xs ys ↔
      ∃ a ba b bb, (a, ba) ∈ xs ∧ (b, bb) ∈ ys ∧ unify a b = w ∧ (ba && bb) = c := by
  simp only [prodU, List.mem_flatMap, List.mem_map, Prod.mk.injEq, Prod.exists]
  constructor
  · rintro ⟨a, ba, h1, b, bb, h2, h3, h4⟩; exact ⟨a, ba, b, bb, h1, h2, h3, h4⟩
  · rintro ⟨a, ba, b, bb, h1, h2, h3, h4⟩; exact ⟨a, ba, h1, b, bb, h2, h3, h4⟩

theorem unify_ne_bot_left {a b : Val} (h : unify a b ≠ .bot) : a ≠ .bot := by
  rintro rfl; simp at h

theorem unify_ne_bot_right {a b : Val} (h : unify a b ≠ .bot) : b ≠ .bot := by
  rintro rfl; simp at h

/-- the non-bottom unifications of a `p` with a `q` -/
def unifyP (p q : Val → Prop) (v : Val) : Prop := v ≠ .bot ∧ ∃ a b, p a ∧ q b ∧ v = unify a b

/-- a product is a default iff both factors are -/
theorem has_prodU (d : Bool) (xs ys : List (Val × Bool)) :
    has d (prodU xs ys) = unifyP (has d xs) (has d ys) := by
  funext v
  simp only [has, unifyP, mem_prodU, eq_iff_iff]
  constructor
  · rintro ⟨hv, _, hc, a, ba, b, bb, h1, h2, rfl, rfl⟩
    exact ⟨hv, a, b, ⟨unify_ne_bot_left hv, ba, fun h => (Bool.and_eq_true_iff.1 (hc h)).1, h1⟩,
      ⟨unify_ne_bot_right hv, bb, fun h => (Bool.and_eq_true_iff.1 (hc h)).2, h2⟩, rfl⟩
  · rintro ⟨hv, a, b, ⟨_, ba, ha, h1⟩, ⟨_, bb, hb, h2⟩, rfl⟩
    exact ⟨hv, _, fun h => Bool.and_eq_true_iff.2 ⟨ha h, hb h⟩, a, ba, b, bb, h1, h2, rfl, rfl⟩

theorem unifyP_comm (p q : Val → Prop) : unifyP p q = unifyP q p := by
  funext v; apply propext
  constructor <;> rintro ⟨hv, a, b, h1, h2, rfl⟩ <;> exact ⟨hv, b, a, h2, h1, unify_comm _ _⟩

theorem unifyP_assoc (p q r : Val → Prop) : unifyP (unifyP p q) r = unifyP p (unifyP q r) := by
  funext v; apply propext
  constructor
  · rintro ⟨hv, w, c, ⟨_, a, b, h1, h2, rfl⟩, h3, rfl⟩
    rw [unify_assoc] at hv ⊢
    exact ⟨hv, a, _, h1, ⟨unify_ne_bot_right hv, b, c, h2, h3, rfl⟩, rfl⟩
  · rintro ⟨hv, a, w, h1, ⟨_, b, c, h2, h3, rfl⟩, rfl⟩
    rw [← unify_assoc] at hv ⊢
    exact ⟨hv, _, c, ⟨unify_ne_bot_left hv, a, b, h1, h2, rfl⟩, h3, rfl⟩

theorem unifyP_top (p : Val → Prop) (hp : ∀ a, p a → a ≠ .bot) :
    unifyP p (fun w => w ≠ .bot ∧ w = .top) = p := by
  funext v; apply propext
  constructor
  · rintro ⟨_, a, b, h1, ⟨_, rfl⟩, rfl⟩; simpa using h1
  · intro h; exact ⟨hp v h, v, .top, h, ⟨by simp, rfl⟩, by simp⟩

theorem unifyP_single (a b : Val) :
    unifyP (fun w => w ≠ .bot ∧ w = a) (fun w => w ≠ .bot ∧ w = b) =
      fun v => v ≠ .bot ∧ v = unify a b := by
  funext v; apply propext
  constructor
  · rintro ⟨hv, a', b', ⟨_, rfl⟩, ⟨_, rfl⟩, rfl⟩; exact ⟨hv, rfl⟩
  · rintro ⟨hv, rfl⟩
    exact ⟨hv, a, b, ⟨unify_ne_bot_left hv, rfl⟩, ⟨unify_ne_bot_right hv, rfl⟩, rfl⟩

theorem unifyP_idem (p : Val → Prop) (hp : ∀ a, p a → a ≠ .bot) (hwf : ∀ a, p a → a.WF)
    (hex : ∀ a b, p a → p b → a ≠ b → unify a b = .bot) : unifyP p p = p := by
  funext v; apply propext
  constructor
  · rintro ⟨hv, a, b, h1, h2, rfl⟩
    by_cases hab : a = b
    · subst hab; rwa [unify_idem a (hwf a h1)]
    · exact absurd (hex a b h1 h2 hab) hv
  · intro h
    exact ⟨hp v h, v, v, h, h, (unify_idem v (hwf v h)).symm⟩

/-! ### the two views of a `DVal` -/

/-- overwriting every flag by `c` keeps the values; they are defaults iff `c` -/
theorem has_map (d c : Bool) (l : List (Val × Bool)) :
    has d (l.map fun p => (p.1, c)) = fun v => (d = true → c = true) ∧ has false l v := by
  funext v
  simp only [has, List.mem_map, Prod.mk.injEq, Prod.exists, eq_iff_iff]
  constructor
  · rintro ⟨hv, _, hd, w, b, h, rfl, rfl⟩; exact ⟨hd, hv, b, nofun, h⟩
  · rintro ⟨hd, hv, b, _, h⟩; exact ⟨hv, c, hd, v, b, h, rfl, rfl⟩

theorem mem_iff_items (x : DVal) (v : Val) : x.mem v ↔ has false x.items v :=
  ⟨fun ⟨hv, b, h⟩ => ⟨hv, b, nofun, h⟩, fun ⟨hv, b, _, h⟩ => ⟨hv, b, h⟩⟩

theorem mem_iff_eff (x : DVal) (v : Val) : x.mem v ↔ has false x.eff v := by
  rw [mem_iff_items]; unfold DVal.eff; split
  · rfl
  · rw [has_map]; exact (and_iff_right nofun).symm

theorem mem_iff_expl (x : DVal) (v : Val) : x.mem v ↔ has false x.expl v := by
  rw [mem_iff_items]; unfold DVal.expl; split
  · rfl
  · rw [has_map]; exact (and_iff_right nofun).symm

theorem dflt_iff_eff (x : DVal) (v : Val) : x.dflt v ↔ has true x.eff v :=
  and_congr_right fun _ => ⟨fun h => ⟨true, fun _ => rfl, h⟩, fun ⟨_, hb, h⟩ => hb rfl ▸ h⟩

theorem mem_of_eff {x : DVal} {a : Val} {b : Bool} (h : (a, b) ∈ x.eff) (hne : a ≠ .bot) :
    x.mem a := (mem_iff_eff x a).2 ⟨hne, b, nofun, h⟩

/-- with marks the two views are the same list; without, `eff` flags all and `expl` none -/
theorem has_eff (x : DVal) (d : Bool) : has d x.eff = has (d && x.hm) x.expl := by
  unfold DVal.eff DVal.expl
  cases x.hm
  · simp only [Bool.false_eq_true, ↓reduceIte, has_map, Bool.and_false, implies_true, imp_self, true_and]
  · simp only [↓reduceIte, Bool.and_true]

theorem has_expl (x : DVal) (d : Bool) :
    has d x.expl = fun v => (d = true → x.hm = true) ∧ has d x.eff v := by
  unfold DVal.eff DVal.expl
  cases x.hm
  · simp only [Bool.false_eq_true, ↓reduceIte, has_map, implies_true, true_and]
  · simp only [↓reduceIte, implies_true, true_and]

theorem DEquiv_iff_eff {x y : DVal} :
    DEquiv x y ↔ x.hm = y.hm ∧ ∀ d, has d x.eff = has d y.eff := by
  constructor
  · rintro ⟨h1, h2, h3⟩
    exact ⟨h3, fun d => funext fun v => by
      cases d <;> simp only [← mem_iff_eff, ← dflt_iff_eff, h1, h2]⟩
  · rintro ⟨h3, h⟩
    exact ⟨fun v => by simp only [mem_iff_eff, h], fun v => by simp only [dflt_iff_eff, h], h3⟩

theorem DEquiv_iff_expl {x y : DVal} :
    DEquiv x y ↔ x.hm = y.hm ∧ ∀ d, has d x.expl = has d y.expl := by
  rw [DEquiv_iff_eff]
  exact and_congr_right fun h3 =>
    ⟨fun h d => by simp only [has_expl, h3, h], fun h d => by simp only [has_eff, h3, h]⟩

/-! ### DEquiv is an equivalence -/

theorem DEquiv.refl (x : DVal) : DEquiv x x := ⟨fun _ => Iff.rfl, fun _ => Iff.rfl, rfl⟩
theorem DEquiv.symm {x y : DVal} (h : DEquiv x y) : DEquiv y x :=
  ⟨fun v => (h.mem v).symm, fun v => (h.dflt v).symm, h.hm.symm⟩
theorem DEquiv.trans {x y z : DVal} (h1 : DEquiv x y) (h2 : DEquiv y z) : DEquiv x z :=
  ⟨fun v => (h1.mem v).trans (h2.mem v), fun v => (h1.dflt v).trans (h2.dflt v), h1.hm.trans h2.hm⟩

/-! ### `unifyD` is `prodU` on `eff` -/

theorem eff_unifyD (x y : DVal) : (unifyD x y).eff = prodU x.eff y.eff := by
  cases hx : x.hm <;> cases hy : y.hm <;>
    simp [DVal.eff, unifyD, hx, hy, prodU, List.map_flatMap, List.flatMap_map, Function.comp_def]

@[simp] theorem hm_unifyD (x y : DVal) : (unifyD x y).hm = (x.hm || y.hm) := rfl

theorem has_unifyD (d : Bool) (x y : DVal) :
    has d (unifyD x y).eff = unifyP (has d x.eff) (has d y.eff) := by
  rw [eff_unifyD, has_prodU]

theorem eff_single (a : Val) : (DVal.single a).eff = [(a, true)] := rfl

theorem mem_unifyD (x y : DVal) (v : Val) :
    (unifyD x y).mem v ↔ v ≠ .bot ∧ ∃ a b, x.mem a ∧ y.mem b ∧ v = unify a b := by
  simp only [mem_iff_eff, has_unifyD]; rfl

theorem dflt_unifyD (x y : DVal) (v : Val) :
    (unifyD x y).dflt v ↔ v ≠ .bot ∧ ∃ a b, x.dflt a ∧ y.dflt b ∧ v = unify a b := by
  simp only [dflt_iff_eff, has_unifyD]; rfl

theorem unifyD_congr {x x' y y' : DVal} (hx : DEquiv x x') (hy : DEquiv y y') :
    DEquiv (unifyD x y) (unifyD x' y') := by
  rw [DEquiv_iff_eff] at hx hy ⊢
  exact ⟨by simp [hx.1, hy.1], fun d => by rw [has_unifyD, has_unifyD, hx.2, hy.2]⟩

theorem unifyD_comm (x y : DVal) : DEquiv (unifyD x y) (unifyD y x) :=
  DEquiv_iff_eff.2 ⟨Bool.or_comm .., fun d => by rw [has_unifyD, has_unifyD, unifyP_comm]⟩

theorem unifyD_assoc (x y z : DVal) : DEquiv (unifyD (unifyD x y) z) (unifyD x (unifyD y z)) :=
  DEquiv_iff_eff.2 ⟨Bool.or_assoc .., fun d => by simp only [has_unifyD, unifyP_assoc]⟩

theorem unifyD_top (x : DVal) : DEquiv (unifyD x (.single .top)) x :=
  DEquiv_iff_eff.2 ⟨by simp [DVal.single], fun d => by
    rw [has_unifyD, eff_single, has_single, unifyP_top _ fun _ h => h.1]⟩

theorem unifyD_single (a b : Val) :
    DEquiv (unifyD (.single a) (.single b)) (.single (unify a b)) :=
  DEquiv_iff_eff.2 ⟨rfl, fun d => by simp only [has_unifyD, eff_single, has_single, unifyP_single]⟩

theorem unifyD_idem_of_exclusive (x : DVal)
    (hwf : ∀ a, x.mem a → a.WF)
    (hex : ∀ a b, x.mem a → x.mem b → a ≠ b → unify a b = .bot) :
    DEquiv (unifyD x x) x := by
  have hm {d a} (h : has d x.eff a) : x.mem a := (mem_iff_eff x a).2 h.any
  exact DEquiv_iff_eff.2 ⟨by simp, fun d => by
    rw [has_unifyD, unifyP_idem _ (fun _ h => h.1) (fun a h => hwf a (hm h))
      fun a b ha hb => hex a b (hm ha) (hm hb)]⟩

/-! ### `orD` is `++` on `expl`, `markD` keeps `eff` -/

theorem expl_orD (x y : DVal) : (orD x y).expl = x.expl ++ y.expl := by
  cases hx : x.hm <;> cases hy : y.hm <;> simp [DVal.expl, orD, hx, hy]

@[simp] theorem hm_orD (x y : DVal) : (orD x y).hm = (x.hm || y.hm) := by
  unfold orD; split <;> simp_all

theorem has_orD (d : Bool) (x y : DVal) :
    has d (orD x y).expl = fun v => has d x.expl v ∨ has d y.expl v := by
  rw [expl_orD, has_append]

theorem mem_orD (x y : DVal) (v : Val) : (orD x y).mem v ↔ x.mem v ∨ y.mem v := by
  simp only [mem_iff_expl, has_orD]

theorem orD_congr {x x' y y' : DVal} (hx : DEquiv x x') (hy : DEquiv y y') :
    DEquiv (orD x y) (orD x' y') := by
  rw [DEquiv_iff_expl] at hx hy ⊢
  exact ⟨by simp [hx.1, hy.1], fun d => by simp only [has_orD, hx.2, hy.2]⟩

theorem orD_comm (x y : DVal) : DEquiv (orD x y) (orD y x) :=
  DEquiv_iff_expl.2 ⟨by simp [Bool.or_comm], fun d => by simp only [has_orD, Or.comm]⟩

theorem orD_assoc (x y z : DVal) : DEquiv (orD (orD x y) z) (orD x (orD y z)) :=
  DEquiv_iff_expl.2 ⟨by simp [Bool.or_assoc], fun d => by simp only [has_orD, or_assoc]⟩

theorem markD_congr {x x' : DVal} (hx : DEquiv x x') : DEquiv (markD x) (markD x') := by
  rw [DEquiv_iff_eff] at hx ⊢
  exact ⟨rfl, hx.2⟩

/-! ### the general statement -/

theorem evalD_rearr {e e' : DExpr} (h : DRearr e e') : DEquiv (evalD e) (evalD e') := by
  induction h with
  | refl e => exact DEquiv.refl _
  | symm _ ih => exact ih.symm
  | trans _ _ ih1 ih2 => exact ih1.trans ih2
  | and_congr _ _ ih1 ih2 => exact unifyD_congr ih1 ih2
  | or_congr _ _ ih1 ih2 => exact orD_congr ih1 ih2
  | mark_congr _ ih => exact markD_congr ih
  | leaf_congr h => simp only [evalD, eval_rearr h]; exact DEquiv.refl _
  | leaf_and a b => simp only [evalD, eval]; exact (unifyD_single _ _).symm
  | and_comm a b => exact unifyD_comm _ _
  | and_assoc a b c => exact unifyD_assoc _ _ _
  | and_top a => simp only [evalD, eval]; exact (unifyD_top _).symm
  | or_comm a b => exact orD_comm _ _
  | or_assoc a b c => exact orD_assoc _ _ _

end CueVerif.Core
