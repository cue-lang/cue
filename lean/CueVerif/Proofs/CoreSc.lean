/-
C01: the scalar meet-semilattice `Sc`.
-/
import CueVerif.Model.Core
namespace CueVerif.Core

/-! ### intervals -/

/-- the interval ends are core's `Option.merge` of `max` and `min`, whose laws are instances there -/
theorem omax_eq (a b : Option Int) : omax a b = Option.merge max a b := by
  cases a <;> cases b <;> rfl

theorem omin_eq (a b : Option Int) : omin a b = Option.merge min a b := by
  cases a <;> cases b <;> rfl

theorem omax_comm (a b : Option Int) : omax a b = omax b a := by
  simp only [omax_eq]; exact Std.Commutative.comm a b

theorem omin_comm (a b : Option Int) : omin a b = omin b a := by
  simp only [omin_eq]; exact Std.Commutative.comm a b

theorem omax_assoc (a b c : Option Int) : omax (omax a b) c = omax a (omax b c) := by
  simp only [omax_eq]; exact Std.Associative.assoc a b c

theorem omin_assoc (a b c : Option Int) : omin (omin a b) c = omin a (omin b c) := by
  simp only [omin_eq]; exact Std.Associative.assoc a b c

theorem omax_idem (a : Option Int) : omax a a = a := by
  rw [omax_eq]; exact Std.IdempotentOp.idempotent a

theorem omin_idem (a : Option Int) : omin a a = a := by
  rw [omin_eq]; exact Std.IdempotentOp.idempotent a

/-- the interval `[lo, hi]` is empty -/
def ivEmpty : Option Int → Option Int → Prop
  | some a, some b => b < a
  | _, _ => False

theorem mkRng_none (lo hi : Option Int) : mkRng lo hi = none ↔ ivEmpty lo hi := by
  cases lo <;> cases hi <;> simp only [mkRng, ivEmpty] <;> (try simp)
  rename_i a b
  split
  · simp; omega
  · split <;> simp <;> omega

/-- `mkRng` inverts `Sc.iv` on the normalised scalars -/
theorem mkRng_some_iff (lo hi : Option Int) (r : Sc) :
    mkRng lo hi = some r ↔ r.iv = some (lo, hi) ∧ r.wf = true := by
  constructor
  · intro h
    cases lo <;> cases hi <;> simp only [mkRng] at h
    · cases h; exact ⟨rfl, rfl⟩
    · cases h; exact ⟨rfl, rfl⟩
    · cases h; exact ⟨rfl, rfl⟩
    · split at h
      · cases h; subst_vars; exact ⟨rfl, rfl⟩
      · split at h
        · cases h; exact ⟨rfl, decide_eq_true ‹_›⟩
        · cases h
  · rintro ⟨hi', hw⟩
    cases r <;> cases hi'
    · simp [mkRng]
    · rfl
    · cases lo <;> cases hi <;> first | rfl | cases hw | skip
      have := of_decide_eq_true hw
      rw [mkRng, if_neg (by omega), if_pos this]

theorem mkRng_iv (lo hi : Option Int) (r : Sc) (h : mkRng lo hi = some r) :
    r.iv = some (lo, hi) := ((mkRng_some_iff lo hi r).1 h).1

theorem mkRng_wf (lo hi : Option Int) (r : Sc) (h : mkRng lo hi = some r) : r.wf = true :=
  ((mkRng_some_iff lo hi r).1 h).2

theorem ivEmpty_mono_left (l1 h1 l2 h2 : Option Int) (h : ivEmpty l1 h1) :
    ivEmpty (omax l1 l2) (omin h1 h2) := by
  cases l1 <;> cases h1 <;> cases l2 <;> cases h2 <;> simp [ivEmpty, omax, omin] at * <;>
    (repeat' split) <;> omega

/-! ### the non-integer part -/

theorem meetN_iv (a b r : Sc) (h : meetN a b = some r) : r.iv = none := by
  cases a <;> cases b <;> simp only [meetN] at h <;> (try split at h) <;> cases h <;> rfl

theorem meetN_iv_left (a b r : Sc) (h : meetN a b = some r) : a.iv = none := by
  cases a <;> cases b <;> simp [meetN] at h <;> rfl

theorem meetN_comm (a b : Sc) : meetN a b = meetN b a := by
  cases a <;> cases b <;> simp [meetN] <;> (split <;> simp_all) <;> simp_all [eq_comm]

/-- case split over two non-integer scalars, for goals about `meetN` -/
local macro "meetN_assoc_tac" b:ident c:ident hb:ident hc:ident : tactic =>
  `(tactic| (cases $b:ident <;> simp [Sc.iv] at $hb:ident <;> simp [meetN] <;>
      cases $c:ident <;> simp [Sc.iv] at $hc:ident <;> simp <;> (repeat' split) <;> simp_all))

/-! The non-integer scalars are three flat orders side by side: the atoms `str n` below `tStr`,
`bool x` below `tBool`, and `null` alone.  `Sc.ty` is the top of the order a scalar lies in. -/

def Sc.ty : Sc → Sc
  | .str _ => .tStr
  | .bool _ => .tBool
  | a => a

theorem meetN_ty (a b r : Sc) (h : meetN a b = some r) : a.ty = b.ty := by
  cases a <;> cases b <;> first | rfl | cases h

theorem meetN_top (a x : Sc) (hx : x.iv = none) :
    meetN a x.ty = if a.ty = x.ty then some a else none := by
  cases x <;> first | (cases a <;> rfl) | cases hx

theorem meetN_atom (a b : Sc) (ht : b.ty ≠ b) :
    meetN a b = if a = b ∨ a = b.ty then some b else none := by
  cases b <;> first | exact absurd rfl ht | skip
  all_goals cases a <;> first | rfl | skip
  all_goals
    simp only [meetN, Sc.ty, reduceCtorEq, or_false, Sc.str.injEq, Sc.bool.injEq]
    split
    · subst_vars; rfl
    · rfl

/-- by the middle operand: a top drops out, an atom is the result, if both neighbours agree -/
theorem meetN_assoc (a b c : Sc) (hb : b.iv = none) :
    (meetN a b).bind (fun r => meetN r c) = (meetN b c).bind (fun r => meetN a r) := by
  by_cases ht : b.ty = b
  · rw [meetN_comm b c, ← ht, meetN_top a b hb, meetN_top c b hb]
    by_cases h1 : a.ty = b.ty <;> by_cases h2 : c.ty = b.ty <;>
      simp only [h1, h2, if_true, if_false, Option.bind_some, Option.bind_none]
    · cases h : meetN a c with
      | none => rfl
      | some r => exact absurd ((meetN_ty a c r h).symm.trans h1) h2
    · cases h : meetN a c with
      | none => rfl
      | some r => exact absurd ((meetN_ty a c r h).trans h2) h1
  · rw [meetN_comm b c, meetN_atom a b ht, meetN_atom c b ht]
    by_cases h1 : a = b ∨ a = b.ty <;> by_cases h2 : c = b ∨ c = b.ty <;>
      simp only [h1, h2, if_true, if_false, Option.bind_some, Option.bind_none]
    · rw [meetN_comm b c, meetN_atom c b ht, meetN_atom a b ht, if_pos h1, if_pos h2]
    · rw [meetN_comm b c, meetN_atom c b ht, if_neg h2]
    · rw [meetN_atom a b ht, if_neg h1]

theorem meetN_idem (a : Sc) (h : a.iv = none) : meetN a a = some a := by
  cases a <;> simp [meetN, Sc.iv] at *

/-! ### normalised scalars -/

theorem wf_of_iv_none (a : Sc) (h : a.iv = none) : a.wf = true := by
  cases a <;> first | rfl | cases h

theorem Sc.norm_wf (a r : Sc) (h : a.norm = some r) : r.wf = true := by
  unfold Sc.norm at h
  cases hia : a.iv
  · simp [hia] at h; subst h; exact wf_of_iv_none a hia
  · simp [hia] at h; exact mkRng_wf _ _ _ h

theorem Sc.norm_of_wf (a : Sc) (h : a.wf = true) : a.norm = some a := by
  unfold Sc.norm
  cases hi : a.iv with
  | none => rfl
  | some i => exact (mkRng_some_iff i.1 i.2 a).2 ⟨hi, h⟩

/-! ### the laws of `Sc.meet` -/

theorem Sc.meet_comm (a b : Sc) : Sc.meet a b = Sc.meet b a := by
  unfold Sc.meet
  cases ha : a.iv <;> cases hb : b.iv <;> simp
  · exact meetN_comm a b
  · rw [omax_comm, omin_comm]

theorem Sc.meet_int (a b : Sc) (i j : Option Int × Option Int) (ha : a.iv = some i)
    (hb : b.iv = some j) : Sc.meet a b = mkRng (omax i.1 j.1) (omin i.2 j.2) := by
  simp [Sc.meet, ha, hb]

theorem Sc.meet_nonint (a b : Sc) (ha : a.iv = none) (hb : b.iv = none) :
    Sc.meet a b = meetN a b := by
  simp only [Sc.meet, ha, hb]

theorem Sc.meet_wf (a b r : Sc) (h : Sc.meet a b = some r) : r.wf = true := by
  unfold Sc.meet at h
  cases hia : a.iv <;> cases hib : b.iv <;> simp [hia, hib] at h
  · exact wf_of_iv_none r (meetN_iv a b r h)
  · exact mkRng_wf _ _ _ h

/-- `mkRng` passes through `Sc.meet`: an empty interval stays empty when cut further -/
theorem mkRng_bind_meet (l h : Option Int) (c : Sc) (k : Option Int × Option Int)
    (hc : c.iv = some k) :
    (mkRng l h).bind (fun r => Sc.meet r c) = mkRng (omax l k.1) (omin h k.2) := by
  cases hm : mkRng l h with
  | none => exact ((mkRng_none _ _).2 (ivEmpty_mono_left _ _ _ _ ((mkRng_none _ _).1 hm))).symm
  | some r => exact Sc.meet_int r c (l, h) k (mkRng_iv _ _ _ hm) hc

theorem Sc.meet_iv (a b r : Sc) (h : Sc.meet a b = some r) :
    r.iv.isSome = a.iv.isSome ∧ r.iv.isSome = b.iv.isSome := by
  unfold Sc.meet at h
  cases hia : a.iv <;> cases hib : b.iv <;> simp only [hia, hib] at h
  · rw [meetN_iv a b r h]; exact ⟨rfl, rfl⟩
  · cases h
  · cases h
  · rw [mkRng_iv _ _ r h]; exact ⟨rfl, rfl⟩

theorem Sc.meet_meet_none (a b c : Sc) (hs : ¬ (a.iv.isSome = b.iv.isSome ∧ b.iv.isSome = c.iv.isSome)) :
    (Sc.meet a b).bind (fun r => Sc.meet r c) = none :=
  Option.bind_eq_none_iff.2 fun r hab => by
    cases hrc : Sc.meet r c with
    | none => rfl
    | some x =>
      obtain ⟨h1, h2⟩ := Sc.meet_iv _ _ _ hab
      obtain ⟨h3, h4⟩ := Sc.meet_iv _ _ _ hrc
      exact absurd ⟨h1.symm.trans h2, h2.symm.trans (h3.symm.trans h4)⟩ hs

theorem Sc.meet_assoc (a b c : Sc) :
    (Sc.meet a b).bind (fun r => Sc.meet r c) = (Sc.meet b c).bind (fun r => Sc.meet a r) := by
  by_cases hs : a.iv.isSome = b.iv.isSome ∧ b.iv.isSome = c.iv.isSome
  · cases hib : b.iv with
    | none =>
      -- every meet involved is a `meetN`
      have hia : a.iv = none := by simpa [hib] using hs.1
      have hic : c.iv = none := by simpa [hib] using hs.2
      rw [Sc.meet_nonint a b hia hib, Sc.meet_nonint b c hib hic,
        Option.bind_congr fun r hr => Sc.meet_nonint r c (meetN_iv a b r hr) hic,
        Option.bind_congr fun r hr => Sc.meet_nonint a r hia (meetN_iv b c r hr)]
      exact meetN_assoc a b c hib
    | some j =>
      -- three intervals: either side is `mkRng` of the threefold intersection
      obtain ⟨i, hia⟩ := Option.isSome_iff_exists.1 (hs.1.trans (by rw [hib]; rfl))
      obtain ⟨k, hic⟩ := Option.isSome_iff_exists.1 (hs.2.symm.trans (by rw [hib]; rfl))
      rw [Sc.meet_int a b i j hia hib, Sc.meet_int b c j k hib hic, mkRng_bind_meet _ _ c k hic,
        funext (Sc.meet_comm a), mkRng_bind_meet _ _ a i hia, omax_assoc, omin_assoc, omax_comm i.1,
        omin_comm i.2]
  · rw [Sc.meet_meet_none a b c hs]
    have : (fun r => Sc.meet a r) = fun r => Sc.meet r a := funext fun r => Sc.meet_comm a r
    rw [this, Sc.meet_meet_none b c a fun h => hs ⟨(h.1.trans h.2).symm, h.1⟩]

/-- meeting a scalar with itself normalises it -/
theorem Sc.meet_self (a : Sc) : Sc.meet a a = a.norm := by
  unfold Sc.norm
  cases h : a.iv with
  | none => rw [Sc.meet_nonint a a h h, meetN_idem a h]
  | some i => rw [Sc.meet_int a a i i h h, omax_idem, omin_idem]

theorem Sc.meet_idem (a : Sc) (h : a.wf = true) : Sc.meet a a = some a := by
  rw [Sc.meet_self, Sc.norm_of_wf a h]

end CueVerif.Core
