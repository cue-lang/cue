/-
C01: `unify` on values is commutative and associative, top is its
identity, bottom absorbs.

Each sort (scalar, struct, list) unifies by normalising the result of its component operation
(`Sc.meet`, `mergeSlots`, `zipU`).  Associativity is that of the components: `unify` is strict,
and normalising an operand first changes nothing.
-/
import CueVerif.Proofs.CoreSc
namespace CueVerif.Core

theorem ArcTy.min_comm (a b : ArcTy) : a.min b = b.min a := by cases a <;> cases b <;> rfl
theorem ArcTy.min_assoc (a b c : ArcTy) : (a.min b).min c = a.min (b.min c) := by
  cases a <;> cases b <;> cases c <;> rfl
theorem ArcTy.min_idem (a : ArcTy) : a.min a = a := by cases a <;> rfl
@[simp] theorem ArcTy.regular_min (a : ArcTy) : ArcTy.regular.min a = .regular := by cases a <;> rfl

@[simp] theorem unify_bot_left (a : Val) : unify .bot a = .bot := by simp [unify]
@[simp] theorem unify_bot_right (a : Val) : unify a .bot = .bot := by cases a <;> simp [unify]
@[simp] theorem unify_top_left (a : Val) : unify .top a = a := by simp [unify]
@[simp] theorem unify_top_right (a : Val) : unify a .top = a := by cases a <;> simp [unify]

@[simp] theorem unify_sc_sc (s t : Sc) : unify (.sc s) (.sc t) = scMeet s t := by simp [unify]
@[simp] theorem unify_sc_struct (s : Sc) (ys : Slots) (d : Bool) :
    unify (.sc s) (.struct ys d) = .bot := by simp [unify]
@[simp] theorem unify_struct_sc (s : Sc) (ys : Slots) (d : Bool) :
    unify (.struct ys d) (.sc s) = .bot := by simp [unify]
theorem unify_struct_struct (xs : Slots) (c : Bool) (ys : Slots) (d : Bool) :
    unify (.struct xs c) (.struct ys d) = normS (mergeSlots xs c ys d) (c || d) := by simp [unify]
@[simp] theorem unify_sc_list (s : Sc) (ys : Vals) : unify (.sc s) (.list ys) = .bot := by
  simp [unify]
@[simp] theorem unify_list_sc (s : Sc) (ys : Vals) : unify (.list ys) (.sc s) = .bot := by
  simp [unify]
@[simp] theorem unify_struct_list (xs : Slots) (c : Bool) (ys : Vals) :
    unify (.struct xs c) (.list ys) = .bot := by simp [unify]
@[simp] theorem unify_list_struct (xs : Slots) (c : Bool) (ys : Vals) :
    unify (.list ys) (.struct xs c) = .bot := by simp [unify]
theorem unify_list_list (xs ys : Vals) : unify (.list xs) (.list ys) = listRes (zipU xs ys) := by
  simp [unify]
@[simp] theorem listRes_some (r : Vals) : listRes (some r) = normL r := rfl
@[simp] theorem listRes_none : listRes none = .bot := rfl
theorem listRes_eq (o : Option Vals) : listRes o = o.elim .bot normL := by cases o <;> rfl
theorem scMeet_eq (s t : Sc) : scMeet s t = (Sc.meet s t).elim .bot .sc := by
  unfold scMeet; cases Sc.meet s t <;> rfl
@[simp] theorem closeSlot_none (c : Bool) : closeSlot c .none = .none := rfl
theorem closeSlot_some (c : Bool) (t : ArcTy) (v : Val) :
    closeSlot c (.some t v) = if c then .some t .bot else .some t v := rfl
@[simp] theorem closeSlot_false (s : Slot) : closeSlot false s = s := by cases s <;> simp [closeSlot]
@[simp] theorem closeSlot_true_some (t : ArcTy) (v : Val) :
    closeSlot true (.some t v) = .some t .bot := rfl

theorem scMeet_comm (s t : Sc) : scMeet s t = scMeet t s := by rw [scMeet_eq, scMeet_eq, Sc.meet_comm]

theorem unify_comm_struct (xs : Slots) (c : Bool) (b : Val)
    (ih : ∀ ys d, mergeSlots xs c ys d = mergeSlots ys d xs c) :
    unify (.struct xs c) b = unify b (.struct xs c) := by
  cases b with
  | struct ys d => simp only [unify]; rw [ih ys d, Bool.or_comm]
  | _ => rfl

theorem unify_comm_list (xs : Vals) (b : Val) (ih : ∀ ys, zipU xs ys = zipU ys xs) :
    unify (.list xs) b = unify b (.list xs) := by
  cases b with
  | list ys => simp only [unify_list_list]; rw [ih ys]
  | _ => rfl

mutual
theorem unify_comm : ∀ a b : Val, unify a b = unify b a
  | .bot, b => (unify_bot_right b).symm
  | .top, b => (unify_top_right b).symm
  | .sc s, b => by cases b <;> first | rfl | simp only [unify_sc_sc, scMeet_comm s]
  | .struct xs c, b => unify_comm_struct xs c b fun ys d => mergeSlots_comm xs c ys d
  | .list xs, b => unify_comm_list xs b fun ys => zipU_comm xs ys
termination_by structural a _ => a
theorem mergeSlots_comm : ∀ (xs : Slots) (c : Bool) (ys : Slots) (d : Bool),
    mergeSlots xs c ys d = mergeSlots ys d xs c
  | .nil, c, .nil, d => by simp [mergeSlots, closeBy]
  | .nil, c, .cons y ys, d => by simp [mergeSlots]
  | .cons x xs, c, .nil, d => by simp [mergeSlots]
  | .cons x xs, c, .cons y ys, d => by
    simp only [mergeSlots]; rw [mergeSlot_comm x c y d, mergeSlots_comm xs c ys d]
termination_by structural xs _ _ _ => xs
theorem mergeSlot_comm : ∀ (x : Slot) (c : Bool) (y : Slot) (d : Bool),
    mergeSlot x c y d = mergeSlot y d x c
  | .none, c, .none, d => by simp [mergeSlot, closeSlot]
  | .none, c, .some t v, d => by simp [mergeSlot]
  | .some t v, c, .none, d => by simp [mergeSlot]
  | .some t v, c, .some t' w, d => by
    simp only [mergeSlot]; rw [unify_comm v w, ArcTy.min_comm]
termination_by structural x _ _ _ => x
theorem zipU_comm : ∀ (xs ys : Vals), zipU xs ys = zipU ys xs
  | .nil, .nil => rfl
  | .nil, .cons _ _ => by simp [zipU]
  | .cons _ _, .nil => by simp [zipU]
  | .cons x xs, .cons y ys => by
    simp only [zipU]; rw [unify_comm x y, zipU_comm xs ys]
termination_by structural xs _ => xs
end

/-! ### closing -/

theorem closeSlot_closeSlot (c d : Bool) (s : Slot) :
    closeSlot c (closeSlot d s) = closeSlot (c || d) s := by
  cases s <;> cases c <;> cases d <;> simp [closeSlot]

theorem closeBy_closeBy (c d : Bool) (xs : Slots) :
    closeBy c (closeBy d xs) = closeBy (c || d) xs := by
  match xs with
  | .nil => rfl
  | .cons s rest => simp [closeBy, closeSlot_closeSlot, closeBy_closeBy c d rest]

theorem mergeSlot_none_right (x : Slot) (c d : Bool) : mergeSlot x c .none d = closeSlot d x := by
  cases x <;> simp [mergeSlot, closeSlot]

theorem mergeSlots_nil_right (xs : Slots) (c d : Bool) : mergeSlots xs c .nil d = closeBy d xs := by
  cases xs <;> simp [mergeSlots, closeBy]

theorem mergeSlot_close_left (c d e : Bool) (y z : Slot) :
    mergeSlot (closeSlot c y) (c || d) z e = closeSlot c (mergeSlot y d z e) := by
  cases y with
  | none => simp [mergeSlot, closeSlot_closeSlot]
  | some t v =>
    cases z with
    | none =>
      rw [mergeSlot_none_right, mergeSlot_none_right, closeSlot_closeSlot, closeSlot_closeSlot,
        Bool.or_comm]
    | some t' w => cases c <;> simp [mergeSlot]

theorem mergeSlots_close_left (c d e : Bool) (ys zs : Slots) :
    mergeSlots (closeBy c ys) (c || d) zs e = closeBy c (mergeSlots ys d zs e) := by
  match ys, zs with
  | .nil, zs => simp [closeBy, mergeSlots, closeBy_closeBy]
  | .cons y ys, .nil =>
      rw [mergeSlots_nil_right, mergeSlots_nil_right, closeBy_closeBy, closeBy_closeBy,
        Bool.or_comm]
  | .cons y ys, .cons z zs =>
    simp [closeBy, mergeSlots, mergeSlot_close_left, mergeSlots_close_left c d e ys zs]

theorem mergeSlot_close_right (c d e : Bool) (x y : Slot) :
    closeSlot e (mergeSlot x c y d) = mergeSlot x c (closeSlot e y) (d || e) := by
  rw [mergeSlot_comm x c y d, mergeSlot_comm x c _ _, Bool.or_comm, mergeSlot_close_left]

theorem mergeSlots_close_right (c d e : Bool) (xs ys : Slots) :
    closeBy e (mergeSlots xs c ys d) = mergeSlots xs c (closeBy e ys) (d || e) := by
  rw [mergeSlots_comm xs c ys d, mergeSlots_comm xs c _ _, Bool.or_comm, mergeSlots_close_left]

theorem mergeSlot_close_mid (c d e : Bool) (x z : Slot) :
    mergeSlot (closeSlot d x) (c || d) z e = mergeSlot x c (closeSlot d z) (d || e) := by
  rw [Bool.or_comm c d, mergeSlot_close_left, mergeSlot_close_right, Bool.or_comm]

theorem mergeSlots_close_mid (c d e : Bool) (xs zs : Slots) :
    mergeSlots (closeBy d xs) (c || d) zs e = mergeSlots xs c (closeBy d zs) (d || e) := by
  rw [Bool.or_comm c d, mergeSlots_close_left, mergeSlots_close_right, Bool.or_comm]

theorem isRegBot_iff (s : Slot) : s.isRegBot = true ↔ s = .some .regular .bot := by
  cases s with
  | none => simp [Slot.isRegBot]
  | some t v => cases t <;> cases v <;> simp [Slot.isRegBot]

theorem isRegBot_closeSlot (d : Bool) (x : Slot) (h : x.isRegBot = true) :
    (closeSlot d x).isRegBot = true := by
  rw [(isRegBot_iff x).1 h]; cases d <;> rfl

theorem hasRegBot_closeBy (d : Bool) (xs : Slots) (h : xs.hasRegBot = true) :
    (closeBy d xs).hasRegBot = true := by
  match xs with
  | .nil => simp [Slots.hasRegBot] at h
  | .cons x xs =>
    simp only [Slots.hasRegBot, Bool.or_eq_true, closeBy] at h ⊢
    exact h.imp (isRegBot_closeSlot d x) (hasRegBot_closeBy d xs)

theorem isRegBot_mergeSlot (x : Slot) (c : Bool) (y : Slot) (d : Bool) (h : x.isRegBot = true) :
    (mergeSlot x c y d).isRegBot = true := by
  cases y with
  | none => rw [mergeSlot_none_right]; exact isRegBot_closeSlot d x h
  | some t' w => rw [(isRegBot_iff x).1 h]; simp [mergeSlot, Slot.isRegBot]

theorem hasRegBot_mergeSlots (xs : Slots) (c : Bool) (ys : Slots) (d : Bool)
    (h : xs.hasRegBot = true) : (mergeSlots xs c ys d).hasRegBot = true := by
  match xs, ys with
  | .nil, _ => simp [Slots.hasRegBot] at h
  | .cons x xs, .nil => rw [mergeSlots_nil_right]; exact hasRegBot_closeBy d _ h
  | .cons x xs, .cons y ys =>
      simp only [Slots.hasRegBot, Bool.or_eq_true, mergeSlots] at h ⊢
      exact h.imp (isRegBot_mergeSlot x c y d) (hasRegBot_mergeSlots xs c ys d)

theorem hasRegBot_mergeSlots_right (xs : Slots) (c : Bool) (ys : Slots) (d : Bool)
    (h : ys.hasRegBot = true) : (mergeSlots xs c ys d).hasRegBot = true := by
  rw [mergeSlots_comm]; exact hasRegBot_mergeSlots ys d xs c h

/-! ### `unify` is strict

`normS` and `normL` are "bottom if a test holds", `scMeet` and `listRes` "bottom if there is no
result" (`Option.elim .bot`).  Bottom floats out of either operand of `unify`; what stays
underneath are two constructors, and those of different sorts unify to bottom by the equations
of `unify`. -/

@[simp] theorem unify_ite_bot_left (P : Prop) [Decidable P] (v w : Val) :
    unify (if P then .bot else v) w = if P then .bot else unify v w := by
  split <;> simp

@[simp] theorem unify_ite_bot_right (P : Prop) [Decidable P] (v w : Val) :
    unify v (if P then .bot else w) = if P then .bot else unify v w := by
  split <;> simp

@[simp] theorem unify_elim_bot_left {α : Type} (o : Option α) (k : α → Val) (w : Val) :
    unify (o.elim .bot k) w = o.elim .bot fun x => unify (k x) w := by
  cases o <;> simp

@[simp] theorem unify_elim_bot_right {α : Type} (o : Option α) (k : α → Val) (v : Val) :
    unify v (o.elim .bot k) = o.elim .bot fun x => unify v (k x) := by
  cases o <;> simp

@[simp] theorem elim_self {α β : Type} (o : Option α) (b : β) : o.elim b (fun _ => b) = b := by
  cases o <;> rfl

theorem elim_bind {α β γ : Type} (o : Option α) (f : α → Option β) (b : γ) (k : β → γ) :
    (o.bind f).elim b k = o.elim b fun x => (f x).elim b k := by
  cases o <;> rfl

/-! ### normalising an operand first changes nothing

The bottom tests are monotone (`hasRegBot_mergeSlots` above, `hasBot_zipU`): the bottom that
normalising an operand would produce is produced by normalising the result. -/

theorem isBot_iff (v : Val) : v.isBot = true ↔ v = .bot := by
  cases v <;> simp [Val.isBot]

theorem zipU_cons_cons (x : Val) (xs : Vals) (y : Val) (ys : Vals) :
    zipU (.cons x xs) (.cons y ys) = (zipU xs ys).map (.cons (unify x y)) := by
  simp only [zipU]; cases zipU xs ys <;> rfl

theorem hasBot_zipU : ∀ (xs ys r : Vals), zipU xs ys = some r → xs.hasBot = true → r.hasBot = true
  | .nil, _, _, _, h => by simp [Vals.hasBot] at h
  | .cons _ _, .nil, _, h, _ => by simp [zipU] at h
  | .cons x xs, .cons y ys, r, h, hb => by
    obtain ⟨r', hz, rfl⟩ := Option.map_eq_some_iff.1 (zipU_cons_cons x xs y ys ▸ h)
    simp only [Vals.hasBot, Bool.or_eq_true] at hb ⊢
    exact hb.imp (fun hb => by rw [(isBot_iff x).1 hb]; rfl) (hasBot_zipU xs ys r' hz)

theorem hasBot_zipU_right (xs ys r : Vals) (h : zipU xs ys = some r) (hb : ys.hasBot = true) :
    r.hasBot = true := by
  rw [zipU_comm] at h; exact hasBot_zipU ys xs r h hb

theorem listRes_hasBot_left (xs ys : Vals) (h : xs.hasBot = true) : listRes (zipU xs ys) = .bot := by
  cases hz : zipU xs ys with
  | none => rfl
  | some r => simp [listRes, normL, hasBot_zipU xs ys r hz h]

theorem unify_normL_list (r zs : Vals) : unify (normL r) (.list zs) = listRes (zipU r zs) := by
  by_cases h : r.hasBot = true
  · simp [normL, h, listRes_hasBot_left r zs h]
  · simp [normL, h, unify_list_list]

theorem unify_list_normL (xs r : Vals) : unify (.list xs) (normL r) = listRes (zipU xs r) := by
  rw [unify_comm, unify_normL_list, zipU_comm]

theorem unify_normS_struct (xs : Slots) (c : Bool) (zs : Slots) (e : Bool) :
    unify (normS xs c) (.struct zs e) = normS (mergeSlots xs c zs e) (c || e) := by
  by_cases h : xs.hasRegBot = true
  · simp [normS, h, hasRegBot_mergeSlots xs c zs e h]
  · simp [normS, h, unify_struct_struct]

theorem unify_struct_normS (xs : Slots) (c : Bool) (ys : Slots) (d : Bool) :
    unify (.struct xs c) (normS ys d) = normS (mergeSlots xs c ys d) (c || d) := by
  rw [unify_comm, unify_normS_struct, mergeSlots_comm, Bool.or_comm]

theorem unify_normS_normS (xs : Slots) (c : Bool) (ys : Slots) (d : Bool) :
    unify (normS xs c) (normS ys d) = normS (mergeSlots xs c ys d) (c || d) := by
  by_cases h : ys.hasRegBot = true
  · simp [normS, h, hasRegBot_mergeSlots_right xs c ys d h]
  · have : normS ys d = .struct ys d := if_neg h
    rw [this, unify_normS_struct]

/-! ### associativity -/

/-- the operands are of one sort, or both sides are bottom -/
theorem unify_assoc_sc (s : Sc) (b c : Val) :
    unify (unify (.sc s) b) c = unify (.sc s) (unify b c) := by
  cases b with
  | sc t =>
    cases c with
    | sc u =>
      simp only [unify_sc_sc, scMeet_eq, unify_elim_bot_left, unify_elim_bot_right, ← elim_bind,
        Sc.meet_assoc]
    | _ => simp [scMeet_eq]
  | _ => cases c <;> simp [unify_struct_struct, unify_list_list, normS, normL, listRes_eq]

theorem unify_assoc_struct (xs : Slots) (c : Bool) (b c' : Val)
    (ih : ∀ ys d zs e, mergeSlots (mergeSlots xs c ys d) (c || d) zs e =
      mergeSlots xs c (mergeSlots ys d zs e) (d || e)) :
    unify (unify (.struct xs c) b) c' = unify (.struct xs c) (unify b c') := by
  cases b with
  | struct ys d =>
    cases c' with
    | struct zs e =>
      simp only [unify_struct_struct, unify_normS_struct, unify_struct_normS, ih, Bool.or_assoc]
    | _ => simp [unify_struct_struct, normS]
  | _ => cases c' <;> simp [unify_struct_struct, unify_list_list, normS, normL, listRes_eq, scMeet_eq]

theorem unify_assoc_list (xs : Vals) (b c : Val)
    (ih : ∀ ys zs, (zipU xs ys).bind (fun r => zipU r zs) = (zipU ys zs).bind (fun r => zipU xs r)) :
    unify (unify (.list xs) b) c = unify (.list xs) (unify b c) := by
  cases b with
  | list ys =>
    cases c with
    | list zs =>
      simp only [unify_list_list, listRes_eq, unify_elim_bot_left, unify_elim_bot_right, unify_normL_list,
        unify_list_normL, ← elim_bind, ih]
    | _ => simp [unify_list_list, normL, listRes_eq]
  | _ => cases c <;> simp [unify_struct_struct, unify_list_list, normS, scMeet_eq]

mutual
theorem unify_assoc : ∀ a b c : Val, unify (unify a b) c = unify a (unify b c)
  | .bot, _, _ => by simp
  | .top, _, _ => by simp
  | .sc s, b, c => unify_assoc_sc s b c
  | .struct xs c, b, c' => unify_assoc_struct xs c b c' fun ys d zs e => mergeSlots_assoc xs c ys d zs e
  | .list xs, b, c => unify_assoc_list xs b c fun ys zs => zipU_assoc xs ys zs
termination_by structural a _ _ => a
theorem mergeSlots_assoc : ∀ (xs : Slots) (c : Bool) (ys : Slots) (d : Bool) (zs : Slots) (e : Bool),
    mergeSlots (mergeSlots xs c ys d) (c || d) zs e = mergeSlots xs c (mergeSlots ys d zs e) (d || e)
  | .nil, c, ys, d, zs, e => by
    simp only [mergeSlots]; exact mergeSlots_close_left c d e ys zs
  | .cons x xs, c, .nil, d, zs, e => by
    simp only [mergeSlots]; exact mergeSlots_close_mid c d e (.cons x xs) zs
  | .cons x xs, c, .cons y ys, d, .nil, e => by
    rw [mergeSlots_nil_right, mergeSlots_nil_right]; exact mergeSlots_close_right c d e _ _
  | .cons x xs, c, .cons y ys, d, .cons z zs, e => by
    simp only [mergeSlots]
    rw [mergeSlot_assoc x c y d z e, mergeSlots_assoc xs c ys d zs e]
termination_by structural xs _ _ _ _ _ => xs
theorem mergeSlot_assoc : ∀ (x : Slot) (c : Bool) (y : Slot) (d : Bool) (z : Slot) (e : Bool),
    mergeSlot (mergeSlot x c y d) (c || d) z e = mergeSlot x c (mergeSlot y d z e) (d || e)
  | .none, c, y, d, z, e => by
    simp only [mergeSlot]; exact mergeSlot_close_left c d e y z
  | .some t v, c, .none, d, z, e => by
    simp only [mergeSlot]; exact mergeSlot_close_mid c d e (.some t v) z
  | .some t v, c, .some t' w, d, .none, e => by
    rw [mergeSlot_none_right, mergeSlot_none_right]; exact mergeSlot_close_right c d e _ _
  | .some t v, c, .some t' w, d, .some t'' u, e => by
    simp only [mergeSlot]
    rw [unify_assoc v w u, ArcTy.min_assoc]
termination_by structural x _ _ _ _ _ => x
theorem zipU_assoc : ∀ (xs ys zs : Vals),
    (zipU xs ys).bind (fun r => zipU r zs) = (zipU ys zs).bind (fun r => zipU xs r)
  | .nil, .nil, zs => by cases zs <;> simp [zipU]
  | .nil, .cons y ys, .nil => by simp [zipU]
  | .nil, .cons y ys, .cons z zs => by
    cases h : zipU ys zs <;> simp [zipU, h]
  | .cons x xs, .nil, zs => by cases zs <;> simp [zipU]
  | .cons x xs, .cons y ys, .nil => by
    cases h : zipU xs ys <;> simp [zipU, h]
  | .cons x xs, .cons y ys, .cons z zs => by
    have ih := congrArg (Option.map (Vals.cons (unify x (unify y z)))) (zipU_assoc xs ys zs)
    simpa only [zipU_cons_cons, Option.bind_map, Option.map_bind, Function.comp_def,
      unify_assoc x y z] using ih
termination_by structural xs _ _ => xs
end

theorem unify_left_comm (a b c : Val) : unify a (unify b c) = unify b (unify a c) := by
  rw [← unify_assoc, unify_comm a b, unify_assoc]

end CueVerif.Core
