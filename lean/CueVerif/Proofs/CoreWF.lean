/-
C01: normal forms of values.  `unify` is idempotent on them and preserves them.
-/
import CueVerif.Proofs.CoreUnify
namespace CueVerif.Core

/-! ### idempotence on normal forms -/

mutual
theorem unify_idem : ∀ a : Val, a.wf = true → unify a a = a
  | .bot, _ => by simp
  | .top, _ => by simp
  | .sc s, h => by
    simp only [Val.wf] at h
    simp [scMeet_eq, Sc.meet_idem s h]
  | .struct xs c, h => by
    simp only [Val.wf, Bool.and_eq_true, Bool.not_eq_true'] at h
    simp [unify_struct_struct, mergeSlots_idem xs c h.1.1, normS, h.2]
  | .list xs, h => by
    simp only [Val.wf, Bool.and_eq_true, Bool.not_eq_true'] at h
    simp [unify_list_list, zipU_idem xs h.1, normL, h.2]
termination_by structural a => a
theorem mergeSlots_idem : ∀ (xs : Slots) (c : Bool), xs.wf = true → mergeSlots xs c xs c = xs
  | .nil, c, _ => by simp [mergeSlots, closeBy]
  | .cons x xs, c, h => by
    simp only [Slots.wf, Bool.and_eq_true] at h
    simp [mergeSlots, mergeSlot_idem x c h.1, mergeSlots_idem xs c h.2]
termination_by structural xs => xs
theorem mergeSlot_idem : ∀ (x : Slot) (c : Bool), x.wf = true → mergeSlot x c x c = x
  | .none, c, _ => by simp [mergeSlot]
  | .some t v, c, h => by
    simp only [Slot.wf] at h
    simp [mergeSlot, unify_idem v h, ArcTy.min_idem]
termination_by structural x => x
theorem zipU_idem : ∀ (xs : Vals), xs.wf = true → zipU xs xs = some xs
  | .nil, _ => by simp [zipU]
  | .cons x xs, h => by
    simp only [Vals.wf, Bool.and_eq_true] at h
    simp [zipU, zipU_idem xs h.2, unify_idem x h.1]
termination_by structural xs => xs
end

/-! ### `unify` preserves normal forms -/

@[simp] theorem isSome_closeSlot (c : Bool) (s : Slot) : (closeSlot c s).isSome = s.isSome := by
  cases s <;> cases c <;> simp [closeSlot_some, Slot.isSome]

@[simp] theorem isNil_closeBy (c : Bool) (xs : Slots) : (closeBy c xs).isNil = xs.isNil := by
  cases xs <;> simp [closeBy, Slots.isNil]

@[simp] theorem noTrail_closeBy (c : Bool) : ∀ xs : Slots, (closeBy c xs).noTrail = xs.noTrail
  | .nil => rfl
  | .cons x xs => by simp [closeBy, Slots.noTrail, noTrail_closeBy c xs]

@[simp] theorem isSome_mergeSlot (x : Slot) (c : Bool) (y : Slot) (d : Bool) :
    (mergeSlot x c y d).isSome = (x.isSome || y.isSome) := by
  cases x <;> cases y <;> simp [mergeSlot] <;> simp [Slot.isSome]

@[simp] theorem isNil_mergeSlots (xs : Slots) (c : Bool) (ys : Slots) (d : Bool) :
    (mergeSlots xs c ys d).isNil = (xs.isNil && ys.isNil) := by
  cases xs <;> cases ys <;> simp [mergeSlots, Slots.isNil, closeBy]

theorem noTrail_mergeSlots : ∀ (xs : Slots) (c : Bool) (ys : Slots) (d : Bool),
    xs.noTrail = true → ys.noTrail = true → (mergeSlots xs c ys d).noTrail = true
  | .nil, c, ys, d, _, hy => by simpa [mergeSlots] using hy
  | .cons x xs, c, .nil, d, hx, _ => by simpa [mergeSlots] using hx
  | .cons x xs, c, .cons y ys, d, hx, hy => by
    simp only [Slots.noTrail, Bool.and_eq_true, Bool.or_eq_true, Bool.not_eq_true'] at hx hy
    have ih := noTrail_mergeSlots xs c ys d hx.2 hy.2
    simp only [mergeSlots, Slots.noTrail, isSome_mergeSlot, isNil_mergeSlots, ih, Bool.and_true]
    rcases hx.1 with h | h <;> simp [h]

theorem wf_closeSlot (c : Bool) (s : Slot) (h : s.wf = true) : (closeSlot c s).wf = true := by
  cases s <;> cases c <;> simp_all [Slot.wf, Val.wf]

theorem wf_closeBy (c : Bool) : ∀ xs : Slots, xs.wf = true → (closeBy c xs).wf = true
  | .nil, _ => rfl
  | .cons x xs, h => by
    simp only [Slots.wf, Bool.and_eq_true, closeBy] at h ⊢
    exact ⟨wf_closeSlot c x h.1, wf_closeBy c xs h.2⟩

theorem wf_normS (xs : Slots) (c : Bool) (h1 : xs.wf = true) (h2 : xs.noTrail = true) :
    (normS xs c).wf = true := by
  unfold normS; split <;> simp_all [Val.wf]

theorem wf_elim_bot {α : Type} (o : Option α) (k : α → Val) (h : ∀ x, o = some x → (k x).wf = true) :
    (o.elim .bot k).wf = true := by
  cases o with
  | none => rfl
  | some x => exact h x rfl

theorem wf_scMeet (s t : Sc) : (scMeet s t).wf = true :=
  scMeet_eq s t ▸ wf_elim_bot _ _ (Sc.meet_wf s t)

theorem wf_normL (vs : Vals) (h : vs.wf = true) : (normL vs).wf = true := by
  unfold normL; split <;> simp_all [Val.wf]

mutual
theorem unify_wf : ∀ a b : Val, a.wf = true → b.wf = true → (unify a b).wf = true
  | .bot, _, _, _ => by simp [Val.wf]
  | .top, _, _, hb => by simpa using hb
  | .sc s, b, ha, _ => by cases b <;> simp [Val.wf, wf_scMeet, ha]
  | .struct xs c, b, ha, hb => by
    cases b with
    | struct ys d =>
      simp only [Val.wf, Bool.and_eq_true] at ha hb
      rw [unify_struct_struct]
      exact wf_normS _ _ (mergeSlots_wf xs c ys d ha.1.1 hb.1.1)
        (noTrail_mergeSlots xs c ys d ha.1.2 hb.1.2)
    | _ => simp [Val.wf, ha]
  | .list xs, b, ha, hb => by
    cases b with
    | list ys =>
      simp only [Val.wf, Bool.and_eq_true] at ha hb
      rw [unify_list_list, listRes_eq]
      exact wf_elim_bot _ _ fun r hz => wf_normL r (zipU_wf xs ys r hz ha.1 hb.1)
    | _ => simp [Val.wf, ha]
termination_by structural a _ _ _ => a
theorem mergeSlots_wf : ∀ (xs : Slots) (c : Bool) (ys : Slots) (d : Bool),
    xs.wf = true → ys.wf = true → (mergeSlots xs c ys d).wf = true
  | .nil, c, ys, d, _, hy => by simpa [mergeSlots] using wf_closeBy c ys hy
  | .cons x xs, c, .nil, d, hx, _ => by simpa [mergeSlots] using wf_closeBy d _ hx
  | .cons x xs, c, .cons y ys, d, hx, hy => by
    simp only [Slots.wf, Bool.and_eq_true, mergeSlots] at hx hy ⊢
    exact ⟨mergeSlot_wf x c y d hx.1 hy.1, mergeSlots_wf xs c ys d hx.2 hy.2⟩
termination_by structural xs _ _ _ _ _ => xs
theorem mergeSlot_wf : ∀ (x : Slot) (c : Bool) (y : Slot) (d : Bool),
    x.wf = true → y.wf = true → (mergeSlot x c y d).wf = true
  | .none, c, y, d, _, hy => by simpa [mergeSlot] using wf_closeSlot c y hy
  | .some t v, c, .none, d, hx, _ => by simpa [mergeSlot] using wf_closeSlot d _ hx
  | .some t v, c, .some t' w, d, hx, hy => by
    simp only [Slot.wf, mergeSlot] at hx hy ⊢
    exact unify_wf v w hx hy
termination_by structural x _ _ _ _ _ => x
theorem zipU_wf : ∀ (xs ys r : Vals), zipU xs ys = some r → xs.wf = true → ys.wf = true →
    r.wf = true
  | .nil, .nil, r, h, _, _ => by simp only [zipU, Option.some.injEq] at h; subst h; rfl
  | .nil, .cons _ _, r, h, _, _ => by simp [zipU] at h
  | .cons _ _, .nil, r, h, _, _ => by simp [zipU] at h
  | .cons x xs, .cons y ys, r, h, hx, hy => by
    obtain ⟨r', hz, rfl⟩ := Option.map_eq_some_iff.1 (zipU_cons_cons x xs y ys ▸ h)
    simp only [Vals.wf, Bool.and_eq_true] at hx hy ⊢
    exact ⟨unify_wf x y hx.1 hy.1, zipU_wf xs ys r' hz hx.2 hy.2⟩
termination_by structural xs _ _ _ _ _ => xs
end

end CueVerif.Core
