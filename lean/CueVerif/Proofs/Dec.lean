import CueVerif.Model.Dec
/-!
Lemmas about the exact decimal model `CueVerif.Dec` (core Lean only).
-/
namespace CueVerif.Dec

open Std

theorem ten_pow_pos (n : Nat) : (0 : Int) < 10 ^ n := Int.pow_pos (by decide)

/-! ### `compare` on `Int` -/

theorem compare_mul_right (x y p : Int) (hp : 0 < p) :
    compare (x * p) (y * p) = compare x y := by
  rcases Int.lt_trichotomy x y with h | h | h
  · rw [Int.compare_eq_lt.2 h, Int.compare_eq_lt]
    exact Int.mul_lt_mul_of_pos_right h hp
  · subst h
    rw [Int.compare_eq_eq.2 rfl, Int.compare_eq_eq.2 rfl]
  · rw [Int.compare_eq_gt.2 h, Int.compare_eq_gt]
    exact Int.mul_lt_mul_of_pos_right h hp

theorem compare_congr (x y x' y' : Int) (h1 : x < y ↔ x' < y') (h2 : y < x ↔ y' < x') :
    compare x y = compare x' y' := by
  rcases Int.lt_trichotomy x y with h | h | h
  · rw [Int.compare_eq_lt.2 h, Int.compare_eq_lt.2 (h1.1 h)]
  · have e : x' = y' := by
      rcases Int.lt_trichotomy x' y' with h' | h' | h'
      · have := h1.2 h'; omega
      · exact h'
      · have := h2.2 h'; omega
    rw [Int.compare_eq_eq.2 h, Int.compare_eq_eq.2 e]
  · rw [Int.compare_eq_gt.2 h, Int.compare_eq_gt.2 (h2.1 h)]

/-! ### `shift` and `cmp`: comparison at a common exponent; `neg`, `add`, `sub` act on the numerators -/

theorem shift_shift (d : Dec) (e e' : Int) (h1 : e' ≤ e) (h2 : e ≤ d.exp) :
    shift d e' = shift d e * 10 ^ (e - e').toNat := by
  unfold shift
  have : (d.exp - e').toNat = (d.exp - e).toNat + (e - e').toNat := by omega
  rw [this, Int.pow_add, Int.mul_assoc]

theorem shift_self (d : Dec) : shift d d.exp = d.coeff := by
  simp [shift]

theorem shift_ofInt (n e : Int) : shift (ofInt n) e = n * 10 ^ (-e).toNat := by
  simp [shift, ofInt]

theorem shift_ofInt_zero (n : Int) : shift (ofInt n) 0 = n := by
  simp [shift, ofInt]

/-- comparison can be done at ANY common exponent below both -/
theorem cmp_at (a b : Dec) (e : Int) (ha : e ≤ a.exp) (hb : e ≤ b.exp) :
    cmp a b = compare (shift a e) (shift b e) := by
  unfold cmp
  have hm : e ≤ min a.exp b.exp := by omega
  rw [shift_shift a (min a.exp b.exp) e hm (by omega),
    shift_shift b (min a.exp b.exp) e hm (by omega),
    compare_mul_right _ _ _ (ten_pow_pos _)]

instance : OrientedCmp Dec.cmp where
  eq_swap {a b} := by
    rw [cmp_at a b (min a.exp b.exp) (by omega) (by omega),
      cmp_at b a (min a.exp b.exp) (by omega) (by omega), Int.compare_swap]

instance : TransCmp Dec.cmp where
  isLE_trans {a b c} h1 h2 := by
    have ha : min a.exp (min b.exp c.exp) ≤ a.exp := by omega
    have hb : min a.exp (min b.exp c.exp) ≤ b.exp := by omega
    have hc : min a.exp (min b.exp c.exp) ≤ c.exp := by omega
    rw [cmp_at _ _ _ ha hb] at h1
    rw [cmp_at _ _ _ hb hc] at h2
    rw [cmp_at _ _ _ ha hc]
    exact TransCmp.isLE_trans h1 h2

theorem cmp_ofInt_ofInt (m n : Int) : cmp (ofInt m) (ofInt n) = compare m n := by
  rw [cmp_at _ _ 0 (by simp [ofInt]) (by simp [ofInt]), shift_ofInt_zero, shift_ofInt_zero]

theorem cmp_eq_iff_at (a b : Dec) (e : Int) (ha : e ≤ a.exp) (hb : e ≤ b.exp) :
    cmp a b = .eq ↔ shift a e = shift b e := by
  rw [cmp_at a b e ha hb, Int.compare_eq_eq]

theorem shift_neg (a : Dec) (e : Int) : shift (neg a) e = - shift a e := by
  simp [shift, neg, Int.neg_mul]

theorem cmp_neg (a b : Dec) : cmp (neg a) (neg b) = cmp b a := by
  have ha : min a.exp b.exp ≤ a.exp := by omega
  have hb : min a.exp b.exp ≤ b.exp := by omega
  rw [cmp_at (neg a) (neg b) (min a.exp b.exp) ha hb, cmp_at b a (min a.exp b.exp) hb ha,
    shift_neg, shift_neg]
  apply compare_congr <;> omega

theorem add_exp (a b : Dec) : (add a b).exp = min a.exp b.exp := rfl

theorem shift_add (a b : Dec) (e : Int) (ha : e ≤ a.exp) (hb : e ≤ b.exp) :
    shift (add a b) e = shift a e + shift b e := by
  have hm : e ≤ min a.exp b.exp := by omega
  rw [shift_shift a (min a.exp b.exp) e hm (by omega),
    shift_shift b (min a.exp b.exp) e hm (by omega), ← Int.add_mul]
  rfl

theorem cmp_add_right (a b c : Dec) : cmp (add a c) (add b c) = cmp a b := by
  have ha : min a.exp (min b.exp c.exp) ≤ a.exp := by omega
  have hb : min a.exp (min b.exp c.exp) ≤ b.exp := by omega
  have hc : min a.exp (min b.exp c.exp) ≤ c.exp := by omega
  rw [cmp_at (add a c) (add b c) (min a.exp (min b.exp c.exp))
      (by rw [add_exp]; omega) (by rw [add_exp]; omega),
    cmp_at a b _ ha hb, shift_add _ _ _ ha hc, shift_add _ _ _ hb hc]
  apply compare_congr <;> omega

theorem sub_exp (a b : Dec) : (sub a b).exp = min a.exp b.exp := rfl
theorem sub_coeff (a b : Dec) :
    (sub a b).coeff = shift a (min a.exp b.exp) - shift b (min a.exp b.exp) := rfl

theorem shift_sub (a b : Dec) (e : Int) (ha : e ≤ a.exp) (hb : e ≤ b.exp) :
    shift (sub a b) e = shift a e - shift b e := by
  have hm : e ≤ min a.exp b.exp := by omega
  rw [shift_shift a (min a.exp b.exp) e hm (by omega),
    shift_shift b (min a.exp b.exp) e hm (by omega), ← Int.sub_mul]
  rfl

theorem sub_coeff_neg_iff (a b : Dec) : (sub a b).coeff < 0 ↔ cmp a b = .lt := by
  rw [sub_coeff, cmp, Int.compare_eq_lt]
  omega

theorem cmp_sub_zero (a b : Dec) : cmp (sub a b) (ofInt 0) = cmp a b := by
  have h0 : (ofInt 0).exp = 0 := rfl
  have ha : min (min a.exp b.exp) 0 ≤ a.exp := by omega
  have hb : min (min a.exp b.exp) 0 ≤ b.exp := by omega
  rw [cmp_at (sub a b) (ofInt 0) (min (min a.exp b.exp) 0) (by rw [sub_exp]; omega) (by omega),
    cmp_at a b _ ha hb, shift_sub a b _ ha hb, shift_ofInt, Int.zero_mul]
  apply compare_congr <;> omega

/-- subtraction respects value-equality with integers -/
theorem cmp_sub_ofInt (hi lo : Dec) (H L : Int) (h1 : cmp hi (ofInt H) = .eq)
    (h2 : cmp lo (ofInt L) = .eq) : cmp (sub hi lo) (ofInt (H - L)) = .eq := by
  have hH : (ofInt H).exp = 0 := rfl
  have hL : (ofInt L).exp = 0 := rfl
  have hHL : (ofInt (H - L)).exp = 0 := rfl
  have ha : min (min hi.exp lo.exp) 0 ≤ hi.exp := by omega
  have hb : min (min hi.exp lo.exp) 0 ≤ lo.exp := by omega
  have h0 : min (min hi.exp lo.exp) 0 ≤ 0 := by omega
  rw [cmp_eq_iff_at _ _ _ ha (by omega)] at h1
  rw [cmp_eq_iff_at _ _ _ hb (by omega)] at h2
  rw [cmp_eq_iff_at _ _ (min (min hi.exp lo.exp) 0) (by rw [sub_exp]; omega) (by omega),
    shift_sub _ _ _ ha hb, h1, h2, shift_ofInt, shift_ofInt, shift_ofInt, Int.sub_mul]

theorem sub34_eq (a b d : Dec) (h : sub34 a b = some d) : d = sub a b := by
  simp only [sub34] at h
  split at h
  · cases h
  · cases h; rfl

/-! ### integers vs decimals

`a` is the fraction `a.coeff * 10 ^ a.exp.toNat / 10 ^ (-a.exp).toNat`, one of the two powers
being 1: `floor`, `ceil`, `isInt` and the comparison with an integer are read off it. -/

theorem floor_eq (a : Dec) : floor a = a.coeff * 10 ^ a.exp.toNat / 10 ^ (-a.exp).toNat := by
  unfold floor
  split
  · rw [show (-a.exp).toNat = 0 by omega, Int.pow_zero, Int.ediv_one]
  · rw [show a.exp.toNat = 0 by omega, Int.pow_zero, Int.mul_one]

theorem ceil_eq (a : Dec) : ceil a = -(-(a.coeff * 10 ^ a.exp.toNat) / 10 ^ (-a.exp).toNat) := by
  rw [ceil, floor_eq, ← Int.neg_mul]
  rfl

theorem isInt_iff (a : Dec) :
    isInt a = true ↔ 10 ^ (-a.exp).toNat ∣ a.coeff * 10 ^ a.exp.toNat := by
  unfold isInt
  by_cases h : 0 ≤ a.exp
  · simp [h, show (-a.exp).toNat = 0 by omega]
  · simp [h, show a.exp.toNat = 0 by omega, Int.dvd_iff_emod_eq_zero]

theorem cmp_ofInt (n : Int) (a : Dec) :
    cmp (ofInt n) a = compare (n * 10 ^ (-a.exp).toNat) (a.coeff * 10 ^ a.exp.toNat) := by
  rcases Int.le_total 0 a.exp with h | h
  · rw [cmp_at (ofInt n) a 0 (Int.le_refl _) h, shift_ofInt_zero, shift, Int.sub_zero,
      show (-a.exp).toNat = 0 by omega, Int.pow_zero, Int.mul_one]
  · rw [cmp_at (ofInt n) a a.exp h (Int.le_refl _), shift_ofInt, shift_self,
      show a.exp.toNat = 0 by omega, Int.pow_zero, Int.mul_one]

theorem ofInt_le_iff (n : Int) (a : Dec) : (cmp (ofInt n) a).isLE = true ↔ n ≤ floor a := by
  rw [cmp_ofInt, floor_eq, Int.isLE_compare, Int.le_ediv_iff_mul_le (ten_pow_pos _)]

theorem ofInt_gt_iff (n : Int) (a : Dec) : cmp (ofInt n) a = .gt ↔ floor a < n := by
  rw [← Int.not_le, ← ofInt_le_iff]
  cases cmp (ofInt n) a <;> decide

/-- the upper side is the lower side of the negated numbers -/
theorem ofInt_ge_iff (n : Int) (a : Dec) : (cmp (ofInt n) a).isGE = true ↔ ceil a ≤ n := by
  have := ofInt_le_iff (-n) (neg a)
  rw [show ofInt (-n) = neg (ofInt n) from rfl, cmp_neg, ← OrientedCmp.isGE_eq_isLE] at this
  rw [this, ceil]
  omega

theorem ofInt_lt_iff (n : Int) (a : Dec) : cmp (ofInt n) a = .lt ↔ n < ceil a := by
  rw [← Int.not_le, ← ofInt_ge_iff]
  cases cmp (ofInt n) a <;> decide

theorem isInt_of_exp_nonneg (a : Dec) (h : 0 ≤ a.exp) : isInt a = true := by
  simp [isInt, h]

theorem cmp_ofInt_floor_of_isInt (a : Dec) (h : isInt a = true) :
    cmp (ofInt (floor a)) a = .eq := by
  rw [cmp_ofInt, floor_eq, Int.compare_eq_eq, Int.ediv_mul_cancel ((isInt_iff a).1 h)]

theorem cmp_floor_of_isInt (a : Dec) (h : isInt a = true) : cmp a (ofInt (floor a)) = .eq := by
  rw [OrientedCmp.eq_swap (cmp := cmp), cmp_ofInt_floor_of_isInt a h]
  rfl

theorem ceil_eq_floor_of_isInt (a : Dec) (h : isInt a = true) : ceil a = floor a := by
  rw [ceil_eq, floor_eq, Int.neg_ediv_of_dvd ((isInt_iff a).1 h), Int.neg_neg]

theorem ceil_eq_floor_add_one (a : Dec) (h : isInt a = false) : ceil a = floor a + 1 := by
  rw [← Bool.not_eq_true, isInt_iff] at h
  rw [ceil_eq, floor_eq, Int.neg_ediv, if_neg h, Int.sign_eq_one_of_pos (ten_pow_pos _)]
  omega

theorem floor_le_ceil (a : Dec) : floor a ≤ ceil a := by
  cases h : isInt a
  · rw [ceil_eq_floor_add_one a h]; omega
  · rw [ceil_eq_floor_of_isInt a h]; omega

theorem intVal?_eq_some (d : Dec) (z : Int) (h : intVal? d = some z) : cmp d (ofInt z) = .eq := by
  unfold intVal? at h
  split at h
  · next hi =>
    cases h
    exact cmp_floor_of_isInt d hi
  · cases h

theorem trunc_of_nonneg (d : Dec) (h : 0 ≤ d.coeff) : trunc d = floor d := if_pos h

theorem trunc_of_neg (d : Dec) (h : d.coeff < 0) : trunc d = ceil d := if_neg (Int.not_le.2 h)

theorem trunc_of_isInt (d : Dec) (h : isInt d = true) : trunc d = floor d := by
  by_cases hc : 0 ≤ d.coeff
  · exact trunc_of_nonneg d hc
  · rw [trunc_of_neg d (by omega), ceil_eq_floor_of_isInt d h]

/-! ### rounding to a precision -/

theorem roundHalfUp_of_lt (p : Nat) (d : Dec) (h : d.coeff.natAbs < 10 ^ p) :
    roundHalfUp p d = (d, false) := by
  simp only [roundHalfUp]
  rw [if_pos h]

theorem coeff_ne_zero_of_not_isInt (d : Dec) (h : isInt d = false) : d.coeff ≠ 0 := by
  intro h0
  rw [← Bool.not_eq_true, isInt_iff, h0, Int.zero_mul] at h
  exact h (Int.dvd_zero _)

/-- a rounding that is not Inexact preserves the value -/
theorem roundHalfUp_exact (p : Nat) (d : Dec) (h : (roundHalfUp p d).2 = false) :
    cmp (roundHalfUp p d).1 d = .eq := by
  unfold roundHalfUp at h ⊢
  by_cases hm : d.coeff.natAbs < 10 ^ p
  · simp only [hm, if_true]; exact ReflCmp.compare_self
  · simp only [hm, if_false] at h ⊢
    generalize numDigits d.coeff.natAbs - p = k at h ⊢
    have hr : d.coeff.natAbs % 10 ^ k = 0 := by simpa using h
    have hpos : 0 < 10 ^ k := Nat.pow_pos (by decide)
    have hq : ¬ (10 ^ k ≤ 2 * (d.coeff.natAbs % 10 ^ k)) := by rw [hr]; omega
    simp only [hq, if_false]
    have hmq : (d.coeff.natAbs / 10 ^ k) * 10 ^ k = d.coeff.natAbs :=
      Nat.div_mul_cancel (Nat.dvd_of_mod_eq_zero hr)
    have hmq' : ((d.coeff.natAbs / 10 ^ k : Nat) : Int) * (10 : Int) ^ k = (d.coeff.natAbs : Int) := by
      exact_mod_cast hmq
    rw [cmp_eq_iff_at _ _ d.exp (by simp only []; omega) (Int.le_refl _), shift_self]
    simp only [shift]
    have e : (d.exp + (k : Int) - d.exp).toNat = k := by omega
    rw [e]
    by_cases hneg : d.coeff < 0
    · simp only [hneg, if_true]
      rw [Int.neg_mul, hmq']; omega
    · simp only [hneg, if_false]
      rw [hmq']; omega

theorem roundInt34_eq (z : Int) (x : Dec) (h : roundInt34 z = some x) : cmp x (ofInt z) = .eq := by
  unfold roundInt34 at h
  simp only at h
  split at h
  · cases h
  · rename_i hr
    cases h
    exact roundHalfUp_exact _ _ (by simpa using hr)

/-- when `BaseContext.Ceil` is not Inexact its result is the ceiling -/
theorem ceil34?_eq (d x : Dec) (h : ceil34? d = some x) : cmp x (ofInt (ceil d)) = .eq := by
  unfold ceil34? at h
  cases hi : isInt d
  · have hc := ceil_eq_floor_add_one d hi
    have hne := coeff_ne_zero_of_not_isInt d hi
    rw [hi, if_neg (by simp)] at h
    by_cases hp : 0 < d.coeff
    · rw [if_pos hp, trunc_of_nonneg d (by omega), ← hc] at h
      exact roundInt34_eq _ _ h
    · rw [if_neg hp, trunc_of_neg d (by omega)] at h
      cases h; exact ReflCmp.compare_self
  · rw [hi, if_pos rfl, trunc_of_isInt d hi, ← ceil_eq_floor_of_isInt d hi] at h
    cases h; exact ReflCmp.compare_self

theorem floor34?_eq (d x : Dec) (h : floor34? d = some x) : cmp x (ofInt (floor d)) = .eq := by
  unfold floor34? at h
  cases hi : isInt d
  · have hc := ceil_eq_floor_add_one d hi
    rw [hi, if_neg (by simp)] at h
    by_cases hp : d.coeff < 0
    · rw [if_pos hp, trunc_of_neg d hp, show ceil d - 1 = floor d by omega] at h
      exact roundInt34_eq _ _ h
    · rw [if_neg hp, trunc_of_nonneg d (by omega)] at h
      cases h; exact ReflCmp.compare_self
  · rw [hi, if_pos rfl, trunc_of_isInt d hi] at h
    cases h; exact ReflCmp.compare_self

end CueVerif.Dec
