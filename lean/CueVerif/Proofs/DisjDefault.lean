/-
C04, defaults.  The value sets always agree (`values_iff`), so `resolve` agrees as soon as the
default sets at the root do (`resolve_of_defs`).  Here are that reduction, the terms of an `or`
chain on both sides (`Expr.termList`), and the spec's end of the comparison: `unifyD` with at
most one conjunct carrying a default (`specD_eq`).  The model's end is in Proofs/DisjNested.lean.
Also the two-marked counterexample `Cex`.
-/
import CueVerif.Proofs.DisjValues
namespace CueVerif.Disj
variable {V : Type} [DecidableEq V]
set_option linter.unusedSectionVars false

/-! ### `resolve` only depends on the two sets -/

def sing (l : List V) : Res V :=
  match l with
  | [x] => .value x
  | _ => .ambiguous

/-- what `Default()` chooses from, as a function of the value list and the default list -/
def dsetOf (vs ds : List V) : List V := if ds.isEmpty then vs else ds

def resOf (vs ds : List V) : Res V :=
  match vs with
  | [] => .bottom
  | _ => sing (dsetOf vs ds)

omit [DecidableEq V] in
theorem Pair.resolve_eq (p : Pair V) : p.resolve = resOf p.v p.d := rfl

omit [DecidableEq V] in
theorem Out.resolve_eq (o : Out V) : o.resolve = resOf o.values o.defaults := rfl

omit [DecidableEq V] in
theorem perm_of_memP {l l' : List V} (hl : l.Nodup) (hl' : l'.Nodup) (h : memP l = memP l') :
    l.Perm l' := by
  rw [List.perm_ext_iff_of_nodup hl hl']
  intro a; exact Iff.of_eq (congrFun h a)

omit [DecidableEq V] in
theorem sing_perm {l l' : List V} (hp : l.Perm l') : sing l = sing l' := by
  match l, l', hp with
  | [], l', hp => rw [List.nil_perm.1 hp]
  | [x], l', hp => rw [List.singleton_perm.1 hp]
  | x :: y :: r, [], hp => exact absurd hp.length_eq (by simp)
  | x :: y :: r, [z], hp => exact absurd hp.length_eq (by simp)
  | x :: y :: r, z :: w :: r', hp => rfl

omit [DecidableEq V] in
theorem resOf_perm {vs vs' ds ds' : List V} (hv : vs.Perm vs') (hd : ds.Perm ds') :
    resOf vs ds = resOf vs' ds' := by
  unfold resOf dsetOf
  match vs, vs', hv with
  | [], vs', hv => rw [List.nil_perm.1 hv]
  | x :: r, [], hv => exact absurd hv.length_eq (by simp)
  | x :: r, y :: r', hv =>
    simp only
    rw [hd.isEmpty_eq]
    cases ds'.isEmpty
    · exact sing_perm hd
    · exact sing_perm hv

omit [DecidableEq V] in
theorem resOf_congr {vs vs' ds ds' : List V} (h1 : vs.Nodup) (h2 : vs'.Nodup) (h3 : ds.Nodup)
    (h4 : ds'.Nodup) (hv : memP vs = memP vs') (hd : memP ds = memP ds') :
    resOf vs ds = resOf vs' ds' :=
  resOf_perm (perm_of_memP h1 h2 hv) (perm_of_memP h3 h4 hd)

omit [DecidableEq V] in
theorem mem_dsetOf_congr {vs vs' ds ds' : List V} (hv : memP vs = memP vs')
    (hd : memP ds = memP ds') (x : V) : x ∈ dsetOf vs ds ↔ x ∈ dsetOf vs' ds' := by
  have hE : ds.isEmpty = ds'.isEmpty := by
    cases ds with
    | nil =>
      cases ds' with
      | nil => rfl
      | cons a t => exact absurd (congrFun hd a) (by simp [memP])
    | cons a t =>
      cases ds' with
      | nil => exact absurd (congrFun hd a) (by simp [memP])
      | cons _ _ => rfl
  unfold dsetOf
  rw [hE]
  cases ds'.isEmpty
  · exact Iff.of_eq (congrFun hd x)
  · exact Iff.of_eq (congrFun hv x)

def partF (S : Sl V) (pr : Pair V × List (Pair V)) : Bool × List V :=
  let alive := !(meetV S pr.1.d (meetAll S (pr.2.map Pair.v))).isEmpty
  (alive, if alive then pr.1.d else pr.1.v)

theorem unifyD_eq (S : Sl V) (ps : List (Pair V)) :
    unifyD S ps = if ((others [] ps).map (partF S)).any (·.1)
      then meetAll S (((others [] ps).map (partF S)).map (·.2)) else [] := rfl

theorem meetAll_nodup (S : Sl V) : ∀ ls : List (List V), (∀ a ∈ ls, a.Nodup) → (meetAll S ls).Nodup
  | [], _ => by simp [meetAll]
  | [a], h => h a (List.mem_cons_self ..)
  | a :: b :: r, _ => nodup_meetV S _ _

theorem mem_others {α : Type} (pre post : List α) (pr : α × List α) (h : pr ∈ others pre post) :
    pr.1 ∈ post := by
  induction post generalizing pre with
  | nil => simp [others] at h
  | cons x post ih =>
    simp only [others, List.mem_cons] at h
    rcases h with h | h
    · subst h; exact List.mem_cons_self ..
    · exact List.mem_cons_of_mem _ (ih _ h)

theorem unifyD_nodup (S : Sl V) (ps : List (Pair V)) (h : ∀ q ∈ ps, q.v.Nodup ∧ q.d.Nodup) :
    (unifyD S ps).Nodup := by
  rw [unifyD_eq]
  split
  · apply meetAll_nodup
    intro a ha
    simp only [List.mem_map] at ha
    obtain ⟨b, ⟨pr, hpr, rfl⟩, rfl⟩ := ha
    have := h _ (mem_others _ _ pr hpr)
    unfold partF
    simp only
    split
    · exact this.2
    · exact this.1
  · exact List.nodup_nil

theorem fold_D_nodup (f : Bool × Pair V → Pair V) (ts : List (Bool × Pair V)) (a : Pair V)
    (h : a.v.Nodup ∧ a.d.Nodup) :
    (ts.foldl (fun acc t => D acc (f t)) a).v.Nodup ∧ (ts.foldl (fun acc t => D acc (f t)) a).d.Nodup := by
  induction ts generalizing a with
  | nil => exact h
  | cons t ts ih => exact ih _ ⟨nodup_unionV _ _ h.1, nodup_unionV _ _ h.2⟩

theorem specPair_nodup (S : Sl V) (e : Expr V) :
    ((specPair S e).v.Nodup ∧ (specPair S e).d.Nodup) ∧
    ∀ q ∈ (specSem S e).conjs, q.v.Nodup ∧ q.d.Nodup := by
  -- every form but `&` contributes its own pair as its only conjunct
  have single : ∀ e : Expr V, (specSem S e).conjs = [specPair S e] →
      (specPair S e).v.Nodup ∧ (specPair S e).d.Nodup →
      ((specPair S e).v.Nodup ∧ (specPair S e).d.Nodup) ∧
        ∀ q ∈ (specSem S e).conjs, q.v.Nodup ∧ q.d.Nodup := by
    intro e hc hp
    refine ⟨hp, fun q hq => ?_⟩
    rw [hc, List.mem_singleton] at hq
    rw [hq]; exact hp
  induction e with
  | atom a => exact single _ rfl ⟨by simp [specPair, specSem], List.nodup_nil⟩
  | paren e ih => exact ih
  | mark e _ => exact single _ rfl ⟨List.nodup_nil, List.nodup_nil⟩
  | or l r _ _ => exact single _ rfl (fold_D_nodup _ _ _ ⟨List.nodup_nil, List.nodup_nil⟩)
  | and l r ihl ihr =>
    have hc : ∀ q ∈ (specSem S (.and l r)).conjs, q.v.Nodup ∧ q.d.Nodup := by
      intro q hq
      rcases List.mem_append.1 (show q ∈ (specSem S l).conjs ++ (specSem S r).conjs from hq) with hq | hq
      · exact ihl.2 q hq
      · exact ihr.2 q hq
    exact ⟨⟨nodup_meetV S _ _, unifyD_nodup S _ hc⟩, hc⟩

/-! ### the root node -/

def defs (l : List (Leaf V)) : List V := vals (l.filter (·.dm = .isDef))

/-- A single survivor is reported as a plain value and loses its mode; `resolve` and the
default set do not see the difference. -/
theorem eval_root (S : Sl V) (e : Expr V) :
    (eval S e).resolve = resOf (vals (rootL S e)) (defs (rootL S e)) ∧
    (eval S e).defaultSet = dsetOf (vals (rootL S e)) (defs (rootL S e)) := by
  rw [eval_eq]
  generalize rootL S e = L
  match L with
  | [] => exact ⟨rfl, rfl⟩
  | [x] =>
    by_cases hx : x.dm = .isDef <;>
      simp [Out.resolve, Out.values, Out.defaultSet, Out.defaults, resOf, dsetOf, sing, defs, vals, hx]
  | x :: y :: r => exact ⟨rfl, rfl⟩

theorem nodup_defs_rootL (S : Sl V) (e : Expr V) : (defs (rootL S e)).Nodup :=
  (List.filter_sublist.map _).nodup (nodup_rootL S e)

/-- `X` is what the disjunction conjuncts contribute to the defaults -/
theorem defs_rootL {S : Sl V} (h : Laws S) (e : Expr V) (X : V → Prop)
    (hd : ∀ b, defsP ((sem S e).conj [⟨b, .maybe, .maybe⟩]) =
      MeetP S (valsP [⟨b, .maybe, .maybe⟩]) X) :
    defsP (rootL S e) = MeetP S (scP S e) X := by
  unfold rootL
  cases hb : sv S e with
  | none =>
    rw [scP_of_sv_none h e hb, meetP_pnone_left]
    exact eq_pnone fun _ ⟨_, hq, _⟩ => nomatch hq
  | some b => rw [hd b, root_vals h e b hb]

/-- `resolve` and the default set of `eval` depend on the root disjuncts only through their
two sets -/
theorem eval_congr (S : Sl V) {e e' : Expr V} (hv : valsP (rootL S e) = valsP (rootL S e'))
    (hd : defsP (rootL S e) = defsP (rootL S e')) :
    (eval S e).resolve = (eval S e').resolve ∧
    ∀ x, x ∈ (eval S e).defaultSet ↔ x ∈ (eval S e').defaultSet := by
  rw [(eval_root S e).1, (eval_root S e').1, (eval_root S e).2, (eval_root S e').2]
  rw [← memP_vals, ← memP_vals] at hv
  rw [← memP_defs, ← memP_defs] at hd
  exact ⟨resOf_congr (nodup_rootL S e) (nodup_rootL S e') (nodup_defs_rootL S e) (nodup_defs_rootL S e') hv hd,
    mem_dsetOf_congr hv hd⟩

theorem resolve_of_defs {S : Sl V} (h : Laws S) (e : Expr V)
    (hs : defsP (rootL S e) = memP (specPair S e).d) :
    (eval S e).resolve = (specPair S e).resolve := by
  obtain ⟨⟨k1, k2⟩, _⟩ := specPair_nodup S e
  rw [(eval_root S e).1, Pair.resolve_eq]
  refine resOf_congr (nodup_rootL S e) k1 (nodup_defs_rootL S e) k2 ?_ ?_
  · rw [memP_vals, vals_rootL h, specV_eq h]
  · exact (memP_defs _).trans hs

/-! ### the terms of an or-chain -/

/-- syntactic term list of an `or` chain under an inherited mark (what addDisjunctionElem collects) -/
def Expr.termList {V : Type} : Expr V → Bool → List (Bool × Expr V)
  | .or l r, mk => l.termList mk ++ r.termList mk
  | .mark e, _ => e.termList true
  | e, mk => [(mk, e)]

def termR (S : Sl V) (hd : Bool) (p : Leaf V) (mt : Bool × Expr V) : List (R V) :=
  doDisj (sem S mt.2).scalar (sem S mt.2).conj p (mode hd mt.1)

theorem terms_eq (S : Sl V) (e : Expr V) (hd mk : Bool) (p : Leaf V) :
    (sem S e).terms hd mk p = (Expr.termList e mk).flatMap (termR S hd p) := by
  induction e generalizing mk with
  | atom a => simp [Expr.termList, termR, sem]
  | and l r _ _ => simp [Expr.termList, termR, sem]
  | paren e _ => simp [Expr.termList, termR, sem]
  | mark e ih =>
    have : (sem S (.mark e)).terms hd mk p = (sem S e).terms hd true p := rfl
    rw [this, ih]; rfl
  | or l r ihl ihr =>
    have : (sem S (.or l r)).terms hd mk p = (sem S l).terms hd mk p ++ (sem S r).terms hd mk p := rfl
    rw [this, ihl, ihr]; simp [Expr.termList]

theorem hasMark_eq (S : Sl V) (e : Expr V) : (sem S e).hasMark = e.chainMarked := by
  induction e with
  | atom a => rfl
  | and l r _ _ => rfl
  | paren e _ => rfl
  | mark e _ => rfl
  | or l r ihl ihr =>
    have : (sem S (.or l r)).hasMark = ((sem S l).hasMark || (sem S r).hasMark) := rfl
    rw [this, ihl, ihr]; rfl

theorem conj_or (S : Sl V) (l r : Expr V) (c : List (Leaf V)) :
    (sem S (.or l r)).conj c =
      crossProduct c fun p => (Expr.termList (.or l r) false).flatMap (termR S (Expr.or l r).chainMarked p) := by
  show crossProduct c (fun p =>
      (sem S l).terms ((sem S l).hasMark || (sem S r).hasMark) false p ++
      (sem S r).terms ((sem S l).hasMark || (sem S r).hasMark) false p) = _
  congr 1; funext p
  rw [terms_eq, terms_eq, hasMark_eq, hasMark_eq, ← List.flatMap_append]; rfl

theorem termList_any (e : Expr V) (mk : Bool) :
    (Expr.termList e mk).any (·.1) = (mk || e.chainMarked) := by
  induction e generalizing mk with
  | atom a => simp [Expr.termList, Expr.chainMarked]
  | and l r _ _ => simp [Expr.termList, Expr.chainMarked]
  | paren e _ => simp [Expr.termList, Expr.chainMarked]
  | mark e ih => simp [Expr.termList, Expr.chainMarked, ih]
  | or l r ihl ihr =>
    simp only [Expr.termList, List.any_append, ihl, ihr, Expr.chainMarked]
    cases mk <;> cases l.chainMarked <;> cases r.chainMarked <;> rfl

theorem spec_terms_eq (S : Sl V) (e : Expr V) (mk : Bool) :
    (specSem S e).terms mk = (Expr.termList e mk).map fun mt => (mt.1, specPair S mt.2) := by
  induction e generalizing mk with
  | atom a => rfl
  | and l r _ _ => rfl
  | paren e _ => rfl
  | mark e ih => exact ih true
  | or l r ihl ihr =>
    show (specSem S l).terms mk ++ (specSem S r).terms mk = _
    rw [ihl, ihr]; simp [Expr.termList]

theorem specPair_or (S : Sl V) (l r : Expr V) :
    specPair S (.or l r) = disjPair ((Expr.termList (.or l r) false).map fun mt => (mt.1, specPair S mt.2)) := by
  show disjPair ((specSem S l).terms false ++ (specSem S r).terms false) = _
  rw [spec_terms_eq, spec_terms_eq]; simp [Expr.termList]

theorem djP_or (S : Sl V) (l r : Expr V) (y : V) :
    djP S (.or l r) y ↔ ∃ mt ∈ Expr.termList (.or l r) false, y ∈ (specPair S mt.2).v := by
  show y ∈ (specPair S (.or l r)).v ↔ _
  rw [specPair_or, mem_disjPair_v]
  constructor
  · rintro ⟨t, ht, hy⟩
    obtain ⟨mt, hmt, rfl⟩ := List.mem_map.1 ht
    exact ⟨mt, hmt, hy⟩
  · rintro ⟨mt, hmt, hy⟩
    exact ⟨_, List.mem_map.2 ⟨mt, hmt, rfl⟩, hy⟩

def markedP (S : Sl V) (e : Expr V) : V → Prop :=
  fun y => ∃ mt ∈ Expr.termList e false, mt.1 = true ∧ y ∈ (specPair S mt.2).v

/-- D0–D2 with M0–M3 for a chain whose terms carry no default of their own: the default set
is the union of the values of the marked terms -/
theorem specD_or (S : Sl V) (l r : Expr V)
    (hd0 : ∀ mt ∈ Expr.termList (.or l r) false, (specPair S mt.2).d = []) :
    memP (specPair S (.or l r)).d = markedP S (.or l r) := by
  rw [specPair_or]
  unfold markedP
  generalize Expr.termList (.or l r) false = ts at hd0
  funext y; apply propext
  unfold disjPair
  simp only
  rw [show memP _ y = (y ∈ _) from rfl, (fold_D _ _ _ y).2]
  simp only [List.not_mem_nil, false_or]
  constructor
  · rintro ⟨t, ht, hy⟩
    obtain ⟨mt, hmt, rfl⟩ := List.mem_map.1 ht
    have hd0' := hd0 mt hmt
    split at hy
    · cases hb : mt.1 with
      | true => simp [M, hb, hd0'] at hy; exact ⟨mt, hmt, hb, hy⟩
      | false => simp [M, hb] at hy
    · rw [hd0'] at hy; cases hy
  · rintro ⟨mt, hmt, hmk, hy⟩
    refine ⟨_, List.mem_map.2 ⟨mt, hmt, rfl⟩, ?_⟩
    have hany : (List.map (fun mt => (mt.1, specPair S mt.2)) ts).any (·.1) = true := by
      rw [List.any_eq_true]
      exact ⟨_, List.mem_map.2 ⟨mt, hmt, rfl⟩, hmk⟩
    rw [if_pos hany]
    simp [M, hmk, hd0 mt hmt]; exact hy

/-! ### the n-ary unification rule `unifyD` with at most one conjunct carrying a default -/

def VV (S : Sl V) : List (List V) → V → Prop
  | [] => fun x => x = S.top
  | a :: r => MeetP S (memP a) (VV S r)

theorem memP_meetAll {S : Sl V} (h : Laws S) : ∀ ls : List (List V), memP (meetAll S ls) = VV S ls
  | [] => by funext x; apply propext; simp [meetAll, memP, VV]
  | [a] => by simp only [meetAll, VV]; exact (meetP_top_right h _).symm
  | a :: b :: r => by
    have ih := memP_meetAll h (b :: r)
    rw [show meetAll S (a :: b :: r) = meetV S a (meetAll S (b :: r)) from rfl, memP_meetV, ih]; rfl

theorem VV_append {S : Sl V} (h : Laws S) (a b : List (List V)) :
    VV S (a ++ b) = MeetP S (VV S a) (VV S b) := by
  induction a with
  | nil => exact (meetP_top_left h _).symm
  | cons x a ih => simp only [List.cons_append, VV, ih, meetP_assoc h]

theorem VV_conjs {S : Sl V} (h : Laws S) (e : Expr V) :
    VV S ((specSem S e).conjs.map Pair.v) = memP (specPair S e).v := by
  induction e with
  | atom a => exact meetP_top_right h _
  | mark e _ => exact meetP_top_right h _
  | or l r _ _ => exact meetP_top_right h _
  | paren e ih => exact ih
  | and l r ihl ihr =>
    show VV S (((specSem S l).conjs ++ (specSem S r).conjs).map Pair.v) =
      memP (meetV S (specPair S l).v (specPair S r).v)
    rw [List.map_append, VV_append h, ihl, ihr, memP_meetV]

def AllU (ps : List (Pair V)) : Prop := ∀ q ∈ ps, q.d = []

theorem allU_nil : AllU ([] : List (Pair V)) := fun _ hq => nomatch hq

theorem allU_append {A B : List (Pair V)} (hA : AllU A) (hB : AllU B) : AllU (A ++ B) := by
  intro q hq
  rcases List.mem_append.1 hq with hq | hq
  · exact hA q hq
  · exact hB q hq

theorem partF_unmarked (S : Sl V) (x : Pair V) (ctx : List (Pair V)) (hx : x.d = []) :
    partF S (x, ctx) = (false, x.v) := by
  simp [partF, hx, meetV_nil_left]

theorem others_allU (S : Sl V) (pre post : List (Pair V)) (hp : AllU post) :
    (others pre post).map (partF S) = post.map fun q => (false, q.v) := by
  induction post generalizing pre with
  | nil => rfl
  | cons x post ih =>
    simp only [others, List.map_cons]
    rw [partF_unmarked S x _ (hp x (List.mem_cons_self ..)),
      ih _ (fun q hq => hp q (List.mem_cons_of_mem _ hq))]

theorem others_oneM (S : Sl V) (pre A B : List (Pair V)) (p : Pair V) (hA : AllU A) (hB : AllU B) :
    (others pre (A ++ p :: B)).map (partF S) =
      (A.map fun q => (false, q.v)) ++ partF S (p, pre ++ A ++ B) :: (B.map fun q => (false, q.v)) := by
  induction A generalizing pre with
  | nil =>
    simp only [List.nil_append, others, List.map_cons, List.map_nil, List.append_nil]
    rw [others_allU S _ B hB]
  | cons a A ih =>
    simp only [List.cons_append, others, List.map_cons]
    rw [partF_unmarked S a _ (hA a (List.mem_cons_self ..)),
      ih _ (fun q hq => hA q (List.mem_cons_of_mem _ hq))]
    simp [List.append_assoc]

theorem unifyD_allU (S : Sl V) (ps : List (Pair V)) (hp : AllU ps) : unifyD S ps = [] := by
  rw [unifyD_eq, others_allU S [] ps hp]
  simp

theorem any_false_map (A : List (Pair V)) :
    (A.map fun q => ((false : Bool), q.v)).any (·.1) = false := by
  induction A with
  | nil => rfl
  | cons a A ih => simp only [List.map_cons, List.any_cons, ih]; rfl

/-- U1 with the "all marked disjuncts eliminated" clause: one conjunct with a default among
conjuncts without -/
theorem unifyD_oneM {S : Sl V} (h : Laws S) (A B : List (Pair V)) (p : Pair V)
    (hA : AllU A) (hB : AllU B) :
    memP (unifyD S (A ++ p :: B)) =
      MeetP S (VV S (A.map Pair.v)) (MeetP S (memP p.d) (VV S (B.map Pair.v))) := by
  rw [unifyD_eq, others_oneM S [] A B p hA hB]
  have hpf : partF S (p, [] ++ A ++ B) =
      (!(meetV S p.d (meetAll S ((A ++ B).map Pair.v))).isEmpty,
       if (!(meetV S p.d (meetAll S ((A ++ B).map Pair.v))).isEmpty) = true then p.d else p.v) := rfl
  rw [hpf, List.any_append, List.any_cons, any_false_map, any_false_map]
  have hctx : MeetP S (VV S (A.map Pair.v)) (MeetP S (memP p.d) (VV S (B.map Pair.v))) =
      memP (meetV S p.d (meetAll S ((A ++ B).map Pair.v))) := by
    rw [memP_meetV, memP_meetAll h, List.map_append, VV_append h,
      ← meetP_assoc h, meetP_comm h (VV S _) (memP p.d), meetP_assoc h]
  cases hal : (meetV S p.d (meetAll S ((A ++ B).map Pair.v))).isEmpty with
  | true =>
    rw [hctx, List.isEmpty_iff.1 hal]
    rfl
  | false =>
    simp only [Bool.not_false, Bool.false_or, Bool.or_false, if_true, List.map_append,
      List.map_map, List.map_cons]
    rw [memP_meetAll h, VV_append h]
    simp only [Function.comp_def, VV]

/-! ### the default of a node with at most one marked disjunction, on both sides -/

/-- default set contributed by the disjunction conjuncts of `e` when at most one of them
carries a default: that one's defaults met with the values of the others -/
def CD (S : Sl V) : Expr V → V → Prop
  | .atom _ => pnone
  | .and l r => por (MeetP S (CD S l) (djP S r)) (MeetP S (djP S l) (CD S r))
  | .paren e => CD S e
  | .or l r => memP (specPair S (.or l r)).d
  | .mark _ => pnone

/-- the same on the list of conjunct pairs -/
def DD (S : Sl V) : List (Pair V) → V → Prop
  | [] => pnone
  | p :: ps => por (MeetP S (memP p.d) (VV S (ps.map Pair.v))) (MeetP S (memP p.v) (DD S ps))

theorem DD_allU (S : Sl V) (ps : List (Pair V)) (h : AllU ps) : DD S ps = pnone := by
  induction ps with
  | nil => rfl
  | cons p ps ih =>
    simp only [DD, h p (List.mem_cons_self ..), memP_nil, meetP_pnone_left,
      ih fun q hq => h q (List.mem_cons_of_mem _ hq), meetP_pnone_right, por_pnone_left]

theorem DD_append {S : Sl V} (h : Laws S) (X Y : List (Pair V)) :
    DD S (X ++ Y) = por (MeetP S (DD S X) (VV S (Y.map Pair.v))) (MeetP S (VV S (X.map Pair.v)) (DD S Y)) := by
  induction X with
  | nil => simp only [List.nil_append, DD, List.map_nil, VV, meetP_pnone_left, por_pnone_left, meetP_top_left h]
  | cons p X ih =>
    simp only [List.cons_append, DD, List.map_append, List.map_cons, VV, VV_append h, ih,
      meetP_por_left, meetP_por_right, meetP_assoc h, por_assoc]

def Split (ps : List (Pair V)) : Prop :=
  AllU ps ∨ ∃ A p B, ps = A ++ p :: B ∧ AllU A ∧ AllU B

theorem unifyD_DD {S : Sl V} (h : Laws S) (ps : List (Pair V)) (hs : Split ps) :
    memP (unifyD S ps) = DD S ps := by
  rcases hs with hU | ⟨A, p, B, rfl, hA, hB⟩
  · rw [unifyD_allU S ps hU, memP_nil, DD_allU S ps hU]
  · rw [unifyD_oneM h A B p hA hB, DD_append h, DD_allU S A hA]
    simp only [DD, DD_allU S B hB, meetP_pnone_left, meetP_pnone_right, por_pnone_left, por_pnone_right]

theorem DD_conjs {S : Sl V} (h : Laws S) (e : Expr V) :
    DD S (specSem S e).conjs = MeetP S (scP S e) (CD S e) := by
  induction e with
  | atom a =>
    show DD S [⟨[a], []⟩] = _
    simp only [DD, CD, memP_nil, meetP_pnone_left, meetP_pnone_right, por_pnone_left]
  | mark e _ =>
    show DD S [⟨[], []⟩] = _
    simp only [DD, CD, memP_nil, meetP_pnone_left, meetP_pnone_right, por_pnone_left]
  | paren e ih => exact ih
  | or l r _ _ =>
    show DD S [specPair S (.or l r)] = MeetP S (· = S.top) (memP (specPair S (.or l r)).d)
    simp only [DD, List.map_nil, VV, meetP_pnone_right, por_pnone_right, meetP_top_left h, meetP_top_right h]
  | and l r ihl ihr =>
    show DD S ((specSem S l).conjs ++ (specSem S r).conjs) = _
    rw [DD_append h, ihl, ihr, VV_conjs h, VV_conjs h, specV_eq h, specV_eq h,
      meetP_swap h (scP S l) (CD S l), meetP_swap h (scP S l) (djP S l)]
    simp only [CD, scP, meetP_por_right]

/-- U0–U2 for all conjuncts of a node with at most one default among them -/
theorem specD_eq {S : Sl V} (h : Laws S) (e : Expr V) (hs : Split (specSem S e).conjs) :
    memP (specPair S e).d = MeetP S (scP S e) (CD S e) := by
  induction e with
  | atom a => show memP [] = _; simp only [memP_nil, CD, meetP_pnone_right]
  | mark e _ => show memP [] = _; simp only [memP_nil, CD, meetP_pnone_right]
  | paren e ih => exact ih hs
  | or l r _ _ => exact (meetP_top_left h _).symm
  | and l r _ _ =>
    show memP (unifyD S (specSem S (.and l r)).conjs) = _
    rw [unifyD_DD h _ hs, DD_conjs h]

/-! ### with TWO marked disjunctions the model is order dependent (machine-checked on `bits`) -/

namespace Cex
def A : Expr Nat := .or (.or (.mark (.atom 1)) (.atom 2)) (.atom 4)   -- *1 | 2 | 4
def B : Expr Nat := .or (.or (.atom 1) (.mark (.atom 2))) (.atom 4)   -- 1 | *2 | 4
def C : Expr Nat := .or (.atom 2) (.atom 4)                           -- 2 | 4

/-- `(*1|2|4) & ((1|*2|4) & (2|4))` is ambiguous in the model … -/
theorem model_ABC : (eval bits (.and A (.and B C))).resolve = .ambiguous := by decide
/-- … but `((2|4) & (*1|2|4)) & (1|*2|4)` resolves to 2: the model is not invariant under
reordering the conjuncts of a node once two of the disjunctions are marked. -/
theorem model_CAB : (eval bits (.and (.and C A) B)).resolve = .value 2 := by decide
theorem model_order_dependent :
    (eval bits (.and A (.and B C))).resolve ≠ (eval bits (.and (.and C A) B)).resolve := by
  rw [model_ABC, model_CAB]; decide
/-- the spec (n-ary unification) says 2 for both orders, so the default theorem does not
extend to two marked disjunctions -/
theorem spec_ABC : (specPair bits (.and A (.and B C))).resolve = .value 2 := by decide
theorem spec_CAB : (specPair bits (.and (.and C A) B)).resolve = .value 2 := by decide
theorem flat2_fails : (Expr.and A (.and B C)).flatConj = true ∧
    (Expr.and A (.and B C)).markedChains = 2 ∧
    (eval bits (.and A (.and B C))).resolve ≠ (specPair bits (.and A (.and B C))).resolve := by
  refine ⟨by decide, by decide, ?_⟩
  rw [model_ABC, spec_ABC]; decide
end Cex

end CueVerif.Disj
