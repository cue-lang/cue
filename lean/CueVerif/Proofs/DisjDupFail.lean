/-
Duplicate and failed disjuncts never change the outcome of a disjunction at the root: the two
chains have the same `djP` and `CD`, hence the same sets at the root (`vals_rootL`,
`defs_nestedConj`, `eval_congr`).
Core Lean only.
-/
import CueVerif.Proofs.DisjOneMarked
namespace CueVerif.Disj
variable {V : Type} [DecidableEq V]
set_option linter.unusedSectionVars false

/-- for a disjunction whose terms are, below their marks, mark-free expressions of any shape -/
theorem dup_fail_chain (S : Sl V) (h : Laws S) (c1 c2 t : Expr V)
    (hf : (Expr.or (.or c1 c2) t).mfChain = true)
    (ht : ∀ ms ∈ t.termList false, ms ∈ (Expr.or c1 c2).termList false ∨ (specPair S ms.2).v = []) :
    (eval S (.or (.or c1 c2) t)).resolve = (eval S (.or c1 c2)).resolve := by
  have hf2 : (Expr.or c1 c2).mfChain = true := by
    simp only [Expr.mfChain, Bool.and_eq_true] at hf ⊢; exact hf.1
  -- a term of the longer chain with a value is a term of the shorter one
  have hterm : ∀ mt ∈ Expr.termList (.or (.or c1 c2) t) false, ∀ y, y ∈ (specPair S mt.2).v →
      mt ∈ Expr.termList (.or c1 c2) false := by
    intro mt hmt y hy
    rcases List.mem_append.1 (show mt ∈ Expr.termList (.or c1 c2) false ++ Expr.termList t false from hmt) with hmt | hmt
    · exact hmt
    · rcases ht mt hmt with hd | hfail
      · exact hd
      · rw [hfail] at hy; cases hy
  have hsub : ∀ mt ∈ Expr.termList (.or c1 c2) false, mt ∈ Expr.termList (.or (.or c1 c2) t) false :=
    fun mt hmt => List.mem_append_left _ hmt
  have hdj : djP S (.or (.or c1 c2) t) = djP S (.or c1 c2) := by
    funext y; apply propext
    rw [djP_or, djP_or]
    exact ⟨fun ⟨mt, hmt, hy⟩ => ⟨mt, hterm mt hmt y hy, hy⟩, fun ⟨mt, hmt, hy⟩ => ⟨mt, hsub mt hmt, hy⟩⟩
  have hCD : CD S (.or (.or c1 c2) t) = CD S (.or c1 c2) := by
    show memP _ = memP _
    rw [chain_spec_nested S _ _ hf, chain_spec_nested S _ _ hf2]
    funext y; apply propext
    exact ⟨fun ⟨mt, hmt, hb, hy⟩ => ⟨mt, hterm mt hmt y hy, hb, hy⟩,
      fun ⟨mt, hmt, hb, hy⟩ => ⟨mt, hsub mt hmt, hb, hy⟩⟩
  refine (eval_congr S ?_ ?_).1
  · rw [vals_rootL h, vals_rootL h, hdj]; rfl
  · rw [defs_nestedConj h (.or (.or c1 c2) t) hf (markedChains_or _ _),
      defs_nestedConj h (.or c1 c2) hf2 (markedChains_or _ _), hCD]; rfl

theorem dup_fail_flat (S : Sl V) (h : Laws S) (c1 c2 t : Expr V)
    (hf : (Expr.or (.or c1 c2) t).flatChain = true)
    (ht : ∀ ms ∈ t.termList false, ms ∈ (Expr.or c1 c2).termList false ∨ (specPair S ms.2).v = []) :
    (eval S (.or (.or c1 c2) t)).resolve = (eval S (.or c1 c2)).resolve :=
  dup_fail_chain S h c1 c2 t (flatChain_mfChain _ hf) ht

/-- special case: every term of `t` already occurs (same mark, same expression) in the chain -/
theorem dup_flat (S : Sl V) (h : Laws S) (c1 c2 t : Expr V)
    (hf : (Expr.or (.or c1 c2) t).flatChain = true)
    (ht : ∀ ms ∈ t.termList false, ms ∈ (Expr.or c1 c2).termList false) :
    (eval S (.or (.or c1 c2) t)).resolve = (eval S (.or c1 c2)).resolve :=
  dup_fail_flat S h c1 c2 t hf (fun ms hms => Or.inl (ht ms hms))

/-- special case: every term of `t` fails (marked or not) -/
theorem fail_flat (S : Sl V) (h : Laws S) (c1 c2 t : Expr V)
    (hf : (Expr.or (.or c1 c2) t).flatChain = true)
    (ht : ∀ ms ∈ t.termList false, (specPair S ms.2).v = []) :
    (eval S (.or (.or c1 c2) t)).resolve = (eval S (.or c1 c2)).resolve :=
  dup_fail_flat S h c1 c2 t hf (fun ms hms => Or.inr (ht ms hms))

end CueVerif.Disj
