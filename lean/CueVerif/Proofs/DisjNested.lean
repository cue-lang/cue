/-
C04: the default modes through the conjuncts of a node, for disjunctions nested to any depth.
A mark-free conjunct — the unroll arm of `crossProduct`, the `DerefDisjunct` collapse of
`doDisjunct`, dedup, the `hasNonMaybe` demotion — hands every mode class of its left operand on
(`Like`, invariant `MInv`): all-maybeDefault stays so, which is the state up to a marked
disjunction, and isDefault is inherited exactly, so that afterwards the defaults are passed on
(`inherit`).  At a marked disjunction with mark-free terms, met with operands that carry no
default, the survivors of the marked terms become the defaults (`chain_defs_cross`).
-/
import CueVerif.Model.DisjFrag
import CueVerif.Proofs.DisjDefault
namespace CueVerif.Disj
variable {V : Type} [DecidableEq V]
set_option linter.unusedSectionVars false

/-! ### mark-free expressions and chains with mark-free terms -/

theorem markfree_mfChain (e : Expr V) (h : e.hasAnyMark = false) :
    e.mfChain = true ∧ e.chainMarked = false := by
  induction e with
  | atom a => exact ⟨rfl, rfl⟩
  | and l r _ _ => exact ⟨by simp [Expr.mfChain, h], rfl⟩
  | paren e _ => exact ⟨by simp [Expr.mfChain, h], rfl⟩
  | mark e _ => cases h
  | or l r ihl ihr =>
    simp only [Expr.hasAnyMark, Bool.or_eq_false_iff] at h
    simp only [Expr.mfChain, Expr.chainMarked, ihl h.1, ihr h.2]; exact ⟨rfl, rfl⟩

theorem mfChain_markfree (e : Expr V) (h : e.mfChain = true) (hc : e.chainMarked = false) :
    e.hasAnyMark = false := by
  induction e with
  | atom a => rfl
  | and l r _ _ => simpa [Expr.mfChain] using h
  | paren e _ => simpa [Expr.mfChain] using h
  | mark e _ => cases hc
  | or l r ihl ihr =>
    simp only [Expr.mfChain, Bool.and_eq_true] at h
    simp only [Expr.chainMarked, Bool.or_eq_false_iff] at hc
    simp only [Expr.hasAnyMark, ihl h.1 hc.1, ihr h.2 hc.2]; rfl

theorem termList_markfree (e : Expr V) (mk : Bool) (h : e.mfChain = true) :
    ∀ mt ∈ Expr.termList e mk, mt.2.hasAnyMark = false := by
  induction e generalizing mk with
  | atom a => intro mt hm; simp [Expr.termList] at hm; subst hm; rfl
  | and l r _ _ =>
    intro mt hm; simp [Expr.termList] at hm; subst hm
    simpa [Expr.mfChain] using h
  | paren e _ =>
    intro mt hm; simp [Expr.termList] at hm; subst hm
    simpa [Expr.mfChain] using h
  | mark e ih => exact ih true h
  | or l r ihl ihr =>
    simp only [Expr.mfChain, Bool.and_eq_true] at h
    intro mt hm; simp only [Expr.termList, List.mem_append] at hm
    rcases hm with hm | hm
    · exact ihl mk h.1 mt hm
    · exact ihr mk h.2 mt hm

/-- the disjunction conjunct of a mark-free `or` has `HasDefaults = false` -/
theorem conj_or_markfree (S : Sl V) (l r : Expr V) (hm : (Expr.or l r).hasAnyMark = false)
    (c : List (Leaf V)) :
    (sem S (.or l r)).conj c = crossProduct c (fun p =>
        (sem S l).terms false false p ++ (sem S r).terms false false p) := by
  have : ((sem S l).hasMark || (sem S r).hasMark) = false :=
    (hasMark_eq S (.or l r)).trans (markfree_mfChain _ hm).2
  show crossProduct c (fun p =>
    (sem S l).terms ((sem S l).hasMark || (sem S r).hasMark) false p ++
    (sem S r).terms ((sem S l).hasMark || (sem S r).hasMark) false p) = _
  rw [this]

/-! ### mode classes -/

/-- How the mode `x` of a disjunct may differ from the mode `d` of the left operand it descends
from through mark-free conjuncts: isDefault is inherited exactly, and maybeDefault stays
maybeDefault (a non-default may be maybeDefault or, after the `hasNonMaybe` demotion,
notDefault).  `d` = maybe, isDef, notDef gives the classes `= maybe`, `= isDef`, `≠ isDef`. -/
def Like (d x : Mode) : Prop := (x = .isDef ↔ d = .isDef) ∧ (d = .maybe → x = .maybe)

theorem Like.refl (d : Mode) : Like d d := ⟨Iff.rfl, id⟩

theorem Like.trans {d p x : Mode} (h1 : Like d p) (h2 : Like p x) : Like d x :=
  ⟨h2.1.trans h1.1, fun hd => h2.2 (h1.2 hd)⟩

def AllLike (d : Mode) (c : List (Leaf V)) : Prop := ∀ q ∈ c, Like d q.dm

def AllMaybe (c : List (Leaf V)) : Prop := ∀ q ∈ c, q.dm = .maybe

def OdmMaybe (c : List (Leaf V)) : Prop := ∀ q ∈ c, q.odm = .maybe

theorem allMaybe_iff (c : List (Leaf V)) : AllMaybe c ↔ AllLike .maybe c :=
  ⟨fun h q hq => by rw [h q hq]; exact Like.refl _, fun h q hq => (h q hq).2 rfl⟩

theorem root_allMaybe (b : V) : AllMaybe ([⟨b, .maybe, .maybe⟩] : List (Leaf V)) :=
  fun q hq => by rw [List.mem_singleton.1 hq]
theorem root_odmMaybe (b : V) : OdmMaybe ([⟨b, .maybe, .maybe⟩] : List (Leaf V)) :=
  fun q hq => by rw [List.mem_singleton.1 hq]

theorem defsP_allMaybe {c : List (Leaf V)} (h : AllMaybe c) : defsP c = pnone :=
  eq_pnone fun x ⟨q, hq, _, hdm⟩ => by rw [h q hq] at hdm; cases hdm

/-- the result of a mark-free term under a left operand of mode `d`: only the
`origDefaultMode` `m` the enclosing disjunction gave the term is new -/
def RLike (d m : Mode) : R V → Prop
  | .leaf l => Like d l.dm ∧ l.odm = m
  | .multi dm odm ds => dm = d ∧ odm = m ∧ AllLike d ds

def ROdm : R V → Prop
  | .leaf l => l.odm = .maybe
  | .multi _ _ ds => OdmMaybe ds

theorem rlike_odm (d m : Mode) (r : R V) (h : RLike d m r) : r.odm = m := by
  cases r with
  | leaf l => exact h.2
  | multi dm odm ds => exact h.2.1

theorem rlike_doDisj (sc : Option V → Option V) (cj : List (Leaf V) → List (Leaf V))
    (hcj : ∀ d c, AllLike d c → AllLike d (cj c)) (p : Leaf V) (m : Mode) :
    ∀ r ∈ doDisj sc cj p m, RLike p.dm m r := by
  intro r hr
  rcases doDisj_cases sc cj p m with h0 | ⟨v, _, ⟨x, hx, h1⟩ | ⟨_, h1⟩⟩
  · rw [h0] at hr; cases hr
  all_goals
    rw [h1, List.mem_singleton] at hr; subst hr
    have hc := hcj p.dm [⟨v, p.dm, m⟩] (fun q hq => by rw [List.mem_singleton.1 hq]; exact Like.refl _)
  · rw [hx] at hc
    exact ⟨hc x (List.mem_cons_self ..), rfl⟩
  · exact ⟨rfl, rfl, hc⟩

/-- `origDefaultMode` is only ever set by `doDisjunct` -/
theorem rodm_doDisj (sc : Option V → Option V) (cj : List (Leaf V) → List (Leaf V))
    (hcj : ∀ c, OdmMaybe c → OdmMaybe (cj c)) (p : Leaf V) :
    ∀ r ∈ doDisj sc cj p .maybe, ROdm r := by
  intro r hr
  rcases doDisj_cases sc cj p .maybe with h0 | ⟨v, _, ⟨x, _, h1⟩ | ⟨_, h1⟩⟩
  · rw [h0] at hr; cases hr
  · rw [h1, List.mem_singleton] at hr; subst hr; rfl
  · rw [h1, List.mem_singleton] at hr; subst hr
    exact hcj _ fun q hq => by rw [List.mem_singleton.1 hq]

/-! ### an unmarked disjunction with mark-free terms preserves every mode class

Every term has `origDefaultMode` maybeDefault, so `rightDrops` plays no part. -/

theorem cd2_maybe (a : Mode) (ld rd : Bool) :
    combineDefault2 a .maybe ld rd = if ld then .maybe else a := by
  cases a <;> cases ld <;> cases rd <;> rfl

/-- the leaf arm; `leftDrops` only when the operand is not isDefault -/
theorem like_leaf (d x : Mode) (ld rd : Bool) (hld : ld = true → d ≠ .isDef) (h : Like d x) :
    Like d (combineDefault2 x .maybe ld rd) := by
  rw [cd2_maybe]
  cases ld with
  | true => exact ⟨⟨fun hh => (nomatch hh), fun hd => absurd hd (hld rfl)⟩, fun _ => rfl⟩
  | false => exact h

/-- the unroll arm, for a nested disjunction of mode `d` and `origDefaultMode` maybeDefault -/
theorem like_unroll (d x : Mode) (ld : Bool) (hld : ld = true → d ≠ .isDef) (h : Like d x) :
    Like d (combineDefault2 d (combineDefault .maybe x) ld false) := by
  unfold Like at *
  revert hld h
  cases d <;> cases x <;> cases ld <;> decide

theorem like_flatR (d : Mode) (ld rd : Bool) (hld : ld = true → d ≠ .isDef) (r : R V)
    (h : RLike d .maybe r) : ∀ l ∈ flatR ld rd r, Like d l.dm := by
  cases r with
  | leaf l =>
    intro l' hl'
    rw [List.mem_singleton.1 hl']
    show Like d (combineDefault2 l.dm l.odm ld rd)
    rw [h.2]; exact like_leaf d l.dm ld rd hld h.1
  | multi dm odm ds =>
    obtain ⟨rfl, rfl, h3⟩ := h
    intro l' hl'
    obtain ⟨x, hx, rfl⟩ := List.mem_map.1 hl'
    exact like_unroll dm x.dm ld hld (h3 x hx)

/-- `leftDropsDefault` is false as soon as an isDefault left operand survives -/
theorem ld_of_isDef (c : List (Leaf V)) (terms : Leaf V → List (R V)) (p : Leaf V) (hp : p ∈ c)
    (r : R V) (hr : r ∈ terms p) (hld : ldOf c terms = true) : p.dm ≠ .isDef := by
  intro hdm
  unfold ldOf at hld
  rw [Bool.not_eq_true', List.any_eq_false] at hld
  apply hld p hp
  cases ht : terms p with
  | nil => rw [ht] at hr; cases hr
  | cons a t => simp [hdm]

theorem like_cpLeaves (c : List (Leaf V)) (terms : Leaf V → List (R V))
    (h : ∀ p ∈ c, ∀ r ∈ terms p, RLike p.dm .maybe r) (p : Leaf V) (hp : p ∈ c) (r : R V)
    (hr : r ∈ terms p) : ∀ l ∈ flatR (ldOf c terms) (rdOf c terms) r, Like p.dm l.dm :=
  like_flatR _ _ _ (ld_of_isDef c terms p hp r hr) r (h p hp r hr)

theorem allLike_crossProduct (d : Mode) (c : List (Leaf V)) (terms : Leaf V → List (R V))
    (h : ∀ p ∈ c, ∀ r ∈ terms p, RLike p.dm .maybe r) (hc : AllLike d c) :
    AllLike d (crossProduct c terms) := by
  have hl : ∀ l ∈ cpLeaves c terms, Like d l.dm := by
    intro l hl
    obtain ⟨p, hp, r, hr, hlr⟩ := (mem_cpLeaves c terms l).1 hl
    exact (hc p hp).trans (like_cpLeaves c terms h p hp r hr l hlr)
  have hf := forall_fold_AD (fun q => Like d q.dm)
    (fun xn x _ hx hd => ⟨⟨fun _ => hx.1.1 hd, fun _ => rfl⟩, fun hm => absurd (hx.2 hm ▸ hd) (by decide)⟩)
    (cpLeaves c terms) [] (fun _ hq => nomatch hq) hl
  rw [crossProduct_eq]
  split
  · rename_i hflag
    -- the demotion fires on an unrolled leaf that is not maybeDefault, so `d` is not:
    -- the class `= maybe` is never demoted, the other two are closed under the demotion
    have hd : d ≠ .maybe := by
      intro hd
      obtain ⟨r, hr, hnm⟩ := List.any_eq_true.1 hflag
      obtain ⟨p, hp, hr⟩ := List.mem_flatMap.1 hr
      cases r with
      | leaf l => cases hnm
      | multi dm odm ds =>
        obtain ⟨x, hx, hne⟩ := List.any_eq_true.1 hnm
        have hx' : combineDefault2 dm (combineDefault odm x.dm) (ldOf c terms) false = .maybe :=
          (hl _ ((mem_cpLeaves c terms _).2 ⟨p, hp, _, hr, List.mem_map.2 ⟨x, hx, rfl⟩⟩)).2 hd
        rw [hx'] at hne; cases hne
    intro q hq
    obtain ⟨q', hq', rfl⟩ := List.mem_map.1 hq
    exact ⟨(demote_isDef q').trans (hf q' hq').1, fun hm => absurd hm hd⟩
  · exact hf

theorem odm_crossProduct (cross : List (Leaf V)) (terms : Leaf V → List (R V))
    (h : ∀ p ∈ cross, ∀ r ∈ terms p, ROdm r) : OdmMaybe (crossProduct cross terms) := by
  apply forall_crossProduct (fun q => q.odm = .maybe) (fun _ _ hxn _ _ => hxn)
  · intro q hq; rw [demote_odm]; exact hq
  · intro lf hl
    obtain ⟨p, hp, r, hr, hl⟩ := (mem_cpLeaves cross terms lf).1 hl
    have hs := h p hp r hr
    cases r with
    | leaf l => rw [List.mem_singleton.1 hl]; exact hs
    | multi dm odm ds =>
      obtain ⟨x, hx, rfl⟩ := List.mem_map.1 hl
      exact hs x hx

/-! ### the invariant of a mark-free expression -/

structure MInv (S : Sl V) (e : Expr V) : Prop where
  conjL : ∀ d c, AllLike d c → AllLike d ((sem S e).conj c)
  conjO : ∀ c, OdmMaybe c → OdmMaybe ((sem S e).conj c)
  termsL : ∀ (mk : Bool) (p : Leaf V), ∀ r ∈ (sem S e).terms false mk p, RLike p.dm .maybe r
  termsO : ∀ (mk : Bool) (p : Leaf V), ∀ r ∈ (sem S e).terms false mk p, ROdm r

theorem MInv.conjM {S : Sl V} {e : Expr V} (i : MInv S e) (c : List (Leaf V)) (hc : AllMaybe c) :
    AllMaybe ((sem S e).conj c) :=
  (allMaybe_iff _).2 (i.conjL .maybe c ((allMaybe_iff c).1 hc))

/-- for an expression that is a single term of an enclosing disjunction, the `terms` parts
follow from the `conj` parts -/
theorem minv_of_conj (S : Sl V) (e : Expr V)
    (hterms : ∀ mk p, (sem S e).terms false mk p = doDisj (sem S e).scalar (sem S e).conj p .maybe)
    (conjL : ∀ d c, AllLike d c → AllLike d ((sem S e).conj c))
    (conjO : ∀ c, OdmMaybe c → OdmMaybe ((sem S e).conj c)) : MInv S e where
  conjL := conjL
  conjO := conjO
  termsL mk p := by rw [hterms]; exact rlike_doDisj _ _ conjL p _
  termsO mk p := by rw [hterms]; exact rodm_doDisj _ _ conjO p

theorem minv_all (S : Sl V) (e : Expr V) (hm : e.hasAnyMark = false) : MInv S e := by
  induction e with
  | atom a => exact minv_of_conj S _ (fun _ _ => rfl) (fun _ _ hc => hc) (fun _ hc => hc)
  | and l r ihl ihr =>
    simp only [Expr.hasAnyMark, Bool.or_eq_false_iff] at hm
    have il := ihl hm.1
    have ir := ihr hm.2
    exact minv_of_conj S _ (fun _ _ => rfl) (fun d c hc => ir.conjL d _ (il.conjL d c hc))
      (fun c hc => ir.conjO _ (il.conjO c hc))
  | paren e ih => exact minv_of_conj S _ (fun _ _ => rfl) (ih hm).conjL (ih hm).conjO
  | mark e _ => cases hm
  | or l r ihl ihr =>
    have hm' := hm
    simp only [Expr.hasAnyMark, Bool.or_eq_false_iff] at hm
    have il := ihl hm.1
    have ir := ihr hm.2
    refine ⟨fun d c hc => ?_, fun c _ => ?_,
      fun mk p => List.forall_mem_append.2 ⟨il.termsL mk p, ir.termsL mk p⟩,
      fun mk p => List.forall_mem_append.2 ⟨il.termsO mk p, ir.termsO mk p⟩⟩
    · rw [conj_or_markfree S l r hm']
      exact allLike_crossProduct d c _ (fun p _ =>
        List.forall_mem_append.2 ⟨il.termsL false p, ir.termsL false p⟩) hc
    · rw [conj_or_markfree S l r hm']
      exact odm_crossProduct _ _ fun p _ =>
        List.forall_mem_append.2 ⟨il.termsO false p, ir.termsO false p⟩

theorem defaults_unmarked (S : Sl V) (e : Expr V) (hm : e.hasAnyMark = false) :
    (eval S e).defaults = [] := by
  have hL : AllMaybe (rootL S e) := by
    unfold rootL
    cases sv S e with
    | none => exact fun _ hq => nomatch hq
    | some b => exact (minv_all S e hm).conjM _ (root_allMaybe b)
  rw [eval_eq]
  generalize rootL S e = L at hL
  match L, hL with
  | [], _ => rfl
  | [x], _ => rfl
  | x :: y :: t, hL =>
    show ((x :: y :: t).filter (·.dm = .isDef)).map (·.v) = []
    rw [List.map_eq_nil_iff, List.filter_eq_nil_iff]
    intro q hq
    rw [hL q hq]; decide

/-! ### the default set of a `crossProduct`; a mark-free conjunct passes the defaults on -/

/-- once it is known which results yield isDefault leaves (`Q`), the defaults of a
`crossProduct` are the values of those results -/
theorem defs_crossProduct (c : List (Leaf V)) (terms : Leaf V → List (R V)) (Q : Leaf V → R V → Prop)
    (h : ∀ p ∈ c, ∀ r ∈ terms p, ∀ l ∈ flatR (ldOf c terms) (rdOf c terms) r, (l.dm = .isDef ↔ Q p r))
    (x : V) :
    defsP (crossProduct c terms) x ↔ ∃ p ∈ c, ∃ r ∈ terms p, Q p r ∧ x ∈ r.vals := by
  rw [(crossProduct_sets c terms).2.1]
  simp only [mem_cpLeaves]
  constructor
  · rintro ⟨l, ⟨p, hp, r, hr, hlr⟩, rfl, hdm⟩
    exact ⟨p, hp, r, hr, (h p hp r hr l hlr).1 hdm, (vals_flatR _ _ r l.v).1 ⟨l, hlr, rfl⟩⟩
  · rintro ⟨p, hp, r, hr, hq, hx⟩
    obtain ⟨l, hlr, rfl⟩ := (vals_flatR (ldOf c terms) (rdOf c terms) r x).2 hx
    exact ⟨l, ⟨p, hp, r, hr, hlr⟩, rfl, (h p hp r hr l hlr).2 hq⟩

/-- the values the terms of a mark-free disjunction yield under a left operand `p` -/
theorem rvals_or_terms {S : Sl V} (h : Laws S) (l r : Expr V) (hm : (Expr.or l r).hasAnyMark = false)
    (p : Leaf V) (y : V) :
    y ∈ rvals ((sem S l).terms false false p ++ (sem S r).terms false false p) ↔
      Step S (djP S (.or l r)) p.v y := by
  have h1 := (inv_all S h (.or l r)).conj [p] y
  rw [conj_or_markfree S l r hm, mem_vals_crossProduct] at h1
  simpa [vals] using h1

/-- A mark-free conjunct of any shape, met with ANY partial disjuncts, passes the defaults on:
the new defaults are the old ones met with its values. -/
theorem inherit {S : Sl V} (h : Laws S) (e : Expr V) (hm : e.hasAnyMark = false) (c : List (Leaf V)) :
    defsP ((sem S e).conj c) = MeetP S (defsP c) (djP S e) := by
  induction e generalizing c with
  | atom a => exact (meetP_top_right h _).symm
  | paren e ih => exact ih hm c
  | mark e _ => cases hm
  | and l r ihl ihr =>
    simp only [Expr.hasAnyMark, Bool.or_eq_false_iff] at hm
    show defsP ((sem S r).conj ((sem S l).conj c)) = _
    rw [ihr hm.2, ihl hm.1, meetP_assoc h]; rfl
  | or l r _ _ =>
    have hm' := hm
    simp only [Expr.hasAnyMark, Bool.or_eq_false_iff] at hm
    funext x; apply propext
    -- a leaf is isDefault iff the left operand it descends from is
    rw [conj_or_markfree S l r hm', defs_crossProduct c _ (fun p _ => p.dm = .isDef)
      fun p hp x' hx' lf hlf => (like_cpLeaves c _ (fun p _ => List.forall_mem_append.2
        ⟨(minv_all S _ hm.1).termsL false p, (minv_all S _ hm.2).termsL false p⟩) p hp x' hx' lf hlf).1]
    constructor
    · rintro ⟨p, hp, x', hx', hdm, hx⟩
      exact ⟨p.v, ⟨p, hp, rfl, hdm⟩, (rvals_or_terms h l r hm' p x).1 (List.mem_flatMap.2 ⟨x', hx', hx⟩)⟩
    · rintro ⟨_, ⟨p, hp, rfl, hdm⟩, hx⟩
      obtain ⟨x', hx', hxr⟩ := List.mem_flatMap.1 ((rvals_or_terms h l r hm' p x).2 hx)
      exact ⟨p, hp, x', hx', hdm, hxr⟩

/-! ### a (marked) disjunction with mark-free terms, met with operands without default

In the normal form of `crossProduct` a leaf result gets
`combineDefault2(maybe, m, true, rightDrops)` and an unrolled nested disjunct
`combineDefault2(maybe, combineDefault(m, maybe), true, false)` (the `false` of Issue #1304);
both are isDefault exactly for the marked terms, because `rightDrops` is false as soon as one
marked term survives. -/

theorem flatR_isDef (m : Mode) (rd : Bool) (hrd : m = .isDef → rd = false) (r : R V)
    (h : RLike .maybe m r) : ∀ l ∈ flatR true rd r, (l.dm = .isDef ↔ m = .isDef) := by
  cases r with
  | leaf l =>
    obtain ⟨h1, h2⟩ := h
    intro l' hl'
    simp only [flatR, List.mem_singleton] at hl'
    subst hl'
    simp only [h1.2 rfl, h2]
    cases m with
    | isDef => rw [hrd rfl]; decide
    | maybe => cases rd <;> decide
    | notDef => cases rd <;> decide
  | multi dm odm ds =>
    obtain ⟨h1, h2, h3⟩ := h
    subst h1; subst h2
    intro l' hl'
    simp only [flatR, List.mem_map] at hl'
    obtain ⟨q, hq, rfl⟩ := hl'
    simp only [(h3 q hq).2 rfl]
    cases odm <;> decide

theorem mode_isDef (hd mk : Bool) : mode hd mk = .isDef ↔ (hd = true ∧ mk = true) := by
  cases hd <;> cases mk <;> decide

theorem chain_defs_cross (S : Sl V) (h : Laws S) (l r : Expr V) (hf : (Expr.or l r).mfChain = true)
    (c : List (Leaf V)) (h1 : AllMaybe c) (h2 : OdmMaybe c) :
    defsP ((sem S (.or l r)).conj c) = MeetP S (valsP c) (markedP S (.or l r)) := by
  let ts := Expr.termList (.or l r) false
  let hd := (Expr.or l r).chainMarked
  let terms : Leaf V → List (R V) := fun q => ts.flatMap (termR S hd q)
  have hmf := termList_markfree (.or l r) false hf
  have hany : ts.any (·.1) = hd := by
    have := termList_any (.or l r) false
    simpa [ts, hd] using this
  have hshape : ∀ p ∈ c, ∀ mt ∈ ts, ∀ x ∈ termR S hd p mt, RLike .maybe (mode hd mt.1) x :=
    fun p hp mt hmt x hx =>
      h1 p hp ▸ rlike_doDisj _ _ (minv_all S mt.2 (hmf mt hmt)).conjL p _ x hx
  have hld : ldOf c terms = true := by
    unfold ldOf
    rw [Bool.not_eq_true', List.any_eq_false]
    intro p hp; simp [h1 p hp, h2 p hp]
  -- a leaf of a result is isDefault iff the result's `origDefaultMode` is
  have hleaf : ∀ p ∈ c, ∀ x ∈ terms p, ∀ lf ∈ flatR (ldOf c terms) (rdOf c terms) x,
      (lf.dm = .isDef ↔ x.odm = .isDef) := by
    intro p hp x hx lf hlf
    obtain ⟨mt, hmt, hxm⟩ := List.mem_flatMap.1 hx
    have hs := hshape p hp mt hmt x hxm
    rw [hld] at hlf
    rw [rlike_odm _ _ x hs]
    refine flatR_isDef _ _ (fun hm => ?_) x hs lf hlf
    unfold rdOf
    rw [Bool.not_eq_false', List.any_eq_true]
    exact ⟨p, hp, List.any_eq_true.2 ⟨x, hx, by rw [rlike_odm _ _ x hs, hm]; rfl⟩⟩
  -- … which it is iff the term is marked
  have hmk : ∀ p ∈ c, ∀ mt ∈ ts, ∀ x ∈ termR S hd p mt, (x.odm = .isDef ↔ mt.1 = true) := by
    intro p hp mt hmt x hx
    rw [rlike_odm _ _ x (hshape p hp mt hmt x hx), mode_isDef]
    exact ⟨fun hh => hh.2, fun hmk => ⟨by rw [← hany, List.any_eq_true]; exact ⟨mt, hmt, hmk⟩, hmk⟩⟩
  rw [conj_or]
  funext y; apply propext
  rw [defs_crossProduct c terms (fun _ x => x.odm = .isDef) hleaf]
  constructor
  · rintro ⟨p, hp, x, hx, hq, hy⟩
    obtain ⟨mt, hmt, hxm⟩ := List.mem_flatMap.1 hx
    obtain ⟨w, hw, hm⟩ := (doDisj_values S h mt.2 p _ y).1 (List.mem_flatMap.2 ⟨x, hxm, hy⟩)
    exact ⟨p.v, ⟨p, hp, rfl⟩, w, ⟨mt, hmt, (hmk p hp mt hmt x hxm).1 hq, hw⟩, hm⟩
  · rintro ⟨_, ⟨p, hp, rfl⟩, w, ⟨mt, hmt, hmk', hw⟩, hm⟩
    obtain ⟨x, hxm, hv⟩ := List.mem_flatMap.1 ((doDisj_values S h mt.2 p _ y).2 ⟨w, hw, hm⟩)
    exact ⟨p, hp, x, List.mem_flatMap.2 ⟨mt, hmt, hxm⟩, (hmk p hp mt hmt x hxm).2 hmk', hv⟩

/-! ### the spec side: a mark-free expression has no default -/

structure SInv (S : Sl V) (e : Expr V) : Prop where
  d : (specPair S e).d = []
  conjs : AllU (specSem S e).conjs
  terms : ∀ mk, ∀ t ∈ (specSem S e).terms mk, t.1 = mk ∧ t.2.d = []

theorem disjPair_unmarked (ts : List (Bool × Pair V)) (h : ∀ t ∈ ts, t.1 = false ∧ t.2.d = []) :
    (disjPair ts).d = [] := by
  have hany : ts.any (·.1) = false := by
    rw [List.any_eq_false]; intro t ht; rw [(h t ht).1]; simp
  apply List.eq_nil_iff_forall_not_mem.2
  intro x hx
  unfold disjPair at hx
  simp only [hany] at hx
  rcases (fold_D _ _ _ x).2.1 hx with h0 | ⟨t, ht, hxt⟩
  · cases h0
  · rw [if_neg Bool.false_ne_true, (h t ht).2] at hxt; cases hxt

theorem spec_unmarked (S : Sl V) (e : Expr V) (hm : e.hasAnyMark = false) : SInv S e := by
  -- an expression that is a single term and a single conjunct, with pair ⟨v⟩
  have single : ∀ e : Expr V, (specPair S e).d = [] →
      (specSem S e).conjs = [specPair S e] ∨ AllU (specSem S e).conjs →
      (∀ mk, (specSem S e).terms mk = [(mk, specPair S e)]) → SInv S e := by
    intro e hd hc ht
    refine ⟨hd, ?_, fun mk t h => ?_⟩
    · rcases hc with hc | hc
      · intro q hq; rw [hc, List.mem_singleton] at hq; rw [hq]; exact hd
      · exact hc
    · rw [ht, List.mem_singleton] at h; rw [h]; exact ⟨rfl, hd⟩
  induction e with
  | atom a => exact single _ rfl (Or.inl rfl) fun _ => rfl
  | and l r ihl ihr =>
    simp only [Expr.hasAnyMark, Bool.or_eq_false_iff] at hm
    have hc : AllU (specSem S (.and l r)).conjs := allU_append (ihl hm.1).conjs (ihr hm.2).conjs
    exact single _ (unifyD_allU S _ hc) (Or.inr hc) fun _ => rfl
  | paren e ih => exact single _ (ih hm).d (Or.inr (ih hm).conjs) fun _ => rfl
  | mark e _ => simp [Expr.hasAnyMark] at hm
  | or l r ihl ihr =>
    simp only [Expr.hasAnyMark, Bool.or_eq_false_iff] at hm
    have il := ihl hm.1
    have ir := ihr hm.2
    have ht : ∀ mk, ∀ t ∈ (specSem S (.or l r)).terms mk, t.1 = mk ∧ t.2.d = [] := by
      intro mk t ht
      rcases List.mem_append.1 (show t ∈ (specSem S l).terms mk ++ (specSem S r).terms mk from ht)
        with h | h
      · exact il.terms mk t h
      · exact ir.terms mk t h
    have hd : (specPair S (.or l r)).d = [] := disjPair_unmarked _ (ht false)
    refine ⟨hd, ?_, ht⟩
    intro q hq
    rw [show q = specPair S (.or l r) from List.mem_singleton.1 hq]; exact hd

theorem CD_markfree (S : Sl V) (e : Expr V) (h : e.hasAnyMark = false) : CD S e = pnone := by
  induction e with
  | atom a => rfl
  | mark e _ => rfl
  | paren e ih => exact ih h
  | or l r _ _ => show memP _ = _; rw [(spec_unmarked S _ h).d, memP_nil]
  | and l r ihl ihr =>
    simp only [Expr.hasAnyMark, Bool.or_eq_false_iff] at h
    simp only [CD, ihl h.1, ihr h.2, meetP_pnone_left, meetP_pnone_right, por_pnone_left]

/-- M1 turns a marked mark-free term ⟨v⟩ into ⟨v, v⟩ -/
theorem chain_spec_nested (S : Sl V) (l r : Expr V) (hf : (Expr.or l r).mfChain = true) :
    memP (specPair S (.or l r)).d = markedP S (.or l r) :=
  specD_or S l r fun mt hmt => (spec_unmarked S mt.2 (termList_markfree _ false hf mt hmt)).d

end CueVerif.Disj
