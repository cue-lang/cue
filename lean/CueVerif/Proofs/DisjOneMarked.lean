/-
C04: the default theorem (`default_nestedConj`) of which the fragments of Props/C04 are instances:
a node whose conjuncts, in any order and bracketing, are atoms and disjunctions with mark-free
terms of any shape, at most one of the disjunctions marked (`nestedConj`, `markedChains ≤ 1`).
Up to the marked disjunction every partial disjunct is `maybeDefault` in both mode fields
(`MInv.conjM`), the marked one makes the survivors of its marked terms the defaults
(`chain_defs_cross`), every later conjunct passes the defaults on (`inherit`); the spec's
`unifyD` with one marked conjunct computes the same set (`specD_eq`).
-/
import CueVerif.Proofs.DisjNested
namespace CueVerif.Disj
variable {V : Type} [DecidableEq V]
set_option linter.unusedSectionVars false

/-! ### the fragment -/

theorem scalarOnly_markfree (e : Expr V) (h : e.scalarOnly = true) : e.hasAnyMark = false := by
  induction e with
  | atom a => rfl
  | and l r ihl ihr =>
    simp only [Expr.scalarOnly, Bool.and_eq_true] at h
    simp only [Expr.hasAnyMark, ihl h.1, ihr h.2]; rfl
  | paren e ih => exact ih h
  | or l r _ _ => cases h
  | mark e _ => cases h

theorem flatChain_mfChain (e : Expr V) (h : e.flatChain = true) : e.mfChain = true := by
  induction e with
  | atom a => rfl
  | and l r _ _ => simp [Expr.mfChain, scalarOnly_markfree _ h]
  | paren e _ => simp [Expr.mfChain, scalarOnly_markfree _ h]
  | mark e ih => exact ih h
  | or l r ihl ihr =>
    simp only [Expr.flatChain, Bool.and_eq_true] at h
    simp only [Expr.mfChain, ihl h.1, ihr h.2]; rfl

theorem nestedConj_markfree (e : Expr V) (hn : e.nestedConj = true) :
    e.hasAnyMark = false ↔ e.markedChains = 0 := by
  induction e with
  | atom a => exact ⟨fun _ => rfl, fun _ => rfl⟩
  | paren e ih => exact ih hn
  | mark e _ => cases hn
  | or l r _ _ =>
    have hmf : (Expr.or l r).mfChain = true := hn
    simp only [Expr.markedChains]
    constructor
    · intro hm; rw [(markfree_mfChain _ hm).2]; rfl
    · intro hm
      refine mfChain_markfree _ hmf ?_
      cases hc : (Expr.or l r).chainMarked with
      | false => rfl
      | true => rw [hc] at hm; cases hm
  | and l r ihl ihr =>
    simp only [Expr.nestedConj, Bool.and_eq_true] at hn
    simp only [Expr.hasAnyMark, Bool.or_eq_false_iff, Expr.markedChains, ihl hn.1, ihr hn.2]
    omega

theorem markfree_nestedConj (e : Expr V) (hm : e.hasAnyMark = false) : e.nestedConj = true := by
  induction e with
  | atom a => rfl
  | paren e ih => exact ih hm
  | mark e _ => cases hm
  | or l r _ _ => exact (markfree_mfChain _ hm).1
  | and l r ihl ihr =>
    simp only [Expr.hasAnyMark, Bool.or_eq_false_iff] at hm
    simp only [Expr.nestedConj, ihl hm.1, ihr hm.2]; rfl

theorem flatConj_nestedConj (e : Expr V) (hf : e.flatConj = true) : e.nestedConj = true := by
  induction e with
  | atom a => rfl
  | paren e ih => exact ih hf
  | mark e _ => cases hf
  | or l r _ _ => exact flatChain_mfChain _ hf
  | and l r ihl ihr =>
    simp only [Expr.flatConj, Bool.and_eq_true] at hf
    simp only [Expr.nestedConj, ihl hf.1, ihr hf.2]; rfl

theorem markedChains_le_chains (e : Expr V) : e.markedChains ≤ e.chains := by
  induction e with
  | atom a => simp [Expr.markedChains, Expr.chains]
  | and l r ihl ihr => simp only [Expr.markedChains, Expr.chains]; omega
  | paren e ih => exact ih
  | mark e _ => simp [Expr.markedChains, Expr.chains]
  | or l r _ _ => simp only [Expr.markedChains, Expr.chains]; split <;> omega

theorem markedChains_or (l r : Expr V) : (Expr.or l r).markedChains ≤ 1 := by
  simp only [Expr.markedChains]; split <;> omega

/-! ### the model side -/

/-- without a default on the left a mark-free conjunct contributes none -/
theorem defs_markfree {S : Sl V} (h : Laws S) (e : Expr V) (hm : e.hasAnyMark = false)
    (c : List (Leaf V)) (a : AllMaybe c) :
    defsP ((sem S e).conj c) = MeetP S (valsP c) (CD S e) := by
  rw [inherit h e hm, defsP_allMaybe a, CD_markfree S e hm, meetP_pnone_left, meetP_pnone_right]

theorem conj_nestedConj {S : Sl V} (h : Laws S) (e : Expr V) (hn : e.nestedConj = true)
    (h1 : e.markedChains ≤ 1) (c : List (Leaf V)) (a : AllMaybe c) (o : OdmMaybe c) :
    defsP ((sem S e).conj c) = MeetP S (valsP c) (CD S e) := by
  induction e generalizing c with
  | atom a' => exact defs_markfree h _ rfl c a
  | paren e ih => exact ih hn h1 c a o
  | mark e _ => cases hn
  | or l r _ _ =>
    have hmf : (Expr.or l r).mfChain = true := hn
    cases hcm : (Expr.or l r).chainMarked with
    | false => exact defs_markfree h _ (mfChain_markfree _ hmf hcm) c a
    | true =>
      rw [chain_defs_cross S h l r hmf c a o]
      show _ = MeetP S _ (memP _); rw [chain_spec_nested S l r hmf]
  | and l r ihl ihr =>
    simp only [Expr.nestedConj, Bool.and_eq_true] at hn
    simp only [Expr.markedChains] at h1
    show defsP ((sem S r).conj ((sem S l).conj c)) = _
    by_cases hl : l.markedChains = 0
    · -- `l` comes before the marked disjunction
      have hm := (nestedConj_markfree l hn.1).2 hl
      have inv := minv_all S l hm
      rw [ihr hn.2 (by omega) _ (inv.conjM c a) (inv.conjO c o), conj_vals h, meetP_assoc h]
      simp only [CD, CD_markfree S l hm, meetP_pnone_left, por_pnone_left]
    · -- `r` comes after it
      have hm := (nestedConj_markfree r hn.2).2 (by omega)
      rw [inherit h r hm, ihl hn.1 (by omega) c a o, meetP_assoc h]
      simp only [CD, CD_markfree S r hm, meetP_pnone_right, por_pnone_right]

/-! ### the spec side: at most one conjunct pair carries a default -/

theorem split_nestedConj (S : Sl V) (e : Expr V) (hn : e.nestedConj = true) (h1 : e.markedChains ≤ 1) :
    Split (specSem S e).conjs := by
  induction e with
  | atom a => exact Or.inl (spec_unmarked S (.atom a) rfl).conjs
  | paren e ih => exact ih hn h1
  | mark e _ => cases hn
  | or l r _ _ => exact Or.inr ⟨[], _, [], rfl, allU_nil, allU_nil⟩
  | and l r ihl ihr =>
    simp only [Expr.nestedConj, Bool.and_eq_true] at hn
    simp only [Expr.markedChains] at h1
    show Split ((specSem S l).conjs ++ (specSem S r).conjs)
    by_cases hl : l.markedChains = 0
    · have hU := (spec_unmarked S l ((nestedConj_markfree l hn.1).2 hl)).conjs
      rcases ihr hn.2 (by omega) with hB | ⟨A, p, B, e1, hA, hB⟩
      · exact Or.inl (allU_append hU hB)
      · exact Or.inr ⟨_ ++ A, p, B, by rw [e1, List.append_assoc], allU_append hU hA, hB⟩
    · have hU := (spec_unmarked S r ((nestedConj_markfree r hn.2).2 (by omega))).conjs
      rcases ihl hn.1 (by omega) with hA | ⟨A, p, B, e1, hA, hB⟩
      · exact Or.inl (allU_append hA hU)
      · exact Or.inr ⟨A, p, B ++ _, by rw [e1]; simp, hA, allU_append hB hU⟩

/-! ### the theorem -/

theorem defs_nestedConj {S : Sl V} (h : Laws S) (e : Expr V) (hn : e.nestedConj = true)
    (h1 : e.markedChains ≤ 1) : defsP (rootL S e) = MeetP S (scP S e) (CD S e) :=
  defs_rootL h e _ fun b => conj_nestedConj h e hn h1 _ (root_allMaybe b) (root_odmMaybe b)

/-- A node whose conjuncts — any number, in any order, bracketing and parenthesisation — are
atoms and disjunctions whose terms are, below their own mark, mark-free expressions of any
shape, at most one of the disjunctions marked: the transcribed algorithm resolves as the spec.
Sharp in both hypotheses: with two marked disjunctions (`Cex`) or a marked disjunction nested
in a term (`Witness.w1304`, `Witness.wCollapse`) it does not. -/
theorem default_nestedConj (S : Sl V) (h : Laws S) (e : Expr V) (hn : e.nestedConj = true)
    (h1 : e.markedChains ≤ 1) : (eval S e).resolve = (specPair S e).resolve :=
  resolve_of_defs h e
    ((defs_nestedConj h e hn h1).trans (specD_eq h e (split_nestedConj S e hn h1)).symm)

/-! ### the fragments of Props/C04 -/

theorem default_unmarked (S : Sl V) (h : Laws S) (e : Expr V) (hm : e.hasAnyMark = false) :
    (eval S e).resolve = (specPair S e).resolve :=
  have hn := markfree_nestedConj e hm
  default_nestedConj S h e hn ((nestedConj_markfree e hn).1 hm ▸ Nat.zero_le 1)

theorem default_single (S : Sl V) (h : Laws S) (e : Expr V)
    (hf : e.flatConj = true) (h1 : e.chains ≤ 1) :
    (eval S e).resolve = (specPair S e).resolve :=
  default_nestedConj S h e (flatConj_nestedConj e hf) (Nat.le_trans (markedChains_le_chains e) h1)

theorem default_flat (S : Sl V) (h : Laws S) (e : Expr V) (hf : e.Flat = true) :
    (eval S e).resolve = (specPair S e).resolve := by
  simp only [Expr.Flat, Bool.and_eq_true, decide_eq_true_eq] at hf
  exact default_nestedConj S h e (flatConj_nestedConj e hf.1) hf.2

theorem default_nestedChain (S : Sl V) (h : Laws S) (e : Expr V) (hf : e.NestedChain = true) :
    (eval S e).resolve = (specPair S e).resolve := by
  match e, hf with
  | .or l r, hf => exact default_nestedConj S h _ hf (markedChains_or l r)

theorem default_nestedSingle (S : Sl V) (h : Laws S) (e : Expr V) (hf : e.NestedSingle = true) :
    (eval S e).resolve = (specPair S e).resolve := by
  simp only [Expr.NestedSingle, Bool.and_eq_true, decide_eq_true_eq] at hf
  exact default_nestedConj S h e hf.1 (hf.2 ▸ markedChains_le_chains e)

theorem default_preNested (S : Sl V) (h : Laws S) (e : Expr V) (hf : e.PreNested = true) :
    (eval S e).resolve = (specPair S e).resolve := by
  match e, hf with
  | .and pre (.or l r), hf | .and pre (.paren (.or l r)), hf =>
    simp only [Expr.PreNested, Bool.and_eq_true, Bool.not_eq_true'] at hf
    have hn := markfree_nestedConj pre hf.1
    refine default_nestedConj S h _ (by simp only [Expr.nestedConj, hn, hf.2]; rfl) ?_
    have := markedChains_or l r
    simp only [Expr.markedChains, (nestedConj_markfree pre hn).1 hf.1] at this ⊢
    omega

end CueVerif.Disj
