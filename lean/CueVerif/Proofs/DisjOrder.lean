/-
C04 / C01: order independence of `d1 & d2 & … & dn` at the level of the transcribed
algorithm.

* values: for EVERY expression tree, the set of disjunct values of `eval` is invariant under
  `Expr.Reorder` (permutation / re-association / re-parenthesisation of the conjuncts);
* defaults: for a node with at most one marked disjunction (`eval_reorder`; `Expr.Flat` is the
  case Props/C04 states) the default set (`Out.defaultSet`, what `Default()` returns) and
  `resolve` are invariant too.
  (With two marked disjunctions the algorithm IS order dependent: `C04_order_dependent`.)
* `reorder_of_perm`: every permutation of a list of conjuncts is a `Reorder`.
-/
import CueVerif.Spec.DisjOrder
import CueVerif.Proofs.DisjOneMarked
namespace CueVerif.Disj
variable {V : Type} [DecidableEq V]
set_option linter.unusedSectionVars false

/-! ### every permutation of the conjuncts is a `Reorder` -/

/-- `d1 & (d2 & (… & dn))`; the empty conjunction is `top` -/
def andList (top : V) : List (Expr V) → Expr V
  | [] => .atom top
  | [d] => d
  | d :: d' :: ds => .and d (andList top (d' :: ds))

theorem reorder_of_perm (top : V) {l l' : List (Expr V)} (hp : l.Perm l') :
    Expr.Reorder (andList top l) (andList top l') := by
  induction hp with
  | nil => exact .refl _
  | cons x p ih =>
    rename_i l1 l2
    match l1, l2, p, ih with
    | [], l2, p, _ => rw [List.nil_perm.1 p]; exact .refl _
    | y :: l1', [], p, _ => exact absurd p.length_eq (by simp)
    | y :: l1', z :: l2', _, ih => exact .cong (.refl _) ih
  | swap x y l =>
    match l with
    | [] => exact .comm _ _
    | z :: l' =>
      exact .trans (.symm (.assoc _ _ _)) (.trans (.cong (.comm _ _) (.refl _)) (.assoc _ _ _))
  | trans _ _ ih1 ih2 => exact .trans ih1 ih2

/-! ### values: every tree -/

/-- the three parts of an expression — scalars, disjunction values, disjunction defaults —
are homomorphic images of `&`, hence invariant -/
theorem sets_reorder {S : Sl V} (h : Laws S) {e e' : Expr V} (hr : Expr.Reorder e e') :
    scP S e = scP S e' ∧ djP S e = djP S e' ∧ CD S e = CD S e' := by
  induction hr with
  | refl e => exact ⟨rfl, rfl, rfl⟩
  | symm _ ih => exact ⟨ih.1.symm, ih.2.1.symm, ih.2.2.symm⟩
  | trans _ _ ih1 ih2 => exact ⟨ih1.1.trans ih2.1, ih1.2.1.trans ih2.2.1, ih1.2.2.trans ih2.2.2⟩
  | comm l r =>
    refine ⟨meetP_comm h _ _, meetP_comm h _ _, ?_⟩
    simp only [CD]; rw [por_comm, meetP_comm h (djP S l), meetP_comm h (CD S l)]
  | assoc a b c =>
    refine ⟨meetP_assoc h _ _ _, meetP_assoc h _ _ _, ?_⟩
    simp only [CD, djP]
    rw [meetP_por_left, meetP_por_right, meetP_assoc h, meetP_assoc h, meetP_assoc h, por_assoc]
  | cong _ _ ih1 ih2 =>
    refine ⟨?_, ?_, ?_⟩
    · simp only [scP]; rw [ih1.1, ih2.1]
    · simp only [djP]; rw [ih1.2.1, ih2.2.1]
    · simp only [CD]; rw [ih1.2.1, ih2.2.1, ih1.2.2, ih2.2.2]
  | paren e => exact ⟨rfl, rfl, rfl⟩

/-- the disjunct values of the transcribed algorithm do not depend on the order, the
bracketing or the parenthesisation of the conjuncts — every expression tree -/
theorem values_reorder (S : Sl V) (h : Laws S) {e e' : Expr V} (hr : Expr.Reorder e e') (x : V) :
    x ∈ (eval S e).values ↔ x ∈ (eval S e').values := by
  rw [values_iff S h, values_iff S h]
  show memP _ x ↔ memP _ x
  obtain ⟨a, b, _⟩ := sets_reorder h hr
  rw [specV_eq h, specV_eq h, a, b]

/-! ### defaults: a node with at most one marked disjunction -/

theorem nested_reorder {e e' : Expr V} (hr : Expr.Reorder e e') :
    e.nestedConj = e'.nestedConj ∧ e.markedChains = e'.markedChains := by
  induction hr with
  | refl e => exact ⟨rfl, rfl⟩
  | symm _ ih => exact ⟨ih.1.symm, ih.2.symm⟩
  | trans _ _ ih1 ih2 => exact ⟨ih1.1.trans ih2.1, ih1.2.trans ih2.2⟩
  | comm l r =>
    exact ⟨by simp only [Expr.nestedConj, Bool.and_comm], by simp only [Expr.markedChains, Nat.add_comm]⟩
  | assoc a b c =>
    exact ⟨by simp only [Expr.nestedConj, Bool.and_assoc], by simp only [Expr.markedChains, Nat.add_assoc]⟩
  | cong _ _ ih1 ih2 =>
    exact ⟨by simp only [Expr.nestedConj, ih1.1, ih2.1], by simp only [Expr.markedChains, ih1.2, ih2.2]⟩
  | paren e => exact ⟨rfl, rfl⟩

/-- For a node whose conjuncts are atoms and disjunctions with mark-free terms of any shape, at
most one of the disjunctions marked, `resolve` and the default set of the transcribed algorithm
do not depend on the order / bracketing / parenthesisation of the conjuncts.  (With two marked
disjunctions they do: `C04_order_dependent`.) -/
theorem eval_reorder {S : Sl V} (h : Laws S) {e e' : Expr V} (hr : Expr.Reorder e e')
    (hn : e.nestedConj = true) (h1 : e.markedChains ≤ 1) :
    (eval S e).resolve = (eval S e').resolve ∧
    ∀ x, x ∈ (eval S e).defaultSet ↔ x ∈ (eval S e').defaultSet := by
  obtain ⟨f1, f2⟩ := nested_reorder hr
  obtain ⟨a, b, c⟩ := sets_reorder h hr
  apply eval_congr
  · rw [vals_rootL h, vals_rootL h, a, b]
  · rw [defs_nestedConj h e hn h1, defs_nestedConj h e' (f1 ▸ hn) (f2 ▸ h1), a, c]

theorem eval_reorder_flat {S : Sl V} (h : Laws S) {e e' : Expr V} (hr : Expr.Reorder e e')
    (hf : e.Flat = true) :
    (eval S e).resolve = (eval S e').resolve ∧
    ∀ x, x ∈ (eval S e).defaultSet ↔ x ∈ (eval S e').defaultSet := by
  simp only [Expr.Flat, Bool.and_eq_true, decide_eq_true_eq] at hf
  exact eval_reorder h hr (flatConj_nestedConj e hf.1) hf.2

/-- On the flat fragment (any number of atoms and flat disjunctions, at most one of them
marked) the default set of the transcribed algorithm — the disjuncts `Default()` returns —
does not depend on the order / bracketing / parenthesisation of the conjuncts. -/
theorem defaultSet_reorder (S : Sl V) (h : Laws S) {e e' : Expr V} (hr : Expr.Reorder e e')
    (hf : e.Flat = true) (x : V) :
    x ∈ (eval S e).defaultSet ↔ x ∈ (eval S e').defaultSet :=
  (eval_reorder_flat h hr hf).2 x

/-- … and neither does what a use that needs a concrete value sees. -/
theorem resolve_reorder (S : Sl V) (h : Laws S) {e e' : Expr V} (hr : Expr.Reorder e e')
    (hf : e.Flat = true) : (eval S e).resolve = (eval S e').resolve :=
  (eval_reorder_flat h hr hf).1

end CueVerif.Disj
