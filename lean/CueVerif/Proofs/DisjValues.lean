/-
C04: the disjunct values of `eval` are the value component of the spec's pair, for every
expression tree, without duplicates.  Also the common ground of the C04 proofs: sets of values
as predicates with their pointwise meet, and the normal form of `crossProduct` (a fold of
`appendDisjunct` over the leaves of the term results, then the `hasNonMaybe` demotion).
The value theorem is a structural induction (`Inv`): an expression contributes a scalar part
`scP` and a disjunction part `djP`; modes never influence values.  Core Lean only.
-/
import CueVerif.Spec.Disj
namespace CueVerif.Disj
variable {V : Type} [DecidableEq V]
set_option linter.unusedSectionVars false

def vals (l : List (Leaf V)) : List V := l.map (·.v)

def R.vals : R V → List V
  | .leaf l => [l.v]
  | .multi _ _ ds => ds.map (·.v)

def rvals (rs : List (R V)) : List V := rs.flatMap R.vals

@[simp] theorem rvals_nil : rvals ([] : List (R V)) = [] := rfl
@[simp] theorem rvals_cons (r : R V) (rs : List (R V)) : rvals (r :: rs) = r.vals ++ rvals rs := by
  simp [rvals]
@[simp] theorem rvals_append (a b : List (R V)) : rvals (a ++ b) = rvals a ++ rvals b := by
  simp [rvals]

/-! ### sets of values as predicates, and their pointwise meet -/

/-- pointwise meet of two sets of values (failed meets disappear) -/
def MeetP (S : Sl V) (A B : V → Prop) : V → Prop :=
  fun y => ∃ u, A u ∧ ∃ w, B w ∧ S.meet u w = some y

def por (A B : V → Prop) : V → Prop := fun x => A x ∨ B x
def pnone : V → Prop := fun _ => False
def memP (l : List V) : V → Prop := fun x => x ∈ l

theorem assoc_iff (S : Sl V) (h : Laws S) (p a b y : V) :
    (∃ x, S.meet a b = some x ∧ S.meet p x = some y) ↔
    (∃ v, S.meet p a = some v ∧ S.meet v b = some y) := by
  rw [← Option.bind_eq_some_iff, ← Option.bind_eq_some_iff, h.assoc p a b]

theorem meetP_comm {S : Sl V} (h : Laws S) (A B : V → Prop) : MeetP S A B = MeetP S B A := by
  funext z; apply propext
  constructor <;> rintro ⟨x, hx, y, hy, hm⟩ <;> exact ⟨y, hy, x, hx, by rw [h.comm]; exact hm⟩

theorem meetP_assoc {S : Sl V} (h : Laws S) (A B C : V → Prop) :
    MeetP S (MeetP S A B) C = MeetP S A (MeetP S B C) := by
  funext y; apply propext
  constructor
  · rintro ⟨u, ⟨a, ha, b, hb, h1⟩, c, hc, h2⟩
    obtain ⟨x, hx1, hx2⟩ := (assoc_iff S h a b c y).mpr ⟨u, h1, h2⟩
    exact ⟨a, ha, x, ⟨b, hb, c, hc, hx1⟩, hx2⟩
  · rintro ⟨a, ha, x, ⟨b, hb, c, hc, hx1⟩, hx2⟩
    obtain ⟨u, h1, h2⟩ := (assoc_iff S h a b c y).mp ⟨x, hx1, hx2⟩
    exact ⟨u, ⟨a, ha, b, hb, h1⟩, c, hc, h2⟩

theorem meetP_swap {S : Sl V} (h : Laws S) (A B C D : V → Prop) :
    MeetP S (MeetP S A B) (MeetP S C D) = MeetP S (MeetP S A C) (MeetP S B D) := by
  rw [meetP_assoc h, ← meetP_assoc h B C D, meetP_comm h B C, meetP_assoc h C B D,
    ← meetP_assoc h A C]

theorem meetP_por_left (S : Sl V) (A B C : V → Prop) :
    MeetP S (por A B) C = por (MeetP S A C) (MeetP S B C) := by
  funext z; simp only [MeetP, por, or_and_right, exists_or]

theorem meetP_por_right (S : Sl V) (A B C : V → Prop) :
    MeetP S A (por B C) = por (MeetP S A B) (MeetP S A C) := by
  funext z; simp only [MeetP, por, or_and_right, exists_or, and_or_left]

theorem por_comm (A B : V → Prop) : por A B = por B A := by
  funext x; apply propext; exact Or.comm

theorem por_assoc (A B C : V → Prop) : por (por A B) C = por A (por B C) := by
  funext x; apply propext; exact or_assoc

theorem eq_pnone {A : V → Prop} (h : ∀ x, ¬ A x) : A = pnone := by
  funext z; apply propext; simp [pnone, h]

theorem meetP_pnone_left (S : Sl V) (B : V → Prop) : MeetP S pnone B = pnone :=
  eq_pnone fun _ ⟨_, hx, _⟩ => hx

theorem meetP_pnone_right (S : Sl V) (A : V → Prop) : MeetP S A pnone = pnone :=
  eq_pnone fun _ ⟨_, _, _, hy, _⟩ => hy

theorem por_pnone_left (A : V → Prop) : por pnone A = A := by
  funext z; apply propext; simp [por, pnone]
theorem por_pnone_right (A : V → Prop) : por A pnone = A := by
  funext z; apply propext; simp [por, pnone]

theorem meetP_top_left {S : Sl V} (h : Laws S) (A : V → Prop) : MeetP S (· = S.top) A = A := by
  funext z; apply propext
  constructor
  · rintro ⟨x, hx, y, hy, hm⟩
    subst hx; rw [h.top] at hm; cases hm; exact hy
  · intro hz; exact ⟨S.top, rfl, z, hz, h.top z⟩

theorem meetP_top_right {S : Sl V} (h : Laws S) (A : V → Prop) : MeetP S A (· = S.top) = A := by
  rw [meetP_comm h, meetP_top_left h]

theorem memP_nil : memP ([] : List V) = pnone := by
  funext x; apply propext; simp [memP, pnone]

/-! ### the spec's list operations, as sets -/

theorem mem_insertV (xs : List V) (x y : V) : y ∈ insertV xs x ↔ y ∈ xs ∨ y = x := by
  unfold insertV; split
  · exact ⟨Or.inl, fun h => h.elim id fun e => e ▸ ‹x ∈ xs›⟩
  · simp

theorem nodup_insertV (xs : List V) (x : V) (h : xs.Nodup) : (insertV xs x).Nodup := by
  unfold insertV; split
  · exact h
  · rename_i hx
    rw [List.nodup_append]
    refine ⟨h, by simp, ?_⟩
    intro a ha b hb; simp at hb; subst hb; intro hab; subst hab; exact hx ha

theorem mem_foldl_insertV (l a : List V) (y : V) : y ∈ l.foldl insertV a ↔ y ∈ a ∨ y ∈ l := by
  induction l generalizing a with
  | nil => simp
  | cons x l ih => simp [ih, mem_insertV, or_assoc]

theorem nodup_foldl_insertV (l a : List V) (h : a.Nodup) : (l.foldl insertV a).Nodup := by
  induction l generalizing a with
  | nil => simpa
  | cons x l ih => exact ih _ (nodup_insertV _ _ h)

theorem mem_unionV (a b : List V) (y : V) : y ∈ unionV a b ↔ y ∈ a ∨ y ∈ b :=
  mem_foldl_insertV b a y

theorem nodup_unionV (a b : List V) (h : a.Nodup) : (unionV a b).Nodup :=
  nodup_foldl_insertV b a h

theorem mem_meetV (S : Sl V) (a b : List V) (z : V) :
    z ∈ meetV S a b ↔ ∃ x, x ∈ a ∧ ∃ y, y ∈ b ∧ S.meet x y = some z := by
  unfold meetV
  rw [mem_foldl_insertV]
  simp [List.mem_flatMap, List.mem_filterMap]

theorem nodup_meetV (S : Sl V) (a b : List V) : (meetV S a b).Nodup :=
  nodup_foldl_insertV _ _ List.nodup_nil

theorem memP_meetV (S : Sl V) (a b : List V) : memP (meetV S a b) = MeetP S (memP a) (memP b) := by
  funext z; exact propext (mem_meetV S a b z)

theorem meetV_nil_left (S : Sl V) (b : List V) : meetV S [] b = [] := rfl
theorem meetV_nil_right (S : Sl V) (a : List V) : meetV S a [] = [] := by
  apply List.eq_nil_iff_forall_not_mem.2
  intro z hz; rw [mem_meetV] at hz
  obtain ⟨_, _, _, hy, _⟩ := hz; simp at hy

theorem fold_D (f : Bool × Pair V → Pair V) (ts : List (Bool × Pair V)) (a : Pair V) (x : V) :
    (x ∈ (ts.foldl (fun acc t => D acc (f t)) a).v ↔ x ∈ a.v ∨ ∃ t ∈ ts, x ∈ (f t).v) ∧
    (x ∈ (ts.foldl (fun acc t => D acc (f t)) a).d ↔ x ∈ a.d ∨ ∃ t ∈ ts, x ∈ (f t).d) := by
  induction ts generalizing a with
  | nil => simp
  | cons t ts ih =>
    obtain ⟨i1, i2⟩ := ih (D a (f t))
    simp only [List.foldl_cons, List.mem_cons, exists_eq_or_imp]
    constructor
    · rw [i1]; simp only [D, mem_unionV, or_assoc]
    · rw [i2]; simp only [D, mem_unionV, or_assoc]

theorem M_v (mk : Bool) (p : Pair V) : (M mk p).v = p.v := by
  unfold M
  split
  · split <;> rfl
  · rfl

theorem mem_disjPair_v (ts : List (Bool × Pair V)) (x : V) :
    x ∈ (disjPair ts).v ↔ ∃ t, t ∈ ts ∧ x ∈ t.2.v := by
  unfold disjPair
  rw [(fold_D _ _ _ x).1]
  cases ts.any (·.1) <;> simp [M_v]

/-! ### a fold of `appendDisjunct` as a set operation -/

def valsP (c : List (Leaf V)) : V → Prop := fun x => ∃ q ∈ c, q.v = x
def defsP (c : List (Leaf V)) : V → Prop := fun x => ∃ q ∈ c, q.v = x ∧ q.dm = .isDef

theorem memP_vals (L : List (Leaf V)) : memP (vals L) = valsP L := by
  funext x; apply propext; simp [memP, valsP, vals]
theorem memP_defs (L : List (Leaf V)) : memP (vals (L.filter (·.dm = .isDef))) = defsP L := by
  funext x; apply propext; simp [memP, defsP, vals, and_comm, and_assoc]

/-- On values, `appendDisjunct` is the spec's `insertV`. -/
theorem vals_appendDisjunct (acc : List (Leaf V)) (l : Leaf V) :
    vals (appendDisjunct acc l) = insertV (vals acc) l.v := by
  induction acc with
  | nil => rfl
  | cons xn rest ih =>
    unfold appendDisjunct
    split
    · rename_i he
      have : l.v ∈ vals (xn :: rest) := by simp [vals, he]
      rw [insertV, if_pos this]
      simp only [vals, List.map_cons]; split <;> rfl
    · rename_i hne
      simp only [vals, List.map_cons] at ih ⊢
      rw [ih]; unfold insertV
      simp only [List.mem_cons, Ne.symm hne, false_or]
      split <;> rfl

theorem vals_fold_AD (ls acc : List (Leaf V)) :
    vals (ls.foldl appendDisjunct acc) = (vals ls).foldl insertV (vals acc) := by
  induction ls generalizing acc with
  | nil => rfl
  | cons l ls ih =>
    show vals (ls.foldl appendDisjunct (appendDisjunct acc l)) =
      (vals ls).foldl insertV (insertV (vals acc) l.v)
    rw [ih, vals_appendDisjunct]

theorem defs_AD (acc : List (Leaf V)) (l : Leaf V) (x : V) :
    defsP (appendDisjunct acc l) x ↔ defsP acc x ∨ (l.v = x ∧ l.dm = .isDef) := by
  induction acc with
  | nil => simp [defsP, appendDisjunct]
  | cons xn rest ih =>
    unfold appendDisjunct
    split
    · rename_i he
      simp only [defsP, List.mem_cons, exists_eq_or_imp] at *
      by_cases hl : l.dm = .isDef
      · simp only [hl, if_true, and_true]
        constructor
        · rintro (h | h)
          · exact Or.inr (he.symm.trans h)
          · exact Or.inl (Or.inr h)
        · rintro ((h | h) | h)
          · exact Or.inl h.1
          · exact Or.inr h
          · exact Or.inl (he.trans h)
      · simp only [hl, if_false, and_false, or_false]
    · simp only [defsP, List.mem_cons, exists_eq_or_imp] at *
      rw [ih, or_assoc]

/-- A property of leaves survives `appendDisjunct` when the one change it makes — upgrading
the kept copy of a duplicate to isDefault — preserves it. -/
theorem forall_AD (P : Leaf V → Prop)
    (hup : ∀ xn x : Leaf V, P xn → P x → x.dm = .isDef → P { xn with dm := .isDef })
    (acc : List (Leaf V)) (l : Leaf V) (h1 : ∀ q ∈ acc, P q) (h2 : P l) :
    ∀ q ∈ appendDisjunct acc l, P q := by
  induction acc with
  | nil => intro q hq; rw [List.mem_singleton.1 hq]; exact h2
  | cons xn rest ih =>
    have hxn := h1 xn (List.mem_cons_self ..)
    have hr : ∀ q ∈ rest, P q := fun q hq => h1 q (List.mem_cons_of_mem _ hq)
    unfold appendDisjunct
    split
    · intro q hq
      rcases List.mem_cons.1 hq with rfl | hq
      · split
        · exact hup xn l hxn h2 ‹_›
        · exact hxn
      · exact hr q hq
    · intro q hq
      rcases List.mem_cons.1 hq with rfl | hq
      · exact hxn
      · exact ih hr q hq

theorem fold_AD (ls acc : List (Leaf V)) :
    (∀ x, valsP (ls.foldl appendDisjunct acc) x ↔ valsP acc x ∨ ∃ l ∈ ls, l.v = x) ∧
    (∀ x, defsP (ls.foldl appendDisjunct acc) x ↔
      defsP acc x ∨ ∃ l ∈ ls, l.v = x ∧ l.dm = .isDef) ∧
    ((vals acc).Nodup → (vals (ls.foldl appendDisjunct acc)).Nodup) := by
  refine ⟨fun x => ?_, ?_, fun h => by rw [vals_fold_AD]; exact nodup_foldl_insertV _ _ h⟩
  · rw [← memP_vals, ← memP_vals]
    show x ∈ _ ↔ x ∈ _ ∨ _
    rw [vals_fold_AD, mem_foldl_insertV]
    simp only [vals, List.mem_map]
  · induction ls generalizing acc with
    | nil => simp
    | cons l ls ih =>
      intro x
      simp only [List.foldl_cons, List.mem_cons, exists_eq_or_imp]
      rw [ih, defs_AD, or_assoc]

theorem forall_fold_AD (P : Leaf V → Prop)
    (hup : ∀ xn x : Leaf V, P xn → P x → x.dm = .isDef → P { xn with dm := .isDef })
    (ls acc : List (Leaf V)) (h1 : ∀ q ∈ acc, P q) (h2 : ∀ l ∈ ls, P l) :
    ∀ q ∈ ls.foldl appendDisjunct acc, P q := by
  induction ls generalizing acc with
  | nil => exact h1
  | cons l ls ih =>
    exact ih _ (forall_AD P hup acc l h1 (h2 l (List.mem_cons_self ..)))
      fun q hq => h2 q (List.mem_cons_of_mem _ hq)

/-! ### the normal form of `crossProduct` -/

/-- the leaves one `doDisjunct` result contributes, with the modes `crossProduct` assigns:
the leaf arm uses both drop flags, the unroll arm `false` for the right one (Issue #1304) -/
def flatR (ld rd : Bool) : R V → List (Leaf V)
  | .leaf l => [{ l with dm := combineDefault2 l.dm l.odm ld rd }]
  | .multi dm odm ds =>
    ds.map fun x => { x with dm := combineDefault2 dm (combineDefault odm x.dm) ld false }

/-- does the result set `hasNonMaybe` (only the unroll arm does) -/
def nonMaybeR (ld : Bool) : R V → Bool
  | .leaf _ => false
  | .multi dm odm ds =>
    ds.any fun x => combineDefault2 dm (combineDefault odm x.dm) ld false != .maybe

theorem unroll_eq (rdm rodm : Mode) (ld : Bool) (xs : List (Leaf V)) (acc : List (Leaf V) × Bool) :
    unroll rdm rodm ld xs acc =
      ((flatR ld false (.multi rdm rodm xs)).foldl appendDisjunct acc.1,
        acc.2 || nonMaybeR ld (.multi rdm rodm xs)) := by
  induction xs generalizing acc with
  | nil => simp [unroll, flatR, nonMaybeR]
  | cons x xs ih =>
    obtain ⟨dst, hnm⟩ := acc
    unfold unroll
    rw [ih]
    simp [flatR, nonMaybeR, Bool.or_assoc]

theorem place_eq (ld rd : Bool) (acc : List (Leaf V) × Bool) (r : R V) :
    place ld rd acc r =
      ((flatR ld rd r).foldl appendDisjunct acc.1, acc.2 || nonMaybeR ld r) := by
  cases r with
  | leaf l => simp [place, flatR, nonMaybeR]
  | multi dm odm ds => exact unroll_eq dm odm ld ds acc

theorem foldl_place_eq (ld rd : Bool) (rs : List (R V)) (acc : List (Leaf V) × Bool) :
    rs.foldl (place ld rd) acc =
      ((rs.flatMap (flatR ld rd)).foldl appendDisjunct acc.1, acc.2 || rs.any (nonMaybeR ld)) := by
  induction rs generalizing acc with
  | nil => simp
  | cons r rs ih => simp [ih, place_eq, List.foldl_append, Bool.or_assoc]

/-- `leftDropsDefault` / `rightDropsDefault` of `crossProduct` -/
def ldOf (c : List (Leaf V)) (terms : Leaf V → List (R V)) : Bool :=
  !(c.any fun p => !(terms p).isEmpty && (p.dm == .isDef || p.odm == .isDef))
def rdOf (c : List (Leaf V)) (terms : Leaf V → List (R V)) : Bool :=
  !(c.any fun p => (terms p).any fun r => r.odm == .isDef)

def cpLeaves (c : List (Leaf V)) (terms : Leaf V → List (R V)) : List (Leaf V) :=
  (c.flatMap terms).flatMap (flatR (ldOf c terms) (rdOf c terms))

/-- the `hasNonMaybe` demotion -/
def demote (r : Leaf V) : Leaf V := if r.dm = .maybe then { r with dm := .notDef } else r

theorem crossProduct_eq (c : List (Leaf V)) (terms : Leaf V → List (R V)) :
    crossProduct c terms =
      if (c.flatMap terms).any (nonMaybeR (ldOf c terms)) then
        ((cpLeaves c terms).foldl appendDisjunct []).map demote
      else (cpLeaves c terms).foldl appendDisjunct [] := by
  have e : ((c.map fun p => (p, terms p)).flatMap fun pr => pr.2) = c.flatMap terms := by
    rw [List.flatMap_map]
  unfold crossProduct
  simp only [e, foldl_place_eq, List.any_map, Function.comp_def, Bool.false_or]
  rfl

theorem mem_cpLeaves (c : List (Leaf V)) (terms : Leaf V → List (R V)) (l : Leaf V) :
    l ∈ cpLeaves c terms ↔
      ∃ p ∈ c, ∃ r ∈ terms p, l ∈ flatR (ldOf c terms) (rdOf c terms) r := by
  simp only [cpLeaves, List.mem_flatMap]
  constructor
  · rintro ⟨r, ⟨p, hp, hr⟩, hl⟩; exact ⟨p, hp, r, hr, hl⟩
  · rintro ⟨p, hp, r, hr, hl⟩; exact ⟨r, ⟨p, hp, hr⟩, hl⟩

theorem demote_v (r : Leaf V) : (demote r).v = r.v := by unfold demote; split <;> rfl

theorem demote_odm (r : Leaf V) : (demote r).odm = r.odm := by unfold demote; split <;> rfl

theorem demote_isDef (r : Leaf V) : (demote r).dm = .isDef ↔ r.dm = .isDef := by
  unfold demote
  by_cases hr : r.dm = .maybe <;> simp [hr]

theorem vals_map_demote (c : List (Leaf V)) : vals (c.map demote) = vals c := by
  simp only [vals, List.map_map, Function.comp_def, demote_v]

theorem sets_demote (c : List (Leaf V)) :
    valsP (c.map demote) = valsP c ∧ defsP (c.map demote) = defsP c := by
  constructor
  · rw [← memP_vals, vals_map_demote, memP_vals]
  · funext x; apply propext
    constructor
    · rintro ⟨_, hq, rfl, hdm⟩
      obtain ⟨r, hr, rfl⟩ := List.mem_map.1 hq
      exact ⟨r, hr, (demote_v r).symm, (demote_isDef r).1 hdm⟩
    · rintro ⟨r, hr, rfl, hdm⟩
      exact ⟨demote r, List.mem_map.2 ⟨r, hr, rfl⟩, demote_v r, (demote_isDef r).2 hdm⟩

theorem crossProduct_sets (c : List (Leaf V)) (terms : Leaf V → List (R V)) :
    (∀ x, valsP (crossProduct c terms) x ↔ ∃ l ∈ cpLeaves c terms, l.v = x) ∧
    (∀ x, defsP (crossProduct c terms) x ↔ ∃ l ∈ cpLeaves c terms, l.v = x ∧ l.dm = .isDef) ∧
    (vals (crossProduct c terms)).Nodup := by
  obtain ⟨f1, f2, f3⟩ := fold_AD (cpLeaves c terms) []
  obtain ⟨d1, d2⟩ := sets_demote ((cpLeaves c terms).foldl appendDisjunct [])
  -- the demotion changes neither set nor the list of values
  have e : valsP (crossProduct c terms) = valsP ((cpLeaves c terms).foldl appendDisjunct []) ∧
      defsP (crossProduct c terms) = defsP ((cpLeaves c terms).foldl appendDisjunct []) ∧
      vals (crossProduct c terms) = vals ((cpLeaves c terms).foldl appendDisjunct []) := by
    rw [crossProduct_eq]
    split
    · exact ⟨d1, d2, vals_map_demote _⟩
    · exact ⟨rfl, rfl, rfl⟩
  rw [e.1, e.2.1, e.2.2]
  exact ⟨fun x => by rw [f1]; simp [valsP], fun x => by rw [f2]; simp [defsP], f3 List.nodup_nil⟩

theorem forall_crossProduct (P : Leaf V → Prop)
    (hup : ∀ xn x : Leaf V, P xn → P x → x.dm = .isDef → P { xn with dm := .isDef })
    (hdem : ∀ q, P q → P (demote q)) (c : List (Leaf V)) (terms : Leaf V → List (R V))
    (h : ∀ l ∈ cpLeaves c terms, P l) : ∀ q ∈ crossProduct c terms, P q := by
  have hf := forall_fold_AD P hup (cpLeaves c terms) [] (fun _ hq => nomatch hq) h
  rw [crossProduct_eq]
  split
  · intro q hq
    obtain ⟨r, hr, rfl⟩ := List.mem_map.1 hq
    exact hdem r (hf r hr)
  · exact hf

theorem vals_flatR (ld rd : Bool) (r : R V) (x : V) :
    (∃ l ∈ flatR ld rd r, l.v = x) ↔ x ∈ r.vals := by
  cases r with
  | leaf l => simp [flatR, R.vals, eq_comm]
  | multi dm odm ds =>
    simp only [flatR, R.vals, List.mem_map]
    constructor
    · rintro ⟨l, ⟨q, hq, rfl⟩, rfl⟩; exact ⟨q, hq, rfl⟩
    · rintro ⟨q, hq, rfl⟩; exact ⟨_, ⟨q, hq, rfl⟩, rfl⟩

theorem mem_vals_crossProduct (cross : List (Leaf V)) (terms : Leaf V → List (R V)) (y : V) :
    y ∈ vals (crossProduct cross terms) ↔ ∃ c, c ∈ cross ∧ y ∈ rvals (terms c) := by
  have := (crossProduct_sets cross terms).1 y
  rw [← memP_vals] at this
  refine this.trans ?_
  simp only [mem_cpLeaves, rvals, List.mem_flatMap]
  constructor
  · rintro ⟨l, ⟨p, hp, r, hr, hl⟩, rfl⟩
    exact ⟨p, hp, r, hr, (vals_flatR _ _ r l.v).1 ⟨l, hl, rfl⟩⟩
  · rintro ⟨p, hp, r, hr, hy⟩
    obtain ⟨l, hl, rfl⟩ := (vals_flatR _ _ r y).2 hy
    exact ⟨l, ⟨p, hp, r, hr, hl⟩, rfl⟩

theorem nodup_crossProduct (cross : List (Leaf V)) (terms : Leaf V → List (R V)) :
    (vals (crossProduct cross terms)).Nodup :=
  (crossProduct_sets cross terms).2.2

def Step (S : Sl V) (A : V → Prop) (b y : V) : Prop := ∃ a, A a ∧ S.meet b a = some y

theorem step_eq (S : Sl V) (A : V → Prop) (b : V) : Step S A b = MeetP S (· = b) A := by
  funext y; simp only [Step, MeetP, exists_eq_left]

theorem step_comp (S : Sl V) (h : Laws S) (A B : V → Prop) (b y : V) :
    (∃ v, Step S A b v ∧ Step S B v y) ↔ Step S (MeetP S A B) b y := by
  show MeetP S (Step S A b) B y ↔ _
  rw [step_eq, step_eq, meetP_assoc h]

theorem step_top (S : Sl V) (h : Laws S) (b y : V) : Step S (· = S.top) b y ↔ b = y := by
  rw [step_eq, meetP_top_right h]; exact eq_comm

/-- nothing, the single survivor collapsed to a leaf (`DerefDisjunct`), or two or more -/
theorem doDisj_cases (sc : Option V → Option V) (cj : List (Leaf V) → List (Leaf V))
    (p : Leaf V) (m : Mode) :
    doDisj sc cj p m = [] ∨
    ∃ v, sc (some p.v) = some v ∧
      ((∃ x, cj [⟨v, p.dm, m⟩] = [x] ∧ doDisj sc cj p m = [.leaf { x with odm := m }]) ∨
       (2 ≤ (cj [⟨v, p.dm, m⟩]).length ∧
         doDisj sc cj p m = [.multi p.dm m (cj [⟨v, p.dm, m⟩])])) := by
  unfold doDisj
  cases sc (some p.v) with
  | none => exact Or.inl rfl
  | some v =>
    simp only
    generalize hL : cj [⟨v, p.dm, m⟩] = L
    match L, hL with
    | [], _ => exact Or.inl rfl
    | [x], hL => exact Or.inr ⟨v, rfl, Or.inl ⟨x, hL, rfl⟩⟩
    | x :: y :: t, hL => exact Or.inr ⟨v, rfl, Or.inr ⟨by rw [hL]; simp, by rw [hL]⟩⟩

theorem mem_rvals_doDisj (sc : Option V → Option V) (cj : List (Leaf V) → List (Leaf V))
    (p : Leaf V) (m : Mode) (y : V) :
    y ∈ rvals (doDisj sc cj p m) ↔
      ∃ v, sc (some p.v) = some v ∧ y ∈ vals (cj [{ v := v, dm := p.dm, odm := m }]) := by
  unfold doDisj
  cases sc (some p.v) with
  | none => simp
  | some v =>
    simp only [Option.some.injEq, exists_eq_left']
    split <;> simp [R.vals, vals, *]

/-! ### the value invariant -/

/-- what the scalar conjuncts of `e` contribute -/
def scP (S : Sl V) : Expr V → V → Prop
  | .atom a => (· = a)
  | .and l r => MeetP S (scP S l) (scP S r)
  | .paren e => scP S e
  | .mark _ => fun _ => False
  | .or _ _ => (· = S.top)

/-- what the disjunction conjuncts of `e` contribute -/
def djP (S : Sl V) : Expr V → V → Prop
  | .atom _ => (· = S.top)
  | .and l r => MeetP S (djP S l) (djP S r)
  | .paren e => djP S e
  | .mark _ => fun _ => False
  | .or l r => fun x => x ∈ (specSem S (.or l r)).pair.v

structure Inv (S : Sl V) (e : Expr V) : Prop where
  scalar_none : (sem S e).scalar none = none
  scalar : ∀ b y, (sem S e).scalar (some b) = some y ↔ Step S (scP S e) b y
  conj : ∀ cross y, y ∈ vals ((sem S e).conj cross) ↔
    ∃ v, v ∈ vals cross ∧ Step S (djP S e) v y
  pair : ∀ x, x ∈ (specSem S e).pair.v ↔ MeetP S (scP S e) (djP S e) x
  terms : ∀ hd mk p y, y ∈ rvals ((sem S e).terms hd mk p) ↔
    ∃ t, t ∈ (specSem S e).terms mk ∧ ∃ x, x ∈ t.2.v ∧ S.meet p.v x = some y

theorem Inv.scalar_bind {S : Sl V} {e : Expr V} (i : Inv S e) (o : Option V) (y : V) :
    (sem S e).scalar o = some y ↔ ∃ b, o = some b ∧ Step S (scP S e) b y := by
  cases o with
  | none => simp [i.scalar_none]
  | some b => simp [i.scalar]

theorem Inv.conjP {S : Sl V} {e : Expr V} (i : Inv S e) (c : List (Leaf V)) :
    memP (vals ((sem S e).conj c)) = MeetP S (memP (vals c)) (djP S e) :=
  funext fun y => propext (i.conj c y)

theorem Inv.pairP {S : Sl V} {e : Expr V} (i : Inv S e) :
    memP (specSem S e).pair.v = MeetP S (scP S e) (djP S e) :=
  funext fun x => propext (i.pair x)

theorem doDisj_of_inv (S : Sl V) (h : Laws S) (e : Expr V)
    (hsc : ∀ b y, (sem S e).scalar (some b) = some y ↔ Step S (scP S e) b y)
    (hcj : ∀ cross y, y ∈ vals ((sem S e).conj cross) ↔
      ∃ v, v ∈ vals cross ∧ Step S (djP S e) v y)
    (hP : ∀ x, x ∈ (specSem S e).pair.v ↔ MeetP S (scP S e) (djP S e) x)
    (p : Leaf V) (m : Mode) (y : V) :
    y ∈ rvals (doDisj (sem S e).scalar (sem S e).conj p m) ↔
      ∃ x, x ∈ (specSem S e).pair.v ∧ S.meet p.v x = some y := by
  rw [mem_rvals_doDisj]
  show _ ↔ Step S (memP (specSem S e).pair.v) p.v y
  rw [show memP (specSem S e).pair.v = _ from funext fun x => propext (hP x), ← step_comp S h]
  simp only [hsc, hcj]
  simp only [vals, List.map_cons, List.map_nil, List.mem_singleton, exists_eq_left]

/-- for expressions that are a single term of an enclosing disjunction, the `terms` part of
the invariant follows from the others -/
theorem inv_of_parts (S : Sl V) (h : Laws S) (e : Expr V)
    (hterms : ∀ hd mk p, (sem S e).terms hd mk p =
      doDisj (sem S e).scalar (sem S e).conj p (mode hd mk))
    (hst : ∀ mk, (specSem S e).terms mk = [(mk, (specSem S e).pair)])
    (scalar_none : (sem S e).scalar none = none)
    (scalar : ∀ b y, (sem S e).scalar (some b) = some y ↔ Step S (scP S e) b y)
    (conj : ∀ cross y, y ∈ vals ((sem S e).conj cross) ↔
      ∃ v, v ∈ vals cross ∧ Step S (djP S e) v y)
    (pair : ∀ x, x ∈ (specSem S e).pair.v ↔ MeetP S (scP S e) (djP S e) x) : Inv S e where
  scalar_none := scalar_none
  scalar := scalar
  conj := conj
  pair := pair
  terms := by
    intro hd mk p y
    rw [hterms, hst, doDisj_of_inv S h e scalar conj pair]
    simp

theorem inv_atom (S : Sl V) (h : Laws S) (a : V) : Inv S (.atom a) := by
  apply inv_of_parts S h
  · intro hd mk p; rfl
  · intro mk; rfl
  · rfl
  · intro b y
    simp [sem, Step, scP]
  · intro cross y
    simp only [sem, djP, id, step_top S h]
    simp
  · intro x
    simp only [scP, djP, meetP_top_right h]
    simp [specSem]

theorem inv_paren (S : Sl V) (h : Laws S) (e : Expr V) (ih : Inv S e) : Inv S (.paren e) :=
  inv_of_parts S h _ (fun _ _ _ => rfl) (fun _ => rfl) ih.scalar_none ih.scalar ih.conj ih.pair

theorem inv_and (S : Sl V) (h : Laws S) (l r : Expr V) (ihl : Inv S l) (ihr : Inv S r) :
    Inv S (.and l r) := by
  apply inv_of_parts S h
  · intro hd mk p; rfl
  · intro mk; rfl
  · show (sem S r).scalar ((sem S l).scalar none) = none
    rw [ihl.scalar_none, ihr.scalar_none]
  · intro b y
    show (sem S r).scalar ((sem S l).scalar (some b)) = some y ↔
      Step S (MeetP S (scP S l) (scP S r)) b y
    rw [← step_comp S h, ihr.scalar_bind]
    simp only [ihl.scalar]
  · intro cross y
    show memP (vals ((sem S r).conj ((sem S l).conj cross))) y ↔
      MeetP S (memP (vals cross)) (MeetP S (djP S l) (djP S r)) y
    rw [ihr.conjP, ihl.conjP, meetP_assoc h]
  · intro x
    show memP (meetV S (specSem S l).pair.v (specSem S r).pair.v) x ↔ _
    rw [memP_meetV, ihl.pairP, ihr.pairP, meetP_swap h]
    exact Iff.rfl

theorem inv_mark (S : Sl V) (e : Expr V) (ih : Inv S e) : Inv S (.mark e) where
  scalar_none := rfl
  scalar := by
    intro b y
    simp [sem, scP, Step]
  conj := by
    intro cross y
    simp [sem, djP, Step, vals]
  pair := by
    intro x
    simp [specSem, scP, MeetP]
  terms := by
    intro hd mk p y
    exact ih.terms hd true p y

theorem inv_or (S : Sl V) (h : Laws S) (l r : Expr V) (ihl : Inv S l) (ihr : Inv S r) :
    Inv S (.or l r) where
  scalar_none := rfl
  scalar := by
    intro b y
    simp only [sem, scP, id, step_top S h]
    simp
  conj := by
    intro cross y
    show y ∈ vals (crossProduct cross _) ↔ _
    rw [mem_vals_crossProduct]
    simp only [rvals_append, List.mem_append, ihl.terms, ihr.terms, djP, Step]
    show _ ↔ ∃ v, v ∈ vals cross ∧ ∃ a,
      a ∈ (disjPair ((specSem S l).terms false ++ (specSem S r).terms false)).v ∧ _
    simp only [mem_disjPair_v, List.mem_append, vals, List.mem_map]
    constructor
    · rintro ⟨c, hc, (⟨t, ht, x, hx, h1⟩ | ⟨t, ht, x, hx, h1⟩)⟩
      · exact ⟨c.v, ⟨c, hc, rfl⟩, x, ⟨t, Or.inl ht, hx⟩, h1⟩
      · exact ⟨c.v, ⟨c, hc, rfl⟩, x, ⟨t, Or.inr ht, hx⟩, h1⟩
    · rintro ⟨v, ⟨c, hc, rfl⟩, x, ⟨t, (ht | ht), hx⟩, h1⟩
      · exact ⟨c, hc, Or.inl ⟨t, ht, x, hx, h1⟩⟩
      · exact ⟨c, hc, Or.inr ⟨t, ht, x, hx, h1⟩⟩
  pair := by
    intro x
    simp only [scP, djP, meetP_top_left h]
  terms := by
    intro hd mk p y
    show y ∈ rvals ((sem S l).terms hd mk p ++ (sem S r).terms hd mk p) ↔
      ∃ t, t ∈ (specSem S l).terms mk ++ (specSem S r).terms mk ∧ _
    simp only [rvals_append, List.mem_append, ihl.terms, ihr.terms, or_and_right, exists_or]

theorem inv_all (S : Sl V) (h : Laws S) (e : Expr V) : Inv S e := by
  induction e with
  | atom a => exact inv_atom S h a
  | and l r ihl ihr => exact inv_and S h l r ihl ihr
  | or l r ihl ihr => exact inv_or S h l r ihl ihr
  | mark e ih => exact inv_mark S e ih
  | paren e ih => exact inv_paren S h e ih

/-- the scalar value of an expression at a fresh node: all its atoms met into top -/
def sv (S : Sl V) (e : Expr V) : Option V := (sem S e).scalar (some S.top)

theorem sv_eq_some {S : Sl V} (h : Laws S) (e : Expr V) (x : V) : sv S e = some x ↔ scP S e x := by
  rw [sv, (inv_all S h e).scalar]
  constructor
  · rintro ⟨a, ha, hm⟩; rw [h.top] at hm; cases hm; exact ha
  · intro hx; exact ⟨x, hx, h.top x⟩

theorem specV_eq {S : Sl V} (h : Laws S) (e : Expr V) :
    memP (specPair S e).v = MeetP S (scP S e) (djP S e) :=
  (inv_all S h e).pairP

theorem conj_vals {S : Sl V} (h : Laws S) (e : Expr V) (c : List (Leaf V)) :
    valsP ((sem S e).conj c) = MeetP S (valsP c) (djP S e) := by
  rw [← memP_vals, ← memP_vals]; exact (inv_all S h e).conjP c

theorem doDisj_values (S : Sl V) (h : Laws S) (e : Expr V) (p : Leaf V) (m : Mode) (y : V) :
    y ∈ rvals (doDisj (sem S e).scalar (sem S e).conj p m) ↔
      ∃ x, x ∈ (specPair S e).v ∧ S.meet p.v x = some y :=
  have i := inv_all S h e
  doDisj_of_inv S h e i.scalar i.conj i.pair p m y

/-- the partial disjuncts of the root node, before the 0 / 1 / many switch of `eval` -/
def rootL (S : Sl V) (e : Expr V) : List (Leaf V) :=
  match sv S e with
  | none => []
  | some b => (sem S e).conj [⟨b, .maybe, .maybe⟩]

theorem eval_eq (S : Sl V) (e : Expr V) :
    eval S e =
      match rootL S e with
      | [] => .bottom
      | [x] => .single x.v
      | xs => .disj xs := by
  unfold eval doDisj rootL sv
  simp only
  cases (sem S e).scalar (some S.top) with
  | none => rfl
  | some b =>
    simp only
    generalize (sem S e).conj [⟨b, .maybe, .maybe⟩] = L
    match L with
    | [] => rfl
    | [x] => rfl
    | x :: y :: r => rfl

theorem eval_values (S : Sl V) (e : Expr V) : (eval S e).values = vals (rootL S e) := by
  rw [eval_eq]
  generalize rootL S e = L
  match L with
  | [] => rfl
  | [x] => rfl
  | x :: y :: r => rfl

theorem scP_of_sv_none {S : Sl V} (h : Laws S) (e : Expr V) (hb : sv S e = none) : scP S e = pnone :=
  eq_pnone fun y hy => by rw [← sv_eq_some h, hb] at hy; cases hy

theorem root_vals {S : Sl V} (h : Laws S) (e : Expr V) (b : V) (hb : sv S e = some b) :
    valsP ([⟨b, .maybe, .maybe⟩] : List (Leaf V)) = scP S e := by
  funext x; apply propext
  rw [← sv_eq_some h, hb]
  simp [valsP, eq_comm]

theorem vals_rootL {S : Sl V} (h : Laws S) (e : Expr V) :
    valsP (rootL S e) = MeetP S (scP S e) (djP S e) := by
  unfold rootL
  cases hb : sv S e with
  | none =>
    rw [scP_of_sv_none h e hb, meetP_pnone_left]
    exact eq_pnone fun _ ⟨_, hq, _⟩ => nomatch hq
  | some b => rw [conj_vals h, root_vals h e b hb]

theorem values_iff (S : Sl V) (h : Laws S) (e : Expr V) (x : V) :
    x ∈ (eval S e).values ↔ x ∈ (specPair S e).v := by
  rw [eval_values]
  show memP (vals (rootL S e)) x ↔ memP (specPair S e).v x
  rw [memP_vals, vals_rootL h, specV_eq h]

/-! ### duplicate elimination -/

theorem nodup_conj (S : Sl V) (e : Expr V) (cross : List (Leaf V)) (hc : (vals cross).Nodup) :
    (vals ((sem S e).conj cross)).Nodup := by
  induction e generalizing cross with
  | atom a => exact hc
  | and l r ihl ihr => exact ihr _ (ihl _ hc)
  | or l r _ _ => exact nodup_crossProduct _ _
  | mark e _ => simp [sem, vals]
  | paren e ih => exact ih _ hc

theorem nodup_rootL (S : Sl V) (e : Expr V) : (vals (rootL S e)).Nodup := by
  unfold rootL
  cases sv S e with
  | none => exact List.nodup_nil
  | some b => exact nodup_conj S e _ (by simp [vals])

theorem values_nodup (S : Sl V) (e : Expr V) : (eval S e).values.Nodup := by
  rw [eval_values]; exact nodup_rootL S e

end CueVerif.Disj
