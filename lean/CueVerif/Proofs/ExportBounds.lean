import CueVerif.Spec.Export
import CueVerif.Proofs.Scalar
/-!
C07 (2) — proofs: numeric ordering bounds on atoms, the ground the bound simplifier and the range
matcher share.  `numSat op a n` is what a bound with a numeric operand says of an atom
(`satBound_numSat`, from C03); of two such bounds of one side the conjunction is the tighter one
(`tighten`, from C03's composition law); a lower bound at or above zero and the `int`/`uint`
prefix (`ge_zero_of_lower`, `satRange_uint`, `uint_keep`, `uint_drop`).  Core Lean only.
-/
namespace CueVerif.Export
open CueVerif CueVerif.Scalar Std

theorem satAll_cons (re : Bytes → Bytes → Bool) (c : Constraint) (cs : List Constraint) (a : Atom) :
    satAll re (c :: cs) a = (sat re a c && satAll re cs a) :=
  List.all_cons

theorem satAll_append (re : Bytes → Bytes → Bool) (cs ds : List Constraint) (a : Atom) :
    satAll re (cs ++ ds) a = (satAll re cs a && satAll re ds a) :=
  List.all_append

/-! ### numeric bounds -/

/-- the truth of `a op n` for a numeric operand `n` -/
def numSat (op : Op) (a : Atom) (n : Dec) : Bool :=
  match a.num? with
  | some x => opHolds op (Dec.cmp x n)
  | none => false

/-- C03's `satBound_num`, its right side under the name `numSat` -/
theorem satBound_numSat (re : Bytes → Bytes → Bool) (a : Atom) (b : Bound) (n : Dec)
    (hn : b.val.num? = some n) (ho : isOrd b.op = true) :
    satBound re a b = numSat b.op a n :=
  satBound_num re a b n hn ho

theorem numSat_ord (op : Op) (h : isOrd op = true) (a : Atom) (n : Dec) :
    numSat op a n = ordHolds op.side op.strict a (.float n) := by
  unfold numSat ordHolds
  cases hv : a.num? with
  | none => rw [ordCmp_nonnum a _ n hv rfl]
  | some x => rw [ordCmp_num a _ x n hv rfl]; exact opHolds_ord op h _

/-- operands of equal value give the same bound -/
theorem numSat_congr (op : Op) (a : Atom) (m n : Dec) (h : Dec.cmp m n = .eq) :
    numSat op a m = numSat op a n := by
  unfold numSat
  cases a.num? with
  | none => rfl
  | some x => simp only []; rw [TransCmp.congr_right (cmp := Dec.cmp) h]

/-- of two bounds `x m`, `y n` of one side the conjunction is the tighter one: `y n` when `x m`
follows from it (this is the test by which `boundSimplifier.add` replaces the stored bound), else
`x m` -/
theorem tighten (x y : Op) (hx : isOrd x = true) (hy : isOrd y = true) (hs : x.side = y.side)
    (a : Atom) (m n : Dec) :
    (numSat x a m && numSat y a n) =
      if onSide y.side.swap (!y.strict) (Dec.cmp m n) = true then numSat y a n else numSat x a m := by
  rw [numSat_ord x hx, numSat_ord y hy, hs]
  split
  · rename_i hc
    have hnm : ordHolds y.side (!y.strict) (.float n) (.float m) = true :=
      (ordHolds_swap y.side (!y.strict) (.float n) (.float m)).symm.trans hc
    cases hb : ordHolds y.side y.strict a (.float n) with
    | false => exact Bool.and_false _
    | true =>
      rw [Bool.and_true]
      exact ordHolds_weaken (ordHolds_comp hb hnm) fun _ => Bool.or_not_self y.strict
  · rename_i hc
    have hmn : ordHolds y.side y.strict (.float m) (.float n) = true :=
      (onSide_swap y.side y.strict _).symm.trans (onSide_not y.side.swap y.strict _
        (by cases y <;> first | decide | cases hy) (Bool.eq_false_iff.2 hc))
    cases ha : ordHolds y.side x.strict a (.float m) with
    | false => exact Bool.false_and _
    | true =>
      rw [Bool.true_and]
      exact ordHolds_weaken (ordHolds_comp ha hmn) fun h => by rw [h, Bool.or_true]

/-! ### zero and signs -/

theorem cmp_zero (n : Dec) : Dec.cmp n (Dec.ofInt 0) = compare n.coeff 0 := by
  have h1 : min n.exp 0 ≤ n.exp := by omega
  have h2 : min n.exp 0 ≤ (Dec.ofInt 0).exp := by simp only [Dec.ofInt]; omega
  rw [Dec.cmp_at n (Dec.ofInt 0) _ h1 h2, Dec.shift_ofInt, Int.zero_mul]
  unfold Dec.shift
  have := Dec.compare_mul_right n.coeff 0 _ (Dec.ten_pow_pos (n.exp - min n.exp 0).toNat)
  rw [Int.zero_mul] at this
  exact this

theorem satRange_uint (a : Atom) :
    satRange a .uint = (Kind.has Kind.int a && numSat .ge a (Dec.ofInt 0)) := by
  rw [int_has]
  cases a <;> simp [satRange, Range.intSpec, numSat, Atom.num?, opHolds_ge, OrientedCmp.isGE_eq_isLE, isLE_cmp_ofInt]

/-- an atom at or above a lower bound whose operand is not negative is not negative -/
theorem ge_zero_of_lower (op : Op) (ho : isOrd op = true) (hside : op.side = .gt) (a : Atom) (n : Dec)
    (hs : 0 ≤ n.coeff) (h : numSat op a n = true) : numSat .ge a (Dec.ofInt 0) = true := by
  rw [numSat_ord op ho, hside] at h
  rw [numSat_ord .ge rfl]
  -- `a R n` and `n ≥ 0` compose to `a ≥ 0`
  have hn : ordHolds .gt false (.float n) (.float (Dec.ofInt 0)) = true := by
    show onSide .gt false (Dec.cmp n (Dec.ofInt 0)) = true
    rw [cmp_zero]
    exact (opHolds_ord .ge rfl _).symm.trans ((opHolds_ge _).trans (Int.isGE_compare.2 hs))
  exact ordHolds_weaken (ordHolds_comp h hn) nofun

/-- `int & min` = `uint & min` when the operand of `min` is not negative -/
theorem uint_keep (re : Bytes → Bytes → Bool) (a : Atom) (mn : Bound) (n : Dec)
    (hn : mn.val.num? = some n) (ho : isOrd mn.op = true) (hside : mn.op.side = .gt)
    (hs : 0 ≤ n.coeff) :
    (Kind.has Kind.int a && satBound re a mn) = (satRange a .uint && satBound re a mn) := by
  rw [satRange_uint, satBound_numSat re a mn n hn ho]
  cases h : numSat mn.op a n with
  | false => simp
  | true => rw [ge_zero_of_lower mn.op ho hside a n hs h]; simp

/-- `int & >=0` = `uint` -/
theorem uint_drop (re : Bytes → Bytes → Bool) (a : Atom) (mn : Bound) (n : Dec)
    (hn : mn.val.num? = some n) (hop : mn.op = .ge) (hs : n.coeff = 0) :
    (Kind.has Kind.int a && satBound re a mn) = satRange a .uint := by
  rw [satRange_uint, satBound_numSat re a mn n hn (by rw [hop]; rfl), hop,
    numSat_congr .ge a n (Dec.ofInt 0) (by rw [cmp_zero, hs]; rfl)]

/-! ### kinds -/

/-- `BoundValue.Kind` answers `NumberKind` for an int operand, never `IntKind` -/
theorem bound_kind_ne_int (b : Bound) : (b.kind == Kind.int) = false := by
  obtain ⟨op, v⟩ := b
  cases v <;> cases op <;> rfl

end CueVerif.Export
