import CueVerif.Proofs.ExportValue
/-!
C07 (4) — proofs: export under `cue.Final()` evaluates to the Final projection of the value.
Core Lean only.
-/
namespace CueVerif.Export
open CueVerif CueVerif.Core

theorem projFinal_isBot (v : Val) : (projFinal v).isBot = v.isBot := by
  cases v <;> simp [projFinal, Val.isBot]

theorem isRegBot_proj (s : Slot) : (projSlot s).isRegBot = s.isRegBot := by
  cases s with
  | none => rfl
  | some t v => cases t <;> cases v <;> simp [projSlot, projFinal, Slot.isRegBot]

theorem hasRegBot_proj : ∀ xs : Slots, (projSlots xs).hasRegBot = xs.hasRegBot
  | .nil => rfl
  | .cons s rest => by simp [projSlots, Slots.hasRegBot, isRegBot_proj, hasRegBot_proj rest]

theorem hasBot_proj : ∀ vs : Vals, (projVals vs).hasBot = vs.hasBot
  | .nil => rfl
  | .cons v rest => by simp [projVals, Vals.hasBot, projFinal_isBot, hasBot_proj rest]

mutual
/-- the Final projection is again a normal form -/
theorem projFinal_wf (v : Val) (h : v.wf = true) : (projFinal v).wf = true :=
  match v, h with
  | .bot, _ => rfl
  | .top, _ => rfl
  | .sc _, h => h
  | .struct xs _, h => by
    simp only [Val.wf, Bool.and_eq_true, Bool.not_eq_true'] at h
    simp [projFinal, Val.wf, wf_trim _ (projSlots_wf xs h.1.1), noTrail_trim, hasRegBot_trim,
      hasRegBot_proj, h.2]
  | .list vs, h => by
    simp only [Val.wf, Bool.and_eq_true, Bool.not_eq_true'] at h
    simp [projFinal, Val.wf, projVals_wf vs h.1, hasBot_proj, h.2]
termination_by structural v
theorem projSlots_wf : ∀ xs : Slots, xs.wf = true → (projSlots xs).wf = true
  | .nil, _ => rfl
  | .cons s rest, h => by
    simp only [Slots.wf, Bool.and_eq_true] at h
    simp [projSlots, Slots.wf, projSlot_wf s h.1, projSlots_wf rest h.2]
termination_by structural xs => xs
theorem projSlot_wf : ∀ s : Slot, s.wf = true → (projSlot s).wf = true
  | .none, _ => rfl
  | .some .optional _, _ => rfl
  | .some .regular v, h => projFinal_wf v h
  | .some .required v, h => projFinal_wf v h
termination_by structural s => s
theorem projVals_wf : ∀ vs : Vals, vs.wf = true → (projVals vs).wf = true
  | .nil, _ => rfl
  | .cons v rest, h => by
    simp only [Vals.wf, Bool.and_eq_true] at h
    simp [projVals, Vals.wf, projFinal_wf v h.1, projVals_wf rest h.2]
termination_by structural vs => vs
end

theorem exportSlots_trim : ∀ (xs : Slots) (i : Nat), exportSlots i (trimSlots xs) = exportSlots i xs
  | .nil, _ => rfl
  | .cons .none rest, i => by
    rw [trim_cons_none]
    simp only [exportSlots, exportSlot]
    rw [← exportSlots_trim rest (i + 1)]
    cases trimSlots rest <;> simp [Slots.isNil, exportSlots, exportSlot]
  | .cons (.some t v) rest, i => by
    rw [trim_cons_some]
    simp only [exportSlots, exportSlot, exportSlots_trim rest (i + 1)]

/-! Exporting under `cue.Final()` is exporting the Final projection: the optional fields that
`exportFinalSlot` skips are the slots `projSlot` empties, and the trailing empty slots that
`projFinal` trims print nothing. -/
mutual
theorem exportFinal_eq : ∀ v : Val, exportFinal v = exportV (projFinal v)
  | .bot => rfl
  | .top => rfl
  | .sc _ => rfl
  | .struct xs _ => by
    simp [exportFinal, projFinal, exportV, exportSlots_trim, exportFinalSlots_eq xs 0]
  | .list vs => by simp [exportFinal, projFinal, exportV, exportFinalVals_eq vs]
termination_by structural v => v
theorem exportFinalSlots_eq : ∀ (xs : Slots) (i : Nat),
    exportFinalSlots i xs = exportSlots i (projSlots xs)
  | .nil, _ => rfl
  | .cons s rest, i => by
    simp only [exportFinalSlots, projSlots, exportSlots, exportFinalSlot_eq s i,
      exportFinalSlots_eq rest (i + 1)]
termination_by structural xs => xs
theorem exportFinalSlot_eq : ∀ (s : Slot) (i : Nat), exportFinalSlot i s = exportSlot i (projSlot s)
  | .none, _ => rfl
  | .some .optional _, _ => rfl
  | .some .regular v, _ => by simp only [exportFinalSlot, projSlot, exportSlot, exportFinal_eq v]
  | .some .required v, _ => by simp only [exportFinalSlot, projSlot, exportSlot, exportFinal_eq v]
termination_by structural s => s
theorem exportFinalVals_eq : ∀ vs : Vals, exportFinalVals vs = exportVals (projVals vs)
  | .nil => rfl
  | .cons v rest => by
    simp only [exportFinalVals, projVals, exportVals, exportFinal_eq v, exportFinalVals_eq rest]
termination_by structural vs => vs
end

theorem eval_exportFinal (v : Val) (h : v.wf = true) : eval (exportFinal v) = projFinal v := by
  rw [exportFinal_eq, eval_exportV _ (projFinal_wf v h)]

theorem evalDecls_exportFinalSlots : ∀ xs : Slots, xs.wf = true → xs.hasRegBot = false →
    ∀ i, evalDecls (exportFinalSlots i xs) = ofTrimmed i (trimSlots (projSlots xs)) := by
  intro xs h hb i
  rw [exportFinalSlots_eq]
  exact evalDecls_exportSlots _ (projSlots_wf xs h) (by rw [hasRegBot_proj, hb]) i

theorem exportFinalSlot_sound : ∀ s : Slot, s.wf = true →
    (match s with
     | .none => True
     | .some _ v => eval (exportFinal v) = projFinal v)
  | .none, _ => trivial
  | .some _ v, h => eval_exportFinal v h

theorem evalList_exportFinalVals : ∀ vs : Vals, vs.wf = true →
    evalList (exportFinalVals vs) = projVals vs := by
  intro vs h
  rw [exportFinalVals_eq, evalList_exportVals _ (projVals_wf vs h)]

end CueVerif.Export
