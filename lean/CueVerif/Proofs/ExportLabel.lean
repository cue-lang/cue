import CueVerif.Spec.Export
import CueVerif.Proofs.QuoteMain
import CueVerif.Proofs.Ident
/-!
C07 (1) — proofs: what the label printed for a string compiles back to (`label_general` for
`ast.NewStringLabel`, `exportLabel_general` for the exporter's own): the regular field of that
name where NFC leaves the string alone.  Uses C09's round-trip theorem for `literal.String.Quote` /
`literal.Unquote` and C09's scanner/`IsValidIdent` agreement.  Core Lean only.
-/
namespace CueVerif.Export
open CueVerif

theorem needsQuoting_false (lU dU : Nat → Bool) (s : Bytes) (h : needsQuoting lU dU s = false) :
    hasPrefixByte 35 s = false ∧ hasPrefixByte 95 s = false ∧
      Ident.isValidIdent lU dU (runes s) = true := by
  unfold needsQuoting at h
  simp only [Bool.or_eq_false_iff, Bool.not_eq_false'] at h
  exact ⟨h.1.1, h.1.2, h.2⟩

/-- an identifier that starts with neither `#` nor `_` is a regular (string) label -/
theorem identFeature_plain (n : Bytes) (h1 : hasPrefixByte 35 n = false)
    (h2 : hasPrefixByte 95 n = false) : identFeature n = some (.str n) := by
  cases n with
  | nil => rfl
  | cons c rest =>
    simp only [hasPrefixByte, List.head?_cons, beq_eq_false_iff_ne, ne_eq, Option.some.injEq] at h1 h2
    simp [identFeature, hasPrefixByte, h1, h2, List.isPrefixOf]
    intro h; exact absurd h.symm h2

/-- a quoted label compiles to the regular field named by the NFC form of the string: C09's
round trip of `literal.String.Quote` through `literal.Unquote` -/
theorem parseLabel_quoted {E : Quote.Env} (hE : E.Ok) (nfc : Bytes → Bytes) (s : Bytes)
    (hb : Quote.IsBytes s) (hv : Quote.validUTF8 s = true) :
    parseLabel nfc (.lit (Quote.quote E Quote.stringForm s)) = some (.str (nfc s)) := by
  simp only [parseLabel]
  rw [Quote.roundtrip_single_all hE Quote.stringForm (Or.inl ⟨rfl, rfl⟩) s hb (Or.inr hv) rfl]

theorem printLabel_ident (E : Quote.Env) (lU dU : Nat → Bool) (s n : Bytes) :
    printLabel E lU dU s = .ident n ↔ needsQuoting lU dU s = false ∧ s = n := by
  unfold printLabel
  cases needsQuoting lU dU s <;> simp

/-- what the printed label compiles to, for every byte string that is valid UTF-8 -/
theorem label_general {E : Quote.Env} (hE : E.Ok) (lU dU : Nat → Bool) (nfc : Bytes → Bytes)
    (s : Bytes) (hb : Quote.IsBytes s) (hv : Quote.validUTF8 s = true) :
    parseLabel nfc (printLabel E lU dU s) =
      some (.str (if needsQuoting lU dU s = true then nfc s else s)) := by
  unfold printLabel
  cases hq : needsQuoting lU dU s with
  | true => exact parseLabel_quoted hE nfc s hb hv
  | false =>
    obtain ⟨h1, h2, _⟩ := needsQuoting_false lU dU s hq
    exact identFeature_plain s h1 h2

/-- the same for the exporter's own label, which quotes `package` and `import` as well -/
theorem exportLabel_general {E : Quote.Env} (hE : E.Ok) (lU dU : Nat → Bool) (nfc : Bytes → Bytes)
    (s : Bytes) (hb : Quote.IsBytes s) (hv : Quote.validUTF8 s = true) :
    parseLabel nfc (exportLabel E lU dU s) =
      some (.str (if (isFileKeyword s || needsQuoting lU dU s) = true then nfc s else s)) := by
  unfold exportLabel
  cases isFileKeyword s with
  | true => exact parseLabel_quoted hE nfc s hb hv
  | false => exact label_general hE lU dU nfc s hb hv

theorem label_roundtrip {E : Quote.Env} (hE : E.Ok) (lU dU : Nat → Bool) (nfc : Bytes → Bytes)
    (s : Bytes) (hb : Quote.IsBytes s) (hv : Quote.validUTF8 s = true) (hn : nfc s = s) :
    parseLabel nfc (printLabel E lU dU s) = some (.str s) := by
  rw [label_general hE lU dU nfc s hb hv, hn, ite_self]

theorem exportLabel_roundtrip {E : Quote.Env} (hE : E.Ok) (lU dU : Nat → Bool) (nfc : Bytes → Bytes)
    (s : Bytes) (hb : Quote.IsBytes s) (hv : Quote.validUTF8 s = true) (hn : nfc s = s) :
    parseLabel nfc (exportLabel E lU dU s) = some (.str s) := by
  rw [exportLabel_general hE lU dU nfc s hb hv, hn, ite_self]

/-- an identifier the exporter prints is never `package` or `import` -/
theorem exportLabel_ident_not_keyword (E : Quote.Env) (lU dU : Nat → Bool) (s n : Bytes)
    (h : exportLabel E lU dU s = .ident n) :
    isFileKeyword n = false ∧ printLabel E lU dU s = .ident n := by
  unfold exportLabel at h
  split at h
  · cases h
  · rename_i hk
    exact ⟨by rw [← ((printLabel_ident E lU dU s n).1 h).2]; simpa using hk, h⟩

theorem label_ident_safe (E : Quote.Env) (lU dU : Nat → Bool) (s n : Bytes)
    (h : printLabel E lU dU s = .ident n) :
    n = s ∧ Ident.isValidIdent lU dU (runes n) = true ∧ hasPrefixByte 35 n = false ∧
      hasPrefixByte 95 n = false ∧ identFeature n = some (.str n) := by
  obtain ⟨hq, rfl⟩ := (printLabel_ident E lU dU s n).1 h
  obtain ⟨h1, h2, h3⟩ := needsQuoting_false lU dU s hq
  exact ⟨rfl, h3, h1, h2, identFeature_plain s h1 h2⟩

theorem label_scans (E : Quote.Env) (lU dU : Nat → Bool) (hL1 : lU 0xFFFD = false)
    (hL2 : lU 0xFEFF = false) (hD1 : dU 0xFFFD = false) (hD2 : dU 0xFEFF = false)
    (hdisj : ∀ c, 128 ≤ c → lU c = true → dU c = false) (s n : Bytes)
    (h : printLabel E lU dU s = .ident n) : Ident.scanIdentClean lU dU (runes n) = true := by
  rw [Ident.ident_agree_clean lU dU hL1 hL2 hD1 hD2 hdisj]
  exact (label_ident_safe E lU dU s n h).2.1

/-! ### the unconditional statement is false: NFC -/

/-- "e" followed by U+0301 COMBINING ACUTE ACCENT -/
def nfcWitness : Bytes := [0x65, 0xCC, 0x81]

theorem nfcWitness_quoted (lU dU : Nat → Bool) (hl : lU 0x301 = false) (hd : dU 0x301 = false) :
    needsQuoting lU dU nfcWitness = true := by
  have hr : runes nfcWitness = [0x65, 0x301] := by decide
  unfold needsQuoting
  rw [hr]
  simp [Ident.isValidIdent, Ident.cutPrefix, Ident.identPart, Ident.isLetter, Ident.isDigit,
    Ident.firstRune, hl, hd, nfcWitness, hasPrefixByte]

theorem nfcWitness_valid : Quote.IsBytes nfcWitness ∧ Quote.validUTF8 nfcWitness = true := by
  constructor
  · intro b hb; simp [nfcWitness] at hb; omega
  · simp [nfcWitness, Quote.validUTF8, Quote.decodeFirst, Quote.decodeRune, Quote.isCont]

end CueVerif.Export
