import CueVerif.Model.Export
import CueVerif.Props.C08
/-!
C07 (3) — the exporter builds disjunctions and conjunctions WITHOUT parenthesis nodes and relies
on the formatter's precedence printing: corollary of C08's theorems.
-/
namespace CueVerif.Export
open CueVerif CueVerif.Fmt

theorem foldl_bin_wf (o : OpTok) (ho : 1 ≤ o.prec) : ∀ (es : List Expr) (e : Expr), e.wf = true →
    (∀ x ∈ es, x.wf = true) → (es.foldl (fun acc x => Expr.bin o acc x) e).wf = true
  | [], e, he, _ => he
  | x :: es, e, he, h => by
    rw [List.forall_mem_cons] at h
    exact foldl_bin_wf o ho es (.bin o e x) (by simp [Expr.wf, ho, he, h.1]) h.2

theorem newBinExpr_wf (o : OpTok) (ho : 1 ≤ o.prec) (es : List Expr) (h : ∀ x ∈ es, x.wf = true)
    (e : Expr) (he : newBinExpr o es = some e) : e.wf = true := by
  cases es with
  | nil => cases he
  | cons x es =>
    simp only [newBinExpr, Option.some.injEq] at he
    subst he
    rw [List.forall_mem_cons] at h
    exact foldl_bin_wf o ho es x h.1 h.2

theorem mkDisj_wf (ds : List (Bool × Expr)) (h : ∀ d ∈ ds, d.2.wf = true) (e : Expr)
    (he : mkDisj ds = some e) : e.wf = true := by
  apply newBinExpr_wf .or (by decide) _ _ e he
  intro x hx
  obtain ⟨d, hd, rfl⟩ := List.mem_map.1 hx
  unfold markDisjunct
  cases hb : d.1 <;> simp [Expr.wf, OpTok.isUnary, h d hd]

theorem mkConj_wf (es : List Expr) (h : ∀ x ∈ es, x.wf = true) (e : Expr)
    (he : mkConj es = some e) : e.wf = true :=
  newBinExpr_wf .and (by decide) es h e he

/-- what both formatters write for a well-formed tree scans and parses to a tree that differs
from it in parenthesis nodes only -/
theorem reparses_same (e : Expr) (h : e.wf = true) :
    (∃ t, (scan (render (fmtV2 e))).bind parseE = some t ∧ erase t = erase e) ∧
    (∃ t, (scan (render (fmtV1 e))).bind parseE = some t ∧ erase t = erase e) :=
  ⟨⟨norm e, C08.C08_v2_output_reparses e h, C08.C08_same_meaning e⟩,
   ⟨norm e, C08.C08_v1_output_reparses e h, C08.C08_same_meaning e⟩⟩

end CueVerif.Export
