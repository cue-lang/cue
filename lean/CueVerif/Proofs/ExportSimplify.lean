import CueVerif.Proofs.ExportBounds
/-!
C07 (2) — proofs: the bound simplifier.  Its state stands for `int? & min? & max?` (`BSimp.den`),
each slot holding a numeric ordering bound of its side (`NumBound`, `BSimp.Inv`); `add` absorbs the
values it uses (`slot_step` for either slot, `add_sound`), the loop hands on the others
(`simpRun_sound`), and `expr` prints what the final state stands for (`expr_den`).  Core Lean only.
-/
namespace CueVerif.Export
open CueVerif CueVerif.Scalar Std

/-! ### the state -/

/-- `(b, n)` is an ordering bound of the side `d` with the number `n` for its operand -/
structure NumBound (d : Ordering) (x : Bound × Dec) : Prop where
  num : x.1.val.num? = some x.2
  ord : isOrd x.1.op = true
  side : x.1.op.side = d

def denOpt (re : Bytes → Bytes → Bool) (a : Atom) : Option (Bound × Dec) → Bool
  | none => true
  | some (b, _) => satBound re a b

/-- what the simplifier's state says about an atom -/
def BSimp.den (re : Bytes → Bytes → Bool) (s : BSimp) (a : Atom) : Bool :=
  (!s.isInt || Kind.has Kind.int a) && denOpt re a s.min && denOpt re a s.max

structure BSimp.Inv (s : BSimp) : Prop where
  min : ∀ x ∈ s.min, NumBound .gt x
  max : ∀ x ∈ s.max, NumBound .lt x

theorem inv_empty : BSimp.Inv {} := ⟨fun _ h => (by cases h), fun _ h => (by cases h)⟩

theorem den_empty (re : Bytes → Bytes → Bool) (a : Atom) : BSimp.den re {} a = true := rfl

/-! ### `boundSimplifier.add` -/

/-- the slot of the side `d` after `add` has seen the bound `b` of that side: it still holds a
bound of that side, and stands for what it stood for together with `b` -/
theorem slot_step (re : Bytes → Bytes → Bool) (d : Ordering) (cur : Option (Bound × Dec))
    (hcur : ∀ x ∈ cur, NumBound d x) (b : Bound) (n : Dec) (hb : NumBound d (b, n)) (p : Ordering → Bool)
    (hp : ∀ o, p o = onSide d.swap (!b.op.strict) o) :
    (∀ x ∈ if replaces cur n p = true then some (b, n) else cur, NumBound d x) ∧
    ∀ a, denOpt re a (if replaces cur n p = true then some (b, n) else cur) =
      (denOpt re a cur && satBound re a b) := by
  refine ⟨fun x hx => ?_, fun a => ?_⟩
  · split at hx
    · cases hx; exact hb
    · exact hcur x hx
  · cases cur with
    | none => simp [replaces, denOpt]
    | some x =>
      obtain ⟨b0, m⟩ := x
      have h0 := hcur _ rfl
      have e0 := satBound_numSat re a b0 m h0.num h0.ord
      have eb := satBound_numSat re a b n hb.num hb.ord
      show denOpt re a (if p (Dec.cmp m n) = true then some (b, n) else some (b0, m)) =
        (satBound re a b0 && satBound re a b)
      rw [e0, eb, tighten b0.op b.op h0.ord hb.ord (h0.side.trans hb.side.symm), hb.side, ← hp]
      split
      · exact eb
      · exact e0

theorem ite_setMin (c : Bool) (s : BSimp) (x : Option (Bound × Dec)) :
    (if c = true then { s with min := x } else s) = { s with min := if c = true then x else s.min } := by
  cases c <;> rfl

theorem ite_setMax (c : Bool) (s : BSimp) (x : Option (Bound × Dec)) :
    (if c = true then { s with max := x } else s) = { s with max := if c = true then x else s.max } := by
  cases c <;> rfl

theorem setMin_sound (re : Bytes → Bytes → Bool) (s : BSimp) (hs : s.Inv) (b : Bound) (n : Dec)
    (hb : NumBound .gt (b, n)) (p : Ordering → Bool) (hp : ∀ o, p o = onSide .lt (!b.op.strict) o) :
    (if replaces s.min n p = true then { s with min := some (b, n) } else s).Inv ∧
    ∀ a, (if replaces s.min n p = true then { s with min := some (b, n) } else s).den re a =
      (s.den re a && satBound re a b) := by
  obtain ⟨hi, hd⟩ := slot_step re .gt s.min hs.min b n hb p hp
  rw [ite_setMin]
  refine ⟨⟨hi, hs.max⟩, fun a => ?_⟩
  show ((!s.isInt || Kind.has Kind.int a) && denOpt re a (if replaces s.min n p = true
    then some (b, n) else s.min) && denOpt re a s.max) = (s.den re a && satBound re a b)
  rw [hd a, ← Bool.and_assoc, Bool.and_right_comm]
  rfl

theorem setMax_sound (re : Bytes → Bytes → Bool) (s : BSimp) (hs : s.Inv) (b : Bound) (n : Dec)
    (hb : NumBound .lt (b, n)) (p : Ordering → Bool) (hp : ∀ o, p o = onSide .gt (!b.op.strict) o) :
    (if replaces s.max n p = true then { s with max := some (b, n) } else s).Inv ∧
    ∀ a, (if replaces s.max n p = true then { s with max := some (b, n) } else s).den re a =
      (s.den re a && satBound re a b) := by
  obtain ⟨hi, hd⟩ := slot_step re .lt s.max hs.max b n hb p hp
  rw [ite_setMax]
  refine ⟨⟨hs.min, hi⟩, fun a => ?_⟩
  show ((!s.isInt || Kind.has Kind.int a) && denOpt re a s.min && denOpt re a (if replaces s.max n p = true
    then some (b, n) else s.max)) = (s.den re a && satBound re a b)
  rw [hd a, ← Bool.and_assoc]
  rfl

/-- `x.K & ScalarKinds == IntKind` holds of `int` only -/
theorem type_int_iff (t : BType) : ((t.kind &&& scalarKinds) == Kind.int) = (t == .int) := by
  cases t <;> decide

/-- a value `add` uses is absorbed by the state; one it does not use leaves the state alone -/
theorem add_sound (re : Bytes → Bytes → Bool) (s : BSimp) (hs : s.Inv) (c : Constraint) :
    (s.add c).1.Inv ∧
    if (s.add c).2 = true then ∀ a, (s.add c).1.den re a = (s.den re a && sat re a c)
    else (s.add c).1 = s := by
  cases c with
  | atom x => exact ⟨hs, rfl⟩
  | range r => exact ⟨hs, rfl⟩
  | type t =>
    simp only [BSimp.add, type_int_iff]
    cases t <;> try exact ⟨hs, rfl⟩
    refine ⟨⟨hs.min, hs.max⟩, fun a => ?_⟩
    show ((!true || Kind.has Kind.int a) && denOpt re a s.min && denOpt re a s.max) =
      ((!s.isInt || Kind.has Kind.int a) && denOpt re a s.min && denOpt re a s.max && Kind.has Kind.int a)
    cases s.isInt <;> cases Kind.has Kind.int a <;> cases denOpt re a s.min <;>
      cases denOpt re a s.max <;> rfl
  | bound b =>
    -- the assignment to `isInt` in front of the switch never fires: an unused bound changes nothing
    simp only [BSimp.add, bound_kind_ne_int, Bool.false_eq_true, if_false]
    obtain ⟨op, v⟩ := b
    cases hn : v.num? with
    | none => exact ⟨hs, rfl⟩
    | some n =>
      cases op with
      | ne => exact ⟨hs, rfl⟩
      | mat => exact ⟨hs, rfl⟩
      | nmat => exact ⟨hs, rfl⟩
      | gt => exact setMin_sound re s hs _ n ⟨hn, rfl, rfl⟩ _ fun o => by cases o <;> rfl
      | ge => exact setMin_sound re s hs _ n ⟨hn, rfl, rfl⟩ _ fun o => by cases o <;> rfl
      | lt => exact setMax_sound re s hs _ n ⟨hn, rfl, rfl⟩ _ fun o => by cases o <;> rfl
      | le => exact setMax_sound re s hs _ n ⟨hn, rfl, rfl⟩ _ fun o => by cases o <;> rfl

/-! ### the loop and `expr` -/

theorem simpRun_sound (re : Bytes → Bytes → Bool) (cs : List Constraint) : ∀ s : BSimp, s.Inv →
    (simpRun s cs).1.Inv ∧
    ∀ a, ((simpRun s cs).1.den re a && satAll re (simpRun s cs).2 a) = (s.den re a && satAll re cs a) := by
  induction cs with
  | nil => intro s hs; exact ⟨hs, fun a => rfl⟩
  | cons c cs ih =>
    intro s hs
    obtain ⟨hi, hd⟩ := add_sound re s hs c
    obtain ⟨hi', hd'⟩ := ih (s.add c).1 hi
    refine ⟨hi', fun a => ?_⟩
    show ((simpRun (s.add c).1 cs).1.den re a &&
      satAll re (if (s.add c).2 = true then (simpRun (s.add c).1 cs).2 else c :: (simpRun (s.add c).1 cs).2) a) = _
    rw [satAll_cons]
    split at hd
    · -- `c` was used
      rw [if_pos ‹_›, hd' a, ← Bool.and_assoc, ← hd a]
    · -- `c` is kept and the loop goes on from the same state
      rw [if_neg ‹_›, satAll_cons, Bool.and_left_comm, hd' a, hd, Bool.and_left_comm]

/-- the prefix and the two bounds that `expr` prints say what the final state says -/
theorem expr_den (re : Bytes → Bytes → Bool) (s : BSimp) (hi : s.Inv) (p : Prefix)
    (mn mx : Option Bound) (h : s.expr = some (p, mn, mx)) (a : Atom) :
    satAll re (p.conjuncts ++ optBound mn ++ optBound mx) a = s.den re a := by
  unfold BSimp.expr at h
  split at h
  · rename_i b n bx nx hmn hmx
    have hb := hi.min (b, n) hmn
    simp only [BSimp.den, hmn, hmx, denOpt]
    split at h
    · rename_i hI
      simp only [hI, Bool.not_true, Bool.false_or]
      split at h
      · -- `int & min & max`
        cases h
        simp only [Prefix.conjuncts, optBound, List.cons_append, List.nil_append, satAll, List.all_cons,
          List.all_nil, sat, BType.kind, Bool.and_true, Bool.and_assoc]
      · rename_i hneg
        have hs : 0 ≤ n.coeff := Int.not_lt.1 fun hlt =>
          hneg (beq_iff_eq.2 (Int.sign_eq_neg_one_of_neg hlt))
        split at h
        · -- `uint & max`: the lower bound is `>=0`
          rename_i hz
          simp only [Bool.and_eq_true, beq_iff_eq] at hz
          cases h
          have hc : n.coeff = 0 := Int.sign_eq_zero_iff_zero.1 hz.1
          simp only [Prefix.conjuncts, optBound, List.cons_append, List.nil_append, List.append_nil,
            satAll, List.all_cons, List.all_nil, sat, Bool.and_true, ← uint_drop re a b n hb.num hz.2 hc]
        · -- `uint & min & max`
          cases h
          simp only [Prefix.conjuncts, optBound, List.cons_append, List.nil_append, satAll, List.all_cons,
            List.all_nil, sat, Bool.and_true, ← Bool.and_assoc, ← uint_keep re a b n hb.num hb.ord hb.side hs]
    · rename_i hI
      cases h
      simp only [hI, Prefix.conjuncts, optBound, List.cons_append, List.nil_append, satAll, List.all_cons,
        List.all_nil, sat, Bool.and_true, Bool.not_false, Bool.true_or, Bool.true_and]
  · cases h

/-- `simplifyBounds` preserves the set of satisfying atoms, for every list of conjuncts -/
theorem boundSimplifier_sound (re : Bytes → Bytes → Bool) (cs : List Constraint) (a : Atom) :
    satAll re (simplifyBounds cs) a = satAll re cs a := by
  obtain ⟨hi, hd⟩ := simpRun_sound re cs {} inv_empty
  have h := hd a
  rw [den_empty, Bool.true_and] at h
  cases he : (simpRun {} cs).1.expr with
  | none => simp only [simplifyBounds, simplify, he]
  | some t =>
    obtain ⟨p, mn, mx⟩ := t
    simp only [simplifyBounds, simplify, he, Simplified.conjuncts]
    rw [satAll_append, expr_den re _ hi p mn mx he a, h]

end CueVerif.Export
