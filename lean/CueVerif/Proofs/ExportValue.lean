import CueVerif.Spec.Export
import CueVerif.Proofs.CoreWF
import CueVerif.Proofs.Core
/-!
C07 (4) — proofs: the reference exporters on CueCore values round-trip through `eval`.
Core Lean only.
-/
namespace CueVerif.Export
open CueVerif CueVerif.Core

/-! ### slot lists -/

/-- `n` empty slots in front -/
def pad : Nat → Slots → Slots
  | 0, xs => xs
  | n + 1, xs => .cons .none (pad n xs)

/-- the value of a block of field declarations whose slots (from label `i` on) are `T`, trimmed -/
def ofTrimmed (i : Nat) (T : Slots) : Val := if T.isNil then .top else .struct (pad i T) false

theorem pad_succ (i : Nat) (xs : Slots) : pad (i + 1) xs = pad i (.cons .none xs) := by
  induction i with
  | zero => rfl
  | succ i ih => show Slots.cons .none (pad (i + 1) xs) = .cons .none (pad i (.cons .none xs)); rw [ih]

theorem closeBy_false : ∀ xs : Slots, closeBy false xs = xs
  | .nil => rfl
  | .cons s rest => by simp [closeBy, closeBy_false rest]

theorem single_eq_pad (i : Nat) (s : Slot) : single i s = pad i (.cons s .nil) := by
  induction i with
  | zero => rfl
  | succ i ih => simp [single, pad, ih]

theorem merge_single_pad (i : Nat) (s : Slot) (rest : Slots) :
    mergeSlots (single i s) false (pad (i + 1) rest) false = pad i (.cons s rest) := by
  induction i with
  | zero => simp [single, pad, mergeSlots, Core.mergeSlot_none_right, closeBy_false]
  | succ i ih =>
    show mergeSlots (.cons .none (single i s)) false (.cons .none (pad (i + 1) rest)) false =
      .cons .none (pad i (.cons s rest))
    rw [mergeSlots, ih]; simp [mergeSlot]

theorem hasRegBot_pad (i : Nat) (xs : Slots) : (pad i xs).hasRegBot = xs.hasRegBot := by
  induction i with
  | zero => rfl
  | succ i ih => simp [pad, Slots.hasRegBot, Slot.isRegBot, ih]

theorem trim_cons_none (rest : Slots) :
    trimSlots (.cons .none rest) = if (trimSlots rest).isNil then .nil else .cons .none (trimSlots rest) := by
  simp [trimSlots, Slot.isSome]

theorem trim_cons_some (t : ArcTy) (v : Val) (rest : Slots) :
    trimSlots (.cons (.some t v) rest) = .cons (.some t v) (trimSlots rest) := by
  simp [trimSlots, Slot.isSome]

theorem hasRegBot_trim : ∀ xs : Slots, (trimSlots xs).hasRegBot = xs.hasRegBot
  | .nil => rfl
  | .cons .none rest => by
    rw [trim_cons_none, Slots.hasRegBot, ← hasRegBot_trim rest]
    cases trimSlots rest <;> simp [Slots.isNil, Slots.hasRegBot, Slot.isRegBot]
  | .cons (.some t v) rest => by
    rw [trim_cons_some, Slots.hasRegBot, Slots.hasRegBot, hasRegBot_trim rest]

/-- `trimSlots` projects onto the slot lists without a trailing empty slot: it leaves those alone
and yields one of them (`noTrail_trim`) -/
theorem trim_noTrail : ∀ xs : Slots, xs.noTrail = true → trimSlots xs = xs
  | .nil, _ => rfl
  | .cons s rest, h => by
    simp only [Slots.noTrail, Bool.and_eq_true, Bool.or_eq_true, Bool.not_eq_true'] at h
    simp only [trimSlots, trim_noTrail rest h.2]
    rcases h.1 with h1 | h1 <;> simp [h1]

theorem noTrail_trim : ∀ xs : Slots, (trimSlots xs).noTrail = true
  | .nil => rfl
  | .cons .none rest => by
    rw [trim_cons_none]
    cases h : trimSlots rest with
    | nil => rfl
    | cons a b => simpa [h, Slots.isNil, Slots.noTrail] using noTrail_trim rest
  | .cons (.some t v) rest => by
    rw [trim_cons_some, Slots.noTrail, noTrail_trim rest]; rfl

theorem wf_trim : ∀ xs : Slots, xs.wf = true → (trimSlots xs).wf = true
  | .nil, _ => rfl
  | .cons s rest, h => by
    simp only [Slots.wf, Bool.and_eq_true] at h
    simp only [trimSlots]
    split
    · rfl
    · simp [Slots.wf, h.1, wf_trim rest h.2]

/-- one more field declaration in front of a block -/
theorem step_some (i : Nat) (t : ArcTy) (w : Val) (T : Slots)
    (hrb : (Slot.some t w).isRegBot = false) (hT : T.hasRegBot = false) :
    unify (fieldV i t w) (ofTrimmed (i + 1) T) = ofTrimmed i (.cons (.some t w) T) := by
  show _ = Val.struct (pad i (.cons (.some t w) T)) false
  have hf : fieldV i t w = .struct (single i (.some t w)) false := by
    simp [fieldV, normS, hasRegBot_single, hrb]
  rw [hf]
  unfold ofTrimmed
  cases T with
  | nil => simp [Slots.isNil, single_eq_pad]
  | cons a b =>
    simp only [Slots.isNil, Bool.false_eq_true, if_false]
    rw [unify_struct_struct, merge_single_pad]
    have hT' : (a.isRegBot || b.hasRegBot) = false := hT
    simp [normS, hasRegBot_pad, Slots.hasRegBot, hrb, hT']

/-- an empty slot in front of a block -/
theorem step_none (i : Nat) (T : Slots) :
    ofTrimmed (i + 1) T = ofTrimmed i (if T.isNil then .nil else .cons .none T) := by
  unfold ofTrimmed
  cases T with
  | nil => rfl
  | cons a b => simp [Slots.isNil, pad_succ]

theorem norm_of_wf (s : Sc) (h : s.wf = true) : s.norm = some s := by
  cases s <;> simp [Sc.norm, Sc.iv, mkRng]
  rename_i lo hi
  cases lo <;> cases hi <;> simp [Sc.wf] at h ⊢
  rw [if_neg (by omega), if_pos h]

/-! ### `exportV` -/

mutual
theorem eval_exportV : ∀ v : Val, v.wf = true → eval (exportV v) = v
  | .bot, _ => by simp [exportV, eval]
  | .top, _ => by simp [exportV, eval]
  | .sc s, h => by
    simp only [Val.wf] at h
    simp [exportV, eval, litV, norm_of_wf s h]
  | .struct xs c, h => by
    simp only [Val.wf, Bool.and_eq_true, Bool.not_eq_true'] at h
    have hs := evalDecls_exportSlots xs h.1.1 h.2 0
    rw [trim_noTrail xs h.1.2] at hs
    have hstruct : eval (.struct (exportSlots 0 xs)) = .struct xs false := by
      cases xs with
      | nil => rfl
      | cons s rest =>
        cases hd : exportSlots 0 (.cons s rest) with
        | nil =>
          -- no declaration would evaluate to top, not to a struct
          rw [hd] at hs; simp [evalDecls, ofTrimmed, Slots.isNil] at hs
        | cons d r => rw [eval, ← hd, hs]; rfl
    cases c with
    | false => simp [exportV, hstruct]
    | true => simp [exportV, eval, hstruct, closeV]
  | .list vs, h => by
    simp only [Val.wf, Bool.and_eq_true, Bool.not_eq_true'] at h
    simp [exportV, eval, evalList_exportVals vs h.1, normL, h.2]
termination_by structural v => v
theorem evalDecls_exportSlots : ∀ xs : Slots, xs.wf = true → xs.hasRegBot = false →
    ∀ i, evalDecls (exportSlots i xs) = ofTrimmed i (trimSlots xs)
  | .nil, _, _, i => by simp [exportSlots, evalDecls, trimSlots, ofTrimmed, Slots.isNil]
  | .cons s rest, h, hb, i => by
    simp only [Slots.wf, Bool.and_eq_true] at h
    simp only [Slots.hasRegBot, Bool.or_eq_false_iff] at hb
    have ih := evalDecls_exportSlots rest h.2 hb.2 (i + 1)
    have hs := exportSlot_sound s h.1 i
    cases s with
    | none =>
      simp only [exportSlots, exportSlot]
      rw [ih, step_none, trim_cons_none]
    | some t v =>
      simp only [exportSlots, exportSlot, evalDecls, evalDecl]
      rw [hs, ih, trim_cons_some, step_some i t v _ hb.1 (by rw [hasRegBot_trim]; exact hb.2)]
termination_by structural xs => xs
theorem exportSlot_sound : ∀ s : Slot, s.wf = true → ∀ i : Nat,
    (match s with
     | .none => True
     | .some _ v => eval (exportV v) = v)
  | .none, _, _ => trivial
  | .some _ v, h, _ => eval_exportV v h
termination_by structural s => s
theorem evalList_exportVals : ∀ vs : Vals, vs.wf = true → evalList (exportVals vs) = vs
  | .nil, _ => by simp [exportVals, evalList]
  | .cons v rest, h => by
    simp only [Vals.wf, Bool.and_eq_true] at h
    simp [exportVals, evalList, eval_exportV v h.1, evalList_exportVals rest h.2]
termination_by structural vs => vs
end

end CueVerif.Export
