/-
The run of the workflow controller: `Inv` in every reachable state, and the theorems about steps.
Every state at a `select` is `start p` for a state `p` with `Pre p`: `new g0`, or the state in
which a successful completion has been received (the stages of `Proofs/FlowStage.lean`).
`start` marks tasks Ready and dispatches them (`Going` is the invariant of that loop); at the loop
head the rest of `Inv` is re-established, where the correctness of cycle detection
(`Proofs/FlowCycle.lean`) excludes the "deadlock" branch (`Going.all_done`).
Core Lean only.
-/
import CueVerif.Proofs.FlowCycle
import CueVerif.Proofs.FlowStage
namespace CueVerif.Flow

/-! ### `start`: `markReady`, the dispatch loop, the loop head -/

/-- what holds from `markReady` to the end of the dispatch loop: no error, the graph passed
`checkCycle`, a Ready task has all its dependencies done, and no Waiting task has -/
structure Going (s : Ctl) : Prop where
  core : Core s
  errs : s.errs = false
  acyclic : checkCycle s.n s.deps = false
  running : s.stopped = false
  ready : ∀ t, t < s.n → (s.tasks t).state = .ready → isReady s t = true
  noRdy : ∀ t, ¬ Rdy s t

theorem going_markReady {s : Ctl} (hp : Pre s) (he : s.errs = false) :
    Going (markReady s) ∧ Fwd s (markReady s) := by
  obtain ⟨hc, hf⟩ := core_markReady hp.core
  -- marking a task Ready does not make it done
  have hdone : ∀ d, ((markReady s).tasks d).deps = (s.tasks d).deps ∧
      ((markReady s).tasks d).state.done = (s.tasks d).state.done := fun d => by
    rcases markReady_task s d with ⟨_, h⟩ | ⟨hr, h⟩ <;> rw [h]
    · exact ⟨rfl, rfl⟩
    · exact ⟨rfl, by rw [hr.2.1]; rfl⟩
  refine ⟨⟨hc, he, ?_, hp.running, fun t ht hrt => ?_, fun t ⟨ht, hw, h3⟩ => ?_⟩, hf⟩
  · rw [markReady_deps]
    exact hp.acyclic he
  · rw [isReady_congr hdone]
    rcases markReady_task s t with ⟨_, h⟩ | ⟨hr, _⟩
    · rw [h] at hrt; exact absurd hrt (hp.noReady t ht)
    · exact hr.2.2
  · rw [isReady_congr hdone] at h3
    rcases markReady_task s t with ⟨hn, h⟩ | ⟨_, h⟩ <;> rw [h] at hw
    · exact hn ⟨ht, hw, h3⟩
    · cases hw

theorem going_dispatch {s : Ctl} (hg : Going s) {i : Nat} (hi : i < s.n)
    (hr : (s.tasks i).state = .ready) {sn : List Nat} (vs : Nat)
    (hsn : (s.tasks i).valueSeq = none → sn = s.inst) :
    Going (dispCtl s i sn vs) ∧ Fwd s (dispCtl s i sn vs) := by
  obtain ⟨hc', hf⟩ := core_dispatch hg.core hg.errs hi hr (hg.ready i hi hr) vs hsn
  -- starting a task does not make it done, nor any task Ready or Waiting
  have hst : ∀ t, (((dispCtl s i sn vs).tasks t).deps = (s.tasks t).deps ∧
      ((dispCtl s i sn vs).tasks t).state.done = (s.tasks t).state.done) ∧
      (((dispCtl s i sn vs).tasks t).state = .ready → (s.tasks t).state = .ready) ∧
      (((dispCtl s i sn vs).tasks t).state = .waiting → (s.tasks t).state = .waiting) := fun t => by
    by_cases h : t = i
    · subst h; rw [dispCtl_self]
      exact ⟨⟨rfl, by rw [hr]; rfl⟩, fun h => (by cases h), fun h => (by cases h)⟩
    · rw [dispCtl_ne h]; exact ⟨⟨rfl, rfl⟩, id, id⟩
  have hrdy := isReady_congr fun d => (hst d).1
  refine ⟨⟨hc', hg.errs, ?_, hg.running, fun t ht hrt => ?_, fun t ⟨ht, hw, h3⟩ => ?_⟩, hf⟩
  · rw [show (dispCtl s i sn vs).deps = s.deps from funext fun d => (hst d).1.1]
    exact hg.acyclic
  · rw [hrdy]; exact hg.ready t ht ((hst t).2.1 hrt)
  · rw [hrdy] at h3; exact hg.noRdy t ⟨ht, (hst t).2.2 hw, h3⟩

theorem going_dispatchLoop (k : Nat) : ∀ (i : Nat) {s : Ctl}, Going s → i + k ≤ s.n →
    (∀ t, t < i → (s.tasks t).state ≠ .ready) →
    Going (dispatchLoop k i s) ∧ Fwd s (dispatchLoop k i s) ∧ (dispatchLoop k i s).n = s.n ∧
    ∀ t, t < i + k → ((dispatchLoop k i s).tasks t).state ≠ .ready := by
  induction k with
  | zero => exact fun i s hg _ hlo => ⟨hg, .refl s, rfl, hlo⟩
  | succ k ih =>
    intro i s hg hik hlo
    unfold dispatchLoop
    split
    · rename_i hr
      obtain ⟨sn, vs, e, hsn⟩ := dispatchOne_eq s i hg.core.synced
      rw [e]
      obtain ⟨hg1, f1⟩ := going_dispatch hg (by omega) hr vs hsn
      obtain ⟨hg2, f2, n2, lo2⟩ := ih (i + 1) hg1 (show i + 1 + k ≤ s.n by omega) fun t ht => by
        by_cases h : t = i
        · subst h
          rw [dispCtl_self]
          exact fun h => by cases h
        · rw [dispCtl_ne h]
          exact hlo t (by omega)
      exact ⟨hg2, f1.trans f2, n2, fun t ht => lo2 t (by omega)⟩
    · rename_i hr
      obtain ⟨hg2, f2, n2, lo2⟩ := ih (i + 1) hg (show i + 1 + k ≤ s.n by omega) fun t ht => by
        by_cases h : t = i
        · subst h; exact hr
        · exact hlo t (by omega)
      exact ⟨hg2, f2, n2, fun t ht => lo2 t (by omega)⟩

theorem going_dispatchAll {s : Ctl} (hp : Pre s) (he : s.errs = false) :
    Going (dispatchLoop s.n 0 (markReady s)) ∧ Fwd s (dispatchLoop s.n 0 (markReady s)) ∧
    ∀ t, t < (dispatchLoop s.n 0 (markReady s)).n →
      ((dispatchLoop s.n 0 (markReady s)).tasks t).state ≠ .ready := by
  obtain ⟨hg, f⟩ := going_markReady hp he
  obtain ⟨hg1, f1, n1, lo⟩ := going_dispatchLoop s.n 0 hg (Nat.le_of_eq (Nat.zero_add _))
    fun t ht => absurd ht (Nat.not_lt_zero t)
  exact ⟨hg1, f.trans f1, fun t ht => lo t (by rw [n1] at ht; rw [Nat.zero_add]; exact ht)⟩

theorem anyState_iff (s : Ctl) (st : TState) :
    anyState s st = true ↔ ∃ i, i < s.n ∧ (s.tasks i).state = st := by
  simp [anyState, List.any_eq_true, List.mem_range]

theorem anyState_false (s : Ctl) (st : TState) :
    anyState s st = false ↔ ∀ i, i < s.n → (s.tasks i).state ≠ st := by
  rw [← Bool.not_eq_true, anyState_iff]
  simp

/-- after the dispatch loop, if nothing runs then everything is done: the waiting tasks would
be a blocked set, which a graph that passed `checkCycle` does not have -/
theorem Going.all_done {s : Ctl} (hg : Going s)
    (hnr : ∀ t, t < s.n → (s.tasks t).state ≠ .ready) (hrun : anyState s .running = false)
    (t : Nat) (ht : t < s.n) : (s.tasks t).state = .terminated := by
  have hc := hg.core
  have hrun := (anyState_false _ _).1 hrun
  have hdone : ∀ d, d < s.n → (s.tasks d).state ≠ .waiting → (s.tasks d).state = .terminated :=
    fun d hd hw => by
      rcases state_cases (s.tasks d).state with h | h | h | h
      · exact absurd h hw
      · exact absurd h (hnr d hd)
      · exact absurd h (hrun d hd)
      · exact h
  refine hdone t ht fun hw => acc_not_blocked (deps := s.deps)
    (fun t => t < s.n ∧ (s.tasks t).state = .waiting) (fun t ⟨ht, hw⟩ => ?_)
    (checkCycle_acc hc.wf hg.acyclic ht) ⟨ht, hw⟩
  -- a Waiting task has a dependency that is not done, since `markReady` did not mark it
  refine Classical.byContradiction fun hno => hg.noRdy t ⟨ht, hw, (isReady_iff s t).2 fun d hd => ?_⟩
  have hdn := (hc.wf t ht d hd).1
  exact hdone d hdn fun h => hno ⟨d, hd, hdn, h⟩

/-- `start`, with which the run begins and every successful completion ends: `Inv` holds at the
`select` or at the return, and an error recorded there was recorded before (the "deadlock"
branch is not taken) -/
theorem start_inv {s : Ctl} (hp : Pre s) (hcause : s.errs = true → checkCycle s.n s.deps = true) :
    Inv (start s) ∧ Fwd s (start s) ∧
    ((start s).errs = true → checkCycle (start s).n (start s).deps = true) := by
  unfold start loopHead
  by_cases he : s.errs = true
  · have he' : (markReady s).errs = true := he
    obtain ⟨hc, hf⟩ := core_markReady hp.core
    rw [if_pos he']
    exact ⟨hc.stop.inv (fun h => by rw [he'] at h; cases h) (fun h => by cases h)
      (fun _ h => by rw [he'] at h; cases h), hf, fun _ => by
        show checkCycle s.n (markReady s).deps = true
        rw [markReady_deps]; exact hcause he⟩
  · rw [if_neg (show ¬ (markReady s).errs = true from he)]
    obtain ⟨hg, hf, hnr⟩ := going_dispatchAll hp (by simpa using he)
    simp only
    rw [show (markReady s).n = s.n from rfl]
    generalize dispatchLoop s.n 0 (markReady s) = s1 at hg hf hnr
    have hne : ∀ {q : Prop}, s1.errs = true → q := fun h => by rw [hg.errs] at h; cases h
    by_cases h1 : anyState s1 .running = true
    · rw [if_pos h1]
      exact ⟨hg.core.inv (fun _ => hg.acyclic) (fun _ => ⟨hg.errs, hnr, (anyState_iff _ _).1 h1⟩)
        (fun h => by rw [hg.running] at h; cases h), hf, hne⟩
    · have hall := hg.all_done hnr (by simpa using h1)
      have h2 : ¬ anyState s1 .waiting = true := fun h => by
        obtain ⟨t, ht, hw⟩ := (anyState_iff _ _).1 h
        rw [hall t ht] at hw; cases hw
      rw [if_neg h1, if_neg h2]
      exact ⟨hg.core.stop.inv (fun _ => hg.acyclic) (fun h => by cases h) fun _ _ _ => hall, hf, hne⟩

/-! ### the states `start` is applied to; the step -/

theorem Mid.pre {s : Ctl} (hm : Mid s) (h : s.errs = checkCycle s.n s.deps) :
    Pre s ∧ (s.errs = true → checkCycle s.n s.deps = true) :=
  ⟨⟨hm.core, fun he => h ▸ he, hm.noReady, hm.running⟩, fun he => h ▸ he⟩

theorem pre_new (g0 : Growth) :
    Pre (new g0) ∧ ((new g0).errs = true → checkCycle (new g0).n (new g0).deps = true) :=
  have ⟨m, _, h⟩ := mid_initTasks ⟨core_empty, fun _ ht => (by cases ht), rfl⟩ rfl g0
  m.pre h

theorem complete_ok_pre {s : Ctl} (hinv : Inv s)
    (hs : s.stopped = false) {i : Nat} (hi : i < s.n) (hr : (s.tasks i).state = .running)
    (fill : Bool) (g : Growth) :
    ∃ p, onComplete s i true fill g = start p ∧ Pre p ∧ Fwd s p ∧
      (p.errs = true → checkCycle p.n p.deps = true) := by
  have hc := hinv.core
  obtain ⟨he, hnr, _⟩ := hinv.live hs
  have hm : Mid s := ⟨hc, hnr, hs⟩
  -- up to the state `updateTaskValue` is applied to
  obtain ⟨s4, e, m4, f4, hck⟩ : ∃ s4, onComplete s i true fill g = start (updateTaskValue s4 i) ∧
      Mid s4 ∧ Fwd s s4 ∧ s4.errs = checkCycle s4.n s4.deps := by
    rw [onComplete_ok s i fill g hc.synced]
    cases fill
    · obtain ⟨m1, f1⟩ := mid_term hm hi hr true
      refine ⟨_, rfl, m1, f1, ?_⟩
      show s.errs = checkCycle s.n (termCtl s i true).deps
      rw [show (termCtl s i true).deps = s.deps from setTask_deps _ i rfl]
      exact he.trans (hinv.acyclic he).symm
    · obtain ⟨m3, f3⟩ := mid_fill hm hi hr
      obtain ⟨m4, f4, h4⟩ := mid_initTasks m3 he g
      exact ⟨_, rfl, m4, f3.trans f4, h4⟩
  have hruns : (s4.tasks i).runs ≠ 0 := by
    have := (f4.2 i).runs
    have := hc.runs_one hi hr
    omega
  obtain ⟨m5, f5, e5, n5, d5⟩ := mid_updateTaskValue m4 i hruns
  obtain ⟨p, hcause⟩ := m5.pre (by rw [e5, n5, d5]; exact hck)
  exact ⟨_, e, p, f4.trans f5, hcause⟩

theorem complete_fail_inv {s : Ctl} (hinv : Inv s)
    (hs : s.stopped = false) {i : Nat} (hi : i < s.n) (hr : (s.tasks i).state = .running)
    (fill : Bool) (g : Growth) :
    Inv (onComplete s i false fill g) ∧ Fwd s (onComplete s i false fill g) := by
  obtain ⟨_, hnr, _⟩ := hinv.live hs
  obtain ⟨m1, f1⟩ := mid_term ⟨hinv.core, hnr, hs⟩ hi hr false
  rw [onComplete_fail]
  refine ⟨?_, f1⟩
  apply m1.core.stop.inv
  · intro h; cases h
  · intro h; cases h
  · intro _ h; cases h

/-- everything a step establishes: the invariant, that nothing moved backward, and that an
error has a cause -/
theorem step_inv {s s' : Ctl} (hi : Inv s) (h : Step s s') : Inv s' ∧ Fwd s s' ∧
    (s'.errs = true → (∃ t, t < s'.n ∧ (s'.tasks t).failed = true) ∨
      checkCycle s'.n s'.deps = true) := by
  cases h with
  | complete i ok fill g hs hi' hr =>
    cases ok
    · exact ⟨(complete_fail_inv hi hs hi' hr fill g).1, (complete_fail_inv hi hs hi' hr fill g).2,
        fun _ => .inl ⟨i, hi', by rw [onComplete_fail]; simp [termCtl, doneTasks]⟩⟩
    · obtain ⟨p, e, hp, hf, hc⟩ := complete_ok_pre hi hs hi' hr fill g
      rw [e]
      obtain ⟨t1, t2, t3⟩ := start_inv hp hc
      exact ⟨t1, hf.trans t2, fun he => .inr (t3 he)⟩
  | cancel hs =>
    exact ⟨hi.core.cancel.inv hi.acyclic (fun h => by cases h) (fun _ _ h => by cases h), .refl s,
      fun he => by rw [show s.errs = false from (hi.live hs).1] at he; cases he⟩

theorem reachable_inv (g0 : Growth) (s : Ctl) (h : Reachable g0 s) : Inv s := by
  induction h with
  | init => exact (start_inv (pre_new g0).1 (pre_new g0).2).1
  | step _ hstep ih => exact (step_inv ih hstep).1

theorem step_forward (s s' : Ctl) (hi : Inv s) (h : Step s s') (t : Nat) :
    (s.tasks t).state.rank ≤ (s'.tasks t).state.rank ∧
    (s.tasks t).runs ≤ (s'.tasks t).runs ∧
    (∀ k, (s.tasks t).startAt = some k → (s'.tasks t).startAt = some k ∧ (s'.tasks t).startDeps = (s.tasks t).startDeps ∧ (s'.tasks t).startSeen = (s.tasks t).startSeen) ∧
    s.n ≤ s'.n ∧
    (∀ d, d ∈ (s.tasks t).deps → d ∈ (s'.tasks t).deps) :=
  have ⟨hn, hf⟩ := (step_inv hi h).2.1
  ⟨(hf t).state, (hf t).runs, (hf t).start, hn, (hf t).deps⟩

theorem errs_cause (g0 : Growth) (s : Ctl) (h : Reachable g0 s) (he : s.errs = true) :
    (∃ t, t < s.n ∧ (s.tasks t).failed = true) ∨ checkCycle s.n s.deps = true := by
  cases h with
  | init => exact .inr ((start_inv (pre_new g0).1 (pre_new g0).2).2.2 he)
  | step hreach hstep => exact (step_inv (reachable_inv g0 _ hreach) hstep).2.2 he

/-! ### what needs no invariant -/

theorem failure_stops (s : Ctl) (i : Nat) (fill : Bool) (g : Growth) :
    (onComplete s i false fill g).stopped = true ∧ (onComplete s i false fill g).errs = true ∧
    (onComplete s i false fill g).n = s.n ∧
    (∀ t, t ≠ i → (onComplete s i false fill g).tasks t = s.tasks t) ∧
    ((onComplete s i false fill g).tasks i).runs = (s.tasks i).runs ∧
    ((onComplete s i false fill g).tasks i).state = .terminated := by
  simp [onComplete, Ctl.setTask]
  intro t ht
  simp [ht]

theorem stopped_final (s s' : Ctl) (h : s.stopped = true) : ¬ Step s s' := by
  intro hs
  cases hs <;> simp_all

theorem runSchedule_reachable (g0 : Growth) (s : Ctl) (cs : List Completion) (h : Reachable g0 s) :
    Reachable g0 (runSchedule s cs) := by
  induction cs generalizing s with
  | nil => exact h
  | cons c cs ih =>
    unfold runSchedule
    split
    · rename_i hc
      exact ih _ (Reachable.step h (Step.complete s c.task c.ok c.fill c.grow hc.1 hc.2.1 hc.2.2))
    · exact ih _ h

theorem final_perm (s s' : Ctl) (h : FinalValue s) (h' : FinalValue s')
    (hsame : ∀ t, (t < s.n ∧ (s.tasks t).filled = true) ↔ (t < s'.n ∧ (s'.tasks t).filled = true)) :
    s.inst.Perm s'.inst := by
  obtain ⟨h1, _, h3, h4⟩ := h
  obtain ⟨h1', _, h3', h4'⟩ := h'
  rw [h1, h1']
  rw [List.perm_ext_iff_of_nodup h3 h3']
  intro a
  rw [h4, h4', hsame]

end CueVerif.Flow
