/-
C18, cycle detection: the depth-first search of tools/flow/cycle.go (`checkCycle`,
`isCyclic` in Model/Flow) reports an error exactly when the dependency graph has a cycle
in the sense of Spec/Flow (`Cyclic`), and an acyclic finite graph has no "blocked set".
Core Lean only.
-/
import CueVerif.Spec.Flow
namespace CueVerif.Flow

theorem Reaches.append {deps : Nat → List Nat} {a b c : Nat}
    (h1 : Reaches deps a b) (h2 : Reaches deps b c) : Reaches deps a c := by
  induction h1 with
  | edge h => exact Reaches.trans h h2
  | trans h _ ih => exact Reaches.trans h (ih h2)

theorem Reaches.first {deps : Nat → List Nat} {t u : Nat}
    (h : Reaches deps t u) : ∃ d, d ∈ deps t ∧ (d = u ∨ Reaches deps d u) := by
  cases h with
  | edge h => exact ⟨_, h, Or.inl rfl⟩
  | trans h h' => exact ⟨_, h, Or.inr h'⟩

theorem Reaches.lt {n : Nat} {deps : Nat → List Nat} (hwf : WfDeps n deps) {t u : Nat}
    (h : Reaches deps t u) (ht : t < n) : u < n := by
  induction h with
  | edge h => exact (hwf _ ht _ h).1
  | trans h _ ih => exact ih (hwf _ ht _ h).1

theorem isCyclic_succ_false {deps : Nat → List Nat} {fuel : Nat} {stack : List Nat} {t : Nat}
    (h : isCyclic deps (fuel + 1) stack t = false) :
    ∀ d ∈ deps t, d ∉ t :: stack ∧ isCyclic deps fuel (t :: stack) d = false := by
  intro d hd
  simp only [isCyclic, List.any_eq_false] at h
  have := h d hd
  by_cases hm : d ∈ t :: stack
  · simp [hm] at this
  · simp only [hm, if_false] at this
    exact ⟨hm, by simpa using this⟩

theorem isCyclic_succ_true {deps : Nat → List Nat} {fuel : Nat} {stack : List Nat} {t : Nat}
    (h : isCyclic deps (fuel + 1) stack t = true) :
    ∃ d, d ∈ deps t ∧ (d ∈ t :: stack ∨ isCyclic deps fuel (t :: stack) d = true) := by
  simp only [isCyclic, List.any_eq_true] at h
  obtain ⟨d, hd, h⟩ := h
  by_cases hm : d ∈ t :: stack
  · exact ⟨d, hd, Or.inl hm⟩
  · simp only [hm, if_false] at h
    exact ⟨d, hd, Or.inr h⟩

theorem isCyclic_sound {n : Nat} {deps : Nat → List Nat} (hwf : WfDeps n deps) :
    ∀ (fuel : Nat) (stack : List Nat) (t : Nat), isCyclic deps fuel stack t = true →
      t < n → (∀ s ∈ stack, s < n ∧ Reaches deps s t) → ∃ u, u < n ∧ Reaches deps u u := by
  intro fuel
  induction fuel with
  | zero => intro stack t h; simp [isCyclic] at h
  | succ fuel ih =>
    intro stack t h ht hst
    obtain ⟨d, hd, h⟩ := isCyclic_succ_true h
    rcases h with hm | hrec
    · rcases List.mem_cons.mp hm with rfl | hm
      · exact ⟨d, ht, Reaches.edge hd⟩
      · exact ⟨d, (hst d hm).1, (hst d hm).2.append (Reaches.edge hd)⟩
    · refine ih (t :: stack) d hrec (hwf t ht d hd).1 ?_
      intro s hs
      rcases List.mem_cons.mp hs with rfl | hs
      · exact ⟨ht, Reaches.edge hd⟩
      · exact ⟨(hst s hs).1, (hst s hs).2.append (Reaches.edge hd)⟩

/-! ### completeness

A search that reports nothing has walked everything below `t`, so the dependency relation is
well-founded there.  Then there is no blocked set, and the tasks on a cycle would be one. -/

theorem fuel_pos_of_path {n fuel : Nat} {stack : List Nat} {t : Nat}
    (hnd : stack.Nodup) (hts : t ∉ stack) (hlt : ∀ s ∈ t :: stack, s < n)
    (hfuel : n + 1 ≤ fuel + stack.length) : fuel ≠ 0 := by
  intro h0
  -- pigeonhole: a duplicate-free path inside `range n` has at most `n` nodes
  have := (List.nodup_cons.mpr ⟨hts, hnd⟩).length_le_of_subset (l₂ := List.range n)
    fun x hx => List.mem_range.2 (hlt x hx)
  simp only [List.length_cons, List.length_range] at this
  omega

theorem isCyclic_complete {n : Nat} {deps : Nat → List Nat} (hwf : WfDeps n deps) :
    ∀ (fuel : Nat) (stack : List Nat) (t : Nat), isCyclic deps fuel stack t = false →
      stack.Nodup → t ∉ stack → (∀ s ∈ t :: stack, s < n) → n + 1 ≤ fuel + stack.length →
      Acc (fun d t => d ∈ deps t) t := by
  intro fuel
  induction fuel with
  | zero =>
    intro stack t _ hnd hts hlt hfuel
    exact absurd rfl (fuel_pos_of_path hnd hts hlt hfuel)
  | succ fuel ih =>
    intro stack t h hnd hts hlt hfuel
    refine ⟨t, fun d hd => ?_⟩
    obtain ⟨hm, hrec⟩ := isCyclic_succ_false h d hd
    refine ih (t :: stack) d hrec (List.nodup_cons.mpr ⟨hts, hnd⟩) hm ?_ ?_
    · intro s hs
      rcases List.mem_cons.mp hs with rfl | hs
      · exact (hwf t (hlt t List.mem_cons_self) s hd).1
      · exact hlt s hs
    · simp only [List.length_cons]; omega

theorem checkCycle_acc {n : Nat} {deps : Nat → List Nat} (hwf : WfDeps n deps)
    (hc : checkCycle n deps = false) {t : Nat} (ht : t < n) : Acc (fun d t => d ∈ deps t) t := by
  simp only [checkCycle, List.any_eq_false, List.mem_range] at hc
  have hf : isCyclic deps (n + 1) [] t = false := by simpa using hc t ht
  exact isCyclic_complete hwf (n + 1) [] t hf List.nodup_nil (by simp) (by simpa using ht) (by simp)

theorem acc_not_blocked {deps : Nat → List Nat} (S : Nat → Prop)
    (hS : ∀ t, S t → ∃ d, d ∈ deps t ∧ S d) {t : Nat} (h : Acc (fun d t => d ∈ deps t) t) :
    ¬ S t := by
  induction h with
  | intro t _ ih =>
    intro hSt
    obtain ⟨d, hd, hSd⟩ := hS t hSt
    exact ih d hd hSd

/-- the tasks on a cycle are a blocked set -/
theorem acc_not_reaches {deps : Nat → List Nat} {t : Nat} (h : Acc (fun d t => d ∈ deps t) t) :
    ¬ Reaches deps t t :=
  acc_not_blocked (fun u => Reaches deps u u) (fun u huu => by
    obtain ⟨d, hd, h'⟩ := huu.first
    rcases h' with rfl | h'
    · exact ⟨d, hd, huu⟩
    · exact ⟨d, hd, h'.append (.edge hd)⟩) h

theorem checkCycle_iff (n : Nat) (deps : Nat → List Nat) (h : WfDeps n deps) :
    checkCycle n deps = true ↔ Cyclic n deps := by
  constructor
  · intro hc
    simp only [checkCycle, List.any_eq_true, List.mem_range] at hc
    obtain ⟨t, ht, hc⟩ := hc
    exact isCyclic_sound h (n + 1) [] t hc ht (by intro s hs; cases hs)
  · rintro ⟨u, hu, huu⟩
    cases hc : checkCycle n deps with
    | true => rfl
    | false => exact absurd huu (acc_not_reaches (checkCycle_acc h hc hu))

theorem no_blocked_set (n : Nat) (deps : Nat → List Nat) (hwf : WfDeps n deps)
    (hac : ¬ Cyclic n deps) (S : Nat → Prop)
    (hS : ∀ t, S t → t < n ∧ ∃ d, d ∈ deps t ∧ S d) : ∀ t, ¬ S t := by
  intro t hSt
  have hc : checkCycle n deps = false := by
    cases hc : checkCycle n deps with
    | false => rfl
    | true => exact absurd ((checkCycle_iff n deps hwf).mp hc) hac
  exact acc_not_blocked S (fun t h => (hS t h).2) (checkCycle_acc hwf hc (hS t hSt).1) hSt

/-- the statement of `checkCycle_iff` -/
def CycleSpec : Prop := ∀ (n : Nat) (deps : Nat → List Nat), WfDeps n deps → (checkCycle n deps = true ↔ Cyclic n deps)

/-- the statement of `no_blocked_set` -/
def BlockedSpec : Prop := ∀ (n : Nat) (deps : Nat → List Nat), WfDeps n deps → ¬ Cyclic n deps →
    ∀ (S : Nat → Prop), (∀ t, S t → t < n ∧ ∃ d, d ∈ deps t ∧ S d) → ∀ t, ¬ S t

end CueVerif.Flow
