/-
The functions of the controller model (`Model/Flow.lean`) as stages of a step.  Each is brought
to a normal form that holds while the configuration value is up to date (`dispCtl`, `extend`,
`termCtl`, `fillCtl`) and carries `Core` forward by `Core.stage` (`Proofs/FlowTask.lean`) — `Mid`,
where it makes no task Ready.
Core Lean only.
-/
import CueVerif.Proofs.FlowTask
namespace CueVerif.Flow

theorem setTask_self (s : Ctl) (i : Nat) (y : Task) : (s.setTask i y).tasks i = y :=
  if_pos rfl

theorem setTask_ne (s : Ctl) {i t : Nat} (y : Task) (h : t ≠ i) :
    (s.setTask i y).tasks t = s.tasks t :=
  if_neg h

theorem setTask_deps (s : Ctl) (i : Nat) {y : Task} (h : y.deps = (s.tasks i).deps) :
    (s.setTask i y).deps = s.deps := by
  funext t
  show ((s.setTask i y).tasks t).deps = (s.tasks t).deps
  by_cases ht : t = i
  · subst ht; rw [setTask_self, h]
  · rw [setTask_ne s _ ht]

/-! ### `markReady` and `dispatchOne` -/

/-- the tasks `markReady` marks -/
def Rdy (s : Ctl) (t : Nat) : Prop :=
  t < s.n ∧ (s.tasks t).state = .waiting ∧ isReady s t = true

theorem markReady_task (s : Ctl) (t : Nat) :
    (¬ Rdy s t ∧ (markReady s).tasks t = s.tasks t) ∨
    (Rdy s t ∧ (markReady s).tasks t = { s.tasks t with state := .ready }) := by
  by_cases h : Rdy s t
  · exact .inr ⟨h, if_pos h⟩
  · exact .inl ⟨h, if_neg h⟩

theorem core_markReady {s : Ctl} (hc : Core s) : Core (markReady s) ∧ Fwd s (markReady s) := by
  refine hc.quiet ⟨rfl, rfl, rfl, rfl, rfl⟩ (Nat.le_refl _) fun t => ?_
  rcases markReady_task s t with ⟨_, h⟩ | ⟨hr, h⟩ <;> rw [h]
  · exact ⟨⟨hc.task t, .refl s t⟩, rfl⟩
  · exact ⟨⟨(hc.task t).ready hr.1 hr.2.1,
      { Moves.refl s t with
        fwd := { FwdT.refl _ with state := by rw [hr.2.1]; exact Nat.zero_le _ }
        done := fun h => by rw [hr.2.1] at h; cases h }⟩, rfl⟩

theorem markReady_deps (s : Ctl) : (markReady s).deps = s.deps := by
  funext t
  show ((markReady s).tasks t).deps = (s.tasks t).deps
  rcases markReady_task s t with ⟨_, h⟩ | ⟨_, h⟩ <;> rw [h]

theorem isReady_iff (s : Ctl) (t : Nat) :
    isReady s t = true ↔ ∀ d ∈ (s.tasks t).deps, (s.tasks d).state = .terminated := by
  simp only [isReady, List.all_eq_true, done_iff]

theorem isReady_congr {s s' : Ctl} (h : ∀ d, (s'.tasks d).deps = (s.tasks d).deps ∧
    (s'.tasks d).state.done = (s.tasks d).state.done) (t : Nat) : isReady s' t = isReady s t := by
  unfold isReady
  rw [(h t).1]
  congr 1
  funext d
  exact (h d).2

theorem rdy_dep {s : Ctl} (hc : Core s) (he : s.errs = false) {t : Nat} (h1 : t < s.n)
    (h3 : isReady s t = true) {d : Nat} (hd : d ∈ (s.tasks t).deps) :
    DepDone s t s.clock s.inst d := by
  obtain ⟨w1, w2⟩ := hc.wf t h1 d hd
  have hterm := (isReady_iff s t).1 h3 d hd
  refine ⟨w1, w2, hterm, ?_, ?_, ?_⟩
  · cases hf : (s.tasks d).failed with
    | false => rfl
    | true => have := hc.failed_errs d w1 hf; rw [he] at this; cases this
  · have := (hc.term_end d w1).1 hterm
    cases hx : (s.tasks d).endAt with
    | none => rw [hx] at this; cases this
    | some e => exact ⟨e, rfl, hc.clock_end d e hx⟩
  · intro hf
    obtain ⟨v1, _, _, v4⟩ := hc.value
    rw [v1, v4]
    exact ⟨w1, hf⟩

theorem updateValue_synced (s : Ctl) (h : s.valueSeq = s.conjSeq) : updateValue s = (s, false) := by
  simp [updateValue, h]

theorem updateTaskValue_synced (s : Ctl) (i : Nat) (h : s.valueSeq = s.conjSeq) :
    ∃ sn vs, updateTaskValue s i = s.setTask i { s.tasks i with seen := sn, valueSeq := some vs } ∧
      ((s.tasks i).valueSeq = none → sn = s.inst) := by
  unfold updateTaskValue
  simp only [updateValue_synced s h]
  split
  · rename_i hv
    refine ⟨(s.tasks i).seen, maxSeq s (s.tasks i).deps (s.tasks i).conjSeq, ?_, ?_⟩
    · rw [← hv]
      cases s
      simp only [Ctl.setTask, Ctl.mk.injEq, true_and, and_true]
      funext j
      split
      · subst j; rfl
      · rfl
    · intro h0; rw [h0] at hv; cases hv
  · refine ⟨s.inst, maxSeq s (s.tasks i).deps (s.tasks i).conjSeq, ?_, fun _ => rfl⟩
    simp

def dispCtl (s : Ctl) (i : Nat) (sn : List Nat) (vs : Nat) : Ctl :=
  { s with clock := s.clock + 1 }.setTask i (dispTask (s.tasks i) s.clock sn vs)

theorem dispatchOne_eq (s : Ctl) (i : Nat) (h : s.valueSeq = s.conjSeq) :
    ∃ sn vs, dispatchOne s i = dispCtl s i sn vs ∧
      ((s.tasks i).valueSeq = none → sn = s.inst) := by
  unfold dispatchOne
  obtain ⟨sn, vs, he, hs⟩ := updateTaskValue_synced
    (s.setTask i { s.tasks i with state := .running }) i (by simpa [Ctl.setTask] using h)
  refine ⟨sn, vs, ?_, ?_⟩
  · simp only [he]
    simp only [Ctl.setTask, dispTask, dispCtl, if_true]
    congr 1
    funext j
    split <;> rfl
  · intro h0
    apply hs
    simpa [Ctl.setTask] using h0

theorem dispCtl_self (s : Ctl) (i : Nat) (sn : List Nat) (vs : Nat) :
    (dispCtl s i sn vs).tasks i = dispTask (s.tasks i) s.clock sn vs :=
  setTask_self _ _ _

theorem dispCtl_ne {s : Ctl} {i t : Nat} {sn : List Nat} {vs : Nat} (h : t ≠ i) :
    (dispCtl s i sn vs).tasks t = s.tasks t :=
  setTask_ne _ _ h

/-- one dispatch: the dependencies of a Ready task that `isReady` are done, and a task that never
had a value is handed the current configuration -/
theorem core_dispatch {s : Ctl} (hc : Core s) (he : s.errs = false) {i : Nat} (hi : i < s.n)
    (hr : (s.tasks i).state = .ready) (hrdy : isReady s i = true) {sn : List Nat} (vs : Nat)
    (hsn : (s.tasks i).valueSeq = none → sn = s.inst) :
    Core (dispCtl s i sn vs) ∧ Fwd s (dispCtl s i sn vs) := by
  refine hc.quiet ⟨rfl, rfl, rfl, rfl, rfl⟩ (Nat.le_refl _) fun t => ?_
  have ht := (hc.task t).later (Nat.le_succ s.clock) id
  by_cases h : t = i
  · subst h
    obtain ⟨h0, hs0, _⟩ := (hc.task t).unstarted hi (by rw [hr]; decide)
    rw [dispCtl_self]
    refine ⟨⟨ht.disp hi hr (Nat.lt_succ_self _) sn vs,
      { fwd := { FwdT.refl _ with
          state := by rw [hr]; exact Nat.le_succ 1
          runs := Nat.le_succ _
          start := fun k hk => by rw [hs0] at hk; cases hk }
        done := fun h => by rw [hr] at h; cases h
        start := fun k hk => .inr fun d hd => ?_ }⟩, rfl⟩
    cases hk
    rw [show (dispTask (s.tasks t) s.clock sn vs).startSeen = s.inst from hsn (hc.vseq_none t h0)]
    exact rdy_dep hc he hi hrdy hd
  · rw [dispCtl_ne h]
    exact ⟨⟨ht, .refl s t⟩, rfl⟩

/-! ### `updateTaskValue` and `initTasks` -/

theorem mid_touch {s : Ctl} (hm : Mid s) (i : Nat) {ds : List Nat} (sn : List Nat)
    {vs : Option Nat} (hwf : i < s.n → ∀ d ∈ ds, d < s.n ∧ d ≠ i) (hfr : s.n ≤ i → ds = [])
    (hsub : ∀ d, d ∈ (s.tasks i).deps → d ∈ ds) (hv : (s.tasks i).runs = 0 → vs = none) :
    Mid (s.setTask i { s.tasks i with deps := ds, seen := sn, valueSeq := vs }) ∧
    Fwd s (s.setTask i { s.tasks i with deps := ds, seen := sn, valueSeq := vs }) := by
  refine hm.quiet ⟨rfl, rfl, rfl, rfl, rfl⟩ rfl (Nat.le_refl _) fun t => ?_
  by_cases h : t = i
  · subst h
    rw [setTask_self]
    exact ⟨⟨⟨(hm.core.task t).touch sn hwf hfr hv,
      { Moves.refl s t with fwd := { FwdT.refl _ with deps := hsub } }⟩, rfl⟩, hm.noReady t⟩
  · rw [setTask_ne s _ h]
    exact hm.task t

theorem mid_updateTaskValue {s : Ctl} (hm : Mid s) (i : Nat) (hr : (s.tasks i).runs ≠ 0) :
    Mid (updateTaskValue s i) ∧ Fwd s (updateTaskValue s i) ∧
    (updateTaskValue s i).errs = s.errs ∧ (updateTaskValue s i).n = s.n ∧
    (updateTaskValue s i).deps = s.deps := by
  obtain ⟨sn, vs, e, _⟩ := updateTaskValue_synced s i hm.core.synced
  rw [e]
  obtain ⟨m, f⟩ := mid_touch hm i sn (vs := some vs) (hm.core.wf i)
    (fun hi => (hm.core.fresh i hi).2.1) (fun _ hd => hd) (fun h0 => absurd h0 hr)
  exact ⟨m, f, rfl, rfl, setTask_deps s i rfl⟩

/-- the first step of `initTasks`: register `k` new tasks -/
def extend (s : Ctl) (k : Nat) : Ctl :=
  { s with n := s.n + k, tasks := fun i => if i < s.n then s.tasks i else {} }

theorem mid_extend {s : Ctl} (hm : Mid s) (k : Nat) : Mid (extend s k) ∧ Fwd s (extend s k) := by
  have hn : s.n ≤ s.n + k := Nat.le_add_right _ _
  refine hm.quiet ⟨rfl, rfl, rfl, rfl, rfl⟩ rfl hn fun t => ?_
  by_cases h : t < s.n
  · rw [show (extend s k).tasks t = s.tasks t from if_pos h]
    exact ⟨⟨⟨(hm.core.task t).more h hn, .refl s t⟩, rfl⟩, fun _ => hm.noReady t h⟩
  · rw [show (extend s k).tasks t = {} from if_neg h]
    obtain ⟨f1, f2, f3, f4, f5, _⟩ := hm.core.fresh t (Nat.le_of_not_lt h)
    exact ⟨⟨⟨.empty,
      { fwd :=
        { state := by rw [f1]; exact Nat.le_refl _
          runs := by rw [f3]; exact Nat.zero_le _
          start := fun k hk => by rw [f5] at hk; cases hk
          deps := fun d hd => by rw [f2] at hd; cases hd }
        done := fun h => by rw [f1] at h; cases h
        start := fun _ hk => by cases hk }⟩, f4.symm⟩, fun _ h => (by cases h)⟩

theorem mid_addDep {s : Ctl} (hm : Mid s) (e : Nat × Nat) :
    Mid (addDep s e) ∧ Fwd s (addDep s e) := by
  obtain ⟨i, d⟩ := e
  simp only [addDep]
  split
  · rename_i hcond
    obtain ⟨h1, h2, h3, _⟩ := hcond
    refine mid_touch hm i (s.tasks i).seen (fun _ x hx => ?_) (fun hi => absurd h1 (Nat.not_lt.2 hi))
      (fun x hx => List.mem_append_left _ hx) (hm.core.vseq_none i)
    rcases List.mem_append.1 hx with hx | hx
    · exact hm.core.wf i h1 x hx
    · rw [List.mem_singleton.1 hx]; exact ⟨h2, h3⟩
  · exact ⟨hm, Fwd.refl s⟩

theorem mid_addDeps {s : Ctl} (hm : Mid s) (l : List (Nat × Nat)) :
    Mid (l.foldl addDep s) ∧ Fwd s (l.foldl addDep s) := by
  induction l generalizing s with
  | nil => exact ⟨hm, Fwd.refl s⟩
  | cons e l ih =>
    obtain ⟨m1, f1⟩ := mid_addDep hm e
    obtain ⟨m2, f2⟩ := ih m1
    exact ⟨m2, f1.trans f2⟩

theorem addDeps_errs (s : Ctl) (l : List (Nat × Nat)) : (l.foldl addDep s).errs = s.errs := by
  induction l generalizing s with
  | nil => rfl
  | cons e l ih =>
    refine (ih (addDep s e)).trans ?_
    obtain ⟨i, d⟩ := e
    simp only [addDep]
    split <;> rfl

theorem initTasks_eq (s : Ctl) (g : Growth) : initTasks s g =
    if checkCycle (g.newDeps.foldl addDep (extend s g.newTasks)).n
        (g.newDeps.foldl addDep (extend s g.newTasks)).deps
    then { g.newDeps.foldl addDep (extend s g.newTasks) with errs := true }
    else g.newDeps.foldl addDep (extend s g.newTasks) := rfl

theorem mid_initTasks {s : Ctl} (hm : Mid s) (he : s.errs = false) (g : Growth) :
    Mid (initTasks s g) ∧ Fwd s (initTasks s g) ∧
    (initTasks s g).errs = checkCycle (initTasks s g).n (initTasks s g).deps := by
  obtain ⟨m1, f1⟩ := mid_extend hm g.newTasks
  obtain ⟨m2, f2⟩ := mid_addDeps m1 g.newDeps
  rw [initTasks_eq]
  split
  · rename_i hcyc
    exact ⟨m2.setErrs, f1.trans f2, hcyc.symm⟩
  · rename_i hcyc
    refine ⟨m2, f1.trans f2, ?_⟩
    rw [addDeps_errs]
    exact he.trans (Bool.eq_false_iff.2 hcyc).symm

/-! ### receiving a completion -/

/-- the task table once the completion of task `i` has been received at the current clock
value; `q`, `f`: its `conjSeq` and `filled` afterwards -/
def doneTasks (s : Ctl) (i : Nat) (ok : Bool) (q : Nat) (f : Bool) (t : Nat) : Task :=
  if t = i then { s.tasks i with state := .terminated, endAt := some s.clock, failed := !ok,
                                 conjSeq := q, filled := f }
  else s.tasks t

/-- the completion of task `i` is received, nothing filled; `errs` is written as `onComplete`
leaves it in either branch (set on failure, kept otherwise) -/
def termCtl (s : Ctl) (i : Nat) (ok : Bool) : Ctl :=
  { s with clock := s.clock + 1, errs := !ok || s.errs,
           tasks := doneTasks s i ok (s.tasks i).conjSeq (s.tasks i).filled }

/-- a successful completion of task `i` is received, its result is unified into the
configuration, which is re-evaluated -/
def fillCtl (s : Ctl) (i : Nat) : Ctl :=
  { s with clock := s.clock + 1, conj := i :: s.conj, conjSeq := s.conjSeq + 1,
           inst := i :: s.conj, valueSeq := s.conjSeq + 1,
           tasks := doneTasks s i true (s.conjSeq + 1) true }

/-- a Running task terminates, with or without a result: it is in no start record yet -/
theorem Mid.done_task {s : Ctl} (hm : Mid s) {i : Nat} (hi : i < s.n)
    (hr : (s.tasks i).state = .running) (ok : Bool) (q : Nat) (f : Bool) (t : Nat) :
    (TaskOk s.n (s.clock + 1) (!ok || s.errs) t (doneTasks s i ok q f t) ∧
      Moves s t (doneTasks s i ok q f t)) ∧
    (t < s.n → (doneTasks s i ok q f t).state ≠ .ready) := by
  unfold doneTasks
  split
  · rename_i h
    subst h
    exact ⟨⟨(hm.core.task t).done hi hr ok q f,
      { Moves.refl s t with
        fwd := { FwdT.refl _ with state := by rw [hr]; exact Nat.le_succ 2 }
        done := fun h => by rw [hr] at h; cases h }⟩, fun _ h => (by cases h)⟩
  · exact ⟨⟨(hm.core.task t).later (e' := !ok || s.errs) (Nat.le_succ _) fun he => by
        rw [he]; exact Bool.or_true _,
      .refl s t⟩, hm.noReady t⟩

theorem mid_term {s : Ctl} (hm : Mid s) {i : Nat} (hi : i < s.n)
    (hr : (s.tasks i).state = .running) (ok : Bool) :
    Mid (termCtl s i ok) ∧ Fwd s (termCtl s i ok) := by
  refine hm.quiet ⟨rfl, rfl, rfl, rfl, rfl⟩ rfl (Nat.le_refl _) fun t =>
    ⟨⟨(hm.done_task hi hr ok _ _ t).1, ?_⟩, (hm.done_task hi hr ok _ _ t).2⟩
  show (doneTasks s i ok _ _ t).filled = _
  unfold doneTasks
  split
  · rename_i h; rw [h]
  · rfl

theorem mid_fill {s : Ctl} (hm : Mid s) {i : Nat} (hi : i < s.n)
    (hr : (s.tasks i).state = .running) : Mid (fillCtl s i) ∧ Fwd s (fillCtl s i) := by
  have hc := hm.core
  obtain ⟨_, _, v3, v4⟩ := hc.value
  have hni : i ∉ s.conj := fun h => by
    have := (hc.filled_term i ((v4 i).1 h).2).2
    rw [hr] at this; cases this
  obtain ⟨c, f⟩ := hc.stage (s' := fillCtl s i)
    ⟨rfl, rfl, List.nodup_cons.2 ⟨hni, v3⟩, fun t => by
      show t ∈ i :: s.conj ↔ t < s.n ∧ (doneTasks s i true _ true t).filled = true
      unfold doneTasks
      rw [List.mem_cons, v4 t]
      split
      · rename_i h; simp [h, hi]
      · rename_i h; simp [h]⟩
    rfl (Nat.le_refl _) fun t => (hm.done_task hi hr true _ true t).1
  exact ⟨⟨c, fun t => (hm.done_task hi hr true _ true t).2, hm.running⟩, f⟩

theorem received_eq (s : Ctl) (i : Nat) (fill : Bool) (h : s.valueSeq = s.conjSeq) :
    updateValue (updateTaskResults (termCtl s i true) i fill) =
      if fill then (fillCtl s i, true) else (termCtl s i true, false) := by
  cases fill
  · simp [updateValue, updateTaskResults, h, termCtl]
  · simp [updateValue, updateTaskResults, Ctl.setTask, h, fillCtl, termCtl]
    funext j
    unfold doneTasks
    split <;> simp [*]

/-- a successful completion, received while the configuration value is up to date: the graph is
re-initialised exactly if a result was filled -/
theorem onComplete_ok (s : Ctl) (i : Nat) (fill : Bool) (g : Growth) (h : s.valueSeq = s.conjSeq) :
    onComplete s i true fill g =
      start (updateTaskValue (if fill then initTasks (fillCtl s i) g else termCtl s i true) i) := by
  show (match updateValue (updateTaskResults (termCtl s i true) i fill) with
    | (s3, changed) => start (updateTaskValue (if changed then initTasks s3 g else s3) i)) = _
  rw [received_eq s i fill h]
  cases fill <;> rfl

theorem onComplete_fail (s : Ctl) (i : Nat) (fill : Bool) (g : Growth) :
    onComplete s i false fill g = { termCtl s i false with stopped := true } := rfl

end CueVerif.Flow
