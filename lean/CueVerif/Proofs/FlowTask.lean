/-
The invariant of the workflow controller (`Spec/Flow.lean`), task by task.
`Core` is the part of `Inv` that holds between the stages of a step.  Ten of its clauses speak of
one task (`TaskOk`), and a stage is described by what it does to each task (`Moves`);
`Core.stage` carries `Core` through any such stage and is the one place where `DepsFirst` is
re-established.  `Proofs/FlowStage.lean` applies it to each function of the model.
Core Lean only.
-/
import CueVerif.Spec.Flow
namespace CueVerif.Flow

theorem done_iff (st : TState) : st.done = true ↔ st = .terminated := by
  cases st <;> simp [TState.done, doneRank, TState.rank]

theorem rank_ge2 (st : TState) : 2 ≤ st.rank ↔ (st = .running ∨ st = .terminated) := by
  cases st <;> simp [TState.rank]

theorem state_cases (st : TState) : st = .waiting ∨ st = .ready ∨ st = .running ∨ st = .terminated := by
  cases st <;> simp

/-- `Inv` without `acyclic`, `live`, `finished` -/
structure Core (s : Ctl) : Prop where
  wf : WfDeps s.n s.deps
  fresh : ∀ t, s.n ≤ t → (s.tasks t).state = .waiting ∧ (s.tasks t).deps = [] ∧
            (s.tasks t).runs = 0 ∧ (s.tasks t).filled = false ∧ (s.tasks t).startAt = none ∧
            (s.tasks t).conjSeq = 0
  once : Once s
  depsFirst : DepsFirst s
  clock_start : ∀ t k, (s.tasks t).startAt = some k → k < s.clock
  clock_end : ∀ t e, (s.tasks t).endAt = some e → e < s.clock
  term_end : ∀ t, t < s.n → ((s.tasks t).state = .terminated ↔ (s.tasks t).endAt.isSome)
  failed_errs : ∀ t, t < s.n → (s.tasks t).failed = true → s.errs = true
  failed_term : ∀ t, t < s.n → (s.tasks t).failed = true → (s.tasks t).state = .terminated
  filled_term : ∀ t, (s.tasks t).filled = true → t < s.n ∧ (s.tasks t).state = .terminated
  no_deadlock : s.deadlock = false
  value : FinalValue s
  vseq_none : ∀ t, (s.tasks t).runs = 0 → (s.tasks t).valueSeq = none

theorem Inv.core {s : Ctl} (h : Inv s) : Core s := { h with }

theorem Core.inv {s : Ctl} (h : Core s)
    (hac : s.errs = false → checkCycle s.n s.deps = false)
    (hlive : s.stopped = false → s.errs = false ∧ (∀ t, t < s.n → (s.tasks t).state ≠ .ready) ∧
            ∃ t, t < s.n ∧ (s.tasks t).state = .running)
    (hfin : s.stopped = true → s.errs = false → s.cancelled = false →
            ∀ t, t < s.n → (s.tasks t).state = .terminated) : Inv s :=
  { h with acyclic := hac, live := hlive, finished := hfin }

/-- what holds just before `markReady; loopHead`: -/
structure Pre (s : Ctl) : Prop where
  core : Core s
  acyclic : s.errs = false → checkCycle s.n s.deps = false
  noReady : ∀ t, t < s.n → (s.tasks t).state ≠ .ready
  running : s.stopped = false

/-- `Pre` without `acyclic` -/
structure Mid (s : Ctl) : Prop where
  core : Core s
  noReady : ∀ t, t < s.n → (s.tasks t).state ≠ .ready
  running : s.stopped = false

theorem core_empty : Core ({} : Ctl) := by
  constructor <;> simp [WfDeps, Ctl.deps, Once, DepsFirst, FinalValue, TState.rank]

/-- the monotonicity statement of `step_forward`, for one task -/
structure FwdT (x y : Task) : Prop where
  state : x.state.rank ≤ y.state.rank
  runs : x.runs ≤ y.runs
  start : ∀ k, x.startAt = some k →
    y.startAt = some k ∧ y.startDeps = x.startDeps ∧ y.startSeen = x.startSeen
  deps : ∀ d, d ∈ x.deps → d ∈ y.deps

def Fwd (s s' : Ctl) : Prop := s.n ≤ s'.n ∧ ∀ t, FwdT (s.tasks t) (s'.tasks t)

theorem FwdT.refl (x : Task) : FwdT x x :=
  ⟨Nat.le_refl _, Nat.le_refl _, fun _ hk => ⟨hk, rfl, rfl⟩, fun _ hd => hd⟩

theorem FwdT.trans {x y z : Task} (h1 : FwdT x y) (h2 : FwdT y z) : FwdT x z :=
  ⟨Nat.le_trans h1.state h2.state, Nat.le_trans h1.runs h2.runs,
    fun k hk =>
      have ⟨x1, x2, x3⟩ := h1.start k hk
      have ⟨y1, y2, y3⟩ := h2.start k x1
      ⟨y1, y2.trans x2, y3.trans x3⟩,
    fun d hd => h2.deps d (h1.deps d hd)⟩

theorem Fwd.refl (s : Ctl) : Fwd s s := ⟨Nat.le_refl _, fun _ => .refl _⟩

theorem Fwd.trans {a b c : Ctl} (h1 : Fwd a b) (h2 : Fwd b c) : Fwd a c :=
  ⟨Nat.le_trans h1.1 h2.1, fun t => (h1.2 t).trans (h2.2 t)⟩

/-! ### the invariant, task by task

Ten clauses of `Core` speak of one task (`TaskOk`).  A stage changes a few fields of a few
tasks, so each kind of change re-proves only the clauses that read those fields. -/

structure TaskOk (n clock : Nat) (errs : Bool) (t : Nat) (x : Task) : Prop where
  wf : t < n → ∀ d ∈ x.deps, d < n ∧ d ≠ t
  fresh : n ≤ t → x.state = .waiting ∧ x.deps = [] ∧ x.runs = 0 ∧ x.filled = false ∧
    x.startAt = none ∧ x.conjSeq = 0
  once : t < n → x.runs ≤ 1 ∧ (x.runs = 1 ↔ 2 ≤ x.state.rank) ∧ (x.runs = 1 ↔ x.startAt.isSome)
  clock_start : ∀ k, x.startAt = some k → k < clock
  clock_end : ∀ e, x.endAt = some e → e < clock
  term_end : t < n → (x.state = .terminated ↔ x.endAt.isSome)
  failed_errs : t < n → x.failed = true → errs = true
  failed_term : t < n → x.failed = true → x.state = .terminated
  filled_term : x.filled = true → t < n ∧ x.state = .terminated
  vseq_none : x.runs = 0 → x.valueSeq = none

theorem Core.task {s : Ctl} (h : Core s) (t : Nat) : TaskOk s.n s.clock s.errs t (s.tasks t) :=
  ⟨h.wf t, h.fresh t, h.once t, h.clock_start t, h.clock_end t, h.term_end t, h.failed_errs t,
   h.failed_term t, h.filled_term t, h.vseq_none t⟩

theorem Core.of_tasks {s : Ctl} (ht : ∀ t, TaskOk s.n s.clock s.errs t (s.tasks t))
    (hd : DepsFirst s) (hv : FinalValue s) (hl : s.deadlock = false) : Core s :=
  ⟨fun t => (ht t).wf, fun t => (ht t).fresh, fun t => (ht t).once, hd,
   fun t => (ht t).clock_start, fun t => (ht t).clock_end, fun t => (ht t).term_end,
   fun t => (ht t).failed_errs, fun t => (ht t).failed_term, fun t => (ht t).filled_term, hl, hv,
   fun t => (ht t).vseq_none⟩

/-- what `dispatchOne` does to the task it starts -/
def dispTask (t : Task) (c : Nat) (sn : List Nat) (vs : Nat) : Task :=
  { t with state := .running, seen := sn, valueSeq := some vs, runs := t.runs + 1,
           startAt := some c, startDeps := t.deps, startSeen := sn }

section task

variable {n c : Nat} {e : Bool} {t : Nat} {x : Task}

theorem TaskOk.later (h : TaskOk n c e t x) {c' : Nat} {e' : Bool} (hc : c ≤ c')
    (he : e = true → e' = true) : TaskOk n c' e' t x :=
  { h with
    clock_start := fun k hk => Nat.lt_of_lt_of_le (h.clock_start k hk) hc
    clock_end := fun k hk => Nat.lt_of_lt_of_le (h.clock_end k hk) hc
    failed_errs := fun ht hf => he (h.failed_errs ht hf) }

theorem TaskOk.more (h : TaskOk n c e t x) (ht : t < n) {n' : Nat} (hn : n ≤ n') :
    TaskOk n' c e t x :=
  { h with
    wf := fun _ d hd => ⟨Nat.lt_of_lt_of_le (h.wf ht d hd).1 hn, (h.wf ht d hd).2⟩
    fresh := fun hn' => absurd (Nat.lt_of_lt_of_le ht hn) (Nat.not_lt.2 hn')
    once := fun _ => h.once ht
    term_end := fun _ => h.term_end ht
    failed_errs := fun _ => h.failed_errs ht
    failed_term := fun _ => h.failed_term ht
    filled_term := fun hf => ⟨Nat.lt_of_lt_of_le ht hn, (h.filled_term hf).2⟩ }

theorem TaskOk.empty : TaskOk n c e t {} := by
  constructor <;> simp [TState.rank]

theorem TaskOk.unstarted (h : TaskOk n c e t x) (ht : t < n) (hw : x.state.rank < 2) :
    x.runs = 0 ∧ x.startAt = none ∧ x.endAt = none ∧ x.failed = false ∧ x.filled = false := by
  obtain ⟨o1, o2, o3⟩ := h.once ht
  have hr : x.runs = 0 := by omega
  have hnt : x.state ≠ .terminated := fun h' => by rw [h'] at hw; exact absurd hw (by decide)
  refine ⟨hr, ?_, ?_, ?_, ?_⟩
  · cases hs : x.startAt with
    | none => rfl
    | some k => rw [hs] at o3; simp at o3; omega
  · cases he : x.endAt with
    | none => rfl
    | some k => exact absurd ((h.term_end ht).2 (by rw [he]; rfl)) hnt
  · cases hf : x.failed with
    | false => rfl
    | true => exact absurd (h.failed_term ht hf) hnt
  · cases hf : x.filled with
    | false => rfl
    | true => exact absurd (h.filled_term hf).2 hnt

theorem TaskOk.ready (h : TaskOk n c e t x) (ht : t < n) (hw : x.state = .waiting) :
    TaskOk n c e t { x with state := .ready } := by
  obtain ⟨hr, hs, he, hfa, hfi⟩ := h.unstarted ht (by rw [hw]; decide)
  exact { h with
    fresh := fun hn => absurd ht (Nat.not_lt.2 hn)
    once := fun _ => by simp [hr, hs, TState.rank]
    term_end := fun _ => by simp [he]
    failed_term := fun _ hf => by rw [show x.failed = true from hf] at hfa; cases hfa
    filled_term := fun hf => by rw [show x.filled = true from hf] at hfi; cases hfi }

theorem TaskOk.disp (h : TaskOk n c e t x) (ht : t < n) (hw : x.state = .ready) {k : Nat}
    (hk : k < c) (sn : List Nat) (vs : Nat) : TaskOk n c e t (dispTask x k sn vs) := by
  obtain ⟨hr, hs, he, hfa, hfi⟩ := h.unstarted ht (by rw [hw]; decide)
  exact { h with
    fresh := fun hn => absurd ht (Nat.not_lt.2 hn)
    once := fun _ => by simp [dispTask, hr, TState.rank]
    clock_start := fun k' hk' => by cases hk'; exact hk
    term_end := fun _ => by simp [dispTask, he]
    failed_term := fun _ hf => by rw [show x.failed = true from hf] at hfa; cases hfa
    filled_term := fun hf => by rw [show x.filled = true from hf] at hfi; cases hfi
    vseq_none := fun h0 => by simp [dispTask] at h0 }

theorem TaskOk.touch (h : TaskOk n c e t x) {ds : List Nat} (sn : List Nat) {vs : Option Nat}
    (hwf : t < n → ∀ d ∈ ds, d < n ∧ d ≠ t) (hfr : n ≤ t → ds = [])
    (hv : x.runs = 0 → vs = none) :
    TaskOk n c e t { x with deps := ds, seen := sn, valueSeq := vs } :=
  { h with
    wf := hwf
    fresh := fun hn => by
      obtain ⟨f1, _, f3, f4, f5, f6⟩ := h.fresh hn
      exact ⟨f1, hfr hn, f3, f4, f5, f6⟩
    vseq_none := hv }

theorem TaskOk.done (h : TaskOk n c e t x) (ht : t < n) (hr : x.state = .running) (ok : Bool)
    (q : Nat) (f : Bool) : TaskOk n (c + 1) (!ok || e) t
      { x with state := .terminated, endAt := some c, failed := !ok, conjSeq := q, filled := f } :=
  { h.later (e' := !ok || e) (Nat.le_succ c) (fun he => by rw [he]; exact Bool.or_true _) with
    fresh := fun hn => absurd ht (Nat.not_lt.2 hn)
    once := fun _ => by
      have := h.once ht
      rw [hr] at this
      simpa [TState.rank] using this
    clock_end := fun k hk => by cases hk; exact Nat.lt_succ_self _
    term_end := fun _ => by simp
    failed_errs := fun _ hf => by rw [show (!ok) = true from hf]; rfl
    failed_term := fun _ _ => rfl
    filled_term := fun _ => ⟨ht, rfl⟩ }

end task

/-- `Core` reads neither `stopped` nor `cancelled` -/
theorem Core.stop {s : Ctl} (h : Core s) : Core { s with stopped := true } :=
  .of_tasks h.task h.depsFirst h.value h.no_deadlock

theorem Core.cancel {s : Ctl} (h : Core s) : Core { s with stopped := true, cancelled := true } :=
  .of_tasks h.task h.depsFirst h.value h.no_deadlock

theorem Core.setErrs {s : Ctl} (h : Core s) : Core { s with errs := true } :=
  .of_tasks (fun t => (h.task t).later (Nat.le_refl _) fun _ => rfl) h.depsFirst h.value
    h.no_deadlock

theorem Mid.setErrs {s : Ctl} (h : Mid s) : Mid { s with errs := true } :=
  ⟨h.core.setErrs, h.noReady, h.running⟩

/-- between stages the configuration value is up to date -/
theorem Core.synced {s : Ctl} (h : Core s) : s.valueSeq = s.conjSeq :=
  h.value.2.1

theorem Core.runs_one {s : Ctl} (hc : Core s) {i : Nat} (hi : i < s.n)
    (hr : (s.tasks i).state = .running) : (s.tasks i).runs = 1 := by
  have := (hc.once i hi).2.1
  rw [hr] at this
  exact this.2 (Nat.le_refl 2)

/-! ### stages -/

/-- the clause of `DepsFirst` for one dependency `d` of a task `t` that was started at `k` with
input `sn` -/
def DepDone (s : Ctl) (t k : Nat) (sn : List Nat) (d : Nat) : Prop :=
  d < s.n ∧ d ≠ t ∧ (s.tasks d).state = .terminated ∧ (s.tasks d).failed = false ∧
  (∃ e, (s.tasks d).endAt = some e ∧ e < k) ∧ ((s.tasks d).filled = true → d ∈ sn)

/-- `y` may take the place of task `t` of `s` in one stage of a step: nothing moves backward,
a task that was terminated keeps its outcome (a result is filled only in the stage in which
the task terminates), and a start record is the old one or satisfies the clause of
`DepsFirst`, read in `s`. -/
structure Moves (s : Ctl) (t : Nat) (y : Task) : Prop where
  fwd : FwdT (s.tasks t) y
  done : (s.tasks t).state = .terminated →
    y.state = .terminated ∧ y.failed = (s.tasks t).failed ∧ y.endAt = (s.tasks t).endAt ∧
    y.filled = (s.tasks t).filled
  start : ∀ k, y.startAt = some k → (s.tasks t).startAt = some k ∨
    ∀ d ∈ y.startDeps, DepDone s t k y.startSeen d

theorem Moves.refl (s : Ctl) (t : Nat) : Moves s t (s.tasks t) :=
  ⟨.refl _, fun h => ⟨h, rfl, rfl, rfl⟩, fun _ hk => .inl hk⟩

/-- a dependency that was done stays done through a stage -/
theorem DepDone.mono {s s' : Ctl} {t k d : Nat} {sn : List Nat} (h : DepDone s t k sn d)
    (hn : s.n ≤ s'.n) (hm : Moves s d (s'.tasks d)) : DepDone s' t k sn d :=
  have ⟨d1, d2, d3, d4, ⟨e, d5, d5'⟩, d6⟩ := h
  have ⟨x1, x2, x3, x4⟩ := hm.done d3
  ⟨Nat.lt_of_lt_of_le d1 hn, d2, x1, x2.trans d4, ⟨e, x3.trans d5, d5'⟩, fun hf => d6 (x4 ▸ hf)⟩

theorem Core.stage {s s' : Ctl} (hc : Core s) (hv : FinalValue s')
    (hl : s'.deadlock = s.deadlock) (hn : s.n ≤ s'.n)
    (h : ∀ t, TaskOk s'.n s'.clock s'.errs t (s'.tasks t) ∧ Moves s t (s'.tasks t)) :
    Core s' ∧ Fwd s s' := by
  refine ⟨.of_tasks (fun t => (h t).1) (fun t _ k hk d hd => ?_) hv (hl.trans hc.no_deadlock),
    hn, fun t => (h t).2.fwd⟩
  -- the dependency was done in `s`: the start record is an old one or a new one
  refine DepDone.mono ?_ hn (h d).2
  rcases (h t).2.start k hk with h0 | hnew
  · have ht0 : t < s.n := Nat.lt_of_not_le fun hge => by
      rw [(hc.fresh t hge).2.2.2.2.1] at h0; cases h0
    obtain ⟨e1, e2⟩ := ((h t).2.fwd.start k h0).2
    rw [e1] at hd
    rw [e2]
    exact hc.depsFirst t ht0 k h0 d hd
  · exact hnew d hd

/-- a stage that leaves the configuration value and every `filled` as they are -/
theorem Core.quiet {s s' : Ctl} (hc : Core s)
    (hv : s'.inst = s.inst ∧ s'.conj = s.conj ∧ s'.valueSeq = s.valueSeq ∧
      s'.conjSeq = s.conjSeq ∧ s'.deadlock = s.deadlock) (hn : s.n ≤ s'.n)
    (h : ∀ t, (TaskOk s'.n s'.clock s'.errs t (s'.tasks t) ∧ Moves s t (s'.tasks t)) ∧
      (s'.tasks t).filled = (s.tasks t).filled) :
    Core s' ∧ Fwd s s' := by
  obtain ⟨v1, v2, v3, v4, v5⟩ := hv
  obtain ⟨w1, w2, w3, w4⟩ := hc.value
  refine hc.stage ⟨by rw [v1, v2, w1], by rw [v3, v4, w2], by rw [v2]; exact w3, fun t => ?_⟩
    v5 hn fun t => (h t).1
  rw [v2, w4, (h t).2]
  exact ⟨fun ⟨a, b⟩ => ⟨Nat.lt_of_lt_of_le a hn, b⟩, fun ⟨_, b⟩ => ⟨(hc.filled_term t b).1, b⟩⟩

theorem Mid.quiet {s s' : Ctl} (hm : Mid s)
    (hv : s'.inst = s.inst ∧ s'.conj = s.conj ∧ s'.valueSeq = s.valueSeq ∧
      s'.conjSeq = s.conjSeq ∧ s'.deadlock = s.deadlock) (hs : s'.stopped = s.stopped)
    (hn : s.n ≤ s'.n)
    (h : ∀ t, ((TaskOk s'.n s'.clock s'.errs t (s'.tasks t) ∧ Moves s t (s'.tasks t)) ∧
      (s'.tasks t).filled = (s.tasks t).filled) ∧ (t < s'.n → (s'.tasks t).state ≠ .ready)) :
    Mid s' ∧ Fwd s s' :=
  have ⟨c, f⟩ := hm.core.quiet hv hn fun t => (h t).1
  ⟨⟨c, fun t => (h t).2, hs.trans hm.running⟩, f⟩

theorem Mid.task {s : Ctl} (hm : Mid s) (t : Nat) :
    ((TaskOk s.n s.clock s.errs t (s.tasks t) ∧ Moves s t (s.tasks t)) ∧
      (s.tasks t).filled = (s.tasks t).filled) ∧ (t < s.n → (s.tasks t).state ≠ .ready) :=
  ⟨⟨⟨hm.core.task t, .refl s t⟩, rfl⟩, hm.noReady t⟩

end CueVerif.Flow
