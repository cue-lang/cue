/-
C08: precedence-climbing parsing inverts operator-precedence printing.  The printer's part and the
parser's part are separate: what is printed is the normal form written as it stands
(`printP p e = flat (normP p e)`), the normal form obeys the grammar (`shaped_normP`), and the parser
returns every well-formed tree of the grammar from its tokens (`parse_flat`).
-/
import CueVerif.Spec.Fmt
namespace CueVerif.Fmt

theorem prec_lt_unaryPrec (o : OpTok) : o.prec < unaryPrec := by cases o <;> decide

/-! ### fuel monotonicity -/

theorem parse_mono1 : ∀ n,
    (∀ ts r, parseUnary n ts = some r → parseUnary (n+1) ts = some r) ∧
    (∀ p ts r, parseBinary n p ts = some r → parseBinary (n+1) p ts = some r) ∧
    (∀ p x ts r, parseTail n p x ts = some r → parseTail (n+1) p x ts = some r) := by
  intro n
  induction n with
  | zero => simp [parseUnary, parseBinary, parseTail]
  | succ n ih =>
    obtain ⟨ihU, ihB, ihT⟩ := ih
    refine ⟨?_, ?_, ?_⟩
    · intro ts r h
      match ts with
      | [] => simp [parseUnary] at h
      | .atom a :: ts => simpa [parseUnary] using h
      | .op o :: ts =>
        simp only [parseUnary] at h ⊢
        by_cases hu : o.isUnary = true
        · simp only [hu, if_true] at h ⊢
          split at h
          · next hx => rw [ihU _ _ hx]; exact h
          · cases h
        · simp only [hu] at h ⊢
          by_cases hl : o = .lparen
          · simp only [hl, if_true] at h ⊢
            cases hx : parseBinary n 1 ts with
            | none => simp [hx] at h
            | some xr =>
              rw [ihB _ _ _ hx]; simpa [hx] using h
          · simp [hl] at h
    · intro p ts r h
      simp only [parseBinary] at h ⊢
      split at h
      · next hx => rw [ihU _ _ hx]; exact ihT _ _ _ _ h
      · cases h
    · intro p x ts r h
      match ts with
      | [] => simpa [parseTail] using h
      | t :: ts =>
        simp only [parseTail] at h ⊢
        by_cases hp : tokPrec t < p
        · simpa [hp] using h
        · simp only [hp, if_false] at h ⊢
          match t with
          | .atom a => simp at h
          | .op o =>
            simp only at h ⊢
            split at h
            · next hy => rw [ihB _ _ _ hy]; exact ihT _ _ _ _ h
            · cases h

theorem parseUnary_mono {n m : Nat} {ts r} (h : parseUnary n ts = some r) (hle : n ≤ m) :
    parseUnary m ts = some r := by
  induction hle with
  | refl => exact h
  | step _ ih => exact (parse_mono1 _).1 _ _ ih

theorem parseBinary_mono {n m : Nat} {p ts r} (h : parseBinary n p ts = some r) (hle : n ≤ m) :
    parseBinary m p ts = some r := by
  induction hle with
  | refl => exact h
  | step _ ih => exact (parse_mono1 _).2.1 _ _ _ ih

theorem parseTail_mono {n m : Nat} {p x ts r} (h : parseTail n p x ts = some r) (hle : n ≤ m) :
    parseTail m p x ts = some r := by
  induction hle with
  | refl => exact h
  | step _ ih => exact (parse_mono1 _).2.2 _ _ _ _ ih

/-! ### the loop stops at a low-precedence token -/

def StopsBelow (k : Nat) : List Tok → Prop
  | [] => True
  | t :: _ => tokPrec t < k

theorem StopsBelow.mono {k k' : Nat} {rest : List Tok} (h : StopsBelow k rest) (hk : k ≤ k') : StopsBelow k' rest := by
  cases rest with
  | nil => trivial
  | cons t ts => exact Nat.lt_of_lt_of_le h hk

theorem parseTail_stop {k : Nat} {rest : List Tok} (x : Expr) (n : Nat) (h : StopsBelow k rest) :
    parseTail (n + 1) k x rest = some (x, rest) := by
  cases rest with
  | nil => simp [parseTail]
  | cons t ts =>
    have : tokPrec t < k := h
    simp [parseTail, this]

theorem stopsBelow_rparen (k : Nat) (rest : List Tok) : StopsBelow (k + 1) (.op .rparen :: rest) := by
  simp [StopsBelow, tokPrec, OpTok.prec]

/-! ### assembling -/

theorem parseBinary_of_unary {m n m' q : Nat} {ts rest : List Tok} {x : Expr} {r}
    (hu : parseUnary m ts = some (x, rest)) (ht : parseTail n q x rest = some r)
    (hm : m + 1 ≤ m') (hn : n + 1 ≤ m') : parseBinary m' q ts = some r := by
  obtain ⟨k, rfl⟩ : ∃ k, m' = k + 1 := ⟨m' - 1, by omega⟩
  simp only [parseBinary]
  rw [parseUnary_mono hu (by omega)]
  exact parseTail_mono ht (by omega)

/-- `h`: the body is parsed by the call after `(`, which then hands over to the loop at `)` -/
theorem parseUnary_parens {m : Nat} {body rest : List Tok} {x : Expr}
    (hm : 3 * (parens body).length ≤ m)
    (h : ∀ n k r, parseTail n 1 x (.op .rparen :: rest) = some r → n + 3 * body.length + 1 ≤ k →
      parseBinary k 1 (body ++ .op .rparen :: rest) = some r) :
    parseUnary m (parens body ++ rest) = some (.paren x, rest) := by
  obtain ⟨k, rfl⟩ : ∃ k, m = k + 1 := ⟨m - 1, by simp [parens] at hm; omega⟩
  simp [parens, parseUnary, OpTok.isUnary,
    h 1 k _ (parseTail_stop _ 0 (stopsBelow_rparen 0 rest)) (by simp [parens] at hm; omega)]

/-! ### the parser inverts `flat` on trees that obey the grammar -/

/-- the tokens of a tree written as it stands: parentheses at `paren` nodes and nowhere else -/
def flat : Expr → List Tok
  | .atom a => [.atom a]
  | .un o x => .op o :: flat x
  | .bin o x y => flat x ++ .op o :: flat y
  | .paren x => parens (flat x)

def ParsesAsUnary (t : Expr) : Prop :=
  ∀ rest m, Shaped unaryPrec t = true → 3 * (flat t).length ≤ m →
    parseUnary m (flat t ++ rest) = some (t, rest)

/-- the conclusion hands over to whatever the loop does after `t` -/
def ParsesAsBinary (t : Expr) : Prop :=
  ∀ p q rest n m r, Shaped p t = true → q ≤ p → StopsBelow (p + 1) rest →
    parseTail n q t rest = some r → n + 3 * (flat t).length + 1 ≤ m →
    parseBinary m q (flat t ++ rest) = some r

theorem parses_of_unary {t : Expr} (hU : ParsesAsUnary t) (hl : ∀ p, Shaped p t = true → Shaped unaryPrec t = true) :
    ParsesAsUnary t ∧ ParsesAsBinary t :=
  ⟨hU, fun p _ rest _ _ _ hp _ _ ht hm =>
    parseBinary_of_unary (hU rest _ (hl p hp) (Nat.le_refl _)) ht (by omega) (by omega)⟩

/-- a well-formed tree has no operator of precedence 0: what may stand after `(` may stand where the
parser, called there with precedence 1, expects it -/
theorem shaped_one {t : Expr} (h : t.wf = true) (hs : Shaped 0 t = true) : Shaped 1 t = true := by
  cases t <;> simp_all [Shaped, Expr.wf, unaryPrec]

theorem parse_main (t : Expr) : t.wf = true → ParsesAsUnary t ∧ ParsesAsBinary t := by
  induction t with
  | atom a =>
    refine fun _ => parses_of_unary (fun rest m _ hm => ?_) fun _ _ => rfl
    obtain ⟨k, rfl⟩ : ∃ k, m = k + 1 := ⟨m - 1, by simp [flat] at hm; omega⟩
    rfl
  | un o x ih =>
    intro hwf
    simp only [Expr.wf, Bool.and_eq_true] at hwf
    refine parses_of_unary (fun rest m hs hm => ?_) fun p hp => by simp_all [Shaped]
    obtain ⟨k, rfl⟩ : ∃ k, m = k + 1 := ⟨m - 1, by simp [flat] at hm; omega⟩
    simp only [Shaped, Bool.and_eq_true] at hs
    simp [flat, parseUnary, hwf.1, (ih hwf.2).1 rest k hs.2 (by simp [flat] at hm; omega)]
  | bin o x y ihx ihy =>
    intro hwf
    simp only [Expr.wf, Bool.and_eq_true, decide_eq_true_eq] at hwf
    have hx := (ihx hwf.1.2).2
    have hy := (ihy hwf.2).2
    refine ⟨fun _ _ hs => ?_, fun p q rest n m r hp hq hs ht hm => ?_⟩
    · have := prec_lt_unaryPrec o
      simp [Shaped] at hs; omega
    simp only [Shaped, Bool.and_eq_true, decide_eq_true_eq] at hp
    have hqo : q ≤ o.prec := by omega
    have hso : StopsBelow (o.prec + 1) rest := hs.mono (by omega)
    simp only [flat, List.length_append, List.length_cons, List.append_assoc, List.cons_append] at hm ⊢
    -- `x`, then the loop sees `o`, reads `y` at `o.prec + 1`, and goes on with the new left operand
    refine hx o.prec q _ (n + 3 * (flat y).length + 2 + 1) m r hp.1.2 hqo
      (by simp [StopsBelow, tokPrec]) ?_ (by omega)
    have hy' := hy (o.prec + 1) (o.prec + 1) rest 1 (n + 3 * (flat y).length + 2) (y, rest) hp.2
      (Nat.le_refl _) (hso.mono (by omega)) (parseTail_stop _ 0 hso) (by omega)
    have hnq : ¬ tokPrec (.op o) < q := by simp [tokPrec]; omega
    simp only [parseTail, hnq, if_false, hy']
    exact parseTail_mono ht (by omega)
  | paren x ih =>
    intro hwf
    refine parses_of_unary (fun rest m hs hm => ?_) fun _ hp => hp
    exact parseUnary_parens hm fun n k r =>
      (ih hwf).2 1 1 (.op .rparen :: rest) n k r (shaped_one hwf hs) (Nat.le_refl _)
        (stopsBelow_rparen _ rest)

/-- the grammar of the language specification (`Shaped`) is what the parser accepts, and it returns the tree -/
theorem parse_flat (t : Expr) (h : t.wf = true) (hs : Shaped 0 t = true) : parseE (flat t) = some t := by
  have hB := (parse_main t h).2 1 1 [] 1 (parseFuel (flat t)) (t, []) (shaped_one h hs)
    (Nat.le_refl _) trivial (parseTail_stop _ 0 trivial) (by simp [parseFuel]; omega)
  simp only [List.append_nil] at hB
  simp [parseE, hB]

/-! ### normal forms -/

theorem paren_cases (x : Expr) : (∃ x', x = .paren x') ∨ (∀ x', x ≠ .paren x') := by
  cases x <;> simp

theorem printP_paren_np (p : Nat) (x : Expr) (h : ∀ x', x ≠ .paren x') :
    printP p (.paren x) = parens (printP lowestPrec x) := by
  cases x <;> simp_all [printP]

theorem normP_paren_np (p : Nat) (x : Expr) (h : ∀ x', x ≠ .paren x') :
    normP p (.paren x) = .paren (normP lowestPrec x) := by
  cases x <;> simp_all [normP]

theorem normP_paren_indep (p p' : Nat) (x : Expr) : normP p (.paren x) = normP p' (.paren x) := by
  cases x <;> simp [normP]

theorem normP_zero_np (x : Expr) (h : ∀ x', x ≠ .paren x') : ∀ z, normP lowestPrec x ≠ .paren z := by
  cases x <;> simp_all [normP, lowestPrec]

theorem normP_paren_isParen (p : Nat) (x : Expr) : ∃ z, normP p (.paren x) = .paren z := by
  induction x generalizing p with
  | paren x ih => simpa [normP] using ih lowestPrec
  | _ => simp [normP, lowestPrec]

theorem normP_ind {motive : Nat → Expr → Prop}
    (atom : ∀ p a, motive p (.atom a))
    (bin_paren : ∀ p o x y, o.prec < p → motive o.prec x → motive (o.prec + 1) y →
      motive p (.bin o x y))
    (bin : ∀ p o x y, ¬o.prec < p → motive o.prec x → motive (o.prec + 1) y → motive p (.bin o x y))
    (un_paren : ∀ p o x, unaryPrec < p → motive unaryPrec x → motive p (.un o x))
    (un : ∀ p o x, ¬unaryPrec < p → motive unaryPrec x → motive p (.un o x))
    (paren_paren : ∀ p x, motive lowestPrec (.paren x) → motive p (.paren (.paren x)))
    (paren : ∀ p x, (∀ x', x ≠ .paren x') → motive lowestPrec x → motive p (.paren x))
    (p : Nat) (e : Expr) : motive p e := by
  fun_induction normP p e
  case case1 => exact atom _ _
  case case2 h ihx ihy => exact bin_paren _ _ _ _ h ihx ihy
  case case3 h ihx ihy => exact bin _ _ _ _ h ihx ihy
  case case4 h ih => exact un_paren _ _ _ h ih
  case case5 h ih => exact un _ _ _ h ih
  case case6 ih => exact paren_paren _ _ ih
  case case7 hx ih => exact paren _ _ (fun x' h => hx x' h) ih

theorem erase_normP (p : Nat) (e : Expr) : erase (normP p e) = erase e := by
  induction p, e using normP_ind <;> simp [erase, normP, normP_paren_np, *]

/-- where `normP` wrote a parenthesis node, the second pass re-enters its body at precedence 0, where
it is not parenthesised again -/
theorem normP_idem (p : Nat) (e : Expr) : normP p (normP p e) = normP p e := by
  induction p, e using normP_ind with
  | atom | bin_paren | bin | un_paren | un => simp [normP, lowestPrec, *]
  | paren_paren p x ih =>
    obtain ⟨z, hz⟩ := normP_paren_isParen lowestPrec x
    simp only [normP]
    rw [hz] at ih ⊢
    rw [normP_paren_indep p lowestPrec, ih]
  | paren p x hx ih =>
    rw [normP_paren_np _ _ hx, normP_paren_np _ _ (normP_zero_np x hx), ih]

/-- on a tree that obeys the grammar (what the parser returns) the only change is `((x))` → `(x)` -/
theorem normP_shaped (p : Nat) (e : Expr) (h : Shaped p e = true) : normP p e = collapse e := by
  induction p, e using normP_ind with
  | atom => simp [normP, collapse]
  | bin_paren p o x y h' | un_paren p o x h' => simp [Shaped] at h; omega
  | bin p o x y h' ihx ihy =>
    simp [Shaped] at h
    simp [normP, h', collapse, ihx h.1.2, ihy h.2]
  | un p o x h' ih =>
    simp [Shaped] at h
    simp [normP, h', collapse, ih h.2]
  | paren_paren p x ih => simpa [normP, collapse] using ih (by simpa [Shaped] using h)
  | paren p x hx ih =>
    have : collapse (.paren x) = .paren (collapse x) := by
      cases x <;> simp_all [collapse]
    rw [normP_paren_np _ _ hx, this, ih (by simpa [Shaped, lowestPrec] using h)]

theorem shaped_normP (p : Nat) (e : Expr) : Shaped p (normP p e) = true := by
  induction p, e using normP_ind with
  | atom => simp [normP, Shaped]
  -- without parentheses `p ≤ o.prec` resp. `p ≤ unaryPrec` is left
  | bin_paren p o x y h' ihx ihy | bin p o x y h' ihx ihy => simp [normP, h', Shaped, ihx, ihy] <;> omega
  | un_paren p o x h' ih | un p o x h' ih => simp [normP, h', Shaped, ih] <;> omega
  | paren_paren p x ih =>
    obtain ⟨z, hz⟩ := normP_paren_isParen lowestPrec x
    simp only [normP]
    rw [hz] at ih ⊢; simpa [Shaped] using ih
  | paren p x hx ih =>
    rw [normP_paren_np _ _ hx]
    simpa [Shaped, lowestPrec] using ih

/-! ### printing, then parsing -/

theorem printP_eq_flat (p : Nat) (e : Expr) : printP p e = flat (normP p e) := by
  induction p, e using normP_ind <;> simp [printP, normP, flat, parens, printP_paren_np, normP_paren_np, *]

theorem printP_paren_parens (p : Nat) (x : Expr) : ∃ l, printP p (.paren x) = parens l := by
  obtain ⟨z, hz⟩ := normP_paren_isParen p x
  exact ⟨flat z, by rw [printP_eq_flat, hz, flat]⟩

theorem wf_normP (p : Nat) (e : Expr) : (normP p e).wf = e.wf := by
  induction p, e using normP_ind <;> simp [normP, Expr.wf, normP_paren_np, *]

theorem wf_parens {l : List Tok} (h : ∀ t ∈ l, t.wf = true) : ∀ t ∈ parens l, t.wf = true := by
  simp only [parens, List.forall_mem_append, List.forall_mem_singleton]
  exact ⟨⟨rfl, h⟩, rfl⟩

theorem flat_wf (t : Expr) (h : t.wf = true) : ∀ k ∈ flat t, k.wf = true := by
  induction t with
  | atom a => simpa [flat, Tok.wf, Expr.wf] using h
  | un o x ih =>
    simp only [Expr.wf, Bool.and_eq_true] at h
    exact List.forall_mem_cons.2 ⟨rfl, ih h.2⟩
  | bin o x y ihx ihy =>
    simp only [Expr.wf, Bool.and_eq_true] at h
    exact List.forall_mem_append.2 ⟨ihx h.1.2, List.forall_mem_cons.2 ⟨rfl, ihy h.2⟩⟩
  | paren x ih => exact wf_parens (ih h)

theorem printP_wf (p : Nat) (e : Expr) (h : e.wf = true) : ∀ t ∈ printP p e, t.wf = true :=
  printP_eq_flat p e ▸ flat_wf _ ((wf_normP p e).trans h)

theorem parse_print (e : Expr) (h : e.wf = true) : parseE (printE e) = some (norm e) := by
  rw [printE, printP_eq_flat]
  exact parse_flat _ ((wf_normP lowestPrec e).trans h) (shaped_normP lowestPrec e)

theorem printP_normP (p : Nat) (e : Expr) : printP p (normP p e) = printP p e := by
  rw [printP_eq_flat, normP_idem, printP_eq_flat]

end CueVerif.Fmt
