/-
C08: the blank policies of the two formatters.  Both write the tokens of `printP`; a printed
operand stays separated (`Good`) under the three ways operands are combined because operators of
precedence ≤ 5 always get blanks (both cutoffs are ≥ 6), the others look ahead for few characters,
and the unary guard `unaryOpMerges` is exactly the hazard between two unary operators.
-/
import CueVerif.Proofs.FmtParse
import CueVerif.Proofs.FmtScan
namespace CueVerif.Fmt

namespace Policy

theorem toks_append (l m : Items) : toks (l ++ m) = toks l ++ toks m := by
  simp [toks]

theorem toks_cons (x : Bool × Tok) (l : Items) : toks (x :: l) = x.2 :: toks l := rfl

theorem toks_nil : toks [] = [] := rfl

theorem toks_setFirst (b : Bool) (l : Items) : toks (setFirst b l) = toks l := by
  cases l with
  | nil => rfl
  | cons x r => cases x; rfl

theorem toks_iparens (l : Items) : toks (iparens l) = parens (toks l) := by
  simp [iparens, parens, toks]

theorem toks_applyMayCombine (q : Option Tok) (l : Items) : toks (applyMayCombine q l) = toks l := by
  induction l generalizing q with
  | nil => cases q <;> rfl
  | cons x r ih =>
    obtain ⟨b, t⟩ := x
    cases q <;> simp [applyMayCombine, toks_cons, ih]

theorem toks_wrap (l : Items) (c : Prop) [Decidable c] :
    toks (if c then iparens l else l) = if c then parens (toks l) else toks l := by
  split
  · exact toks_iparens l
  · rfl

theorem fmt1_paren_np (g : Bool) (p d : Nat) (x : Expr) (h : ∀ x', x ≠ .paren x') :
    fmt1 g p d (.paren x) = iparens (fmt1 g lowestPrec (reduceDepth d) x) := by
  cases x <;> simp_all [fmt1]

theorem fmt2_paren_np (p d : Nat) (x : Expr) (h : ∀ x', x ≠ .paren x') :
    fmt2 p d (.paren x) = iparens (fmt2 lowestPrec 1 x) := by
  cases x <;> simp_all [fmt2]

theorem toks_fmt1 (g : Bool) (p d : Nat) (e : Expr) : toks (fmt1 g p d e) = printP p e := by
  induction e generalizing p d with
  | atom a => rfl
  | bin | un => simp [fmt1, printP, toks_wrap, toks_append, toks_cons, toks_setFirst, *]
  | paren x ih =>
    rcases paren_cases x with ⟨z, rfl⟩ | hnp
    · rw [fmt1, printP]; exact ih _ _
    · rw [fmt1_paren_np _ _ _ _ hnp, printP_paren_np _ _ hnp, toks_iparens, ih]

theorem toks_fmt2 (p d : Nat) (e : Expr) (hp : p ≤ unaryPrec) : toks (fmt2 p d e) = printP p e := by
  induction e generalizing p d with
  | atom a => rfl
  | bin o x y ihx ihy =>
    have h7 : o.prec + 1 ≤ unaryPrec := prec_lt_unaryPrec o
    simp [fmt2, printP, toks_wrap, toks_append, toks_cons, toks_setFirst, ihx _ _ (Nat.le_of_succ_le h7),
      ihy _ _ h7]
  | un o x ih =>
    simp [fmt2, printP, toks_cons, toks_setFirst, ih _ _ (Nat.le_refl _), Nat.not_lt.2 hp]
  | paren x ih =>
    have h0 : lowestPrec ≤ unaryPrec := by decide
    rcases paren_cases x with ⟨z, rfl⟩ | hnp
    · rw [fmt2, printP]; exact ih _ _ h0
    · rw [fmt2_paren_np _ _ _ hnp, printP_paren_np _ _ hnp, toks_iparens, ih _ _ h0]

/-! ### token-level hazard facts -/

def firstOK : Tok → Bool
  | .atom a => a.wf
  | .op o => o == .lparen || o.isUnary

def closed : Tok → Bool
  | .atom a => a.wf
  | .op o => o == .lparen

def lastOK : Tok → Bool
  | .atom _ => true
  | .op o => o == .rparen

theorem closed_firstOK {t : Tok} (h : closed t = true) : firstOK t = true := by
  cases t with
  | atom a => exact h
  | op o => simp only [closed] at h; simp [firstOK, h]

theorem firstOK_wf {t : Tok} (h : firstOK t = true) : t.wf = true := by
  cases t with
  | atom a => exact h
  | op o => rfl

theorem hazard_of_spell {a b : Tok} {c : Char} {s : List Char} (hs : b.spell = c :: s) :
    hazard a b = hazardChar a c := by
  simp [hazard, hs]

/-- an operand begins with a letter, a digit, `(` or the first character of a unary operator -/
theorem firstOK_head {t : Tok} {c : Char} {s : List Char} (h : firstOK t = true) (hs : t.spell = c :: s) :
    c ≠ '/' ∧ c ≠ '~' ∧ (closed t = true → c ≠ '-' ∧ c ≠ '=') := by
  cases t with
  | atom a =>
    have hc : (isLetter c || isDigit c) = true := by
      rcases atom_wf_cases h with ⟨c0, s0, rfl, h0, -⟩ | ⟨c0, s0, rfl, h0, -⟩ <;> cases hs <;> simp [h0]
    refine ⟨?_, ?_, fun _ => ⟨?_, ?_⟩⟩ <;> (rintro rfl; revert hc; decide)
  | op o => cases o <;> first | (cases hs; decide) | cases h

theorem hazard_last_binop {a : Tok} {o : OpTok} (ha : lastOK a = true) (ho : 1 ≤ o.prec) :
    hazard a (.op o) = false := by
  obtain ⟨c, s, hs, -⟩ := spell_cons (.op o) rfl
  have hc : hazardChar (.atom (.ident [])) c = false ∧ hazardChar (.atom (.int [])) c = false := by
    cases o <;> (cases hs; revert ho; decide)
  rw [hazard_of_spell hs]
  cases a with
  | atom a =>
    cases a
    · exact hc.1
    · exact hc.2
  | op q =>
    simp only [lastOK, beq_iff_eq] at ha
    subst ha
    rfl

theorem hazard_lparen {t : Tok} (ht : firstOK t = true) : hazard (.op .lparen) t = false := by
  obtain ⟨c, s, hs, -⟩ := spell_cons t (firstOK_wf ht)
  rw [hazard_of_spell hs]
  rfl

theorem hazard_rparen (t : Tok) : hazard t (.op .rparen) = false := by
  cases t with
  | atom a => cases a <;> rfl
  | op o => cases o <;> rfl

theorem hazard_binop_first {o : OpTok} {t : Tok} (ho : 6 ≤ o.prec) (ht : firstOK t = true) :
    hazard (.op o) t = false := by
  obtain ⟨c, s, hs, -⟩ := spell_cons t (firstOK_wf ht)
  have hc := (firstOK_head ht hs).1
  rw [hazard_of_spell hs]
  cases o <;> first | rfl | (simp [hazardChar, hc]; done) | (exfalso; revert ho; decide)

theorem hazard_unop_closed {o : OpTok} {t : Tok} (ho : o.isUnary = true) (ht : closed t = true) :
    hazard (.op o) t = false := by
  obtain ⟨c, s, hs, -⟩ := spell_cons t (firstOK_wf (closed_firstOK ht))
  have hc := firstOK_head (closed_firstOK ht) hs
  rw [hazard_of_spell hs]
  cases o <;> first | rfl | (simp [hazardChar, hc.2.1, hc.2.2 ht]; done) | cases ho

/-- the guard of `!` does not look for `~`, which no unary operator begins with -/
theorem unaryOpMerges_eq {o i : OpTok} (x : Expr) (ho : o.isUnary = true) (hi : i.isUnary = true) :
    unaryOpMerges o (.un i x) = hazard (.op o) (.op i) := by
  obtain ⟨c, s, hs, -⟩ := spell_cons (.op i) rfl
  have hc := (firstOK_head (t := .op i) (by simp [firstOK, hi]) hs).2.1
  rw [hazard_of_spell hs]
  simp only [Tok.spell] at hs
  simp only [unaryOpMerges, hs]
  cases o <;> first | rfl | (simp [hazardChar, hc]; done) | cases ho

/-- the guard is complete: the printed operand of a unary operator begins with an atom or `(`, which
are no hazard after it, or with its own unary operator, and there the guard is the hazard -/
theorem unaryOpMerges_complete {o : OpTok} {x : Expr} (ho : o.isUnary = true) (hx : x.wf = true) :
    ∀ t ∈ firstTok unaryPrec x, (unaryOpMerges o x || !hazard (.op o) t) = true := by
  intro t ht
  have hclosed : closed t = true → (unaryOpMerges o x || !hazard (.op o) t) = true :=
    fun h => by simp [hazard_unop_closed ho h]
  cases x with
  | atom a => cases ht; exact hclosed hx
  | paren z =>
    obtain ⟨l, hl⟩ := printP_paren_parens unaryPrec z
    rw [firstTok, hl] at ht
    cases ht; exact hclosed rfl
  | bin q a b =>
    simp [firstTok, printP, prec_lt_unaryPrec, parens] at ht
    subst ht; exact hclosed rfl
  | un i z =>
    simp only [Expr.wf, Bool.and_eq_true] at hx
    simp [firstTok, printP, unaryPrec] at ht
    subst ht
    simp [unaryOpMerges_eq z ho hx.1]

/-! ### `sepOK` with an explicit previous token -/

def sepFrom : Option Tok → Items → Bool
  | _, [] => true
  | prev, (b, t) :: r =>
    (match prev with
     | none => true
     | some a => b || !hazard a t) && sepFrom (some t) r

def lastT : Option Tok → Items → Option Tok
  | prev, [] => prev
  | _, (_, t) :: r => lastT (some t) r

theorem sepOK_cons (b : Bool) (t : Tok) (r : Items) : sepOK ((b, t) :: r) = sepFrom (some t) r := by
  induction r generalizing b t with
  | nil => rfl
  | cons x r ih =>
    obtain ⟨b2, t2⟩ := x
    simp [sepOK, sepFrom, ih]

theorem sepOK_eq (l : Items) : sepOK l = sepFrom none l := by
  cases l with
  | nil => rfl
  | cons x r => obtain ⟨b, t⟩ := x; simp [sepOK_cons, sepFrom]

theorem sepFrom_append (prev : Option Tok) (l m : Items) :
    sepFrom prev (l ++ m) = (sepFrom prev l && sepFrom (lastT prev l) m) := by
  induction l generalizing prev with
  | nil => simp [sepFrom, lastT]
  | cons x r ih => obtain ⟨b, t⟩ := x; simp [sepFrom, lastT, ih, Bool.and_assoc]

theorem lastT_append (prev : Option Tok) (l m : Items) :
    lastT prev (l ++ m) = lastT (lastT prev l) m := by
  induction l generalizing prev with
  | nil => rfl
  | cons x r ih => obtain ⟨b, t⟩ := x; simp [lastT, ih]

/-- blanks only get added by `applyMayCombine` -/
theorem sepFrom_applyMayCombine (prev q : Option Tok) (l : Items) (h : sepFrom prev l = true) :
    sepFrom prev (applyMayCombine q l) = true := by
  induction l generalizing prev q with
  | nil => cases q <;> exact h
  | cons x r ih =>
    obtain ⟨b, t⟩ := x
    simp only [sepFrom, Bool.and_eq_true] at h
    cases q with
    | none => exact Bool.and_eq_true .. ▸ ⟨h.1, ih _ _ h.2⟩
    | some q =>
      refine Bool.and_eq_true .. ▸ ⟨?_, ih _ _ h.2⟩
      cases prev with
      | none => rfl
      | some a => cases b <;> simp_all

/-! ### the invariant of one printed operand -/

/-- separated inside; begins as an operand begins (atom, `(`, unary operator) and ends as one ends
(atom, `)`) -/
structure Good (l : Items) : Prop where
  sep : sepFrom none l = true
  head : ∃ b t r, l = (b, t) :: r ∧ firstOK t = true
  last : ∀ prev, ∃ t, lastT prev l = some t ∧ lastOK t = true

theorem Good.sep_tail {b : Bool} {t : Tok} {r : Items} (h : Good ((b, t) :: r)) :
    sepFrom (some t) r = true := by
  simpa [sepFrom] using h.sep

theorem good_atom {a : Atom} (h : a.wf = true) : Good [(false, .atom a)] :=
  ⟨rfl, ⟨false, .atom a, [], rfl, h⟩, fun _ => ⟨.atom a, rfl, rfl⟩⟩

theorem sepFrom_rparen (q : Option Tok) : sepFrom q [(false, .op .rparen)] = true := by
  cases q <;> simp [sepFrom, hazard_rparen]

theorem good_iparens {l : Items} (h : Good l) : Good (iparens l) := by
  obtain ⟨b, t, r, rfl, h1⟩ := h.head
  refine ⟨?_, ⟨false, .op .lparen, _, rfl, rfl⟩, ?_⟩
  · simpa [iparens, sepFrom, sepFrom_append, h.sep_tail, hazard_lparen h1]
      using sepFrom_rparen (lastT (some t) r)
  · intro prev
    refine ⟨.op .rparen, ?_, rfl⟩
    simp [iparens, lastT, lastT_append]

theorem good_wrap {l : Items} {c : Prop} [Decidable c] (h : Good l) : Good (if c then iparens l else l) := by
  split
  · exact good_iparens h
  · exact h

theorem good_bin {L R : Items} {o : OpTok} {pb : Bool} (hL : Good L) (hR : Good R)
    (ho : 1 ≤ o.prec) (hpb : o.prec ≤ 5 → pb = true) :
    Good (L ++ (pb, .op o) :: setFirst pb R) := by
  obtain ⟨b, t, r, hl, h1⟩ := hL.head
  obtain ⟨b', t', r', rfl, h1'⟩ := hR.head
  refine ⟨?_, ⟨b, t, r ++ _, by rw [hl]; rfl, h1⟩, ?_⟩
  · obtain ⟨a, ha, hla⟩ := hL.last none
    have hs := hR.sep_tail
    have hz : pb = true ∨ hazard (.op o) t' = false :=
      (Nat.lt_or_ge o.prec 6).imp (fun h => hpb (Nat.le_of_lt_succ h)) fun h => hazard_binop_first h h1'
    rcases hz with hz | hz <;>
      simp [sepFrom_append, hL.sep, ha, sepFrom, setFirst, hs, hz, hazard_last_binop hla ho]
  · intro prev
    obtain ⟨a, ha, hla⟩ := hR.last (some (.op o))
    exact ⟨a, by simpa [lastT_append, lastT, setFirst] using ha, hla⟩

/-- `hc`: the blank after the operator is written, or the operand's first token is no hazard for it -/
theorem good_un {X : Items} {o : OpTok} {c : Bool} (hX : Good X)
    (hc : ∀ t ∈ (toks X).head?, (c || !hazard (.op o) t) = true) (ho : o.isUnary = true) :
    Good ((false, .op o) :: setFirst c X) := by
  obtain ⟨b, t, r, rfl, h1⟩ := hX.head
  refine ⟨?_, ⟨false, .op o, _, rfl, by simp [firstOK, ho]⟩, ?_⟩
  · have hz := hc t rfl
    simp only [Bool.or_eq_true] at hz
    rcases hz with hz | hz <;> simp [sepFrom, setFirst, hX.sep_tail, hz]
  · exact fun _ => hX.last (some (.op o))

/-! ### the cutoffs are at least 6 -/

def Prob (n : Nat) : Prop := n = 0 ∨ 6 ≤ n

theorem Prob.max {a b : Nat} (ha : Prob a) (hb : Prob b) : Prob (if a < b then b else a) := by
  split <;> assumption

theorem walk_maxProblem (e : Expr) : Prob (walkBinary e).maxProblem := by
  induction e with
  | bin o x y ihx ihy =>
    unfold walkBinary
    extract_lets w0 wl w1 wr
    have hw1 : Prob w1.maxProblem := by
      unfold w1
      split
      · split
        · exact .inl rfl
        · exact Prob.max (.inl rfl) ihx
      · exact .inl rfl
    clear_value w1
    split
    · split
      · exact hw1
      · exact hw1.max ihy
    · split
      · exact .inr (Nat.le_add_right 6 2)
      · split
        · split
          · exact .inr (Nat.le_refl 6)
          · exact hw1
        · exact hw1
    · exact hw1
  | _ => exact .inl rfl

theorem cutoff_ge (e : Expr) (d : Nat) : 6 ≤ cutoff e d := by
  have hw := walk_maxProblem e
  unfold cutoff
  generalize walkBinary e = w at hw ⊢
  refine ite_ind (fun h => ?_) fun _ => ?_
  · rcases hw with h0 | h6 <;> omega
  -- without a problem the result is one of the literals 6, 7, 8
  · repeat' refine ite_ind (fun _ => ?_) fun _ => ?_
    all_goals decide

theorem binaryCutoff_ge (e : Expr) (d : Nat) : 6 ≤ binaryCutoff e d := by
  unfold binaryCutoff
  repeat' refine ite_ind (fun _ => ?_) fun _ => ?_
  all_goals decide

theorem blank_of_prec_le {o : OpTok} {c : Nat} (hc : 6 ≤ c) (h5 : o.prec ≤ 5) :
    decide (o.prec < c) = true :=
  decide_eq_true (by omega)


/-! ### the two formatters -/

theorem fmt1_good (g : Bool) (p d : Nat) (e : Expr) (h : e.wf = true)
    (hg : g = false → NoUnaryMerge e = true) : Good (fmt1 g p d e) := by
  induction e generalizing p d with
  | atom a => exact good_atom h
  | bin o x y ihx ihy =>
    simp only [Expr.wf, Bool.and_eq_true, decide_eq_true_eq] at h
    have hn : g = false → NoUnaryMerge x = true ∧ NoUnaryMerge y = true :=
      fun q => Bool.and_eq_true .. ▸ hg q
    rw [fmt1]
    exact good_wrap (good_bin (ihx _ _ h.1.2 fun q => (hn q).1) (ihy _ _ h.2 fun q => (hn q).2)
      h.1.1 (blank_of_prec_le (cutoff_ge _ _)))
  | un o x ih =>
    simp only [Expr.wf, Bool.and_eq_true] at h
    have hn : g = false → _ ∧ NoUnaryMerge x = true := fun q => Bool.and_eq_true .. ▸ hg q
    rw [fmt1]
    refine good_wrap (good_un (ih _ _ h.2 fun q => (hn q).2) ?_ h.1)
    rw [toks_fmt1]
    intro t ht
    cases g with
    | true => exact unaryOpMerges_complete h.1 h.2 t ht
    -- without the guard, `NoUnaryMerge` asks for just this
    | false => simpa [show firstTok unaryPrec x = some t from ht] using (hn rfl).1
  | paren x ih =>
    have ih' := fun p d => ih p d (by simpa [Expr.wf] using h) fun q => by simpa [NoUnaryMerge] using hg q
    rcases paren_cases x with ⟨z, rfl⟩ | hnp
    · rw [fmt1]; exact ih' _ _
    · rw [fmt1_paren_np _ _ _ _ hnp]; exact good_iparens (ih' _ _)

theorem fmt2_good (p d : Nat) (e : Expr) (h : e.wf = true) : Good (fmt2 p d e) := by
  induction e generalizing p d with
  | atom a => exact good_atom h
  | bin o x y ihx ihy =>
    simp only [Expr.wf, Bool.and_eq_true, decide_eq_true_eq] at h
    rw [fmt2]
    exact good_wrap (good_bin (ihx _ _ h.1.2) (ihy _ _ h.2) h.1.1 fun h5 =>
      Bool.or_eq_true_iff.2 (.inl (blank_of_prec_le (binaryCutoff_ge _ _) h5)))
  | un o x ih =>
    simp only [Expr.wf, Bool.and_eq_true] at h
    rw [fmt2]
    exact good_un (ih _ _ h.2) (toks_fmt2 _ _ _ (Nat.le_refl _) ▸ unaryOpMerges_complete h.1 h.2) h.1
  | paren x ih =>
    have ih' := fun p d => ih p d (by simpa [Expr.wf] using h)
    rcases paren_cases x with ⟨z, rfl⟩ | hnp
    · rw [fmt2]; exact ih' _ _
    · rw [fmt2_paren_np _ _ _ hnp]; exact good_iparens (ih' _ _)

end Policy

open Policy

theorem toks_fmtV1g (g : Bool) (e : Expr) : toks (fmtV1g g e) = printE e := by
  simp [fmtV1g, printE, toks_applyMayCombine, toks_fmt1]

theorem toks_fmtV2 (e : Expr) : toks (fmtV2 e) = printE e := by
  simp [fmtV2, printE, toks_fmt2 lowestPrec 1 e (by decide)]

theorem fmtV2_safe (e : Expr) (h : e.wf = true) : sepOK (fmtV2 e) = true := by
  rw [sepOK_eq]
  exact (fmt2_good _ _ e h).sep

/-- with the guard for every tree; without it where no unary operator meets a hazard -/
theorem fmtV1g_safe (g : Bool) (e : Expr) (h : e.wf = true) (hg : g = false → NoUnaryMerge e = true) :
    sepOK (fmtV1g g e) = true := by
  rw [sepOK_eq]
  exact sepFrom_applyMayCombine _ _ _ (fmt1_good g _ _ e h hg).sep

theorem reparses {l : Items} {e : Expr} (ht : toks l = printE e) (h : e.wf = true)
    (hs : sepOK l = true) : (scan (render l)).bind parseE = some (norm e) := by
  have hw : ∀ x ∈ l, x.2.wf = true := fun x hx =>
    printP_wf lowestPrec e h _ (by rw [← printE, ← ht]; exact List.mem_map_of_mem hx)
  rw [scan_render l hw hs, ht]
  exact parse_print e h

end CueVerif.Fmt
