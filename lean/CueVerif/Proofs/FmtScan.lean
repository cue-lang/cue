/-
C08: token separation under maximal munch.  After the spelling of a well-formed token the scanner
returns it and stops there exactly when the next character is no hazard for it (`scanOne_spell`).
-/
import CueVerif.Spec.Fmt
import CueVerif.Proofs.Lib
namespace CueVerif.Fmt

/-! ### numbers and identifiers -/

/-- the common shape of the number arm and the identifier arm of `scanOne` -/
def scanRun (p bad : Char → Bool) (mk : List Char → Atom) (cs : List Char) : Option (Tok × List Char) :=
  match cs.span p with
  | (ls, []) => some (.atom (mk ls), [])
  | (ls, d :: rest) => if bad d then none else some (.atom (mk ls), d :: rest)

theorem scanOne_digit {c : Char} (cs : List Char) (hc : isDigit c = true) :
    scanOne (c :: cs) = scanRun isDigit (fun d => d = '.' || isLetter d || d = '_') .int (c :: cs) :=
  if_pos hc

theorem letter_not_digit (c : Char) (h : isLetter c = true) : isDigit c = false := by
  simp [isLetter, isDigit, Char.le_def, UInt32.le_iff_toNat_le] at *
  omega

theorem scanOne_letter {c : Char} (cs : List Char) (hc : isLetter c = true) :
    scanOne (c :: cs) = scanRun isIdentChar (fun d => d = '_' || d = '$' || d = '#') .ident (c :: cs) :=
  (if_neg (by simp [letter_not_digit c hc])).trans (if_pos hc)

variable {p bad : Char → Bool} {mk : List Char → Atom} {s : List Char}

theorem scanRun_append (hs : ∀ a ∈ s, p a = true) (rest : List Char) :
    scanRun p bad mk (s ++ rest) = some (.atom (mk s), rest) ↔
      ∀ d ∈ rest.head?, (p d || bad d) = false := by
  unfold scanRun
  rw [span_eq, List.takeWhile_append_of_pos hs, List.dropWhile_append_of_pos hs]
  match rest with
  | [] => simp
  | d :: r =>
    cases hd : p d
    · cases hb : bad d <;> simp [hd, hb]
    · -- `d` continues the run: what comes back has consumed `d` too, its remainder is a suffix of `r`
      have hlen := (List.dropWhile_suffix (l := r) p).length_le
      rw [List.takeWhile_cons_of_pos hd, List.dropWhile_cons_of_pos hd]
      cases hr : r.dropWhile p with
      | nil => simp [hd]
      | cons e r' =>
        rw [hr] at hlen
        simp [hd]
        rintro - - - rfl
        exact Nat.not_succ_le_self _ hlen

/-! ### operators -/

theorem scanOne_lss (cs : List Char) : scanOne ('<' :: cs) =
    match cs with
    | '-' :: r => some (.op .arrow, r)
    | '=' :: r => some (.op .leq, r)
    | _ => some (.op .lss, cs) := rfl

theorem scanOne_gtr (cs : List Char) : scanOne ('>' :: cs) =
    match cs with
    | '=' :: r => some (.op .geq, r)
    | _ => some (.op .gtr, cs) := rfl

theorem scanOne_bind (cs : List Char) : scanOne ('=' :: cs) =
    match cs with
    | '~' :: r => some (.op .mat, r)
    | '=' :: r => some (.op .eql, r)
    | _ => some (.op .bind, cs) := rfl

theorem scanOne_not (cs : List Char) : scanOne ('!' :: cs) =
    match cs with
    | '~' :: r => some (.op .nmat, r)
    | '=' :: r => some (.op .neq, r)
    | _ => some (.op .not, cs) := rfl

theorem scanOne_and (cs : List Char) : scanOne ('&' :: cs) =
    match cs with
    | '&' :: r => some (.op .land, r)
    | _ => some (.op .and, cs) := rfl

theorem scanOne_or (cs : List Char) : scanOne ('|' :: cs) =
    match cs with
    | '|' :: r => some (.op .lor, r)
    | _ => some (.op .or, cs) := rfl

theorem scanOne_quo (cs : List Char) : scanOne ('/' :: cs) =
    match cs with
    | '/' :: _ => none
    | _ => some (.op .quo, cs) := rfl

theorem scanOne_period (cs : List Char) : scanOne ('.' :: cs) =
    match cs with
    | '.' :: '.' :: r => some (.op .ellipsis, r)
    | '.' :: _ => none
    | d :: r => if isDigit d then none else some (.op .period, d :: r)
    | [] => some (.op .period, []) := rfl

/-- only the eight operators above look at the next character -/
theorem scanOne_op (o : OpTok) (rest : List Char) :
    scanOne (o.spell ++ rest) = some (.op o, rest) ↔ ∀ c ∈ rest.head?, hazardChar (.op o) c = false := by
  cases o
  case lss | gtr | bind | not | and | or | quo | period =>
    cases rest with
    | nil => exact iff_of_true rfl fun _ h => nomatch h
    | cons c r =>
      simp only [OpTok.spell, List.cons_append, List.nil_append, hazardChar, scanOne_lss, scanOne_gtr,
        scanOne_bind, scanOne_not, scanOne_and, scanOne_or, scanOne_quo, scanOne_period,
        List.head?_cons, Option.mem_def, Option.some.injEq, forall_eq']
      split <;> simp_all
  all_goals exact iff_of_true rfl fun _ _ => rfl

theorem atom_wf_cases {a : Atom} (h : a.wf = true) :
    (∃ c s, a = .int (c :: s) ∧ isDigit c = true ∧ ∀ x ∈ c :: s, isDigit x = true) ∨
    (∃ c s, a = .ident (c :: s) ∧ isLetter c = true ∧ ∀ x ∈ c :: s, isIdentChar x = true) := by
  match a, h with
  | .int (c :: s), h =>
    simp only [Atom.wf, Bool.and_eq_true, List.all_eq_true] at h
    exact .inl ⟨c, s, rfl, h.1, List.forall_mem_cons.2 h⟩
  | .ident (c :: s), h =>
    simp only [Atom.wf, Bool.and_eq_true, List.all_eq_true] at h
    exact .inr ⟨c, s, rfl, h.1, List.forall_mem_cons.2 ⟨by simp [isIdentChar, h.1], h.2⟩⟩

theorem scanOne_spell (t : Tok) (hwf : t.wf = true) (rest : List Char) :
    scanOne (t.spell ++ rest) = some (t, rest) ↔ ∀ c ∈ rest.head?, hazardChar t c = false := by
  cases t with
  | op o => exact scanOne_op o rest
  | atom a =>
    rcases atom_wf_cases hwf with ⟨c0, s, rfl, hc, hs⟩ | ⟨c0, s, rfl, hc, hs⟩
    · exact (scanOne_digit _ hc).symm ▸ (scanRun_append hs rest).trans
        (by simp only [hazardChar, Bool.or_comm, Bool.or_left_comm])
    · exact (scanOne_letter _ hc).symm ▸ (scanRun_append hs rest).trans
        (by simp only [hazardChar, isIdentChar, Bool.or_assoc])

/-! ### a rendered line -/

theorem hazardChar_blank (t : Tok) : hazardChar t ' ' = false := by
  cases t with
  | op o => cases o <;> rfl
  | atom a => cases a <;> rfl

theorem spell_cons (t : Tok) (hwf : t.wf = true) : ∃ c s, t.spell = c :: s ∧ c ≠ ' ' := by
  cases t with
  | op o => cases o <;> exact ⟨_, _, rfl, by decide⟩
  | atom a =>
    rcases atom_wf_cases hwf with ⟨c, s, rfl, hc, -⟩ | ⟨c, s, rfl, hc, -⟩ <;>
      exact ⟨c, s, rfl, fun e => by subst e; cases hc⟩

theorem skipBlanks_cons (c : Char) (s : List Char) (hc : c ≠ ' ') : skipBlanks (c :: s) = c :: s := by
  unfold skipBlanks
  split
  · simp_all
  · rfl

theorem scanFuel_step {n : Nat} {cs rest : List Char} {t : Tok}
    (h : scanOne (skipBlanks cs) = some (t, rest)) :
    scanFuel (n + 1) cs = (scanFuel n rest).map (t :: ·) := by
  cases hs : skipBlanks cs with
  | nil => rw [hs] at h; cases h
  | cons c cs' =>
    rw [hs] at h
    rw [scanFuel, hs]
    simp only [h]
    cases scanFuel n rest <;> rfl

theorem sepOK_head (b : Bool) (t : Tok) (r : Items) (hwf : ∀ x ∈ r, x.2.wf = true)
    (h : sepOK ((b, t) :: r) = true) :
    sepOK r = true ∧ ∀ c ∈ (render r).head?, hazardChar t c = false := by
  match r with
  | [] => simp [render, sepOK]
  | (b2, t2) :: r =>
    obtain ⟨h1, h2⟩ := Bool.and_eq_true .. ▸ h
    refine ⟨h2, ?_⟩
    cases b2
    · obtain ⟨c, s, hs, -⟩ := spell_cons t2 (hwf _ (List.mem_cons_self ..))
      simpa [hazard, render, hs] using h1
    · simpa [render] using hazardChar_blank t

theorem scanFuel_render : ∀ (l : Items) (n : Nat), (∀ x ∈ l, x.2.wf = true) → sepOK l = true →
    (render l).length ≤ n → scanFuel (n + 1) (render l) = some (toks l) := by
  intro l
  induction l with
  | nil => intros; rfl
  | cons x r ih =>
    intro n hwf hsep hn
    obtain ⟨b, t⟩ := x
    have hwft : t.wf = true := hwf _ (List.mem_cons_self ..)
    have hwfr : ∀ x ∈ r, x.2.wf = true := fun x hx => hwf x (List.mem_cons_of_mem _ hx)
    obtain ⟨c, s, hs, hc⟩ := spell_cons t hwft
    obtain ⟨hsepr, hhead⟩ := sepOK_head b t r hwfr hsep
    have hskip : skipBlanks (render ((b, t) :: r)) = t.spell ++ render r := by
      cases b <;> simp [render, hs, skipBlanks, skipBlanks_cons c _ hc]
    have hlen : (render r).length < n := by
      cases b <;> simp [render, hs] at hn <;> omega
    obtain ⟨m, rfl⟩ := Nat.exists_eq_add_one.2 (Nat.zero_lt_of_lt hlen)
    rw [scanFuel_step (hskip ▸ (scanOne_spell t hwft _).2 hhead),
      ih m hwfr hsepr (Nat.le_of_lt_succ hlen)]
    rfl

theorem scan_render (l : Items) (hwf : ∀ x ∈ l, x.2.wf = true) (h : sepOK l = true) :
    scan (render l) = some (toks l) :=
  scanFuel_render l _ hwf h (Nat.le_refl _)

theorem hazard_tight (a b : Tok) (ha : a.wf = true) (hb : b.wf = true) (h : hazard a b = true)
    (rest : List Char) : scanOne (a.spell ++ b.spell ++ rest) ≠ some (a, b.spell ++ rest) := by
  obtain ⟨c, s, hs, -⟩ := spell_cons b hb
  rw [List.append_assoc, Ne, scanOne_spell a ha, hs]
  simpa [hazard, hs] using h

end CueVerif.Fmt
