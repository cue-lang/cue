/-
Proofs for the "identifier spellings agree" part of C09: the scanner lexes the whole input
as one identifier-shaped token (`scanIdent`) exactly when `ast.IsValidIdent` holds
(`isValidIdent`).  Core Lean only.
-/
import CueVerif.Model.Ident
namespace CueVerif.Ident

variable (lU dU : Nat → Bool)

/-! ### the identifier loop -/

theorem identLoop_append (s : Str) :
    (identLoop lU dU s).1 ++ (identLoop lU dU s).2.1 = s := by
  induction s with
  | nil => rfl
  | cons c cs ih =>
    unfold identLoop
    split
    · simp [ih]
    · rfl

theorem identLoop_beq (s : Str) :
    ((identLoop lU dU s).1 == s) = s.all (identPart lU dU) := by
  induction s with
  | nil => rfl
  | cons c cs ih =>
    unfold identLoop
    split
    · rename_i hc
      simp only [List.all_cons, hc, Bool.true_and, ← ih]
      simp
    · rename_i hc
      simp [hc]

theorem identLoop_nil_of_not (c : Nat) (cs : Str) (hc : identPart lU dU c = false) :
    identLoop lU dU (c :: cs) = ([], c :: cs, false) := by
  unfold identLoop
  simp [hc]

/-! ### `scanFieldIdentifier` -/

theorem sfi_ne (ch : Nat) (cs : Str) (h : ch ≠ 35) :
    scanFieldIdentifier lU dU (ch :: cs) = identLoop lU dU (ch :: cs) := by
  unfold scanFieldIdentifier
  split
  · rename_i heq
    simp only [List.cons.injEq] at heq
    exact absurd heq.1 h
  · rfl

theorem sfi_nil : scanFieldIdentifier lU dU [] = ([], [], false) := rfl

theorem sfi_append (s : Str) :
    (scanFieldIdentifier lU dU s).1 ++ (scanFieldIdentifier lU dU s).2.1 = s := by
  unfold scanFieldIdentifier
  split
  · rename_i cs
    simp only
    split
    · rfl
    · simp [identLoop_append]
  · exact identLoop_append lU dU s

theorem sfi_rest_nil (s : Str) (h : (scanFieldIdentifier lU dU s).1 = s) :
    (scanFieldIdentifier lU dU s).2.1 = [] := by
  have := sfi_append lU dU s
  rw [h] at this
  exact List.append_right_eq_self.mp this

/-- `#…`: the literal is the whole input iff no digit follows the '#' and the rest consists
of identifier parts -/
theorem sfi_hash_beq (hFFFD : dU 0xFFFD = false) (t : Str) :
    ((scanFieldIdentifier lU dU (35 :: t)).1 == 35 :: t) =
      (!isDigit dU (firstRune t) && t.all (identPart lU dU)) := by
  unfold scanFieldIdentifier
  simp only
  cases t with
  | nil => simp [identLoop, firstRune, isDigit, hFFFD, headIs]
  | cons c u =>
    simp only [firstRune, headIs]
    by_cases hd : isDigit dU c = true
    · simp [hd]
    · have hd' : isDigit dU c = false := by simpa using hd
      simp only [hd', Bool.false_eq_true, ↓reduceIte, Bool.not_false, Bool.true_and,
        ← identLoop_beq lU dU (c :: u)]
      simp

theorem foldl_byteLen_ge (l : Str) (n : Nat) : n ≤ l.foldl (fun n c => n + byteLen c) n := by
  induction l generalizing n with
  | nil => exact Nat.le_refl _
  | cons a t ih =>
    simp only [List.foldl_cons]
    have := ih (n + byteLen a)
    omega

theorem byteLen_pos (c : Nat) : 1 ≤ byteLen c := by
  unfold byteLen
  split
  · omega
  · split
    · omega
    · split <;> omega

theorem byteLenStr_two (a b : Nat) (l : Str) : byteLenStr (a :: b :: l) > 1 := by
  unfold byteLenStr
  simp only [List.foldl_cons]
  have := foldl_byteLen_ge l (0 + byteLen a + byteLen b)
  have := byteLen_pos a
  have := byteLen_pos b
  omega

/-! ### `IsValidIdent` by shape -/

theorem valid_nil : isValidIdent lU dU [] = false := rfl

theorem valid_plain (ch : Nat) (cs : Str) (h95 : ch ≠ 95) (h35 : ch ≠ 35) :
    isValidIdent lU dU (ch :: cs) =
      (!isDigit dU ch && (ch :: cs).all (identPart lU dU)) := by
  have e95 : (ch == 95) = false := by simpa using h95
  have e35 : (ch == 35) = false := by simpa using h35
  simp only [isValidIdent, List.isEmpty_cons, Bool.false_eq_true, ↓reduceIte, cutPrefix, e95, e35,
    firstRune]
  cases isDigit dU ch <;> simp

theorem valid_hash (cs : Str) :
    isValidIdent lU dU (35 :: cs) =
      (!isDigit dU (firstRune cs) && cs.all (identPart lU dU)) := by
  have e : ((35 : Nat) == 95) = false := by decide
  simp only [isValidIdent, List.isEmpty_cons, Bool.false_eq_true, ↓reduceIte, cutPrefix, e,
    BEq.rfl]
  cases isDigit dU (firstRune cs) <;> simp

theorem valid_underscore : isValidIdent lU dU [95] = true := by
  simp [isValidIdent, cutPrefix]

theorem valid_underscore_hash (cs : Str) :
    isValidIdent lU dU (95 :: 35 :: cs) =
      (!isDigit dU (firstRune cs) && cs.all (identPart lU dU)) := by
  simp only [isValidIdent, List.isEmpty_cons, Bool.false_eq_true, ↓reduceIte, cutPrefix,
    BEq.rfl]
  cases isDigit dU (firstRune cs) <;> simp

theorem valid_underscore_plain (c : Nat) (cs : Str) (h35 : c ≠ 35) :
    isValidIdent lU dU (95 :: c :: cs) = (c :: cs).all (identPart lU dU) := by
  have e35 : (c == 35) = false := by simpa using h35
  simp [isValidIdent, cutPrefix, e35]

/-! ### the token switch of `Scan` -/

/-- the observable on one token: identifier-shaped, and the literal is `s` -/
def obs (t : Tok) (s : Str) : Bool := t.identShaped && t.lit == s

theorem obs_notIdent (e : Bool) (s : Str) : obs (notIdent e) s = false := rfl

theorem headIs_nil (p : Nat → Bool) : headIs p [] = false := rfl

/-- ASCII letters, '$' and (under disjointness) non-ASCII letters are not digits, nor '#' or '_' -/
theorem letter_not_digit_hash_underscore (hdisj : ∀ c, 128 ≤ c → lU c = true → dU c = false)
    (ch : Nat) (h : (isLetter lU ch || ch == 36) = true) :
    isDigit dU ch = false ∧ ch ≠ 35 ∧ ch ≠ 95 := by
  simp only [isLetter, Bool.or_eq_true, Bool.and_eq_true, decide_eq_true_eq, beq_iff_eq] at h
  simp only [isDigit, Bool.or_eq_false_iff, Bool.and_eq_false_iff, decide_eq_false_iff_not]
  rcases h with ((⟨h1, h2⟩ | ⟨h1, h2⟩) | ⟨h1, h2⟩) | h
  · exact ⟨⟨by omega, Or.inl (by omega)⟩, by omega, by omega⟩
  · exact ⟨⟨by omega, Or.inl (by omega)⟩, by omega, by omega⟩
  · exact ⟨⟨by omega, Or.inr (hdisj ch h1 h2)⟩, by omega, by omega⟩
  · exact ⟨⟨by omega, Or.inl (by omega)⟩, by omega, by omega⟩

theorem scanAt_hash (hFFFD : dU 0xFFFD = false) (cs : Str) (err : Bool) :
    obs (scanAt lU dU (35 :: cs) err) (35 :: cs) = isValidIdent lU dU (35 :: cs) := by
  rw [valid_hash, ← sfi_hash_beq lU dU hFFFD]
  have hl : isLetter lU 35 = false := by simp [isLetter]
  unfold scanAt
  simp only [hl, show ((35 : Nat) ≤ 57) = True by simp, show ((48 : Nat) ≤ 35) = False by simp,
    decide_false, decide_true, Bool.false_and, Bool.false_eq_true, ↓reduceIte, BEq.rfl,
    Bool.or_true, bne_self_eq_false, Bool.false_or]
  -- the token is an identifier with literal `lit`, unless a quote or '#' follows: then something
  -- follows, so `lit` is not the whole input
  split
  · exact Bool.true_and _
  split
  · exact Bool.true_and _
  · next hq =>
    refine (beq_eq_false_iff_ne.2 fun hw => ?_).symm
    rw [sfi_rest_nil lU dU _ hw, headIs_nil] at hq
    exact hq rfl

theorem scanAt_letter (hdisj : ∀ c, 128 ≤ c → lU c = true → dU c = false) (ch : Nat) (cs : Str)
    (err : Bool) (hl : (isLetter lU ch || ch == 36) = true) :
    obs (scanAt lU dU (ch :: cs) err) (ch :: cs) = isValidIdent lU dU (ch :: cs) := by
  obtain ⟨hnd, h35, h95⟩ := letter_not_digit_hash_underscore lU dU hdisj ch hl
  have hd' : (decide (48 ≤ ch) && decide (ch ≤ 57)) = false := (Bool.or_eq_false_iff.1 hnd).1
  have hne : (ch != 35) = true := by simpa using h35
  have hl2 : (isLetter lU ch || ch == 36 || ch == 35) = true := by rw [hl]; rfl
  rw [valid_plain lU dU ch cs h95 h35, hnd, ← identLoop_beq]
  unfold scanAt
  simp only [hd', Bool.false_eq_true, ↓reduceIte, hl2, sfi_ne lU dU ch cs h35, hne, Bool.true_or,
    ite_self, obs, Bool.true_and, Bool.not_false]

theorem scanAt_digit (ch : Nat) (cs : Str) (err : Bool) (hd : 48 ≤ ch ∧ ch ≤ 57) :
    obs (scanAt lU dU (ch :: cs) err) (ch :: cs) = isValidIdent lU dU (ch :: cs) := by
  have hd' : (decide (48 ≤ ch) && decide (ch ≤ 57)) = true := by simp [hd]
  have hdig : isDigit dU ch = true := by simp [isDigit, hd]
  rw [valid_plain lU dU ch cs (by omega) (by omega), hdig]
  unfold scanAt
  simp only [hd', ↓reduceIte, obs_notIdent]
  rfl

theorem scanAt_other (ch : Nat) (cs : Str) (err : Bool) (hd : ¬ (48 ≤ ch ∧ ch ≤ 57))
    (hl : (isLetter lU ch || ch == 36) = false) (h35 : ch ≠ 35) (h95 : ch ≠ 95) :
    obs (scanAt lU dU (ch :: cs) err) (ch :: cs) = isValidIdent lU dU (ch :: cs) := by
  have hd' : (decide (48 ≤ ch) && decide (ch ≤ 57)) = false := by
    simp only [Bool.and_eq_false_iff, decide_eq_false_iff_not]; omega
  have e95 : (ch == 95) = false := by simpa using h95
  have e35 : (ch == 35) = false := by simpa using h35
  obtain ⟨hlet, e36⟩ := Bool.or_eq_false_iff.1 hl
  rw [valid_plain lU dU ch cs h95 h35]
  unfold scanAt
  simp only [hd', Bool.false_eq_true, ↓reduceIte, e95, obs_notIdent, List.all_cons, identPart,
    hlet, e36, e35, Bool.false_or, Bool.or_false]
  cases isDigit dU ch <;> rfl

theorem identPart_124 : identPart lU dU 124 = false := by
  simp [identPart, isLetter, isDigit]

theorem scanAt_underscore (hFFFD : dU 0xFFFD = false) (cs : Str) (err : Bool) :
    obs (scanAt lU dU (95 :: cs) err) (95 :: cs) = isValidIdent lU dU (95 :: cs) := by
  have hl : (isLetter lU 95 || (95 : Nat) == 36 || (95 : Nat) == 35) = false := by
    simp [isLetter]
  have hd' : (decide ((48 : Nat) ≤ 95) && decide ((95 : Nat) ≤ 57)) = false := by decide
  unfold scanAt
  simp only [hd', Bool.false_eq_true, ↓reduceIte, hl, BEq.rfl]
  split
  · -- `_|_`
    rename_i u
    simp only [↓reduceIte, obs_notIdent]
    rw [valid_underscore_plain lU dU 124 (95 :: u) (by decide)]
    simp [identPart_124]
  · -- `__#…` is illegal, but then something follows the literal, which is not the whole input
    rw [if_neg Bool.false_ne_true]
    refine Eq.trans (b := ((scanFieldIdentifier lU dU cs).1 == cs)) ?_ ?_
    · split
      · next hq =>
        refine (beq_eq_false_iff_ne.2 fun hw => ?_).symm
        rw [sfi_rest_nil lU dU _ hw, headIs_nil, Bool.and_false] at hq
        exact Bool.false_ne_true hq
      · simp [obs]
    · cases cs with
      | nil => exact (valid_underscore lU dU).symm
      | cons c t =>
        by_cases h35 : c = 35
        · subst h35
          rw [valid_underscore_hash, sfi_hash_beq lU dU hFFFD]
        · rw [valid_underscore_plain lU dU c t h35, sfi_ne lU dU c t h35, identLoop_beq]

theorem scanAt_agree (hFFFD : dU 0xFFFD = false)
    (hdisj : ∀ c, 128 ≤ c → lU c = true → dU c = false) (cur : Str) (err : Bool) :
    obs (scanAt lU dU cur err) cur = isValidIdent lU dU cur := by
  cases cur with
  | nil => rfl
  | cons ch cs =>
    by_cases hd : 48 ≤ ch ∧ ch ≤ 57
    · exact scanAt_digit lU dU ch cs err hd
    · by_cases hl : (isLetter lU ch || ch == 36) = true
      · exact scanAt_letter lU dU hdisj ch cs err hl
      · by_cases h35 : ch = 35
        · subst h35; exact scanAt_hash lU dU hFFFD cs err
        · by_cases h95 : ch = 95
          · subst h95; exact scanAt_underscore lU dU hFFFD cs err
          · exact scanAt_other lU dU ch cs err hd (Bool.eq_false_iff.2 hl) h35 h95

/-! ### `Init`, `skipWhitespace` and the theorem -/

theorem sfi_len (s : Str) : (scanFieldIdentifier lU dU s).1.length ≤ s.length := by
  have := congrArg List.length (sfi_append lU dU s)
  simp only [List.length_append] at this
  omega

/-- the two ways `scanAt` yields an identifier-shaped token: `scanFieldIdentifier` from the
current position, or '_' followed by `scanFieldIdentifier` -/
theorem scanAt_ident (cur : Str) (err : Bool) (h : (scanAt lU dU cur err).identShaped = true) :
    ((scanAt lU dU cur err).lit = (scanFieldIdentifier lU dU cur).1 ∧
      (scanAt lU dU cur err).err = (err || (scanFieldIdentifier lU dU cur).2.2)) ∨
    ∃ cs, cur = 95 :: cs ∧ (scanAt lU dU cur err).lit = 95 :: (scanFieldIdentifier lU dU cs).1 ∧
      (scanAt lU dU cur err).err = (err || nextErr cs || (scanFieldIdentifier lU dU cs).2.2) := by
  generalize ht : scanAt lU dU cur err = t at h ⊢
  cases cur with
  | nil => subst ht; cases h
  | cons ch cs =>
    unfold scanAt at ht
    simp only at ht
    split at ht
    · -- a digit: a number token
      subst ht; cases h
    split at ht
    · -- a letter, '$' or '#': IDENT or keyword from `scanFieldIdentifier`, or a #-string
      refine .inl ?_
      split at ht
      · subst ht; exact ⟨rfl, rfl⟩
      split at ht
      · subst ht; exact ⟨rfl, rfl⟩
      · subst ht; cases h
    split at ht
    · -- '_': `_|_`, `__#…` (illegal), or '_' followed by `scanFieldIdentifier`
      next h95 =>
      refine .inr ⟨cs, by rw [eq_of_beq h95], ?_⟩
      split at ht
      · rw [if_pos rfl] at ht; subst ht; cases h
      · rw [if_neg Bool.false_ne_true] at ht
        split at ht
        · subst ht; cases h
        · subst ht; exact ⟨rfl, rfl⟩
    · subst ht; cases h

theorem scanAt_len (cur : Str) (err : Bool) (h : (scanAt lU dU cur err).identShaped = true) :
    (scanAt lU dU cur err).lit.length ≤ cur.length := by
  rcases scanAt_ident lU dU cur err h with ⟨e, _⟩ | ⟨cs, rfl, e, _⟩
  · rw [e]; exact sfi_len lU dU cur
  · rw [e]; exact Nat.succ_le_succ (sfi_len lU dU cs)

theorem obs_false_of_len (cur s : Str) (err : Bool) (h : cur.length < s.length) :
    obs (scanAt lU dU cur err) s = false := by
  refine Bool.eq_false_iff.2 fun ho => ?_
  simp only [obs, Bool.and_eq_true, beq_iff_eq] at ho
  have := scanAt_len lU dU cur err ho.1
  rw [ho.2] at this
  omega

theorem skipWs_len (s : Str) : (skipWs s).1.length ≤ s.length := by
  induction s with
  | nil => simp [skipWs]
  | cons c cs ih =>
    unfold skipWs
    split
    · simp only [List.length_cons]; omega
    · simp

def isWs (c : Nat) : Bool := c == 32 || c == 9 || c == 10 || c == 13

theorem skipWs_not_ws (c : Nat) (cs : Str) (h : isWs c = false) :
    skipWs (c :: cs) = (c :: cs, false) := by
  unfold skipWs
  simp only [isWs] at h
  simp [h]

theorem skipWs_ws (c : Nat) (cs : Str) (h : isWs c = true) :
    (skipWs (c :: cs)).1 = (skipWs cs).1 := by
  unfold isWs at h
  rw [skipWs]
  simp [h]

theorem valid_ws (c : Nat) (cs : Str) (h : isWs c = true) :
    isValidIdent lU dU (c :: cs) = false := by
  simp only [isWs, Bool.or_eq_true, beq_iff_eq] at h
  rcases h with ((h | h) | h) | h <;> subst h <;>
    (rw [valid_plain lU dU _ cs (by decide) (by decide)]
     simp [identPart, isLetter, isDigit])

theorem valid_bom (hBOM : lU 0xFEFF = false) (cs : Str) :
    isValidIdent lU dU (0xFEFF :: cs) = false := by
  rw [valid_plain lU dU _ cs (by decide) (by decide)]
  simp only [List.all_cons, identPart, isLetter, hBOM]
  cases isDigit dU 65279 <;> simp

/-- a leading byte order mark or white space is skipped, and what is left is too short to be the
whole input -/
theorem scanFirst_cases (c : Nat) (cs : Str) :
    ((c = 0xFEFF ∨ isWs c = true) ∧ obs (scanFirst lU dU (c :: cs)) (c :: cs) = false) ∨
    (c ≠ 0xFEFF ∧ isWs c = false ∧
      scanFirst lU dU (c :: cs) = scanAt lU dU (c :: cs) (c == 0 || c == 0xFFFD || false)) := by
  have := skipWs_len cs
  by_cases hb : c = 0xFEFF
  · subst hb
    refine .inl ⟨.inl rfl, ?_⟩
    simp only [scanFirst, init, BEq.rfl, ↓reduceIte]
    exact obs_false_of_len lU dU _ _ _ (by simp only [List.length_cons]; omega)
  have hb' : (c == 0xFEFF) = false := by simpa using hb
  cases hw : isWs c with
  | true =>
    refine .inl ⟨.inr rfl, ?_⟩
    simp only [scanFirst, init, hb', Bool.false_eq_true, ↓reduceIte]
    exact obs_false_of_len lU dU _ _ _ (by simp only [skipWs_ws c cs hw, List.length_cons]; omega)
  | false =>
    exact .inr ⟨hb, rfl, by
      simp only [scanFirst, init, hb', Bool.false_eq_true, ↓reduceIte, skipWs_not_ws c cs hw]⟩

/-- **Identifier spellings agree.**  For every string of code points, the scanner's first token
is identifier-shaped (IDENT or keyword) with the whole input as its literal iff
`ast.IsValidIdent` holds.  Side conditions, all true of Go's Unicode tables and each needed:
* `hFFFD`: U+FFFD is not a digit (`IsValidIdent("#")` decodes the empty rest to U+FFFD);
* `hBOM`: U+FEFF is not a letter (`Init` skips a leading byte order mark);
* `hdisj`: no rune >= 0x80 is both letter and digit (`Scan` tests `isLetter` where
  `IsValidIdent` tests `isDigit` on the first character). -/
theorem ident_agree (hFFFD : dU 0xFFFD = false) (hBOM : lU 0xFEFF = false)
    (hdisj : ∀ c, 128 ≤ c → lU c = true → dU c = false) (s : Str) :
    scanIdent lU dU s = isValidIdent lU dU s := by
  show obs (scanFirst lU dU s) s = _
  cases s with
  | nil => rfl
  | cons c cs =>
    rcases scanFirst_cases lU dU c cs with ⟨hc, ho⟩ | ⟨_, _, he⟩
    · rw [ho]
      rcases hc with rfl | hw
      · rw [valid_bom lU dU hBOM]
      · rw [valid_ws lU dU c cs hw]
    · rw [he]; exact scanAt_agree lU dU hFFFD hdisj (c :: cs) _

/-! ### the same with "and the scanner reported no error" -/

section clean
variable (hL1 : lU 0xFFFD = false) (hL2 : lU 0xFEFF = false)
  (hD1 : dU 0xFFFD = false) (hD2 : dU 0xFEFF = false)
include hL1 hL2 hD1 hD2

/-- NUL, U+FFFD and U+FEFF (the characters `next()` complains about) are not identifier parts -/
theorem nextErr_of_identPart (c : Nat) (t : Str) (h : identPart lU dU c = true) :
    nextErr (c :: t) = false := by
  simp only [nextErr, Bool.or_eq_false_iff, beq_eq_false_iff_ne]
  refine ⟨⟨?_, ?_⟩, ?_⟩ <;> intro hc <;> subst hc <;>
    simp [identPart, isLetter, isDigit, hL1, hL2, hD1, hD2] at h

theorem loop_all (s : Str) (h : (identLoop lU dU s).1 = s) :
    (identLoop lU dU s).2.2 = false ∧ nextErr s = false := by
  induction s with
  | nil => exact ⟨rfl, rfl⟩
  | cons c cs ih =>
    unfold identLoop at h ⊢
    split
    · rename_i hc
      simp only [hc, ↓reduceIte, List.cons.injEq, true_and] at h
      obtain ⟨h1, h2⟩ := ih h
      exact ⟨by simp [h1, h2], nextErr_of_identPart lU dU hL1 hL2 hD1 hD2 c cs hc⟩
    · rename_i hc
      simp [hc] at h

theorem sfi_all (s : Str) (h : (scanFieldIdentifier lU dU s).1 = s) :
    (scanFieldIdentifier lU dU s).2.2 = false ∧ nextErr s = false := by
  cases s with
  | nil => exact ⟨rfl, rfl⟩
  | cons c t =>
    by_cases h35 : c = 35
    · subst h35
      have hn : nextErr (35 :: t) = false := by simp [nextErr]
      refine ⟨?_, hn⟩
      unfold scanFieldIdentifier at h ⊢
      simp only at h ⊢
      by_cases hd : headIs (isDigit dU) t = true
      · simp only [hd, ↓reduceIte, List.cons.injEq, true_and] at h
        subst h
        simp [headIs] at hd
      · simp only [hd, ↓reduceIte, List.cons.injEq, true_and, Bool.false_eq_true] at h ⊢
        obtain ⟨h1, h2⟩ := loop_all lU dU hL1 hL2 hD1 hD2 t h
        simp [h1, h2]
    · rw [sfi_ne lU dU c t h35] at h ⊢
      exact loop_all lU dU hL1 hL2 hD1 hD2 (c :: t) h

/-- a token that is the whole input met none of the characters `next()` complains about -/
theorem scanAt_err (cur : Str) (err : Bool) (h : obs (scanAt lU dU cur err) cur = true) :
    (scanAt lU dU cur err).err = err ∧ nextErr cur = false := by
  simp only [obs, Bool.and_eq_true, beq_iff_eq] at h
  rcases scanAt_ident lU dU cur err h.1 with ⟨e, e'⟩ | ⟨cs, rfl, e, e'⟩
  · obtain ⟨h1, h2⟩ := sfi_all lU dU hL1 hL2 hD1 hD2 cur (e.symm.trans h.2)
    exact ⟨by rw [e', h1, Bool.or_false], h2⟩
  · obtain ⟨h1, h2⟩ := sfi_all lU dU hL1 hL2 hD1 hD2 cs (List.cons.inj (e.symm.trans h.2)).2
    exact ⟨by rw [e', h1, h2, Bool.or_false, Bool.or_false], rfl⟩

/-- **Identifier spellings agree, error-free variant.**  `scanIdentClean` additionally
requires that the scanner reported no error; under the (true) side conditions that U+FFFD
and U+FEFF are neither letters nor digits it coincides with `scanIdent`. -/
theorem scanIdentClean_eq (s : Str) : scanIdentClean lU dU s = scanIdent lU dU s := by
  show (obs (scanFirst lU dU s) s && !(scanFirst lU dU s).err) = obs (scanFirst lU dU s) s
  cases ho : obs (scanFirst lU dU s) s with
  | false => rfl
  | true =>
    suffices h : (scanFirst lU dU s).err = false by rw [h]; rfl
    cases s with
    | nil => cases ho
    | cons c cs =>
      rcases scanFirst_cases lU dU c cs with ⟨_, ho'⟩ | ⟨_, _, he⟩
      · rw [ho'] at ho; cases ho
      rw [he] at ho ⊢
      obtain ⟨e, hn⟩ := scanAt_err lU dU hL1 hL2 hD1 hD2 _ _ ho
      simp only [nextErr, Bool.or_eq_false_iff] at hn
      rw [e, hn.1.1, hn.1.2]
      rfl

end clean

theorem ident_agree_clean (hL1 : lU 0xFFFD = false) (hL2 : lU 0xFEFF = false)
    (hD1 : dU 0xFFFD = false) (hD2 : dU 0xFEFF = false)
    (hdisj : ∀ c, 128 ≤ c → lU c = true → dU c = false) (s : Str) :
    scanIdentClean lU dU s = isValidIdent lU dU s := by
  rw [scanIdentClean_eq lU dU hL1 hL2 hD1 hD2, ident_agree lU dU hD1 hL2 hdisj]

/-! ### tests (evaluation on samples; NOT the property) and tightness of the side conditions -/

-- "#a", "_#a", "__", "$1", "_", "#", "é" are identifiers for both (233 = é is the only non-ASCII letter)
example : ([[35, 97], [95, 35, 97], [95, 95], [36, 49], [95], [35], [233]].all fun s =>
    scanIdent (· == 233) (· == 0x663) s && isValidIdent (· == 233) (· == 0x663) s) = true := by
  decide
-- "#1", "_#1", "__#", "_|_", "##", "a#", "1a", "٣", " a", "" are not, for both
example : ([[35, 49], [95, 35, 49], [95, 95, 35], [95, 124, 95], [35, 35], [97, 35], [49, 97],
    [0x663], [32, 97], []].all fun s =>
    !scanIdent (· == 233) (· == 0x663) s && !isValidIdent (· == 233) (· == 0x663) s) = true := by
  decide
-- `hFFFD` is needed: if U+FFFD were a digit, `IsValidIdent("#")` would be false
example : scanIdent (fun _ => false) (· == 0xFFFD) [35] ≠
    isValidIdent (fun _ => false) (· == 0xFFFD) [35] := by decide
-- `hBOM` is needed: if U+FEFF were a letter, `IsValidIdent("\uFEFF")` would be true
example : scanIdent (· == 0xFEFF) (fun _ => false) [0xFEFF] ≠
    isValidIdent (· == 0xFEFF) (fun _ => false) [0xFEFF] := by decide
-- `hdisj` is needed: a rune that is both letter and digit is lexed as an identifier
example : scanIdent (· == 233) (· == 233) [233] ≠ isValidIdent (· == 233) (· == 233) [233] := by
  decide

end CueVerif.Ident
