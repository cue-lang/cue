/-
Proofs for the intern-table model (Model/Intern.lean).  Growth of `labels` needs no
invariant; uniqueness, results, consistency and the linearization points are read off `Inv`
(Proofs/InternInv.lean); `IndexToString` of an existing entry has an invariant of its own.
-/
import CueVerif.Model.Intern
import CueVerif.Proofs.LocksetMutex
import CueVerif.Proofs.InternInv
namespace CueVerif.Intern
open CueVerif.Lockset

theorem progs_wellLocked : ∀ p ∈ progs, wellLocked guard true p = true := by
  decide

theorem step_grows {s s' : State} (hs : IStep s s') :
    ∃ ext, s'.data.labels = s.data.labels ++ ext := by
  cases hs with
  | spawn p hp l0 hl => exact ⟨[], by simp⟩
  | thread a t ha d' t' hn =>
    exact (next_frame hn).grows

theorem steps_grows {s s' : State} (hs : Steps sem progs initL s s') :
    ∃ ext, s'.data.labels = s.data.labels ++ ext := by
  induction hs with
  | refl => exact ⟨[], by simp⟩
  | step _ h ih =>
    obtain ⟨e1, h1⟩ := ih
    obtain ⟨e2, h2⟩ := step_grows h
    exact ⟨e1 ++ e2, by rw [h2, h1, List.append_assoc]⟩

theorem never_reassigned {s s' : State} (hs : Steps sem progs initL s s') {i : Nat} {k : Key}
    (h : s.data.labels[i]? = some k) : s'.data.labels[i]? = some k := by
  obtain ⟨ext, he⟩ := steps_grows hs
  rw [he]; exact get_of_grows h

theorem nodup (d0 : Tab) (hc : Consistent d0) (s : State)
    (hr : IRun d0 s) : s.data.labels.Nodup :=
  (Inv_run hc hr).labels_nodup

theorem result (d0 : Tab) (hc : Consistent d0) (s : State)
    (hr : IRun d0 s) (t : Th Loc) (ht : t ∈ s.ths)
    (hp : t.prog = getKeyProg) (hd : t.st = .done) :
    s.data.labels[t.loc.p]? = some t.loc.s :=
  (GK_done ((Inv_run hc hr).call_ok t ht hp) hd).1

theorem injective (d0 : Tab) (hc : Consistent d0) (s : State)
    (hr : IRun d0 s) (t u : Th Loc) (ht : t ∈ s.ths) (hu : u ∈ s.ths)
    (hpt : t.prog = getKeyProg) (hpu : u.prog = getKeyProg)
    (hdt : t.st = .done) (hdu : u.st = .done) :
    t.loc.s = u.loc.s ↔ t.loc.p = u.loc.p := by
  have h1 := result d0 hc s hr t ht hpt hdt
  have h2 := result d0 hc s hr u hu hpu hdu
  constructor
  · intro h
    rw [h] at h1
    exact nodup_get_inj (nodup d0 hc s hr) h1 h2
  · intro h
    rw [h, h2] at h1
    exact (Option.some.inj h1).symm

theorem consistent_quiescent (d0 : Tab) (hc : Consistent d0) (s : State)
    (hr : IRun d0 s) (hq : ∀ t ∈ s.ths, t.held.contains ("mutex", true) = false) :
    Consistent s.data := by
  have inv := Inv_run hc hr
  intro k i
  refine ⟨inv.map_ok k i, fun h => ?_⟩
  rcases inv.entry_ok i k h with h | ⟨j, u, hj, hup, hust, hupc, _, _⟩
  · exact h
  · exfalso
    have hm := List.mem_of_getElem? hj
    -- the call between append and store holds the write lock
    have huW := GK_holdsW (inv.call_ok u hm hup) hust (hupc ▸ by decide)
    rw [← List.contains_iff_mem, hq u hm] at huW
    cases huW

theorem returns_lin (d0 : Tab) (hc : Consistent d0) (s : State)
    (hr : IRun d0 s) (t : Th Loc) (ht : t ∈ s.ths)
    (hp : t.prog = getKeyProg) (hd : t.st = .done) :
    t.loc.lin = some t.loc.p :=
  (GK_done ((Inv_run hc hr).call_ok t ht hp) hd).2

/-- an `IndexToString(i)` call, `k` being entry `i`: it has not read yet, or it has read `k` -/
def NSOk (k : Key) (t : Th Loc) : Prop :=
  (t.st = .run ∧ t.pc ≤ 1 ∧ t.loc.out = none) ∨ t.loc.out = some k

theorem its_at0 : indexToStringProg[0]? = some (.acq "mutex" false) := rfl
theorem its_at1 : indexToStringProg[1]? = some (.acc "labels" .index) := rfl

theorem NSOk_next {fr : Lk → Bool → Bool} {d d' : Tab} {t t' : Th Loc} {k : Key}
    (hp : t.prog = indexToStringProg) (hk : d.labels[t.loc.i]? = some k) (hok : NSOk k t)
    (h : next sem fr d t = some (d', t')) : NSOk k t' := by
  rcases hok with ⟨hst, hpc, hout⟩ | hout
  · obtain ⟨prog, pc, held, dfr, st, loc⟩ := t
    simp only at hp hst hpc hout hk
    subst hp; subst hst
    match pc, hpc, h with
    | 0, _, h =>
      simp only [next, its_at0] at h
      split at h
      · cases h; exact .inl ⟨rfl, Nat.le_refl 1, hout⟩
      · cases h
    | 1, _, h =>
      simp only [next, its_at1, sem_index] at h
      cases h
      exact .inr hk
  · rcases (next_frame h).out with ho | ho
    · exact .inr (ho.trans hout)
    · exact .inr (ho.trans hk)

/-- `n` is the number of threads of the state the steps start from -/
def NSInv (n i : Nat) (k : Key) (s' : State) : Prop :=
  ∀ (j : Nat) (t : Th Loc), n ≤ j → s'.ths[j]? = some t → t.prog = indexToStringProg →
    t.loc.i = i → NSOk k t

theorem NSInv_step {n i : Nat} {k : Key} {s s' : State} (hk : s.data.labels[i]? = some k)
    (ih : NSInv n i k s) (hs : IStep s s') : NSInv n i k s' := by
  cases hs with
  | spawn p hp l0 hl =>
    intro j t hj ht hpt hti
    rcases getElem?_concat_cases ht with ht | ⟨_, rfl⟩
    · exact ih j t hj ht hpt hti
    · exact .inl ⟨rfl, Nat.zero_le 1, hl.2.1⟩
  | thread a u ha d' u' hn =>
    intro j t hj ht hpt hti
    rcases getElem?_set_cases ht with ⟨rfl, rfl⟩ | ⟨_, ht⟩
    · have hpu : u.prog = indexToStringProg := (next_spec hn).1.symm.trans hpt
      have hiu : u.loc.i = i := (next_frame hn).i.symm.trans hti
      exact NSOk_next hpu (by rw [hiu]; exact hk) (ih j u hj ha hpu hiu) hn
    · exact ih j t hj ht hpt hti

theorem steps_NSInv {i : Nat} {k : Key} {s s' : State} (hk : s.data.labels[i]? = some k)
    (hs : Steps sem progs initL s s') : NSInv s.ths.length i k s' := by
  induction hs with
  | refl =>
    intro j t hj ht
    rw [List.getElem?_eq_none hj] at ht
    cases ht
  | step hst h ih => exact NSInv_step (never_reassigned hst hk) ih h

theorem name_stable {s s' : State} {i : Nat} {k : Key} (hk : s.data.labels[i]? = some k)
    (hs : Steps sem progs initL s s')
    {j : Nat} {t : Th Loc} (hj : s.ths.length ≤ j) (ht : s'.ths[j]? = some t)
    (hp : t.prog = indexToStringProg) (hi : t.loc.i = i) (hd : t.st = .done) :
    t.loc.out = some k := by
  rcases steps_NSInv hk hs j t hj ht hp hi with ⟨hst, _, _⟩ | h
  · rw [hd] at hst; cases hst
  · exact h

theorem idxOf_of_get {ls : List Key} (hn : ls.Nodup) {r : Nat} {k : Key}
    (h : ls[r]? = some k) : InternSpec.idxOf? ls k = some r := by
  induction ls generalizing r with
  | nil => simp at h
  | cons x rest ih =>
    rw [List.nodup_cons] at hn
    rw [InternSpec.idxOf?]
    cases r with
    | zero =>
      simp only [List.getElem?_cons_zero, Option.some.injEq] at h
      rw [if_pos h]
    | succ n =>
      simp only [List.getElem?_cons_succ] at h
      have hne : ¬ x = k := fun e => hn.1 (e ▸ List.mem_of_getElem? h)
      rw [if_neg hne, ih hn.2 h]
      rfl

theorem idxOf_none {ls : List Key} {k : Key} (h : k ∉ ls) : InternSpec.idxOf? ls k = none := by
  induction ls with
  | nil => rfl
  | cons x rest ih =>
    rw [List.mem_cons, not_or] at h
    rw [InternSpec.idxOf?, if_neg (fun e => h.1 e.symm), ih h.2]
    rfl

theorem linearizable (d0 : Tab) (hc : Consistent d0)
    (s s' : State) (hr : IRun d0 s) (hst : IStep s s') :
    (∃ t, s'.ths = s.ths ++ [t] ∧ t.loc.lin = none ∧ s'.data = s.data) ∨
    (∃ i t t', s.ths[i]? = some t ∧ s'.ths = s.ths.set i t' ∧
      ((t'.loc.lin = t.loc.lin ∧ s'.data.labels = s.data.labels) ∨
       (t.prog = getKeyProg ∧ t.loc.lin = none ∧ t'.loc.s = t.loc.s ∧
        ∃ r, t'.loc.lin = some r ∧
          InternSpec.intern s.data.labels t.loc.s = (r, s'.data.labels)))) := by
  have inv := Inv_run hc hr
  have hmx := MX_run sem progs initL d0 s hr
  cases hst with
  | spawn p hp l0 hl => exact .inl ⟨Th.new p l0, rfl, hl.2.2, rfl⟩
  | thread a t ha d' t' hn =>
    refine .inr ⟨a, t, t', ha, rfl, ?_⟩
    rcases inv.prog_ok t (List.mem_of_getElem? ha) with hp | hp
    · have so := (Inv_gk inv hmx ha hp hn).2
      rcases so.lin with h | ⟨hl, r, hr', h⟩
      · exact .inl h
      · refine .inr ⟨hp, hl, (next_frame hn).s, r, hr', ?_⟩
        show InternSpec.intern s.data.labels t.loc.s = (r, d'.labels)
        rcases h with ⟨hd, hg⟩ | ⟨rfl, hd, hnin⟩
        · rw [InternSpec.intern, idxOf_of_get inv.labels_nodup hg, hd]
        · rw [InternSpec.intern, idxOf_none hnin, hd]
    · obtain ⟨hd, hl⟩ := its_step hp hn
      exact .inl ⟨hl, by rw [hd]⟩

end CueVerif.Intern
