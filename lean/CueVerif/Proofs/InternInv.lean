/-
Intern-table model (Model/Intern.lean): the global invariant of all reachable states.
-/
import CueVerif.Proofs.InternStep
namespace CueVerif.Intern
open CueVerif.Lockset

theorem consistent_nodup {d : Tab} (hc : Consistent d) : d.labels.Nodup := by
  rw [List.Nodup, List.pairwise_iff_getElem]
  intro i j hi hj hlt heq
  have h := (hc _ i).2 (List.getElem?_eq_getElem hi)
  rw [heq, (hc _ j).2 (List.getElem?_eq_getElem hj)] at h
  cases h
  exact Nat.lt_irrefl _ hlt

/-- entry `i` of `labels` is `k`, appended by a `getKey` call that has not stored it yet -/
def Pending (ths : List (Th Loc)) (k : Key) (i : Nat) : Prop :=
  ∃ (j : Nat) (t : Th Loc), ths[j]? = some t ∧ t.prog = getKeyProg ∧ t.st = .run ∧ t.pc = 12 ∧
    t.loc.s = k ∧ t.loc.p = i

theorem Pending.spawn {ths : List (Th Loc)} {k : Key} {i : Nat} (h : Pending ths k i)
    (x : Th Loc) : Pending (ths ++ [x]) k i := by
  obtain ⟨j, t, hj, rest⟩ := h
  exact ⟨j, t, get_of_grows hj, rest⟩

theorem Pending.set {ths : List (Th Loc)} {k : Key} {i : Nat} (h : Pending ths k i) {a : Nat}
    {t : Th Loc} (ha : ths[a]? = some t)
    (hne : ¬ (t.prog = getKeyProg ∧ t.st = .run ∧ t.pc = 12)) (t' : Th Loc) :
    Pending (ths.set a t') k i := by
  obtain ⟨j, u, hj, hup, hust, hupc, rest⟩ := h
  refine ⟨j, u, ?_, hup, hust, hupc, rest⟩
  have hja : a ≠ j := by
    rintro rfl
    rw [ha] at hj
    cases hj
    exact hne ⟨hup, hust, hupc⟩
  rw [List.getElem?_set_ne hja]; exact hj

structure Inv (s : State) : Prop where
  /-- the map never points outside / to a wrong entry (also in the middle of an insert:
  the append comes before the store) -/
  map_ok : ∀ k i, lookup s.data.map k = some i → s.data.labels[i]? = some k
  /-- every entry of `labels` is in the map, except the one being inserted right now -/
  entry_ok : ∀ i k, s.data.labels[i]? = some k → lookup s.data.map k = some i ∨ Pending s.ths k i
  labels_nodup : s.data.labels.Nodup
  prog_ok : ∀ t ∈ s.ths, t.prog = getKeyProg ∨ t.prog = indexToStringProg
  call_ok : ∀ t ∈ s.ths, t.prog = getKeyProg → GK s.data.labels t

theorem Inv_init {d0 : Tab} (hc : Consistent d0) : Inv { data := d0, ths := [] } where
  map_ok := fun k i h => (hc k i).1 h
  entry_ok := fun i k h => .inl ((hc k i).2 h)
  labels_nodup := consistent_nodup hc
  prog_ok := fun t ht => by cases ht
  call_ok := fun t ht => by cases ht

theorem Inv_spawn {s : State} (ih : Inv s) {p : Prog} (hp : p ∈ progs) {l0 : Loc}
    (hl : initL l0) : Inv { s with ths := s.ths ++ [Th.new p l0] } where
  map_ok := ih.map_ok
  entry_ok := fun i k h => (ih.entry_ok i k h).imp_right fun hp => hp.spawn _
  labels_nodup := ih.labels_nodup
  prog_ok := List.forall_mem_append.2 ⟨ih.prog_ok, List.forall_mem_singleton.2
    (show p = _ ∨ p = _ by simpa only [progs, List.mem_cons, List.not_mem_nil, or_false] using hp)⟩
  call_ok := List.forall_mem_append.2 ⟨ih.call_ok, List.forall_mem_singleton.2
    fun (hpt : p = getKeyProg) => hpt ▸ GK_new hl⟩

/-- a step that leaves the table alone, and is not the store that ends a pending insert -/
theorem Inv.quiet {s : State} (ih : Inv s) {a : Nat} {t t' : Th Loc} (ha : s.ths[a]? = some t)
    (hne : ¬ (t.prog = getKeyProg ∧ t.st = .run ∧ t.pc = 12))
    (hp' : t'.prog = getKeyProg ∨ t'.prog = indexToStringProg)
    (hok : t'.prog = getKeyProg → GK s.data.labels t') :
    Inv { data := s.data, ths := s.ths.set a t' } :=
  ⟨ih.map_ok, fun i k h => (ih.entry_ok i k h).imp_right (·.set ha hne t'), ih.labels_nodup,
    forall_mem_set ih.prog_ok hp' a, forall_mem_set ih.call_ok hok a⟩

theorem Inv_its {s : State} (ih : Inv s) {a : Nat} {t t' : Th Loc} {d' : Tab}
    (ha : s.ths[a]? = some t) (hp : t.prog = indexToStringProg)
    (hn : next sem (free s.ths) s.data t = some (d', t')) :
    Inv { data := d', ths := s.ths.set a t' } := by
  obtain ⟨rfl, _⟩ := its_step hp hn
  have hp' : t'.prog = indexToStringProg := (next_spec hn).1.trans hp
  exact ih.quiet ha (fun h => progs_ne (h.1.symm.trans hp)) (.inr hp')
    fun hup => absurd (hup.symm.trans hp') progs_ne

theorem other_not_W {s : State} (hmx : MX s) {a b : Nat} {t u : Th Loc}
    (ha : s.ths[a]? = some t) (hb : s.ths[b]? = some u) (hba : b ≠ a)
    (hW : ("mutex", true) ∈ t.held) : ("mutex", true) ∉ u.held :=
  hmx a b t u "mutex" true (fun h => hba h.symm) ha hb hW

/-- a thread that holds the write lock while an entry is pending is the one that appended it -/
theorem Inv.pending_eq {s : State} (ih : Inv s) (hmx : MX s) {a : Nat} {t : Th Loc}
    (ha : s.ths[a]? = some t) (hW : ("mutex", true) ∈ t.held) {k : Key} {i : Nat}
    (h : Pending s.ths k i) : t.pc = 12 ∧ t.loc.s = k := by
  obtain ⟨j, u, hj, hup, hust, hupc, hus, _⟩ := h
  by_cases hja : j = a
  · subst hja
    rw [ha] at hj
    cases hj
    exact ⟨hupc, hus⟩
  · exact absurd (GK_holdsW (ih.call_ok u (List.mem_of_getElem? hj) hup) hust (hupc ▸ by decide))
      (other_not_W hmx ha hj hja hW)

theorem Inv_notin {s : State} (ih : Inv s) (hmx : MX s) {a : Nat} {t : Th Loc}
    (ha : s.ths[a]? = some t) (hp : t.prog = getKeyProg)
    (hst : t.st = .run) (hpc : t.pc = 7) (hl : lookup s.data.map t.loc.s = none) :
    t.loc.s ∉ s.data.labels := by
  intro hmem
  obtain ⟨i, hi⟩ := List.getElem?_of_mem hmem
  rcases ih.entry_ok i _ hi with h | hpd
  · rw [hl] at h; cases h
  · have hW := GK_holdsW (ih.call_ok t (List.mem_of_getElem? ha) hp) hst (hpc ▸ by decide)
    -- the owner of the pending entry stands at the store (12), this thread at the lookup (7)
    exact absurd (hpc.symm.trans (ih.pending_eq hmx ha hW hpd).1) (by decide)

theorem Inv_gk {s : State} (ih : Inv s) (hmx : MX s) {a : Nat} {t t' : Th Loc} {d' : Tab}
    (ha : s.ths[a]? = some t) (hp : t.prog = getKeyProg)
    (hn : next sem (free s.ths) s.data t = some (d', t')) :
    Inv { data := d', ths := s.ths.set a t' } ∧ StepOut s.data t d' t' := by
  have hlt : a < s.ths.length := (List.getElem?_eq_some_iff.1 ha).1
  have so : StepOut s.data t d' t' :=
    gk_step hp (ih.call_ok t (List.mem_of_getElem? ha) hp) ih.map_ok
      (Inv_notin ih hmx ha hp) hn
  refine ⟨?_, so⟩
  have hp' : t'.prog = getKeyProg := (next_spec hn).1.trans hp
  have hP := forall_mem_set ih.prog_ok (.inl hp') a
  have hW := GK_holdsW (ih.call_ok t (List.mem_of_getElem? ha) hp)
  rcases so.data with ⟨rfl, hne⟩ | ⟨hst, hpc, hnin, rfl, hst', hpc', hp12⟩ |
      ⟨hst, hpc, hget, rfl⟩
  · exact ih.quiet ha (fun h => hne h.2) (.inl hp') fun _ => so.ok
  · -- append
    refine ⟨?_, ?_, ?_, hP, ?_⟩
    · exact fun k i h => get_of_grows (ih.map_ok k i h)
    · intro i k h
      rcases getElem?_concat_cases h with h | ⟨rfl, rfl⟩
      · exact (ih.entry_ok i k h).imp_right fun hpd => hpd.set ha (fun h => absurd (hpc.symm.trans h.2.2) (by decide)) t'
      · exact .inr ⟨a, t', List.getElem?_set_self hlt, hp', hst', hpc', (next_frame hn).s, hp12⟩
    · show (s.data.labels ++ [t.loc.s]).Nodup
      exact List.nodup_append.2 ⟨ih.labels_nodup, List.pairwise_singleton _ _,
        fun x hx y hy e => hnin (List.mem_singleton.1 hy ▸ e ▸ hx)⟩
    · intro u hu hup
      rcases mem_set_cases hu with rfl | ⟨b, hba, hb⟩
      · exact so.ok
      · exact GK_stable [t.loc.s] (ih.call_ok u (List.mem_of_getElem? hb) hup)
          (other_not_W hmx ha hb hba (hW hst (hpc ▸ by decide)))
  · -- store
    refine ⟨?_, ?_, ih.labels_nodup, hP, forall_mem_set ih.call_ok (fun _ => so.ok) a⟩
    · intro k i h
      rw [lookup] at h
      split at h
      · next hk => cases h; rw [← hk]; exact hget
      · exact ih.map_ok k i h
    · intro i k h
      rw [lookup]
      by_cases hk : t.loc.s = k
      · left
        rw [if_pos hk]
        subst hk
        rw [nodup_get_inj ih.labels_nodup hget h]
      · rw [if_neg hk]
        exact (ih.entry_ok i k h).imp_right fun hpd => absurd (ih.pending_eq hmx ha (hW hst (hpc ▸ by decide)) hpd).2 hk

theorem Inv_step {s s' : State} (ih : Inv s) (hmx : MX s) (hs : IStep s s') : Inv s' := by
  cases hs with
  | spawn p hp l0 hl => exact Inv_spawn ih hp hl
  | thread a t ha d' t' hn =>
    rcases ih.prog_ok t (List.mem_of_getElem? ha) with hp | hp
    · exact (Inv_gk ih hmx ha hp hn).1
    · exact Inv_its ih ha hp hn

theorem Inv_run {d0 : Tab} (hc : Consistent d0) {s : State} (hr : IRun d0 s) : Inv s := by
  induction hr with
  | init => exact Inv_init hc
  | step hr hs ih => exact Inv_step ih (MX_run sem progs initL d0 _ hr) hs

end CueVerif.Intern
