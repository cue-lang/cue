/-
C10 helper lemmas: the string a well-formed, well-paired RFC 8259 string token denotes is a
valid UTF-8 byte string (a sequence of encoded Unicode scalar values).  Core Lean only.
-/
import CueVerif.Proofs.JsonString
namespace CueVerif.Json
open CueVerif CueVerif.Quote

def GoodStr (s : Bytes) : Prop := IsBytes s ∧ validUTF8 s = true

theorem goodStr_nil : GoodStr [] := by
  refine ⟨?_, ?_⟩
  · intro b hb; simp at hb
  · simp [validUTF8]

theorem goodStr_rune (r : Nat) (h1 : r ≤ 0x10FFFF) (h2 : ¬ (0xD800 ≤ r ∧ r < 0xE000)) (t : Bytes)
    (ht : GoodStr t) : GoodStr (encodeRune r ++ t) := by
  by_cases h80 : r < 0x80
  · rw [encodeRune_ascii r h80]
    refine ⟨?_, ?_⟩
    · intro b hb
      simp only [List.cons_append, List.nil_append, List.mem_cons] at hb
      rcases hb with rfl | hb
      · omega
      · exact ht.1 b hb
    · show validUTF8 (r :: t) = true
      rw [validUTF8]
      have : ¬ (0x80 ≤ r) := by omega
      simp [decodeFirst, h80, this, ht.2]
  · obtain ⟨c, cs, he, hcs, hb, hdec⟩ := encodeRune_multi (by omega) h1 h2
    obtain ⟨hd', -⟩ := hdec t
    rw [he]
    refine ⟨?_, ?_⟩
    · intro b hb'
      rcases List.mem_append.mp hb' with h | h
      · exact (hb b h).2
      · exact ht.1 b h
    · have hc := (hb c (List.mem_cons_self ..)).1
      show validUTF8 (c :: (cs ++ t)) = true
      rw [validUTF8]
      have hnc : ¬ c < 0x80 := by omega
      simp only [decodeFirst, hnc, if_false, hd', Nat.add_sub_cancel, List.drop_left]
      simp [hcs, ht.2]

theorem goodStr_ascii (b : Nat) (hb : b < 0x80) (t : Bytes) (ht : GoodStr t) : GoodStr (b :: t) := by
  have := goodStr_rune b (by omega) (by omega) t ht
  rwa [encodeRune_ascii b hb] at this

/-- the denotation of a well-formed, well-paired token is valid UTF-8 -/
theorem denote_good : ∀ items : List JItem, wellPaired items = true → WfItems items → GoodStr (denote items) := by
  apply wellPaired_induct
  case nil => intro _; simpa [denote] using goodStr_nil
  case raw =>
    intro r t ih hwf
    have hw := raw_wf hwf.head
    simp only [denote]
    exact goodStr_rune r hw.1 hw.2.1 _ (ih hwf.tail)
  case esc =>
    intro e t ih hwf
    simp only [denote]
    exact goodStr_ascii e.value (by cases e <;> decide) _ (ih hwf.tail)
  case single =>
    intro a b c d t hh hl ih hwf
    have hv := (hexVal_u a b c d hwf.head).2
    have hnh : ¬ (0xD800 ≤ uVal a b c d ∧ uVal a b c d < 0xDC00) := fun h => by
      rw [(high_iff _).mpr h] at hh; cases hh
    have hnl : ¬ (0xDC00 ≤ uVal a b c d ∧ uVal a b c d < 0xE000) := fun h => by
      rw [(low_iff _).mpr h] at hl; cases hl
    rw [denote_u_notHigh a b c d t hh]
    exact goodStr_rune _ (by omega) (by omega) _ (ih hwf.tail)
  case pair =>
    intro a b c d a' b' c' d' t hh hl ih hwf
    have h1 := (high_iff _).mp hh
    have h2 := (low_iff _).mp hl
    have hc : combine (uVal a b c d) (uVal a' b' c' d') =
        0x10000 + (uVal a b c d - 0xD800) * 0x400 + (uVal a' b' c' d' - 0xDC00) := rfl
    rw [denote_u_pair a b c d a' b' c' d' t hh hl]
    exact goodStr_rune _ (by omega) (by omega) _ (ih hwf.tail.tail)

end CueVerif.Json
