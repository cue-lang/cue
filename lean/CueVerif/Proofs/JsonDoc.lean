/-
C10, document level: the reference parser of Spec/JsonDoc.lean reads back what the model of
`Value.appendJSON` (Model/JsonDoc.lean) writes as exactly `dataOf` of the tree: mutual structural
induction over the value tree, in front of every `rest` that cannot continue a number (`numStop`)
and for every fuel above the length written.  Core Lean only.
-/
import CueVerif.Model.JsonDoc
import CueVerif.Proofs.JsonDocTok
namespace CueVerif.Json
open CueVerif CueVerif.Quote

/-- the first byte of a JSON value -/
def valStart (c : Nat) : Bool :=
  c == 0x6E || c == 0x74 || c == 0x66 || c == 0x2D || isDigit c || c == 0x22 || c == 0x5B || c == 0x7B

theorem valStart_facts {c : Nat} (h : valStart c = true) :
    isWs c = false ∧ c ≠ 0x5D ∧ c ≠ 0x7D ∧ c ≠ 0x2C ∧ c ≠ 0x3A := by
  simp only [valStart, isDigit, Bool.or_eq_true, beq_iff_eq, Bool.and_eq_true, decide_eq_true_eq] at h
  simp only [isWs, Bool.or_eq_false_iff, beq_eq_false_iff_ne]
  omega

theorem skipWs_cons {c : Nat} (t : Bytes) (h : isWs c = false) : skipWs (c :: t) = c :: t := by
  simp [skipWs, h]


theorem jnum_text_head (n : JNum) (hwf : n.wf = true) :
    ∃ c t, n.text = c :: t ∧ (c = 0x2D ∨ (48 ≤ c ∧ c ≤ 57)) := by
  obtain ⟨hne, hall, -, -, -⟩ := (jnum_wf_iff n).mp hwf
  obtain ⟨neg, int, frac, exp⟩ := n
  simp only at hne hall
  cases int with
  | nil => exact absurd rfl hne
  | cons d ds =>
    have hd := (allDigits_cons.mp hall).1
    cases neg
    · exact ⟨d, _, by simp [JNum.text, JNum.utext]; rfl, Or.inr hd⟩
    · exact ⟨0x2D, _, by simp [JNum.text, JNum.utext]; rfl, Or.inl rfl⟩

theorem appendJSON_head (v : MVal) : ∃ c t, appendJSON v = c :: t ∧ valStart c = true := by
  cases v with
  | null => exact ⟨0x6E, [0x75, 0x6C, 0x6C], by simp only [appendJSON], by decide⟩
  | bool b =>
    cases b
    · exact ⟨0x66, [0x61, 0x6C, 0x73, 0x65], by simp [appendJSON], by decide⟩
    · exact ⟨0x74, [0x72, 0x75, 0x65], by simp [appendJSON], by decide⟩
  | num neg coeff exp =>
    obtain ⟨n, hwf, htext, -⟩ := number_out neg coeff exp
    obtain ⟨c, t, h1, h2⟩ := jnum_text_head n hwf
    refine ⟨c, t, by simp only [appendJSON, htext, h1], ?_⟩
    simp only [valStart, isDigit, Bool.or_eq_true, beq_iff_eq, Bool.and_eq_true, decide_eq_true_eq]
    omega
  | str s => exact ⟨0x22, escapeLoop s ++ [0x22], by simp only [appendJSON, jsonEscape], by decide⟩
  | list es => exact ⟨0x5B, appendElems es ++ [0x5D], by simp only [appendJSON], by decide⟩
  | struct fs => exact ⟨0x7B, appendFields fs ++ [0x7D], by simp only [appendJSON], by decide⟩

theorem pValue_num (f : Nat) (c : Nat) (t : Bytes) (hc : c = 0x2D ∨ (48 ≤ c ∧ c ≤ 57)) :
    pValue (f + 1) (c :: t) =
      (pNumber (c :: t)).map fun p => (JVal.num p.1.neg p.1.coeff p.1.exponent, p.2) := by
  have hne : c ≠ 0x5B ∧ c ≠ 0x7B ∧ c ≠ 0x6E ∧ c ≠ 0x74 ∧ c ≠ 0x66 ∧ c ≠ 0x22 := by omega
  simp only [pValue_succ, pScalar, beq_iff_eq, hne, if_false]

theorem numStop_of_ne {c : Nat} (t : Bytes) (h : isNumChar c = false) : numStop (c :: t) = true := by
  simp [numStop, h]

theorem skipWs_appendJSON (v : MVal) (t : Bytes) : skipWs (appendJSON v ++ t) = appendJSON v ++ t := by
  obtain ⟨c, t', h, hc⟩ := appendJSON_head v
  rw [h]; exact skipWs_cons _ (valStart_facts hc).1

theorem appendElems_cons (e : MVal) (es : List MVal) :
    appendElems (e :: es) = appendJSON e ++ (if es.isEmpty then [] else 0x2C :: appendElems es) := by
  rw [appendElems]

theorem appendFields_cons (k : Bytes) (v : MVal) (fs : List (Bytes × MVal)) :
    appendFields ((k, v) :: fs) = 0x22 :: (escapeLoop k ++ 0x22 :: 0x3A ::
      (appendJSON v ++ (if fs.isEmpty then [] else 0x2C :: appendFields fs))) := by
  rw [appendFields]
  simp only [jsonEscape, List.cons_append, List.append_assoc, List.nil_append]

theorem pMember_append {val : Bytes → Option (JVal × Bytes)} (k : Bytes) (hk : IsBytes k ∧ validUTF8 k = true)
    (v : MVal) (t : Bytes) (d : JVal) (hv : val (appendJSON v ++ t) = some (d, t)) :
    pMember pString val (0x22 :: (escapeLoop k ++ 0x22 :: 0x3A :: (appendJSON v ++ t))) = some ((k, d), t) :=
  pMember_some.mpr ⟨_, k, _, _, d, t, rfl, pString_escape k hk.2 _, skipWs_cons _ (by decide),
    by rw [skipWs_appendJSON]; exact hv, rfl⟩

mutual
theorem pValue_append : ∀ (v : MVal), v.WF → ∀ (rest : Bytes), numStop rest = true →
    ∀ fuel, (appendJSON v).length < fuel → pValue fuel (appendJSON v ++ rest) = some (dataOf v, rest)
  | _, _, _, _, 0, hf => absurd hf (Nat.not_lt_zero _)
  | .null, _, rest, _, f + 1, hf => by
    simp [appendJSON, pValue_succ, pScalar, dataOf]
  | .bool b, _, rest, _, f + 1, hf => by
    cases b <;> simp [appendJSON, pValue_succ, pScalar, dataOf]
  | .num neg coeff exp, _, rest, hs, f + 1, hf => by
    obtain ⟨n, hwf, htext, h1, h2, h3⟩ := number_out neg coeff exp
    obtain ⟨c, t, hct, hc⟩ := jnum_text_head n hwf
    have hp := pNumber_text n hwf rest hs
    simp only [appendJSON, htext, dataOf]
    rw [hct, List.cons_append, pValue_num f c _ hc, ← List.cons_append, ← hct, hp]
    simp [h1, h2, h3]
  | .str s, hwf, rest, _, f + 1, hf => by
    simp only [MVal.WF] at hwf
    have hp := pString_escape s hwf.2 rest
    simp only [appendJSON, jsonEscape, dataOf, List.cons_append, List.append_assoc, List.nil_append] at hp ⊢
    simp [pValue_succ, pScalar, hp]
  | .list es, hwf, rest, _, f + 1, hf => by
    simp only [MVal.WF] at hwf
    simp only [appendJSON, List.length_cons, List.length_append, List.length_nil] at hf
    simp only [appendJSON, dataOf, List.cons_append, List.append_assoc, List.nil_append]
    show pBracket 0x5D JVal.arr (pElems f) _ = _
    cases es with
    | nil => exact pBracket_some.mpr ⟨_, _, skipWs_cons rest (by decide), .inl ⟨rfl, rfl⟩⟩
    | cons e es =>
      have ih := pElems_append (e :: es) (by simp) hwf rest f (by omega)
      obtain ⟨c, t, hct, hc⟩ := appendJSON_head e
      rw [appendElems_cons, hct, List.cons_append, List.cons_append] at ih ⊢
      exact pBracket_some.mpr ⟨c, _, skipWs_cons _ (valStart_facts hc).1,
        .inr ⟨(valStart_facts hc).2.1, _, _, ih, rfl⟩⟩
  | .struct fs, hwf, rest, _, f + 1, hf => by
    simp only [MVal.WF] at hwf
    simp only [appendJSON, List.length_cons, List.length_append, List.length_nil] at hf
    simp only [appendJSON, dataOf, List.cons_append, List.append_assoc, List.nil_append]
    show pBracket 0x7D JVal.obj (pMembers f) _ = _
    cases fs with
    | nil => exact pBracket_some.mpr ⟨_, _, skipWs_cons rest (by decide), .inl ⟨rfl, rfl⟩⟩
    | cons p fs =>
      have ih := pMembers_append (p :: fs) (by simp) hwf rest f (by omega)
      rw [appendFields_cons, List.cons_append] at ih ⊢
      exact pBracket_some.mpr ⟨0x22, _, skipWs_cons _ (by decide), .inr ⟨by decide, _, _, ih, rfl⟩⟩
theorem pElems_append : ∀ (es : List MVal), es ≠ [] → MVal.WFList es → ∀ (rest : Bytes),
    ∀ fuel, (appendElems es).length + 1 < fuel →
      pElems fuel (appendElems es ++ 0x5D :: rest) = some (dataOfList es, rest)
  | _, _, _, _, 0, hf => absurd hf (Nat.not_lt_zero _)
  | [], hne, _, _, _, _ => absurd rfl hne
  | [e], _, hwf, rest, f + 1, hf => by
    simp only [MVal.WFList] at hwf
    rw [appendElems_cons] at hf ⊢
    simp only [List.isEmpty_nil, if_true, List.append_nil] at hf ⊢
    have hv := pValue_append e hwf.1 (0x5D :: rest) (numStop_of_ne _ (by decide)) f (by omega)
    rw [pElems_succ]
    exact pList_some.mpr ⟨_, _, _, _, hv, skipWs_cons rest (by decide), .inr ⟨by decide, rfl, rfl⟩⟩
  | e :: e' :: es, _, hwf, rest, f + 1, hf => by
    simp only [MVal.WFList] at hwf
    rw [appendElems_cons] at hf ⊢
    simp only [List.isEmpty_cons, Bool.false_eq_true, if_false, List.length_append, List.length_cons,
      List.append_assoc, List.cons_append] at hf ⊢
    have hv := pValue_append e hwf.1 (0x2C :: (appendElems (e' :: es) ++ 0x5D :: rest))
      (numStop_of_ne _ (by decide)) f (by omega)
    have ih := pElems_append (e' :: es) (by simp) hwf.2 rest f (by omega)
    rw [pElems_succ]
    refine pList_some.mpr ⟨_, _, _, _, hv, skipWs_cons _ (by decide), .inl ⟨rfl, _, _, ?_, rfl⟩⟩
    rw [appendElems_cons, List.append_assoc, skipWs_appendJSON, ← List.append_assoc, ← appendElems_cons]
    exact ih
theorem pMembers_append : ∀ (fs : List (Bytes × MVal)), fs ≠ [] → MVal.WFFields fs → ∀ (rest : Bytes),
    ∀ fuel, (appendFields fs).length + 1 < fuel →
      pMembers fuel (appendFields fs ++ 0x7D :: rest) = some (dataOfFields fs, rest)
  | _, _, _, _, 0, hf => absurd hf (Nat.not_lt_zero _)
  | [], hne, _, _, _, _ => absurd rfl hne
  | [(k, v)], _, hwf, rest, f + 1, hf => by
    simp only [MVal.WFFields] at hwf
    rw [appendFields_cons] at hf ⊢
    simp only [List.append_nil, List.length_cons, List.length_append, List.isEmpty_nil, if_true,
      List.cons_append, List.append_assoc] at hf ⊢
    have hv := pValue_append v hwf.2.1 (0x7D :: rest) (numStop_of_ne _ (by decide)) f (by omega)
    rw [pMembers_succ]
    exact pList_some.mpr ⟨_, _, _, _, pMember_append k hwf.1 v _ _ hv, skipWs_cons rest (by decide),
      .inr ⟨by decide, rfl, rfl⟩⟩
  | (k, v) :: p :: fs, _, hwf, rest, f + 1, hf => by
    simp only [MVal.WFFields] at hwf
    rw [appendFields_cons] at hf ⊢
    simp only [List.length_cons, List.length_append, List.isEmpty_cons, Bool.false_eq_true, if_false,
      List.cons_append, List.append_assoc] at hf ⊢
    have hv := pValue_append v hwf.2.1 (0x2C :: (appendFields (p :: fs) ++ 0x7D :: rest))
      (numStop_of_ne _ (by decide)) f (by omega)
    have ih := pMembers_append (p :: fs) (by simp) hwf.2.2 rest f (by omega)
    rw [pMembers_succ]
    refine pList_some.mpr ⟨_, _, _, _, pMember_append k hwf.1 v _ _ hv, skipWs_cons _ (by decide),
      .inl ⟨rfl, _, _, ?_, rfl⟩⟩
    obtain ⟨k', v'⟩ := p
    rw [appendFields_cons, List.cons_append, skipWs_cons (c := 0x22) _ (by decide), ← List.cons_append,
      ← appendFields_cons]; exact ih
end

theorem doc_roundtrip (v : MVal) (hwf : v.WF) : parseJSON (appendJSON v) = some (dataOf v) := by
  have h := pValue_append v hwf [] rfl ((appendJSON v).length + 1) (by omega)
  rw [List.append_nil] at h
  have hsk : skipWs (appendJSON v) = appendJSON v := by simpa using skipWs_appendJSON v []
  have hnil : skipWs ([] : Bytes) = [] := rfl
  simp [parseJSON, hsk, h, hnil]

theorem doc_prefix (v : MVal) (hwf : v.WF) (rest : Bytes) (hs : numStop rest = true) :
    pValue ((appendJSON v ++ rest).length + 1) (appendJSON v ++ rest) = some (dataOf v, rest) :=
  pValue_append v hwf rest hs _ (by simp only [List.length_append]; omega)

theorem number_out_parsed (neg : Bool) (coeff : Nat) (exp : Int) :
    parseJSON (fmtG neg coeff exp) = some (.num neg coeff exp) := by
  have := doc_roundtrip (.num neg coeff exp) (by simp [MVal.WF])
  simpa [appendJSON, dataOf] using this

theorem string_out_parsed (s : Bytes) (hb : IsBytes s) (hv : validUTF8 s = true) :
    parseJSON (jsonEscape s) = some (.str s) := by
  have := doc_roundtrip (.str s) (by simp [MVal.WF, hb, hv])
  simpa [appendJSON, dataOf] using this

theorem doc_head (v : MVal) : ∃ c t, appendJSON v = c :: t ∧ valStart c = true := appendJSON_head v

end CueVerif.Json
