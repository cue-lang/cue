/-
C10 helper lemmas: `Value.appendJSON` with its error branches (Model/JsonDocErr.lean).
Core Lean only.
-/
import CueVerif.Model.JsonDocErr
import CueVerif.Proofs.JsonDoc
import CueVerif.Proofs.JsonDenote
namespace CueVerif.Json
open CueVerif CueVerif.Quote

theorem b64Char_safe (i : Nat) : b64Char i < 0x80 ∧ safeAscii (b64Char i) = true := by
  unfold b64Char safeAscii
  repeat' split
  all_goals simp only [Bool.and_eq_true, decide_eq_true_eq, bne_iff_ne, ne_eq, beq_iff_eq] at *
  all_goals omega

def SafeAscii (s : Bytes) : Prop := ∀ c ∈ s, c < 0x80 ∧ safeAscii c = true

theorem base64_safe (b : Bytes) : SafeAscii (base64Std b) := by
  have heq : (0x3D : Nat) < 0x80 ∧ safeAscii 0x3D = true := by decide
  fun_induction base64Std b with
  | case1 => exact nofun
  | case2 a =>
    simp only [SafeAscii, List.forall_mem_cons]
    exact ⟨b64Char_safe _, b64Char_safe _, heq, heq, nofun⟩
  | case3 a b' =>
    simp only [SafeAscii, List.forall_mem_cons]
    exact ⟨b64Char_safe _, b64Char_safe _, b64Char_safe _, heq, nofun⟩
  | case4 a b' c' rest ih =>
    simp only [SafeAscii, List.forall_mem_cons]
    exact ⟨b64Char_safe _, b64Char_safe _, b64Char_safe _, b64Char_safe _, ih⟩

theorem escapeLoop_safe : ∀ (s : Bytes), SafeAscii s → escapeLoop s = s
  | [], _ => by simp [escapeLoop]
  | c :: t, h => by
    obtain ⟨hc, ht⟩ := List.forall_mem_cons.mp h
    rw [escapeLoop]
    simp [hc.1, hc.2, escapeLoop_safe t ht]

theorem safe_good : ∀ (s : Bytes), SafeAscii s → GoodStr s
  | [], _ => goodStr_nil
  | c :: t, h =>
    have ⟨hc, ht⟩ := List.forall_mem_cons.mp h
    goodStr_ascii c hc.1 t (safe_good t ht)

/-- `json.Marshal([]byte)` writes what the string encoder would write for the base64 text -/
theorem bytes_as_string (b : Bytes) : 0x22 :: (base64Std b ++ [0x22]) = jsonEscape (base64Std b) := by
  simp only [jsonEscape, escapeLoop_safe _ (base64_safe b)]

theorem toMList_isEmpty : ∀ {es : List EVal} {ms : List MVal}, EVal.toMList es = some ms → ms.isEmpty = es.isEmpty
  | [], _, h => by cases h; rfl
  | e :: es, ms, h => by
    simp only [EVal.toMList] at h
    split at h
    · cases h; rfl
    · cases h

theorem toMFields_isEmpty : ∀ {fs : List (Bytes × EVal)} {ms : List (Bytes × MVal)},
    EVal.toMFields fs = some ms → ms.isEmpty = fs.isEmpty
  | [], _, h => by cases h; rfl
  | (k, v) :: fs, ms, h => by
    simp only [EVal.toMFields] at h
    split at h
    · cases h; rfl
    · cases h

mutual
theorem appendE_toM : ∀ (v : EVal) (m : MVal), v.toM = some m → appendJSONE v = some (appendJSON m)
  | .null, m, h | .bool _, m, h | .num (.finite _ _ _), m, h | .str _, m, h => by cases h; rfl
  | .num (.nan _), m, h | .num (.inf _), m, h | .incomplete, m, h | .bottom, m, h => by cases h
  | .bytes b, m, h => by
    cases h
    simp only [appendJSONE, appendJSON, bytes_as_string]
  | .list es, m, h => by
    simp only [EVal.toM] at h
    obtain ⟨ms, hl, rfl⟩ := Option.map_eq_some_iff.mp h
    simp only [appendJSONE, appendElemsE_toM es ms hl, appendJSON]
  | .struct fs, m, h => by
    simp only [EVal.toM] at h
    obtain ⟨ms, hl, rfl⟩ := Option.map_eq_some_iff.mp h
    simp only [appendJSONE, appendFieldsE_toM fs ms hl, appendJSON]
theorem appendElemsE_toM : ∀ (es : List EVal) (ms : List MVal), EVal.toMList es = some ms →
    appendElemsE es = some (appendElems ms)
  | [], ms, h => by cases h; rfl
  | e :: es, ms, h => by
    simp only [EVal.toMList] at h
    split at h
    · next a as he hl =>
      cases h
      simp only [appendElemsE, appendE_toM e a he, appendElemsE_toM es as hl, appendElems, toMList_isEmpty hl]
      split <;> simp
    · cases h
theorem appendFieldsE_toM : ∀ (fs : List (Bytes × EVal)) (ms : List (Bytes × MVal)),
    EVal.toMFields fs = some ms → appendFieldsE fs = some (appendFields ms)
  | [], ms, h => by cases h; rfl
  | (k, v) :: fs, ms, h => by
    simp only [EVal.toMFields] at h
    split at h
    · next a as he hl =>
      cases h
      simp only [appendFieldsE, appendE_toM v a he, appendFieldsE_toM fs as hl, appendFields,
        toMFields_isEmpty hl]
      split <;> simp
    · cases h
end

mutual
theorem appendE_refused : ∀ (v : EVal), v.refused = true → appendJSONE v = none
  | .incomplete, _ => rfl
  | .bottom, _ => rfl
  | .list es, h => by
    simp only [EVal.refused] at h
    simp [appendJSONE, appendElemsE_refused es h]
  | .struct fs, h => by
    simp only [EVal.refused] at h
    simp [appendJSONE, appendFieldsE_refused fs h]
  | .null, h | .bool _, h | .num _, h | .str _, h | .bytes _, h => by simp [EVal.refused] at h
theorem appendElemsE_refused : ∀ (es : List EVal), EVal.refusedList es = true → appendElemsE es = none
  | [], h => by simp [EVal.refusedList] at h
  | e :: es, h => by
    simp only [EVal.refusedList, Bool.or_eq_true] at h
    simp only [appendElemsE]
    cases ha : appendJSONE e with
    | none => rfl
    | some a =>
      rcases h with h | h
      · rw [appendE_refused e h] at ha; cases ha
      · have := appendElemsE_refused es h
        cases es with
        | nil => simp [EVal.refusedList] at h
        | cons e' es' => simp [this]
theorem appendFieldsE_refused : ∀ (fs : List (Bytes × EVal)), EVal.refusedFields fs = true →
    appendFieldsE fs = none
  | [], h => by simp [EVal.refusedFields] at h
  | (k, v) :: fs, h => by
    simp only [EVal.refusedFields, Bool.or_eq_true] at h
    simp only [appendFieldsE]
    cases ha : appendJSONE v with
    | none => rfl
    | some a =>
      rcases h with h | h
      · rw [appendE_refused v h] at ha; cases ha
      · have := appendFieldsE_refused fs h
        cases fs with
        | nil => simp [EVal.refusedFields] at h
        | cons p' fs' => simp [this]
end

theorem doc_roundtrip_E (v : EVal) (m : MVal) (hm : v.toM = some m) (hwf : m.WF) :
    ∃ out, appendJSONE v = some out ∧ parseJSON out = some (dataOf m) :=
  ⟨appendJSON m, appendE_toM v m hm, doc_roundtrip m hwf⟩

theorem bytes_wf (b : Bytes) :
    GoodStr (base64Std b) ∧ jsonEscape (base64Std b) = 0x22 :: (base64Std b ++ [0x22]) :=
  ⟨safe_good _ (base64_safe b), (bytes_as_string b).symm⟩

theorem nonfinite_invalid (neg : Bool) :
    parseJSON (fmtDec (.inf neg)) = none ∧ parseJSON (fmtDec (.nan neg)) = none := by
  cases neg <;> exact ⟨rfl, rfl⟩

end CueVerif.Json
