/-
C10: fuel of the reference parser of Spec/JsonDoc.lean on ARBITRARY texts.  One invariant,
`Stable`: a successful call returns a strictly shorter rest and gives the same answer with every
fuel that is at least the fuel used or at least the number of bytes consumed.  Both "more fuel
never changes an answer" and "fuel above the length is enough" are corollaries.  Core Lean only.
-/
import CueVerif.Proofs.JsonTree
import CueVerif.Proofs.JsonDocTok
namespace CueVerif.Json
open CueVerif.Quote (Bytes decodeRune)

def Stable {α : Type} (p : Nat → Bytes → Option (α × Bytes)) (f : Nat) (s : Bytes) (y : α × Bytes) : Prop :=
  y.2.length < s.length ∧ ∀ g, min f (s.length - y.2.length) ≤ g → p g s = some y

theorem pScalar_len {c : Nat} {r : Bytes} {x : JVal × Bytes}
    (h : pScalar .null .bool (fun r => (pString r).map fun p => (JVal.str p.1, p.2))
      (fun s => (pNumber s).map fun p => (JVal.num p.1.neg p.1.coeff p.1.exponent, p.2)) c r = some x) :
    x.2.length < (c :: r).length := by
  rcases pScalar_some h with rfl | ⟨b, rfl⟩ | h | h
  · simp only [List.length_drop, List.length_cons]; omega
  · simp only [List.length_drop, List.length_cons]; omega
  · obtain ⟨p, hp, rfl⟩ := Option.map_eq_some_iff.mp h
    have := pString_len r p.1 p.2 hp
    simp only [List.length_cons]; omega
  · obtain ⟨p, hp, rfl⟩ := Option.map_eq_some_iff.mp h
    exact pNumber_len (c :: r) p.1 p.2 hp

section pieces
variable {α κ : Type} {f : Nat}

theorem pBracket_stable {β : Type} {close : Nat} {mk : List α → β} {p : Nat → Bytes → Option (List α × Bytes)}
    {r : Bytes} {x : β × Bytes} (ih : ∀ s y, p f s = some y → Stable p f s y)
    (h : pBracket close mk (p f) r = some x) :
    x.2.length < r.length + 1 ∧
      ∀ g, min (f + 1) (r.length + 1 - x.2.length) ≤ g + 1 → pBracket close mk (p g) r = some x := by
  obtain ⟨c, r1, hs, hx⟩ := pBracket_some.mp h
  have hl := skipWs_len r
  rw [hs] at hl
  simp only [List.length_cons] at hl
  rcases hx with ⟨rfl, rfl⟩ | ⟨hne, l, r', hp, rfl⟩
  · exact ⟨by dsimp only; omega, fun g _ => pBracket_some.mpr ⟨_, _, hs, .inl ⟨rfl, rfl⟩⟩⟩
  · obtain ⟨l1, l2⟩ := ih _ _ hp
    simp only [List.length_cons] at l1 l2
    exact ⟨by dsimp only; omega, fun g hg =>
      pBracket_some.mpr ⟨_, _, hs, .inr ⟨hne, l, r', l2 g (by dsimp only at hg; omega), rfl⟩⟩⟩

theorem pList_stable {close : Nat} {item : Nat → Bytes → Option (α × Bytes)}
    {more : Nat → Bytes → Option (List α × Bytes)} {s : Bytes} {x : List α × Bytes}
    (hi : ∀ y, item f s = some y → Stable item f s y) (hm : ∀ t y, more f t = some y → Stable more f t y)
    (h : pList close (item f) (more f) s = some x) :
    x.2.length < s.length ∧
      ∀ g, min (f + 1) (s.length - x.2.length) ≤ g + 1 → pList close (item g) (more g) s = some x := by
  obtain ⟨v, r, c, r', hv, hs, hx⟩ := pList_some.mp h
  obtain ⟨v1, v2⟩ := hi _ hv
  have hl := skipWs_len r
  have hl' := skipWs_len r'
  rw [hs] at hl
  simp only [List.length_cons] at hl v1 v2
  rcases hx with ⟨rfl, l, r'', he, rfl⟩ | ⟨hc, rfl, rfl⟩
  · obtain ⟨e1, e2⟩ := hm _ _ he
    dsimp only at e1 e2
    refine ⟨by dsimp only; omega, fun g hg => ?_⟩
    dsimp only at hg
    exact pList_some.mpr ⟨v, r, _, r', v2 g (by omega), hs, .inl ⟨rfl, l, r'', e2 g (by omega), rfl⟩⟩
  · refine ⟨by dsimp only; omega, fun g hg => ?_⟩
    dsimp only at hg
    exact pList_some.mpr ⟨v, r, _, r', v2 g (by omega), hs, .inr ⟨hc, rfl, rfl⟩⟩

theorem pMember_stable {val : Nat → Bytes → Option (α × Bytes)} {s : Bytes} {x : (Bytes × α) × Bytes}
    (ih : ∀ t y, val f t = some y → Stable val f t y) (h : pMember pString (val f) s = some x) :
    Stable (fun g => pMember pString (val g)) f s x := by
  obtain ⟨q, k, r1, r2, v, r3, rfl, hk, hs, hv, rfl⟩ := pMember_some.mp h
  obtain ⟨v1, v2⟩ := ih _ _ hv
  have k1 := pString_len q k r1 hk
  have hl1 := skipWs_len r1
  have hl2 := skipWs_len r2
  rw [hs] at hl1
  simp only [List.length_cons] at hl1 v1 v2 ⊢
  exact ⟨by dsimp only [List.length_cons]; omega, fun g hg =>
    pMember_some.mpr ⟨q, k, r1, r2, v, r3, rfl, hk, hs, v2 g (by dsimp only [List.length_cons] at hg; omega), rfl⟩⟩

end pieces

/-- the successor step of each loop: the loop at fuel `g + 1` is `q g`, and `q` is stable -/
theorem stable_succ {α : Type} {p : Nat → Bytes → Option (α × Bytes)} {q : Nat → Option (α × Bytes)}
    {f : Nat} {s : Bytes} {x : α × Bytes}
    (h : x.2.length < s.length ∧ ∀ g, min (f + 1) (s.length - x.2.length) ≤ g + 1 → q g = some x)
    (hpq : ∀ g, p (g + 1) s = q g) : Stable p (f + 1) s x :=
  ⟨h.1, fun g hg => by
    obtain ⟨g, rfl⟩ : ∃ g', g = g' + 1 := ⟨g - 1, by have := h.1; omega⟩
    rw [hpq]; exact h.2 g hg⟩

mutual
theorem pValue_stable : ∀ (f : Nat) (s : Bytes) (x : JVal × Bytes), pValue f s = some x → Stable pValue f s x
  | 0, _, _, h | _ + 1, [], _, h => by simp [pValue] at h
  | f + 1, c :: r, x, h => by
    rw [pValue_succ] at h
    split at h
    · next hc =>
      exact stable_succ (pBracket_stable (pElems_stable f) h) fun g => by rw [pValue_succ, if_pos hc]
    · next hc =>
      split at h
      · next hc' =>
        exact stable_succ (pBracket_stable (pMembers_stable f) h) fun g => by
          rw [pValue_succ, if_neg hc, if_pos hc']
      · next hc' =>
        exact stable_succ ⟨pScalar_len h, fun _ _ => h⟩ fun g => by rw [pValue_succ, if_neg hc, if_neg hc']
theorem pElems_stable : ∀ (f : Nat) (s : Bytes) (x : List JVal × Bytes), pElems f s = some x →
    Stable pElems f s x
  | 0, s, x, h => by simp [pElems] at h
  | f + 1, s, x, h => by
    rw [pElems_succ] at h
    exact stable_succ (pList_stable (pValue_stable f s) (pElems_stable f) h) fun g => pElems_succ g s
theorem pMembers_stable : ∀ (f : Nat) (s : Bytes) (x : List (Bytes × JVal) × Bytes), pMembers f s = some x →
    Stable pMembers f s x
  | 0, s, x, h => by simp [pMembers] at h
  | f + 1, s, x, h => by
    rw [pMembers_succ] at h
    exact stable_succ (pList_stable (item := fun g => pMember pString (pValue g))
      (fun _ => pMember_stable (pValue_stable f)) (pMembers_stable f) h) fun g => pMembers_succ g s
end

theorem pValue_mono_le (f g : Nat) (hfg : f ≤ g) (s : Bytes) (x : JVal × Bytes)
    (h : pValue f s = some x) : pValue g s = some x :=
  (pValue_stable f s x h).2 g (by omega)

theorem pElems_mono : ∀ (f : Nat) (s : Bytes) (x : List JVal × Bytes), pElems f s = some x → pElems (f + 1) s = some x :=
  fun f s x h => (pElems_stable f s x h).2 (f + 1) (by omega)

theorem pMembers_mono : ∀ (f : Nat) (s : Bytes) (x : List (Bytes × JVal) × Bytes), pMembers f s = some x → pMembers (f + 1) s = some x :=
  fun f s x h => (pMembers_stable f s x h).2 (f + 1) (by omega)

theorem pValue_fuel (f : Nat) (s : Bytes) (x : JVal × Bytes) (h : pValue f s = some x) :
    x.2.length < s.length ∧ ∀ g, s.length - x.2.length ≤ g → pValue g s = some x :=
  ⟨(pValue_stable f s x h).1, fun g hg => (pValue_stable f s x h).2 g (by omega)⟩

theorem pElems_fuel : ∀ (f : Nat) (s : Bytes) (x : List JVal × Bytes), pElems f s = some x →
    x.2.length < s.length ∧ ∀ g, s.length - x.2.length ≤ g → pElems g s = some x :=
  fun f s x h => ⟨(pElems_stable f s x h).1, fun g hg => (pElems_stable f s x h).2 g (by omega)⟩

theorem pMembers_fuel : ∀ (f : Nat) (s : Bytes) (x : List (Bytes × JVal) × Bytes), pMembers f s = some x →
    x.2.length < s.length ∧ ∀ g, s.length - x.2.length ≤ g → pMembers g s = some x :=
  fun f s x h => ⟨(pMembers_stable f s x h).1, fun g hg => (pMembers_stable f s x h).2 g (by omega)⟩

theorem pValue_fuel_enough (s : Bytes) (f : Nat) (x : JVal × Bytes) (h : pValue f s = some x)
    (g : Nat) (hg : s.length < g) : pValue g s = some x :=
  (pValue_fuel f s x h).2 g (by omega)

end CueVerif.Json
