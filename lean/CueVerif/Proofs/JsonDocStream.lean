/-
C10 helper lemmas, streams: the stream framing of Spec/JsonDoc.lean (`parseStream`, the
framing json.Decoder implements and `Decoder.Extract` relies on) reads a sequence of marshalled
values separated by white space as exactly those values in order; what comes after the
sequence decides how the stream ends (clean end of input, or an error after the valid prefix).
Core Lean only.
-/
import CueVerif.Proofs.JsonDoc
namespace CueVerif.Json
open CueVerif CueVerif.Quote

/-- marshalled values, each followed by its separator -/
def streamText : List (MVal × Bytes) → Bytes
  | [] => []
  | (v, sep) :: t => appendJSON v ++ sep ++ streamText t

theorem skipWs_append_ws (pre x : Bytes) (h : pre.all isWs = true) : skipWs (pre ++ x) = skipWs x := by
  induction pre with
  | nil => rfl
  | cons c t ih =>
    simp only [List.all_cons, Bool.and_eq_true] at h
    simp only [skipWs, List.cons_append, List.dropWhile_cons, h.1, if_true]
    exact ih h.2

theorem parseStream_skip (fuel : Nat) (pre x : Bytes) (h : pre.all isWs = true) :
    parseStream fuel (pre ++ x) = parseStream fuel x := by
  cases fuel with
  | zero => rfl
  | succ f => simp only [parseStream, skipWs_append_ws pre x h]

theorem isNumChar_of_ws {c : Nat} (h : isWs c = true) : isNumChar c = false := by
  simp only [isWs, Bool.or_eq_true, beq_iff_eq] at h
  simp only [isNumChar, isDigit, Bool.or_eq_false_iff, Bool.and_eq_false_iff, decide_eq_false_iff_not,
    beq_eq_false_iff_ne]
  omega

theorem numStop_ws_append (sep x : Bytes) (hne : sep ≠ []) (h : sep.all isWs = true) :
    numStop (sep ++ x) = true := by
  cases sep with
  | nil => exact absurd rfl hne
  | cons c t =>
    simp only [List.all_cons, Bool.and_eq_true] at h
    simp [numStop, isNumChar_of_ws h.1]

/-- a sequence of marshalled values with non-empty white-space separators, after any leading
white space and before ANY tail: exactly those values, in order, then whatever the tail gives -/
theorem stream_prefix (tail : Bytes) (fuel : Nat) : ∀ (l : List (MVal × Bytes)),
    (∀ p ∈ l, p.1.WF ∧ p.2 ≠ [] ∧ p.2.all isWs = true) → ∀ pre : Bytes, pre.all isWs = true →
    parseStream (l.length + fuel) (pre ++ (streamText l ++ tail)) =
      ((l.map fun p => dataOf p.1) ++ (parseStream fuel tail).1, (parseStream fuel tail).2) := by
  intro l
  induction l with
  | nil =>
    intro _ pre hpre
    simp only [List.length_nil, Nat.zero_add, streamText, List.nil_append, List.map_nil]
    rw [parseStream_skip fuel pre tail hpre]
  | cons p t ih =>
    intro hwf pre hpre
    obtain ⟨v, sep⟩ := p
    obtain ⟨hv, hne, hsep⟩ := hwf (v, sep) (by simp)
    have iht := ih (fun q hq => hwf q (List.mem_cons_of_mem _ hq)) sep hsep
    rw [parseStream_skip _ pre _ hpre]
    have hfuel : (List.length ((v, sep) :: t) + fuel) = (t.length + fuel) + 1 := by
      simp only [List.length_cons]; omega
    rw [hfuel]
    obtain ⟨c, tl, hct, -⟩ := appendJSON_head v
    have hshape : streamText ((v, sep) :: t) ++ tail = appendJSON v ++ (sep ++ (streamText t ++ tail)) := by
      simp only [streamText, List.append_assoc]
    rw [hshape]
    have hstop := numStop_ws_append sep (streamText t ++ tail) hne hsep
    have hp := doc_prefix v hv (sep ++ (streamText t ++ tail)) hstop
    have hsk := skipWs_appendJSON v (sep ++ (streamText t ++ tail))
    have hlen : (sep ++ (streamText t ++ tail)).length <
        (appendJSON v ++ (sep ++ (streamText t ++ tail))).length := by
      rw [hct]; simp only [List.length_append, List.length_cons]; omega
    have hne' : (appendJSON v ++ (sep ++ (streamText t ++ tail))).isEmpty = false := by
      rw [hct]; rfl
    simp only [parseStream, hsk, hne', hp, hlen, iht, Bool.false_eq_true, if_false, if_true,
      List.map_cons, List.cons_append]

theorem marshalStream_eq (vs : List MVal) :
    marshalStream vs = streamText (vs.map fun v => (v, [0x0A])) := by
  induction vs with
  | nil => rfl
  | cons v t ih => simp only [marshalStream, List.map_cons, streamText, ih, List.append_assoc,
      List.cons_append, List.nil_append]

/-- `MarshalStream`, then the stream reader: exactly the values, in order, then a clean end -/
theorem stream_roundtrip (vs : List MVal) (hwf : ∀ v ∈ vs, v.WF) :
    parseStream (vs.length + 1) (marshalStream vs) = (vs.map dataOf, true) := by
  have h := stream_prefix [] 1 (vs.map fun v => (v, [0x0A]))
    (by
      intro p hp
      obtain ⟨v, hv, rfl⟩ := List.mem_map.mp hp
      exact ⟨hwf v hv, by simp, by simp [isWs]⟩) [] rfl
  simp only [List.length_map, List.nil_append, List.append_nil, List.map_map] at h
  rw [marshalStream_eq, h]
  simp [parseStream, skipWs, Function.comp_def]

end CueVerif.Json
