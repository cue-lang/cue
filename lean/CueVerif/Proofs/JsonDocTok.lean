/-
C10, the tokens of the document parser: `pStrBody` and `pNumber` (Spec/JsonDoc.lean) read back the
spelling of every well-formed token whatever follows it (for numbers: anything that cannot
continue a number), and what they return is well-formed and leaves a shorter rest.  Core Lean only.
-/
import CueVerif.Proofs.JsonTree
import CueVerif.Proofs.JsonString
import CueVerif.Proofs.JsonOut
import CueVerif.Proofs.Lib
namespace CueVerif.Json
open CueVerif CueVerif.Quote

/-! ## strings -/

theorem escOfLetter_letter (e : Esc) : escOfLetter e.letter = some e := by
  cases e <;> rfl

theorem pStrBody_close (fuel : Nat) (rest : Bytes) :
    pStrBody (fuel + 1) (0x22 :: rest) = some ([], rest) := by
  simp [pStrBody]

theorem pStrBody_esc (fuel : Nat) (e : Esc) (t : Bytes) :
    pStrBody (fuel + 1) (0x5C :: e.letter :: t) =
      consFst (JItem.esc e) (pStrBody fuel t) := by
  cases e <;> simp [pStrBody, Esc.letter, escOfLetter]

theorem pStrBody_u (fuel : Nat) (a b c d : Nat) (h : (JItem.u a b c d).wf = true) (t : Bytes) :
    pStrBody (fuel + 1) (0x5C :: 0x75 :: a :: b :: c :: d :: t) =
      consFst (JItem.u a b c d) (pStrBody fuel t) := by
  simp only [JItem.wf] at h
  simp [pStrBody, h]

theorem pStrBody_raw (fuel : Nat) (r : Nat) (h : (JItem.raw r).wf = true) (t : Bytes) :
    pStrBody (fuel + 1) (encodeRune r ++ t) =
      consFst (JItem.raw r) (pStrBody fuel t) := by
  have hw := raw_wf h
  by_cases h80 : r < 0x80
  · rw [encodeRune_ascii r h80]
    have hne : r ≠ 0x22 ∧ r ≠ 0x5C ∧ ¬ r < 0x20 := by omega
    show pStrBody (fuel + 1) (r :: t) = _
    simp [pStrBody, hne, h80]
  · obtain ⟨c, cs, he, hcs, hb, hdec⟩ := encodeRune_multi (by omega) hw.1 hw.2.1
    obtain ⟨hd', e5⟩ := hdec t
    have hc := (hb c (List.mem_cons_self ..)).1
    have hne : c ≠ 0x22 ∧ c ≠ 0x5C ∧ ¬ c < 0x20 ∧ ¬ c < 0x80 := by omega
    have e6 : ¬ cs.length + 1 < 2 := fun h => hcs (List.eq_nil_of_length_eq_zero (by omega))
    rw [he]
    show pStrBody (fuel + 1) (c :: (cs ++ t)) = _
    simp only [pStrBody, beq_iff_eq, hne, hd', e5, e6, if_false]

theorem pStrBody_items : ∀ (items : List JItem), WfItems items → ∀ (rest : Bytes) (fuel : Nat),
    items.length < fuel → pStrBody fuel (bodyText items ++ 0x22 :: rest) = some (items, rest)
  | _, _, _, 0, hf => absurd hf (Nat.not_lt_zero _)
  | [], _, rest, f + 1, _ => pStrBody_close f rest
  | i :: t, hwf, rest, f + 1, hf => by
    have iht := pStrBody_items t hwf.tail rest f (Nat.lt_of_succ_lt_succ hf)
    have hi := hwf.head
    cases i with
    | raw r =>
      simp only [bodyText, JItem.text, List.append_assoc]
      rw [pStrBody_raw f r hi, iht]; rfl
    | esc e =>
      simp only [bodyText, JItem.text, List.cons_append, List.nil_append]
      rw [pStrBody_esc, iht]; rfl
    | u a b c d =>
      simp only [bodyText, JItem.text, List.cons_append, List.nil_append]
      rw [pStrBody_u f a b c d hi, iht]; rfl

theorem bodyText_length (items : List JItem) (hwf : WfItems items) :
    items.length ≤ (bodyText items).length := by
  induction items with
  | nil => simp
  | cons i t ih =>
    have := item_text_pos i hwf.head
    have := ih hwf.tail
    simp only [bodyText, List.length_cons, List.length_append]
    omega

theorem pString_escape (s : Bytes) (hv : validUTF8 s = true) (rest : Bytes) :
    pString (escapeLoop s ++ 0x22 :: rest) = some (s, rest) := by
  obtain ⟨items, hwf, htext, hden, -, -⟩ := string_out s hv
  have hbody : escapeLoop s = bodyText items := by
    simp only [jsonEscape, stringText, List.cons.injEq, true_and] at htext
    exact List.append_cancel_right htext
  rw [hbody, pString, pStrBody_items items hwf rest _ (by
    have := bodyText_length items hwf
    simp only [List.length_append, List.length_cons]; omega)]
  simp [hden]

/-! ## numbers -/

def isNumChar (c : Nat) : Bool :=
  isDigit c || c == 0x2B || c == 0x2D || c == 0x2E || c == 0x45 || c == 0x65

/-- "`rest` cannot continue a number token": it is empty or begins with something that is not
a digit, sign, point or `e`/`E` (in particular: ws, `,`, `]`, `}`, `"`, `[`, `{`, a letter) -/
def numStop (rest : Bytes) : Bool :=
  match rest with
  | [] => true
  | c :: _ => !isNumChar c

theorem span_digits_append (ds tail : Bytes) (h : allDigits ds = true)
    (ht : ∀ c t, tail = c :: t → isDigit c = false) : spanDigits (ds ++ tail) = (ds, tail) := by
  have hds : ∀ a ∈ ds, isDigit a = true := List.all_eq_true.mp h
  have htail : tail.takeWhile isDigit = [] ∧ tail.dropWhile isDigit = tail := by
    cases tail with
    | nil => exact ⟨rfl, rfl⟩
    | cons c t => simp [ht c t rfl]
  rw [spanDigits, span_eq, List.takeWhile_append_of_pos hds,
    List.dropWhile_append_of_pos hds, htail.1, htail.2, List.append_nil]

theorem numStop_cons {c : Nat} {t : Bytes} (h : numStop (c :: t) = true) :
    isDigit c = false ∧ c ≠ 0x2B ∧ c ≠ 0x2D ∧ c ≠ 0x2E ∧ c ≠ 0x45 ∧ c ≠ 0x65 := by
  simp only [numStop, isNumChar, Bool.not_eq_true', Bool.or_eq_false_iff, beq_eq_false_iff_ne] at h
  obtain ⟨⟨⟨⟨⟨h1, h2⟩, h3⟩, h4⟩, h5⟩, h6⟩ := h
  exact ⟨h1, h2, h3, h4, h5, h6⟩

theorem pExp_text (e : Option JExp) (hwf : expWf e = true) (rest : Bytes) (hs : numStop rest = true) :
    pExp (expText e ++ rest) = some (e, rest) := by
  cases e with
  | none =>
    simp only [expText, List.nil_append]
    cases rest with
    | nil => rfl
    | cons c t =>
      obtain ⟨-, -, -, -, h5, h6⟩ := numStop_cons hs
      simp [pExp, h5, h6]
  | some e =>
    obtain ⟨upper, sign, digits⟩ := e
    obtain ⟨hne, hall⟩ : digits ≠ [] ∧ allDigits digits = true := expWf_some.mp hwf
    have hrest : ∀ c t, rest = c :: t → isDigit c = false := by
      intro c t h; subst h; exact (numStop_cons hs).1
    have hspan := span_digits_append digits rest hall hrest
    obtain ⟨d, ds, rfl⟩ := List.exists_cons_of_ne_nil hne
    have hd := (allDigits_cons.mp hall).1
    have hdig : pSign (d :: (ds ++ rest)) = (none, d :: (ds ++ rest)) := by
      simp only [pSign]
      split
      · next h => simp at h; omega
      · next h => simp at h; omega
      · rfl
    simp only [List.cons_append] at hspan
    cases sign with
    | none =>
      cases upper <;>
        simp only [expText, JExp.text, Bool.false_eq_true, if_false, if_true, List.cons_append, pExp,
          beq_self_eq_true, Bool.or_true, Bool.true_or, List.nil_append, hdig, hspan] <;> simp
    | some b =>
      cases b <;> cases upper <;>
        simp only [expText, JExp.text, Bool.false_eq_true, if_false, if_true, List.cons_append, pExp,
          beq_self_eq_true, Bool.or_true, Bool.true_or, List.nil_append, pSign, hspan] <;> simp

theorem pFrac_text (f : Option Bytes) (hwf : fracWf f = true) (tail : Bytes)
    (ht : ∀ c t, tail = c :: t → isDigit c = false ∧ c ≠ 0x2E) :
    pFrac (fracText f ++ tail) = some (f, tail) := by
  cases f with
  | none =>
    simp only [fracText, List.nil_append, pFrac]
    split
    · next r => exact absurd rfl (ht 46 r rfl).2
    · rfl
  | some f =>
    obtain ⟨hne, hall⟩ := fracWf_some.mp hwf
    have hspan := span_digits_append f tail hall (fun c t h => (ht c t h).1)
    obtain ⟨d, ds, rfl⟩ := List.exists_cons_of_ne_nil hne
    simp only [fracText, List.cons_append, pFrac] at hspan ⊢
    simp only [hspan]

theorem pInt_text (int : Bytes) (hne : int ≠ []) (hall : allDigits int = true)
    (hz : int = [48] ∨ int.head? ≠ some 48) (tail : Bytes)
    (ht : ∀ c t, tail = c :: t → isDigit c = false) :
    pInt (int ++ tail) = some (int, tail) := by
  have hspan := span_digits_append int tail hall ht
  simp only [pInt, hspan]
  rcases hz with rfl | hz
  · rfl
  · cases int with
    | nil => exact absurd rfl hne
    | cons d ds =>
      have : d ≠ 48 := by simpa using hz
      split
      · next h => simp at h
      · next h => simp only [Prod.mk.injEq, List.cons.injEq] at h; exact absurd h.1.1.symm (by omega)
      · next h => simp only [Prod.mk.injEq] at h; rw [← h.1, ← h.2]

theorem pNumber_text (n : JNum) (hwf : n.wf = true) (rest : Bytes) (hs : numStop rest = true) :
    pNumber (n.text ++ rest) = some (n, rest) := by
  obtain ⟨hne, hall, hz, hf, he⟩ := (jnum_wf_iff n).mp hwf
  obtain ⟨neg, int, frac, exp⟩ := n
  simp only at hne hall hz hf he
  have hT1 : ∀ c t, expText exp ++ rest = c :: t → isDigit c = false ∧ c ≠ 0x2E := by
    intro c t h
    cases exp with
    | none =>
      simp only [expText, List.nil_append] at h; subst h
      exact ⟨(numStop_cons hs).1, (numStop_cons hs).2.2.2.1⟩
    | some e =>
      simp only [expText, JExp.text, List.cons_append, List.cons.injEq] at h
      rcases h with ⟨h, -⟩
      cases hu : e.upper <;> simp [hu] at h <;> subst h <;> decide
  have hT2 : ∀ c t, fracText frac ++ (expText exp ++ rest) = c :: t → isDigit c = false := by
    intro c t h
    cases frac with
    | none => simp only [fracText, List.nil_append] at h; exact (hT1 c t h).1
    | some f =>
      simp only [fracText, List.cons_append, List.cons.injEq] at h
      rw [← h.1]; decide
  obtain ⟨d, ds, rfl⟩ := List.exists_cons_of_ne_nil hne
  have hd := (allDigits_cons.mp hall).1
  have hminus : pMinus ((if neg = true then [0x2D] else []) ++ ((d :: ds) ++ (fracText frac ++ expText exp)) ++ rest) =
      (neg, (d :: ds) ++ (fracText frac ++ (expText exp ++ rest))) := by
    cases neg
    · simp only [Bool.false_eq_true, if_false, List.nil_append, List.cons_append, pMinus, List.append_assoc]
      split
      · next h => simp at h; omega
      · rfl
    · simp [pMinus, List.append_assoc]
  simp only [pNumber, JNum.text, JNum.utext, hminus,
    pInt_text (d :: ds) hne hall hz _ hT2, pFrac_text frac hf _ hT1, pExp_text exp he rest hs]

/-! ## what the token parsers return -/

theorem pStrBody_spec : ∀ (f : Nat) (s : Bytes) (is : List JItem) (r : Bytes),
    pStrBody f s = some (is, r) → WfItems is ∧ r.length < s.length
  | 0, _, _, _, h | _ + 1, [], _, _, h => by simp [pStrBody] at h
  | f + 1, c :: rest, is, r, h => by
    -- every branch that goes on reads one well-formed item `i` and continues on a suffix `t`
    have key : ∀ (i : JItem) (t : Bytes), i.wf = true → t.length ≤ rest.length →
        consFst i (pStrBody f t) = some (is, r) → WfItems is ∧ r.length < (c :: rest).length := by
      intro i t hi ht h
      obtain ⟨as, r', h1, h2⟩ := consFst_some h
      obtain ⟨hw, hl⟩ := pStrBody_spec f t as r' h1
      cases h2
      exact ⟨wfItems_cons hi hw, by simp only [List.length_cons]; omega⟩
    simp only [pStrBody] at h
    split at h
    · cases h; exact ⟨nofun, by simp⟩
    · split at h
      · split at h
        · next a b c' d rest' =>
          split at h
          · next hhex => exact key _ _ (by simpa [JItem.wf] using hhex) (by simp only [List.length_cons]; omega) h
          · cases h
        · split at h
          · exact key _ _ rfl (by simp only [List.length_cons]; omega) h
          · cases h
        · cases h
      · split at h
        · cases h
        · next hq hb h20 =>
          have e1 : c ≠ 0x22 := by simpa using hq
          have e2 : c ≠ 0x5C := by simpa using hb
          split at h
          · next h80 =>
            refine key _ _ ?_ (Nat.le_refl _) h
            simp only [JItem.wf, isScalar, Bool.and_eq_true, decide_eq_true_eq, Bool.not_eq_true',
              Bool.and_eq_false_iff, decide_eq_false_iff_not, bne_iff_ne, ne_eq]
            omega
          · split at h
            · cases h
            · next hw =>
              have hd := encodeRune_decodeRune (c :: rest) (by omega)
              refine key _ _ ?_ (by simp only [List.length_drop]; omega) h
              simp only [JItem.wf, isScalar, Bool.and_eq_true, decide_eq_true_eq, Bool.not_eq_true',
                Bool.and_eq_false_iff, decide_eq_false_iff_not, bne_iff_ne, ne_eq]
              omega

theorem pStrBody_wf (f : Nat) (s : Bytes) (is : List JItem) (r : Bytes) (h : pStrBody f s = some (is, r)) :
    WfItems is := (pStrBody_spec f s is r h).1

theorem pStrBody_len (f : Nat) (s : Bytes) (is : List JItem) (r : Bytes) (h : pStrBody f s = some (is, r)) :
    r.length < s.length := (pStrBody_spec f s is r h).2

theorem pString_len (r : Bytes) (k r1 : Bytes) (h : pString r = some (k, r1)) : r1.length < r.length := by
  unfold pString at h
  cases hb : pStrBody (r.length + 1) r with
  | none => rw [hb] at h; cases h
  | some p =>
    rw [hb] at h
    cases h
    exact pStrBody_len _ _ _ _ hb

theorem spanDigits_spec (u : Bytes) :
    allDigits (spanDigits u).1 = true ∧ (spanDigits u).1.length + (spanDigits u).2.length = u.length := by
  rw [spanDigits, span_eq]
  exact ⟨List.all_takeWhile, by rw [← List.length_append, List.takeWhile_append_dropWhile]⟩

theorem pInt_spec (u i r1 : Bytes) (h : pInt u = some (i, r1)) :
    (i ≠ [] ∧ allDigits i = true ∧ (i = [48] ∨ i.head? ≠ some 48)) ∧ r1.length < u.length := by
  obtain ⟨ha, hl⟩ := spanDigits_spec u
  unfold pInt at h
  split at h
  · cases h
  · next more r0 hs =>
    cases h
    rw [hs] at hl
    exact ⟨⟨by simp, by decide, Or.inl rfl⟩, by simp only [List.length_cons, List.length_append] at hl ⊢; omega⟩
  · next int r0 hne hz hs =>
    cases h
    rw [hs] at ha hl
    cases i with
    | nil => exact (hne rfl).elim
    | cons d ds =>
      refine ⟨⟨nofun, ha, Or.inr fun e => ?_⟩, by simp only [List.length_cons] at hl; omega⟩
      simp only [List.head?_cons, Option.some.injEq] at e
      exact hz ds (by rw [e])

theorem pFrac_spec (r1 : Bytes) (fr : Option Bytes) (r2 : Bytes) (h : pFrac r1 = some (fr, r2)) :
    fracWf fr = true ∧ r2.length ≤ r1.length := by
  unfold pFrac at h
  split at h
  · next r =>
    obtain ⟨ha, hl⟩ := spanDigits_spec r
    split at h
    · cases h
    · next f r2' hne hs =>
      cases h
      rw [hs] at ha hl
      dsimp only at hl
      exact ⟨fracWf_some.mpr ⟨fun e => hne e, ha⟩, by simp only [List.length_cons]; omega⟩
  · cases h; exact ⟨rfl, Nat.le_refl _⟩

theorem pSign_len (r : Bytes) : (pSign r).2.length ≤ r.length := by
  unfold pSign; split <;> simp

theorem pExp_spec (r2 : Bytes) (e : Option JExp) (r3 : Bytes) (h : pExp r2 = some (e, r3)) :
    expWf e = true ∧ r3.length ≤ r2.length := by
  unfold pExp at h
  split at h
  · cases h; exact ⟨rfl, Nat.le_refl _⟩
  · next c r =>
    split at h
    · obtain ⟨ha, hl⟩ := spanDigits_spec (pSign r).2
      have hs := pSign_len r
      split at h
      · cases h
      · next ds r4 hne hsp =>
        cases h
        rw [hsp] at ha hl
        dsimp only at hl
        exact ⟨expWf_some.mpr ⟨fun e => hne e, ha⟩, by simp only [List.length_cons]; omega⟩
    · cases h; exact ⟨rfl, Nat.le_refl _⟩

theorem pMinus_len (s : Bytes) : (pMinus s).2.length ≤ s.length := by
  unfold pMinus; split <;> simp

theorem pNumber_spec (s : Bytes) (n : JNum) (r : Bytes) (h : pNumber s = some (n, r)) :
    n.wf = true ∧ r.length < s.length := by
  unfold pNumber at h
  split at h
  · cases h
  · next i r1 hi =>
    split at h
    · cases h
    · next fr r2 hf =>
      split at h
      · cases h
      · next e r3 he =>
        cases h
        obtain ⟨⟨a1, a2, a3⟩, l1⟩ := pInt_spec _ _ _ hi
        obtain ⟨a4, l2⟩ := pFrac_spec _ _ _ hf
        obtain ⟨a5, l3⟩ := pExp_spec _ _ _ he
        have l0 := pMinus_len s
        exact ⟨(jnum_wf_iff _).mpr ⟨a1, a2, a3, a4, a5⟩, by omega⟩

theorem pNumber_wf (s : Bytes) (n : JNum) (r : Bytes) (h : pNumber s = some (n, r)) : n.wf = true :=
  (pNumber_spec s n r h).1

theorem pNumber_len (s : Bytes) (n : JNum) (r : Bytes) (h : pNumber s = some (n, r)) :
    r.length < s.length := (pNumber_spec s n r h).2

theorem skipWs_len (r : Bytes) : (skipWs r).length ≤ r.length := by
  unfold skipWs; exact (List.dropWhile_sublist _).length_le

end CueVerif.Json
