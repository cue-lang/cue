/-
C10 helper lemmas, reading direction: the data literal `json.Extract` produces for a JSON
text (Model/JsonExtract.lean) denotes the data of the text.  Uses C09's quoting round trip
(`roundtrip_single_all`, `roundtrip_multi` = Props `C09_roundtrip`) for every re-quoted literal,
`string_embed`/`string_scan` for string tokens and `number_value` for number tokens.
-/
import CueVerif.Model.JsonExtract
import CueVerif.Proofs.JsonDenote
import CueVerif.Proofs.JsonNumber
import CueVerif.Proofs.JsonTree
import CueVerif.Proofs.QuoteMain
import CueVerif.Proofs.QuoteMulti
namespace CueVerif.Json
open CueVerif CueVerif.Quote

/-- a string token the decoder reads: well-formed, surrogate escapes paired (Unicode text), no
raw U+FEFF (known finding string-raw-bom) -/
def StrOk (items : List JItem) : Prop :=
  WfItems items ∧ wellPaired items = true ∧ noRawBOM items = true

mutual
/-- the region of JSON texts the theorem covers: every token well-formed (always the case for
a parsed text), strings `StrOk`, numbers within apd's exponent limits (known finding
number-exponent-out-of-apd-range-rejected), member names of every object pairwise distinct
(known finding duplicate-key-differing-values) -/
def JTree.Readable : JTree → Prop
  | .null => True
  | .bool _ => True
  | .num n => n.wf = true ∧ n.inApdRange
  | .str items => StrOk items
  | .arr es => JTree.ReadableList es
  | .obj ms => JTree.ReadableMembers ms ∧ distinctKeys (JTree.denMembers ms) = true
def JTree.ReadableList : List JTree → Prop
  | [] => True
  | e :: es => e.Readable ∧ JTree.ReadableList es
def JTree.ReadableMembers : List (List JItem × JTree) → Prop
  | [] => True
  | (k, v) :: ms => StrOk k ∧ v.Readable ∧ JTree.ReadableMembers ms
end

theorem requote_form_wf (depth : Nat) :
    ((stringForm.withOptionalTabIndent depth).withOptionalHashes).WF := Or.inl ⟨rfl, rfl⟩

/-- C09: the re-quoting form reads back exactly -/
theorem requote_roundtrip {E : Env} (hE : E.Ok) (depth : Nat) (s : Bytes) (hs : GoodStr s) :
    unquote (quote E ((stringForm.withOptionalTabIndent depth).withOptionalHashes) s) = .ok s := by
  cases hml : ((stringForm.withOptionalTabIndent depth).withOptionalHashes).effMultiline s with
  | true => exact roundtrip_multi hE _ (requote_form_wf depth) s hs.1 (Or.inr hs.2) hml
  | false => exact roundtrip_single_all hE _ (requote_form_wf depth) s hs.1 (Or.inr hs.2) hml

/-- a string literal after PatchExpr still unquotes to the string the JSON token denotes -/
theorem patchString_ok {E : Env} (hE : E.Ok) (depth : Nat) (items : List JItem) (h : StrOk items) :
    unquote (patchString E depth (stringText items)) = .ok (denote items) := by
  have hemb := string_embed items h.1 h.2.1
  unfold patchString
  split
  · rw [hemb]
    exact requote_roundtrip hE depth _ (denote_good items h.2.1 h.1)
  · exact hemb

theorem patchLabel_ok {E : Env} (hE : E.Ok) (nq : Bytes → Bool) (depth : Nat) (k : List JItem)
    (h : StrOk k) : labelName (patchLabel E nq depth (.str (stringText k))) = some (denote k) := by
  have hemb := string_embed k h.1 h.2.1
  simp only [patchLabel, hemb]
  split
  · simp only [labelName, patchString_ok hE depth k h]
  · simp only [labelName]

theorem any_key_norm (k : Bytes) (ms : List (Bytes × JVal)) :
    (JVal.normZeroMembers ms).any (fun m => m.1 == k) = ms.any (fun m => m.1 == k) := by
  induction ms with
  | nil => rfl
  | cons p t ih => obtain ⟨k', v⟩ := p; simp only [JVal.normZeroMembers, List.any_cons, ih]

theorem distinctKeys_norm (ms : List (Bytes × JVal)) :
    distinctKeys (JVal.normZeroMembers ms) = distinctKeys ms := by
  induction ms with
  | nil => rfl
  | cons p t ih => obtain ⟨k, v⟩ := p; simp only [JVal.normZeroMembers, distinctKeys, any_key_norm, ih]

mutual
theorem extract_value {E : Env} (hE : E.Ok) (nq : Bytes → Bool) : ∀ (t : JTree), t.Readable → ∀ depth : Nat,
    ∃ c, astOf t = some c ∧ evalData (patch E nq depth c) = some t.den.normZero
  | .null, _, _ => ⟨.null, rfl, by simp [patch, evalData, JTree.den, JVal.normZero]⟩
  | .bool b, _, _ => ⟨.bool b, rfl, by simp [patch, evalData, JTree.den, JVal.normZero]⟩
  | .num n, h, _ => by
    simp only [JTree.Readable] at h
    refine ⟨.num n.neg n.utext, rfl, ?_⟩
    have hv := number_value n h.1 h.2
    simp only [JNum.text] at hv
    simp only [patch, evalData, hv, JTree.den, JVal.normZero]
  | .str items, h, depth => by
    simp only [JTree.Readable] at h
    refine ⟨.str (stringText items), by simp [astOf, string_scan items h.1, h.2.2], ?_⟩
    simp only [patch, evalData, patchString_ok hE depth items h, JTree.den, JVal.normZero]
  | .arr es, h, depth => by
    simp only [JTree.Readable] at h
    obtain ⟨cs, h1, h2⟩ := extract_list hE nq es h (depth + 1)
    exact ⟨.list cs, by simp [astOf, h1], by simp [patch, evalData, h2, JTree.den, JVal.normZero]⟩
  | .obj ms, h, depth => by
    simp only [JTree.Readable] at h
    obtain ⟨fs, h1, h2⟩ := extract_members hE nq ms h.1 (depth + 1)
    refine ⟨.struct fs, by simp [astOf, h1], ?_⟩
    simp only [patch, evalData, h2, distinctKeys_norm, h.2, if_true, JTree.den, JVal.normZero]
theorem extract_list {E : Env} (hE : E.Ok) (nq : Bytes → Bool) : ∀ (es : List JTree), JTree.ReadableList es →
    ∀ depth : Nat, ∃ cs, astOfList es = some cs ∧
      evalList (patchList E nq depth cs) = some (JVal.normZeroList (JTree.denList es))
  | [], _, _ => ⟨[], rfl, by simp [patchList, evalList, JTree.denList, JVal.normZeroList]⟩
  | e :: es, h, depth => by
    simp only [JTree.ReadableList] at h
    obtain ⟨c, h1, h2⟩ := extract_value hE nq e h.1 depth
    obtain ⟨cs, h3, h4⟩ := extract_list hE nq es h.2 depth
    exact ⟨c :: cs, by simp [astOfList, h1, h3],
      by simp [patchList, evalList, h2, h4, JTree.denList, JVal.normZeroList]⟩
theorem extract_members {E : Env} (hE : E.Ok) (nq : Bytes → Bool) : ∀ (ms : List (List JItem × JTree)),
    JTree.ReadableMembers ms → ∀ depth : Nat, ∃ fs, astOfMembers ms = some fs ∧
      evalFields (patchFields E nq depth fs) = some (JVal.normZeroMembers (JTree.denMembers ms))
  | [], _, _ => ⟨[], rfl, by simp [patchFields, evalFields, JTree.denMembers, JVal.normZeroMembers]⟩
  | (k, v) :: ms, h, depth => by
    simp only [JTree.ReadableMembers] at h
    obtain ⟨c, h1, h2⟩ := extract_value hE nq v h.2.1 depth
    obtain ⟨fs, h3, h4⟩ := extract_members hE nq ms h.2.2 depth
    refine ⟨(.str (stringText k), c) :: fs, by simp [astOfMembers, string_scan k h.1.1, h.1.2.2, h1, h3], ?_⟩
    simp only [patchFields, evalFields, patchLabel_ok hE nq depth k h.1, h2, h4, JTree.denMembers,
      JVal.normZeroMembers]
end

/-- text level: for every JSON text whose parse tree is in the covered region, `json.Extract`
succeeds and the data literal it returns evaluates to the data the text denotes (`-0` → `0`) -/
theorem extract_text {E : Env} (hE : E.Ok) (nq : Bytes → Bool) (text : Bytes) (t : JTree)
    (ht : parseTree text = some t) (hr : t.Readable) :
    ∃ c, extractModel E nq text = some c ∧ evalData c = (parseJSON text).map JVal.normZero := by
  obtain ⟨c, h1, h2⟩ := extract_value hE nq t hr 1
  refine ⟨patch E nq 1 c, by simp [extractModel, ht, h1], ?_⟩
  rw [parseJSON_eq, ht, h2]; rfl

/-- duplicate member names: the model makes no data claim (`none`) — the evaluator unifies the
repeated fields (conflict error when the values differ: known finding) -/
theorem extract_duplicate {E : Env} (hE : E.Ok) (nq : Bytes → Bool) (ms : List (List JItem × JTree))
    (hm : JTree.ReadableMembers ms) (hd : distinctKeys (JTree.denMembers ms) = false) (depth : Nat) :
    ∃ c, astOf (.obj ms) = some c ∧ evalData (patch E nq depth c) = none := by
  obtain ⟨fs, h1, h2⟩ := extract_members hE nq ms hm (depth + 1)
  refine ⟨.struct fs, by simp [astOf, h1], ?_⟩
  simp [patch, evalData, h2, distinctKeys_norm, hd]

/-- a raw U+FEFF in a string token: `extract` answers "invalid JSON" -/
theorem extract_bom (items : List JItem) (hwf : WfItems items) (hb : noRawBOM items = false) :
    astOf (.str items) = none := by
  simp [astOf, string_scan items hwf, hb]

end CueVerif.Json
