/-
C10 helper lemmas, reading direction: every parse tree the reference parser returns has
well-formed tokens (`parseTree_wf`), so the well-formedness part of `JTree.Readable` is free for
parsed texts: `extract_text_full` needs only the region `JTree.InRegion`.  Core Lean only.
-/
import CueVerif.Proofs.JsonExtract
import CueVerif.Proofs.JsonDocTok
namespace CueVerif.Json
open CueVerif CueVerif.Quote

mutual
/-- every token of the tree is well-formed -/
def JTree.TokWf : JTree → Prop
  | .null => True
  | .bool _ => True
  | .num n => n.wf = true
  | .str items => WfItems items
  | .arr es => JTree.TokWfList es
  | .obj ms => JTree.TokWfMembers ms
def JTree.TokWfList : List JTree → Prop
  | [] => True
  | e :: es => e.TokWf ∧ JTree.TokWfList es
def JTree.TokWfMembers : List (List JItem × JTree) → Prop
  | [] => True
  | (k, v) :: ms => WfItems k ∧ v.TokWf ∧ JTree.TokWfMembers ms
end

theorem pBracket_wf {α : Type} {close : Nat} {mk : List α → JTree} {p : Bytes → Option (List α × Bytes)}
    {P : List α → Prop} {r : Bytes} {x : JTree × Bytes} (hnil : (mk []).TokWf) (hmk : ∀ l, P l → (mk l).TokWf)
    (ih : ∀ s y, p s = some y → P y.1) (h : pBracket close mk p r = some x) : x.1.TokWf := by
  obtain ⟨c, r1, -, ⟨-, rfl⟩ | ⟨-, l, r', hp, rfl⟩⟩ := pBracket_some.mp h
  · exact hnil
  · exact hmk l (ih _ _ hp)

mutual
theorem sValue_wf : ∀ (f : Nat) (s : Bytes) (x : JTree × Bytes), sValue f s = some x → x.1.TokWf
  | 0, _, _, h | _ + 1, [], _, h => by simp [sValue] at h
  | f + 1, c :: r, x, h => by
    rw [sValue_succ] at h
    split at h
    · exact pBracket_wf (by simp [JTree.TokWf, JTree.TokWfList]) (fun l hl => by simpa [JTree.TokWf] using hl)
        (sElems_wf f) h
    · split at h
      · exact pBracket_wf (by simp [JTree.TokWf, JTree.TokWfMembers])
          (fun l hl => by simpa [JTree.TokWf] using hl) (sMembers_wf f) h
      · rcases pScalar_some h with rfl | ⟨b, rfl⟩ | h | h
        · trivial
        · trivial
        · obtain ⟨p, hp, rfl⟩ := Option.map_eq_some_iff.mp h
          exact pStrBody_wf _ _ p.1 p.2 hp
        · obtain ⟨p, hp, rfl⟩ := Option.map_eq_some_iff.mp h
          exact pNumber_wf _ p.1 p.2 hp
theorem sElems_wf : ∀ (f : Nat) (s : Bytes) (x : List JTree × Bytes), sElems f s = some x →
    JTree.TokWfList x.1
  | 0, s, x, h => by simp [sElems] at h
  | f + 1, s, x, h => by
    rw [sElems_succ] at h
    obtain ⟨v, r, c, r', hv, -, ⟨-, l, r'', he, rfl⟩ | ⟨-, -, rfl⟩⟩ := pList_some.mp h
    · exact ⟨sValue_wf f s _ hv, sElems_wf f _ _ he⟩
    · exact ⟨sValue_wf f s _ hv, trivial⟩
theorem sMembers_wf : ∀ (f : Nat) (s : Bytes) (x : List (List JItem × JTree) × Bytes),
    sMembers f s = some x → JTree.TokWfMembers x.1
  | 0, s, x, h => by simp [sMembers] at h
  | f + 1, s, x, h => by
    rw [sMembers_succ] at h
    obtain ⟨kv, r, c, r', hm, -, hx⟩ := pList_some.mp h
    obtain ⟨q, k, r1, r2, v, r3, -, hk, -, hv, hkv⟩ := pMember_some.mp hm
    cases hkv
    have hk := pStrBody_wf _ _ k r1 hk
    have hv := sValue_wf f _ _ hv
    rcases hx with ⟨-, l, r'', he, rfl⟩ | ⟨-, -, rfl⟩
    · exact ⟨hk, hv, sMembers_wf f _ _ he⟩
    · exact ⟨hk, hv, trivial⟩
end

theorem parseTree_wf (s : Bytes) (t : JTree) (h : parseTree s = some t) : t.TokWf := by
  unfold parseTree at h
  cases hv : sValue (s.length + 1) (skipWs s) with
  | none => rw [hv] at h; cases h
  | some p =>
    obtain ⟨t', r⟩ := p
    rw [hv] at h
    simp only at h
    split at h
    · simp only [Option.some.injEq] at h; rw [← h]; exact sValue_wf _ _ (t', r) hv
    · cases h

mutual
/-- the covered region of JSON texts, stated on the parse tree WITHOUT the (always true)
well-formedness of its tokens: strings are Unicode text (surrogate escapes paired) without raw
U+FEFF, numbers within apd's limits, member names of every object pairwise distinct -/
def JTree.InRegion : JTree → Prop
  | .null => True
  | .bool _ => True
  | .num n => n.inApdRange
  | .str items => wellPaired items = true ∧ noRawBOM items = true
  | .arr es => JTree.InRegionList es
  | .obj ms => JTree.InRegionMembers ms ∧ distinctKeys (JTree.denMembers ms) = true
def JTree.InRegionList : List JTree → Prop
  | [] => True
  | e :: es => e.InRegion ∧ JTree.InRegionList es
def JTree.InRegionMembers : List (List JItem × JTree) → Prop
  | [] => True
  | (k, v) :: ms => (wellPaired k = true ∧ noRawBOM k = true) ∧ v.InRegion ∧ JTree.InRegionMembers ms
end

mutual
theorem readable_of : ∀ (t : JTree), t.TokWf → t.InRegion → t.Readable
  | .null, _, _ => trivial
  | .bool _, _, _ => trivial
  | .num n, hw, hr => by simp only [JTree.TokWf, JTree.InRegion, JTree.Readable] at *; exact ⟨hw, hr⟩
  | .str items, hw, hr => by
    simp only [JTree.TokWf, JTree.InRegion, JTree.Readable, StrOk] at *; exact ⟨hw, hr.1, hr.2⟩
  | .arr es, hw, hr => by
    simp only [JTree.TokWf, JTree.InRegion, JTree.Readable] at *; exact readable_list es hw hr
  | .obj ms, hw, hr => by
    simp only [JTree.TokWf, JTree.InRegion, JTree.Readable] at *
    exact ⟨readable_members ms hw hr.1, hr.2⟩
theorem readable_list : ∀ (es : List JTree), JTree.TokWfList es → JTree.InRegionList es →
    JTree.ReadableList es
  | [], _, _ => trivial
  | e :: es, hw, hr => by
    simp only [JTree.TokWfList, JTree.InRegionList, JTree.ReadableList] at *
    exact ⟨readable_of e hw.1 hr.1, readable_list es hw.2 hr.2⟩
theorem readable_members : ∀ (ms : List (List JItem × JTree)), JTree.TokWfMembers ms →
    JTree.InRegionMembers ms → JTree.ReadableMembers ms
  | [], _, _ => trivial
  | (k, v) :: ms, hw, hr => by
    simp only [JTree.TokWfMembers, JTree.InRegionMembers, JTree.ReadableMembers, StrOk] at *
    exact ⟨⟨hw.1, hr.1.1, hr.1.2⟩, readable_of v hw.2.1 hr.2.1, readable_members ms hw.2.2 hr.2.2⟩
end

theorem extract_text_full {E : Env} (hE : E.Ok) (nq : Bytes → Bool) (text : Bytes) (t : JTree)
    (ht : parseTree text = some t) (hr : t.InRegion) :
    ∃ c, extractModel E nq text = some c ∧ evalData c = (parseJSON text).map JVal.normZero :=
  extract_text hE nq text t ht (readable_of t (parseTree_wf text t ht) hr)

theorem extract_accepted {E : Env} (hE : E.Ok) (nq : Bytes → Bool) (text : Bytes) (d : JVal)
    (h : parseJSON text = some d) :
    ∃ t, parseTree text = some t ∧ t.den = d ∧
      (t.InRegion → ∃ c, extractModel E nq text = some c ∧ evalData c = some d.normZero) := by
  rw [parseJSON_eq] at h
  obtain ⟨t, ht, hd⟩ := Option.map_eq_some_iff.mp h
  refine ⟨t, ht, hd, fun hr => ?_⟩
  obtain ⟨c, h1, h2⟩ := extract_text_full hE nq text t ht hr
  exact ⟨c, h1, by rw [h2, parseJSON_eq, ht, ← hd]; rfl⟩

end CueVerif.Json
