/-
C10: lemmas about the token grammars of Spec/Json.lean alone (no model involved).  Core Lean only.
-/
import CueVerif.Spec.Json
namespace CueVerif.Json
open CueVerif.Quote (Bytes encodeRune)

/-! ## string tokens -/

theorem raw_wf {r : Nat} (h : (JItem.raw r).wf = true) :
    r ≤ 0x10FFFF ∧ ¬ (0xD800 ≤ r ∧ r < 0xE000) ∧ 0x20 ≤ r ∧ r ≠ 0x22 ∧ r ≠ 0x5C := by
  simp only [JItem.wf, isScalar, Bool.and_eq_true, decide_eq_true_eq, Bool.not_eq_true',
    Bool.and_eq_false_iff, decide_eq_false_iff_not, bne_iff_ne, ne_eq] at h
  omega

theorem isHexChar_cases {c : Nat} (h : isHexChar c = true) :
    (48 ≤ c ∧ c ≤ 57) ∨ (65 ≤ c ∧ c ≤ 70) ∨ (97 ≤ c ∧ c ≤ 102) := by
  simpa only [isHexChar, Bool.and_eq_true, Bool.or_eq_true, decide_eq_true_eq, or_assoc] using h

theorem WfItems.head {i : JItem} {t : List JItem} (h : WfItems (i :: t)) : i.wf = true :=
  h i (List.mem_cons_self ..)

theorem WfItems.tail {i : JItem} {t : List JItem} (h : WfItems (i :: t)) : WfItems t :=
  fun x hx => h x (List.mem_cons_of_mem _ hx)

theorem wfItems_cons {i : JItem} {t : List JItem} (hi : i.wf = true) (ht : WfItems t) : WfItems (i :: t) := by
  intro x hx
  rcases List.mem_cons.mp hx with h | h
  · rw [h]; exact hi
  · exact ht x h

theorem high_iff (v : Nat) : isHigh v = true ↔ 0xD800 ≤ v ∧ v < 0xDC00 := by
  unfold isHigh
  rw [Bool.and_eq_true, decide_eq_true_eq, decide_eq_true_eq]

theorem low_iff (v : Nat) : isLow v = true ↔ 0xDC00 ≤ v ∧ v < 0xE000 := by
  unfold isLow
  rw [Bool.and_eq_true, decide_eq_true_eq, decide_eq_true_eq]

theorem denote_u_notHigh (a b c d : Nat) (t : List JItem) (h : isHigh (uVal a b c d) = false) :
    denote (.u a b c d :: t) = encodeRune (uVal a b c d) ++ denote t := by
  match t with
  | [] => simp [denote]
  | .raw _ :: _ => simp [denote]
  | .esc _ :: _ => simp [denote]
  | .u _ _ _ _ :: _ => simp [denote, h]

theorem denote_u_pair (a b c d a' b' c' d' : Nat) (t : List JItem)
    (h : isHigh (uVal a b c d) = true) (h' : isLow (uVal a' b' c' d') = true) :
    denote (.u a b c d :: .u a' b' c' d' :: t) =
      encodeRune (combine (uVal a b c d) (uVal a' b' c' d')) ++ denote t := by
  simp [denote, h, h']

theorem wellPaired_u_notHigh (a b c d : Nat) (t : List JItem) (h : isHigh (uVal a b c d) = false) :
    wellPaired (.u a b c d :: t) = (!isLow (uVal a b c d) && wellPaired t) := by
  match t with
  | [] => simp [wellPaired, h]
  | .raw _ :: _ => simp [wellPaired, h]
  | .esc _ :: _ => simp [wellPaired, h]
  | .u _ _ _ _ :: _ => simp [wellPaired, h]

/-- a well-paired item list is built from raw items, two-character escapes, `\u` escapes that
are no surrogates, and high+low pairs of `\u` escapes -/
theorem wellPaired_induct {P : List JItem → Prop} (nil : P [])
    (raw : ∀ r t, P t → P (.raw r :: t)) (esc : ∀ e t, P t → P (.esc e :: t))
    (single : ∀ a b c d t, isHigh (uVal a b c d) = false → isLow (uVal a b c d) = false → P t →
      P (.u a b c d :: t))
    (pair : ∀ a b c d a' b' c' d' t, isHigh (uVal a b c d) = true → isLow (uVal a' b' c' d') = true →
      P t → P (.u a b c d :: .u a' b' c' d' :: t))
    (items : List JItem) (h : wellPaired items = true) : P items := by
  revert h
  fun_induction wellPaired items with
  | case1 => exact fun _ => nil
  | case2 r t ih => exact fun h => raw r t (ih h)
  | case3 e t ih => exact fun h => esc e t (ih h)
  | case4 a b c d a' b' c' d' t hh ih =>
    intro h
    simp only [Bool.and_eq_true] at h
    exact pair _ _ _ _ _ _ _ _ t hh h.1 (ih h.2)
  | case5 a b c d a' b' c' d' t hh ih =>
    intro h
    simp only [Bool.and_eq_true, Bool.not_eq_true'] at h
    exact single _ _ _ _ _ (by simpa using hh) h.1 (ih h.2)
  | case6 a b c d t hne ih =>
    intro h
    simp only [Bool.and_eq_true, Bool.not_eq_true'] at h
    exact single _ _ _ _ _ h.1.1 h.1.2 (ih h.2)

/-! ## number tokens -/

theorem isDigit_iff {c : Nat} : isDigit c = true ↔ 48 ≤ c ∧ c ≤ 57 := by
  simp [isDigit]

theorem allDigits_cons {d : Nat} {ds : Bytes} :
    allDigits (d :: ds) = true ↔ (48 ≤ d ∧ d ≤ 57) ∧ allDigits ds = true := by
  simp only [allDigits, List.all_cons, Bool.and_eq_true, isDigit_iff]

theorem allDigits_append (a b : Bytes) : allDigits (a ++ b) = (allDigits a && allDigits b) := by
  simp only [allDigits, List.all_append]

theorem digits_cons {ds : Bytes} (hne : ds ≠ []) (hds : allDigits ds = true) :
    ∃ d t, ds = d :: t ∧ 48 ≤ d ∧ d ≤ 57 ∧ allDigits t = true := by
  cases ds with
  | nil => exact absurd rfl hne
  | cons d t => exact ⟨d, t, rfl, (allDigits_cons.mp hds).1.1, (allDigits_cons.mp hds).1.2, (allDigits_cons.mp hds).2⟩

theorem digitsVal_append (a b : Bytes) :
    digitsVal (a ++ b) = b.foldl (fun a c => a * 10 + (c - 48)) (digitsVal a) := by
  simp only [digitsVal, List.foldl_append]

theorem digitsVal_snoc (a : Bytes) (c : Nat) : digitsVal (a ++ [c]) = digitsVal a * 10 + (c - 48) := by
  rw [digitsVal_append]; rfl

theorem digitsVal_zeros (k : Nat) : digitsVal (List.replicate k 48) = 0 := by
  induction k with
  | zero => rfl
  | succ k ih => rw [List.replicate_succ', digitsVal_snoc, ih]

theorem digitsVal_zeros_append (k : Nat) (ds : Bytes) :
    digitsVal (List.replicate k 48 ++ ds) = digitsVal ds := by
  rw [digitsVal_append, digitsVal_zeros]; rfl

theorem fracWf_some {f : Bytes} : fracWf (some f) = true ↔ f ≠ [] ∧ allDigits f = true := by
  simp only [fracWf, Bool.and_eq_true, Bool.not_eq_true', List.isEmpty_eq_false_iff]

theorem expWf_some {e : JExp} : expWf (some e) = true ↔ e.digits ≠ [] ∧ allDigits e.digits = true := by
  simp only [expWf, JExp.wf, Bool.and_eq_true, Bool.not_eq_true', List.isEmpty_eq_false_iff]

theorem jnum_wf_iff (n : JNum) :
    n.wf = true ↔ n.int ≠ [] ∧ allDigits n.int = true ∧ (n.int = [48] ∨ n.int.head? ≠ some 48) ∧
      fracWf n.frac = true ∧ expWf n.exp = true := by
  simp only [JNum.wf, Bool.and_eq_true, Bool.not_eq_true', List.isEmpty_eq_false_iff, Bool.or_eq_true,
    beq_iff_eq, bne_iff_ne, ne_eq, and_assoc]

end CueVerif.Json
