/-
C10 helper lemmas: RFC 8259 number tokens read by the CUE scanner / literal.ParseNum (kind) and
by apd's SetString (value).  The kind comes from C06 and C09: a JSON number spelling is a literal of
the CUE grammar of Spec/Arith.lean (`JNum.toCue`), which `ParseNum` accepts (`literal_accepted`) and
on which the scanner agrees with `ParseNum` (`numbers_agree`).  Core Lean only.
-/
import CueVerif.Spec.Json
import CueVerif.Model.Json
import CueVerif.Proofs.NumLit
import CueVerif.Proofs.JsonGrammar
import CueVerif.Proofs.NumValLitAccept
namespace CueVerif.Json
open CueVerif
open CueVerif.Quote (Bytes)

def JNum.kind (n : JNum) : NumLit.Kind := if n.isFloat then .float else .int

/-- the region in which apd's `Context.SetString` (BaseContext limits ±100000) returns no error —
EXACTLY (`number_value` inside, `number_reject` outside): the written exponent and the (negated)
number of fraction digits are each within the limits (first `setExponent` pass: every summand,
which also covers the int32 range of `strconv.ParseInt`), so is the adjusted exponent, and the
resulting exponent itself is not below the lower limit (second `setExponent` pass, run by
`c.round`; its upper limit is implied by the one on the written exponent) -/
def JNum.inApdRange (n : JNum) : Prop :=
  -100000 ≤ expValue n.exp ∧ expValue n.exp ≤ 100000 ∧ (fracDigits n.frac).length ≤ 100000 ∧
  -100000 ≤ n.exponent + (numDigits n.coeff : Int) - 1 ∧ n.exponent + (numDigits n.coeff : Int) - 1 ≤ 100000 ∧
  -100000 ≤ n.exponent

/-! ## the bytes of a spelling -/

theorem allDigits_mem {ds : Bytes} (h : allDigits ds = true) {x : Nat} (hx : x ∈ ds) :
    48 ≤ x ∧ x ≤ 57 :=
  isDigit_iff.mp (List.all_eq_true.mp h x hx)

theorem sSign_minus (cs : Bytes) : NumLit.sSign (45 :: cs) = (cs, NumLit.nulErr cs) := rfl
theorem sSign_plus (cs : Bytes) : NumLit.sSign (43 :: cs) = (cs, NumLit.nulErr cs) := rfl

/-- the bytes a JSON number spelling is made of -/
def jsonByte (c : Nat) : Bool :=
  isDigit c || c == 46 || c == 101 || c == 69 || c == 43 || c == 45

theorem jsonByte_iff {c : Nat} : jsonByte c = true ↔
    (48 ≤ c ∧ c ≤ 57) ∨ c = 46 ∨ c = 101 ∨ c = 69 ∨ c = 43 ∨ c = 45 := by
  simp only [jsonByte, Bool.or_eq_true, isDigit_iff, beq_iff_eq, or_assoc]

def signText : Option Bool → Bytes
  | some true => [0x2D]
  | some false => [0x2B]
  | none => []

theorem JExp.text_eq (e : JExp) :
    e.text = (if e.upper then 0x45 else 0x65) :: (signText e.sign ++ e.digits) := by
  obtain ⟨up, sg, dg⟩ := e
  rcases sg with _ | _ | _ <;> rfl

/-- the bytes in front of the exponent part -/
theorem mant_bytes {int : Bytes} {f : Option Bytes} (hi : allDigits int = true)
    (hf : fracWf f = true) : ∀ x ∈ int ++ fracText f, (48 ≤ x ∧ x ≤ 57) ∨ x = 46 := by
  intro x hx
  rcases List.mem_append.mp hx with hx | hx
  · exact .inl (allDigits_mem hi hx)
  · cases f with
    | none => cases hx
    | some f =>
      rcases List.mem_cons.mp hx with rfl | hx
      · exact .inr rfl
      · exact .inl (allDigits_mem (fracWf_some.mp hf).2 hx)

theorem utext_bytes (n : JNum) (hwf : n.wf = true) : n.utext.all jsonByte = true := by
  obtain ⟨-, hds, -, hf, he⟩ := (jnum_wf_iff n).mp hwf
  rw [JNum.utext, ← List.append_assoc, List.all_append, Bool.and_eq_true]
  refine ⟨List.all_eq_true.mpr fun x hx => jsonByte_iff.mpr ?_, ?_⟩
  · have := mant_bytes hds hf x hx
    omega
  · cases hex : n.exp with
    | none => rfl
    | some e =>
      rw [hex] at he
      obtain ⟨up, sg, dg⟩ := e
      have hdg : dg.all jsonByte = true := List.all_eq_true.mpr fun x hx =>
        jsonByte_iff.mpr (.inl (allDigits_mem (expWf_some.mp he).2 hx))
      simp only [expText, JExp.text_eq, List.all_cons, List.all_append, hdg, Bool.and_true,
        Bool.and_eq_true]
      constructor
      · cases up <;> rfl
      · rcases sg with _ | _ | _ <;> rfl

/-- the "not a plain base-10 literal" guard of `decodeNumber` never fires on JSON bytes -/
theorem guard_false (u : Bytes) (h : u.all jsonByte = true) :
    (u.any fun c => c == 95 || NumLit.isMul c || c == 105 || c == 120 || c == 88 || c == 98 ||
      c == 111) = false := by
  rw [List.any_eq_false]
  intro c hc
  have := jsonByte_iff.mp (List.all_eq_true.mp h c hc)
  simp only [NumLit.isMul, Bool.or_eq_true, beq_iff_eq]
  omega

/-! ## the kind: JSON numbers are CUE literals -/

def JExp.toCue (e : JExp) : Spec.Arith.Exponent :=
  ⟨e.upper, match e.sign with | none => .none | some false => .plus | some true => .minus, e.digits⟩

/-- the derivation of a JSON number spelling in the CUE literal grammar of Spec/Arith.lean:
`decimal_lit`, `decimals exponent` or `decimals "." decimals [exponent]` -/
def JNum.toCue (n : JNum) : Spec.Arith.Lit :=
  match n.frac, n.exp with
  | none, none => .dec n.int
  | none, some e => .fExp n.int e.toCue
  | some f, e => .fPoint n.int (some f) (e.map JExp.toCue)

theorem wfDigits_digits {ds : Bytes} (hne : ds ≠ []) (h : allDigits ds = true) :
    Spec.Arith.wfDigits 10 ds = true :=
  Proofs.NumValLitAccept.wfDigits_of_allDec h (List.length_pos_iff.mpr hne)

theorem JExp.toCue_spell (e : JExp) : e.toCue.spell = e.text := by
  obtain ⟨up, sg, dg⟩ := e
  rcases sg with _ | _ | _ <;> rfl

/-- `toCue` is a derivation of the same spelling with the same kind -/
theorem JNum.toCue_spec (n : JNum) (hwf : n.wf = true) :
    n.toCue.wf = true ∧ n.toCue.siLeadingZero = false ∧ n.toCue.spell = n.utext ∧ n.toCue.kind = n.kind := by
  obtain ⟨neg, int, frac, exp⟩ := n
  obtain ⟨hne, hds, hz, hf, he⟩ := (jnum_wf_iff _).mp hwf
  have hi := wfDigits_digits hne hds
  have hx : ∀ e : JExp, expWf (some e) = true → Spec.Arith.wfDigits 10 e.toCue.ds = true := fun e h =>
    wfDigits_digits (expWf_some.mp h).1 (expWf_some.mp h).2
  cases frac with
  | some f =>
    have hf' := wfDigits_digits (fracWf_some.mp hf).1 (fracWf_some.mp hf).2
    refine ⟨?_, rfl, ?_, rfl⟩
    · cases exp with
      | none => simp [JNum.toCue, Spec.Arith.Lit.wf, hi, Spec.Arith.optWf, hf', Spec.Arith.exWf]
      | some e => simp [JNum.toCue, Spec.Arith.Lit.wf, hi, Spec.Arith.optWf, hf', Spec.Arith.exWf, hx e he]
    · cases exp with
      | none => simp [JNum.toCue, Spec.Arith.Lit.spell, JNum.utext, Spec.Arith.optSpell, Spec.Arith.exSpell, fracText, expText]
      | some e => simp [JNum.toCue, Spec.Arith.Lit.spell, JNum.utext, Spec.Arith.optSpell, Spec.Arith.exSpell, fracText, expText, JExp.toCue_spell]
  | none =>
    cases exp with
    | some e =>
      exact ⟨by simp [JNum.toCue, Spec.Arith.Lit.wf, hi, hx e he], rfl,
        by simp [JNum.toCue, Spec.Arith.Lit.spell, JNum.utext, fracText, expText, JExp.toCue_spell], rfl⟩
    | none =>
      refine ⟨?_, rfl, by simp [JNum.toCue, Spec.Arith.Lit.spell, JNum.utext, fracText, expText], rfl⟩
      obtain ⟨d, t, rfl, hd1, hd2, ht⟩ := digits_cons hne hds
      rcases hz with h | h
      · show (Spec.Arith.Lit.dec (d :: t)).wf = true
        rw [show d :: t = [48] from h]; rfl
      · have : d ≠ 48 := by simpa using h
        simp only [JNum.toCue, Spec.Arith.Lit.wf, Bool.or_eq_true, Bool.and_eq_true, decide_eq_true_eq]
        exact .inr ⟨by omega, Proofs.NumValLitAccept.wfTail_of_allDec ht⟩

theorem utext_head (n : JNum) (hwf : n.wf = true) : ∃ d t, n.utext = d :: t ∧ 48 ≤ d ∧ d ≤ 57 := by
  obtain ⟨hne, hds, -⟩ := (jnum_wf_iff n).mp hwf
  obtain ⟨d, t, hdt, hd1, hd2, -⟩ := digits_cons hne hds
  exact ⟨d, t ++ (fracText n.frac ++ expText n.exp), by simp [JNum.utext, hdt], hd1, hd2⟩

/-- Every JSON number spelling (without its minus sign) is a literal of the CUE grammar (`toCue`), so
literal.ParseNum accepts it with the grammar's kind (C06: `literal_accepted`), `int` iff it has neither
fraction nor exponent, and the CUE scanner lexes it as one error-free number token of that kind (C09:
`numbers_agree`; a JSON spelling starts with a digit and has no `_`). -/
theorem number_kind (n : JNum) (hwf : n.wf = true) :
    NumLit.scannerAccepts n.utext = some n.kind ∧ NumLit.parseNum n.utext = some n.kind := by
  obtain ⟨hw, hz, hs, hk⟩ := JNum.toCue_spec n hwf
  obtain ⟨d, t, hdt, hd1, hd2⟩ := utext_head n hwf
  have hp : NumLit.parseNum n.utext = some n.kind := by
    have h := Proofs.NumValLitAccept.literal_accepted _ hw hz
    rw [hs, hk, hdt] at h
    have h45 : (d == 45) = false := by simp only [beq_eq_false_iff_ne, ne_eq]; omega
    have h43 : (d == 43) = false := by simp only [beq_eq_false_iff_ne, ne_eq]; omega
    simpa [NumLit.parseNumUnsigned, h45, h43, hdt] using h
  refine ⟨?_, hp⟩
  rw [NumLit.numbers_agree n.utext ?_ ?_]
  · exact hp
  · rw [hdt]; simp [NumLit.startsNumber, NumLit.isDec_iff.mpr ⟨hd1, hd2⟩]
  · have hb := utext_bytes n hwf
    unfold NumLit.zeroUnderscore
    split
    · rename_i heq
      rw [heq] at hb
      simp [jsonByte, isDigit] at hb
    · rfl

/-! ## the value -/

/-- `decodeNumber` after the optional minus sign has been split off -/
def decodeCore (neg : Bool) (u : Bytes) : Option (NumLit.Kind × ApdDec) :=
  if u.any fun c => c == 95 || NumLit.isMul c || c == 105 || c == 120 || c == 88 || c == 98 || c == 111 then none
  else
    match NumLit.scannerAccepts u with
    | none => none
    | some _ =>
      match NumLit.parseNum u with
      | none => none
      | some k =>
        let (d, err) := apdSetString u
        if err then none else some (k, if neg then apdNeg d else d)

theorem decodeNumber_minus (u : Bytes) : decodeNumber (45 :: u) = decodeCore true u := rfl

theorem decodeNumber_plain (d : Nat) (t : Bytes) (hd : d ≠ 45) :
    decodeNumber (d :: t) = decodeCore false (d :: t) := by
  unfold decodeNumber
  split
  · rename_i neg u heq
    split at heq
    · rename_i heq2
      simp only [List.cons.injEq] at heq2
      exact absurd heq2.1 hd
    · simp only [Prod.mk.injEq] at heq
      obtain ⟨rfl, rfl⟩ := heq
      rfl

theorem decodeCore_eq (neg : Bool) {u : Bytes} {k : NumLit.Kind} (hu : u.all jsonByte = true)
    (hs : NumLit.scannerAccepts u = some k) (hp : NumLit.parseNum u = some k) :
    decodeCore neg u =
      if (apdSetString u).2 then none
      else some (k, if neg then apdNeg (apdSetString u).1 else (apdSetString u).1) := by
  unfold decodeCore
  rw [guard_false u hu]
  simp only [hs, hp, Bool.false_eq_true, if_false]

theorem decodeNumber_eq (n : JNum) (hwf : n.wf = true) :
    decodeNumber n.text =
      if (apdSetString n.utext).2 then none
      else some (n.kind, if n.neg then apdNeg (apdSetString n.utext).1 else (apdSetString n.utext).1) := by
  obtain ⟨hk1, hk2⟩ := number_kind n hwf
  obtain ⟨d, t, hdt, hd1, hd2⟩ := utext_head n hwf
  rw [← decodeCore_eq n.neg (utext_bytes n hwf) hk1 hk2, JNum.text]
  cases n.neg with
  | true => exact decodeNumber_minus _
  | false => rw [hdt]; exact decodeNumber_plain d t (by omega)

/-! ### apd's SetString, cut into stages -/

/-- the body of `strconv.ParseInt` after the sign -/
def parseIntCore (neg : Bool) (ds : Bytes) : Option Int :=
  if ds.isEmpty || !(ds.all fun c => decide (48 ≤ c) && decide (c ≤ 57)) then none
  else
    let v : Int := (ds.foldl (fun a c => a * 10 + (c - 48)) 0 : Nat)
    let v := if neg then -v else v
    if v < -2147483648 || v > 2147483647 then none else some v

theorem parseInt32_minus (ds : Bytes) : parseInt32 (45 :: ds) = parseIntCore true ds := rfl
theorem parseInt32_plus (ds : Bytes) : parseInt32 (43 :: ds) = parseIntCore false ds := rfl
theorem parseInt32_plain (d : Nat) (t : Bytes) (h1 : d ≠ 45) (h2 : d ≠ 43) :
    parseInt32 (d :: t) = parseIntCore false (d :: t) := by
  unfold parseInt32
  split
  · rename_i neg ds heq
    split at heq
    · rename_i heq2; simp only [List.cons.injEq] at heq2; exact absurd heq2.1 h1
    · rename_i heq2; simp only [List.cons.injEq] at heq2; exact absurd heq2.1 h2
    · simp only [Prod.mk.injEq] at heq
      obtain ⟨rfl, rfl⟩ := heq
      rfl

theorem parseIntCore_digits (neg : Bool) (ds : Bytes) (hne : ds ≠ [])
    (hds : allDigits ds = true) :
    parseIntCore neg ds =
      if (if neg then -(digitsVal ds : Int) else (digitsVal ds : Int)) < -2147483648 ||
          (if neg then -(digitsVal ds : Int) else (digitsVal ds : Int)) > 2147483647 then none
      else some (if neg then -(digitsVal ds : Int) else (digitsVal ds : Int)) := by
  have hds' : (ds.all fun c => decide (48 ≤ c) && decide (c ≤ 57)) = true := hds
  unfold parseIntCore
  simp only [List.isEmpty_eq_false_iff.mpr hne, hds', Bool.not_true, Bool.or_self, Bool.false_eq_true, if_false]
  rfl

/-- `strconv.ParseInt(_, 10, 32)` on the written exponent: its value, unless outside int32 -/
theorem parseInt32_exp (e : JExp) (hwf : e.wf = true) :
    parseInt32 (signText e.sign ++ e.digits) =
      if e.value < -2147483648 || e.value > 2147483647 then none else some e.value := by
  obtain ⟨up, sg, dg⟩ := e
  replace hwf := expWf_some.mp hwf
  have hc := fun neg => parseIntCore_digits neg dg hwf.1 hwf.2
  rcases sg with _ | _ | _
  · obtain ⟨d, t, rfl, hd1, hd2, -⟩ := digits_cons hwf.1 hwf.2
    exact (parseInt32_plain d t (by omega) (by omega)).trans (hc false)
  · exact (parseInt32_plus dg).trans (hc false)
  · exact (parseInt32_minus dg).trans (hc true)


/-- the end of `Context.SetString`: the two `setExponent` passes -/
def apdFin (coeff : Nat) (xs : List Int) : ApdDec × Bool :=
  let (e, err) := apdSetExponent coeff xs
  (.finite false coeff e, err || decide (e > apdMaxExponent) || decide (e < apdMinExponent))

/-- the digit check on the mantissa once the point is removed -/
def apdDigits (m : Bytes) (exps : List Int) : ApdDec × Bool :=
  if !(m.all fun c => decide (48 ≤ c) && decide (c ≤ 57)) then (.nan false, true)
  else if m.isEmpty then (.nan false, true)
  else apdFin (m.foldl (fun a c => a * 10 + (c - 48)) 0) exps

/-- the mantissa stage of `setString` for a non-negative literal -/
def apdMant (m : Bytes) (exps : List Int) : ApdDec × Bool :=
  let (m, exps) :=
    match m.findIdx? (· == 46) with
    | some i => (m.take i ++ m.drop (i + 1), exps ++ [-((m.length - i - 1 : Nat) : Int)])
    | none => (m, exps)
  apdDigits m exps

/-- the exponent stage -/
def apdExpSplit (s : Bytes) : Option (Bytes × List Int) :=
  match s.findIdx? (· == 101) with
  | some i =>
    match parseInt32 (s.drop (i + 1)) with
    | some e => some (s.take i, [e])
    | none => none
  | none => some (s, [])

def apdCore (s : Bytes) : ApdDec × Bool :=
  match apdExpSplit s with
  | none => (.nan false, true)
  | some (m, exps) => apdMant m exps

theorem toLower_cons_digit (d : Nat) (t : Bytes) (h1 : 48 ≤ d) (h2 : d ≤ 57) :
    toLowerAscii (d :: t) = d :: toLowerAscii t := by
  have : ¬ (65 ≤ d ∧ d ≤ 90) := by omega
  simp [toLowerAscii, this]

/-- a literal that starts with a digit skips the sign, "inf" and "nan" stages -/
theorem apdSetString_digit (d : Nat) (t : Bytes) (h1 : 48 ≤ d) (h2 : d ≤ 57) :
    apdSetString (d :: t) = apdCore (toLowerAscii (d :: t)) := by
  have e45 : d ≠ 45 := by omega
  have e43 : d ≠ 43 := by omega
  have e105 : d ≠ 105 := by omega
  have e110 : ¬ 110 = d := by omega
  have e115 : ¬ 115 = d := by omega
  have hl := toLower_cons_digit d t h1 h2
  simp [apdSetString, apdCore, apdExpSplit, apdMant, apdDigits, e45, e43, e105, e110, e115, hl]
  rfl


/-! ### the lower-cased spelling -/

/-- the exponent part after `strings.ToLower` -/
def lexpText : Option JExp → Bytes
  | none => []
  | some e => 101 :: (signText e.sign ++ e.digits)

theorem toLower_append (a b : Bytes) :
    toLowerAscii (a ++ b) = toLowerAscii a ++ toLowerAscii b := List.map_append

theorem toLower_fixed {s : Bytes} (h : ∀ c ∈ s, c < 65 ∨ 90 < c) : toLowerAscii s = s :=
  (List.map_congr_left fun c hc => if_neg (by have := h c hc; omega)).trans (List.map_id s)

theorem toLower_digits (ds : Bytes) (h : allDigits ds = true) : toLowerAscii ds = ds :=
  toLower_fixed fun _ hc => by have := allDigits_mem h hc; omega

theorem toLower_signText (sg : Option Bool) : toLowerAscii (signText sg) = signText sg := by
  rcases sg with _ | _ | _ <;> rfl

theorem toLower_expText (e : Option JExp) (he : expWf e = true) :
    toLowerAscii (expText e) = lexpText e := by
  cases e with
  | none => rfl
  | some e =>
    have ht : toLowerAscii (signText e.sign ++ e.digits) = signText e.sign ++ e.digits := by
      rw [toLower_append, toLower_signText, toLower_digits _ (expWf_some.mp he).2]
    rw [expText, JExp.text_eq, lexpText]
    refine Eq.trans ?_ (congrArg (101 :: ·) ht)
    cases e.upper <;> rfl

theorem toLower_utext (n : JNum) (hwf : n.wf = true) :
    toLowerAscii n.utext = (n.int ++ fracText n.frac) ++ lexpText n.exp := by
  obtain ⟨-, hds, -, hf, he⟩ := (jnum_wf_iff n).mp hwf
  rw [JNum.utext, ← List.append_assoc, toLower_append, toLower_expText _ he,
    toLower_fixed (s := n.int ++ fracText n.frac) fun x hx => by
      have := mant_bytes hds hf x hx; omega]

/-! ### searching for 'e' and '.' -/

theorem findIdx_hit (p : Nat → Bool) (xs : Bytes) (y : Nat) (ys : Bytes)
    (h : ∀ x ∈ xs, p x = false) (hy : p y = true) :
    (xs ++ y :: ys).findIdx? p = some xs.length := by
  rw [List.findIdx?_append, List.findIdx?_eq_none_iff.mpr h]
  simp [List.findIdx?_cons, hy]

theorem mant_no_e (int : Bytes) (f : Option Bytes) (hi : allDigits int = true)
    (hf : fracWf f = true) : ∀ x ∈ int ++ fracText f, (x == 101) = false := by
  intro x hx
  have := mant_bytes hi hf x hx
  simp only [beq_eq_false_iff_ne, ne_eq]
  omega


/-! ### the stages on a JSON number -/

def expList : Option JExp → List Int
  | none => []
  | some e => [e.value]

def fracExps : Option Bytes → List Int
  | none => []
  | some f => [-((f.length : Nat) : Int)]

/-- the exponent stage: the written exponent is handed on if it fits int32, otherwise
"parse exponent" fails -/
theorem apdExpSplit_eq (m : Bytes) (e : Option JExp) (hm : ∀ x ∈ m, (x == 101) = false)
    (he : expWf e = true) :
    apdExpSplit (m ++ lexpText e) =
      if expValue e < -2147483648 || expValue e > 2147483647 then none else some (m, expList e) := by
  cases e with
  | none =>
    simp only [lexpText, List.append_nil, apdExpSplit, List.findIdx?_eq_none_iff.mpr hm]
    rfl
  | some e =>
    simp only [lexpText, apdExpSplit, findIdx_hit _ m 101 _ hm rfl, List.drop_length_add_append,
      List.drop_succ_cons, List.drop_zero, List.take_left, parseInt32_exp e he]
    by_cases hb : (e.value < -2147483648 || e.value > 2147483647) = true
    · rw [if_pos hb]
      exact (if_pos hb).symm
    · rw [if_neg hb]
      exact (if_neg hb).symm

theorem apdDigits_eq {m : Bytes} (hne : m ≠ []) (hm : allDigits m = true) (exps : List Int) :
    apdDigits m exps = apdFin (digitsVal m) exps := by
  have hm' : (m.all fun c => decide (48 ≤ c) && decide (c ≤ 57)) = true := hm
  simp only [apdDigits, hm', List.isEmpty_eq_false_iff.mpr hne, Bool.not_true, Bool.false_eq_true, if_false]
  rfl

theorem apdMant_eq (int : Bytes) (f : Option Bytes) (exps : List Int)
    (hne : int ≠ []) (hi : allDigits int = true) (hf : fracWf f = true) :
    apdMant (int ++ fracText f) exps =
      apdFin (digitsVal (int ++ fracDigits f)) (exps ++ fracExps f) := by
  have h46 : ∀ x ∈ int, (x == 46) = false := fun x hx => by
    have := allDigits_mem hi hx
    simp only [beq_eq_false_iff_ne, ne_eq]
    omega
  cases f with
  | none =>
    simp only [apdMant, fracText, fracDigits, fracExps, List.append_nil,
      List.findIdx?_eq_none_iff.mpr h46]
    exact apdDigits_eq hne hi exps
  | some f =>
    have hlen : (int ++ 46 :: f).length - int.length - 1 = f.length := by
      simp only [List.length_append, List.length_cons]; omega
    simp only [apdMant, fracText, fracDigits, fracExps, findIdx_hit _ int 46 f h46 rfl,
      List.take_left, List.drop_length_add_append, List.drop_succ_cons, List.drop_zero, hlen]
    refine apdDigits_eq (by simp [hne]) ?_ _
    rw [allDigits_append, hi, (fracWf_some.mp hf).2]; rfl

theorem numDigits_pos (c : Nat) : 1 ≤ numDigits c := by
  unfold numDigits
  dsimp only
  split <;> omega

/-- the first `setExponent` pass succeeds: every summand and the adjusted exponent are within
the limits -/
def ExpsOk (coeff : Nat) (xs : List Int) : Prop :=
  (∀ x ∈ xs, -100000 ≤ x ∧ x ≤ 100000) ∧
  -100000 ≤ xs.foldl (· + ·) 0 + (numDigits coeff : Int) - 1 ∧
  xs.foldl (· + ·) 0 + (numDigits coeff : Int) - 1 ≤ 100000

theorem any_out_iff (xs : List Int) :
    (xs.any fun x => decide (x > apdMaxExponent) || decide (x < apdMinExponent)) = false ↔
      ∀ x ∈ xs, -100000 ≤ x ∧ x ≤ 100000 := by
  have hM : apdMaxExponent = 100000 := rfl
  have hm : apdMinExponent = -100000 := rfl
  rw [List.any_eq_false]
  refine forall_congr' fun x => imp_congr_right fun _ => ?_
  simp only [Bool.or_eq_true, decide_eq_true_eq]
  omega

theorem apdSetExponent_ok {coeff : Nat} {xs : List Int} (h : ExpsOk coeff xs) :
    apdSetExponent coeff xs = (xs.foldl (· + ·) 0, false) := by
  have hM : apdMaxExponent = 100000 := rfl
  have hm : apdMinExponent = -100000 := rfl
  obtain ⟨hall, h1, h2⟩ := h
  unfold apdSetExponent
  rw [(any_out_iff xs).mpr hall]
  simp only [Bool.false_eq_true, if_false]
  rw [if_neg]
  simp only [Bool.or_eq_true, decide_eq_true_eq, not_or]
  omega

theorem apdSetExponent_bad {coeff : Nat} {xs : List Int} (h : ¬ ExpsOk coeff xs) :
    apdSetExponent coeff xs = (0, true) := by
  have hM : apdMaxExponent = 100000 := rfl
  have hm : apdMinExponent = -100000 := rfl
  unfold apdSetExponent
  by_cases hall : ∀ x ∈ xs, -100000 ≤ x ∧ x ≤ 100000
  · have hadj : ¬ (_ ∧ _) := fun ha => h (And.intro hall ha)
    rw [(any_out_iff xs).mpr hall]
    simp only [Bool.false_eq_true, if_false]
    rw [if_pos]
    simp only [Bool.or_eq_true, decide_eq_true_eq]
    omega
  · rw [if_pos]
    rwa [← any_out_iff, Bool.not_eq_false] at hall

theorem apdFin_ok {coeff : Nat} {xs : List Int} (h : ExpsOk coeff xs)
    (h3 : -100000 ≤ xs.foldl (· + ·) 0) :
    apdFin coeff xs = (.finite false coeff (xs.foldl (· + ·) 0), false) := by
  have hM : apdMaxExponent = 100000 := rfl
  have hm : apdMinExponent = -100000 := rfl
  have hnd := numDigits_pos coeff
  unfold apdFin
  rw [apdSetExponent_ok h]
  obtain ⟨-, -, h2⟩ := h
  simp only [Bool.false_or, Prod.mk.injEq, true_and, Bool.or_eq_false_iff, decide_eq_false_iff_not]
  omega

theorem apdFin_bad {coeff : Nat} {xs : List Int}
    (h : ¬ (ExpsOk coeff xs ∧ -100000 ≤ xs.foldl (· + ·) 0)) :
    (apdFin coeff xs).2 = true := by
  have hm : apdMinExponent = -100000 := rfl
  unfold apdFin
  by_cases hok : ExpsOk coeff xs
  · rw [apdSetExponent_ok hok]
    have hS : xs.foldl (· + ·) 0 < apdMinExponent := by
      have : ¬ _ := fun hc => h ⟨hok, hc⟩
      omega
    simp [hS]
  · rw [apdSetExponent_bad hok]
    rfl

theorem sum_exps (e : Option JExp) (f : Option Bytes) :
    (expList e ++ fracExps f).foldl (· + ·) 0 = expValue e - ((fracDigits f).length : Int) := by
  cases e <;> cases f <;> simp [expList, fracExps, expValue, fracDigits] <;> omega

theorem exps_range (e : Option JExp) (f : Option Bytes) :
    (∀ x ∈ expList e ++ fracExps f, -100000 ≤ x ∧ x ≤ 100000) ↔
      (-100000 ≤ expValue e ∧ expValue e ≤ 100000 ∧ (fracDigits f).length ≤ 100000) := by
  cases e <;> cases f <;> simp [expList, fracExps, expValue, fracDigits] <;> omega

/-- `inApdRange` in terms of the summands handed to `setExponent` -/
theorem inApdRange_iff (n : JNum) :
    n.inApdRange ↔ ExpsOk n.coeff (expList n.exp ++ fracExps n.frac) ∧
      -100000 ≤ (expList n.exp ++ fracExps n.frac).foldl (· + ·) 0 := by
  unfold ExpsOk
  rw [exps_range, sum_exps]
  unfold JNum.inApdRange JNum.exponent
  simp only [and_assoc]

theorem apdSetString_stages (n : JNum) (hwf : n.wf = true) :
    apdSetString n.utext =
      if expValue n.exp < -2147483648 || expValue n.exp > 2147483647 then (.nan false, true)
      else apdFin n.coeff (expList n.exp ++ fracExps n.frac) := by
  obtain ⟨d, t, hdt, hd1, hd2⟩ := utext_head n hwf
  have hlow := toLower_utext n hwf
  obtain ⟨hne, hds, hz, hf, he⟩ := (jnum_wf_iff n).mp hwf
  have hsplit := apdExpSplit_eq (n.int ++ fracText n.frac) n.exp (mant_no_e n.int n.frac hds hf) he
  have h1 : apdSetString n.utext = apdCore (toLowerAscii n.utext) := by
    rw [hdt]; exact apdSetString_digit d t hd1 hd2
  rw [h1, hlow]
  unfold apdCore
  rw [hsplit]
  by_cases hb : (expValue n.exp < -2147483648 || expValue n.exp > 2147483647) = true
  · rw [if_pos hb, if_pos hb]
  · rw [if_neg hb, if_neg hb]
    exact apdMant_eq n.int n.frac _ hne hds hf

theorem apdSetString_utext (n : JNum) (hwf : n.wf = true) (hr : n.inApdRange) :
    apdSetString n.utext = (.finite false n.coeff n.exponent, false) := by
  obtain ⟨hok, h4⟩ := (inApdRange_iff n).mp hr
  obtain ⟨hr1, hr2, -⟩ := hr
  rw [apdSetString_stages n hwf, if_neg (by simp only [Bool.or_eq_true, decide_eq_true_eq]; omega),
    apdFin_ok hok h4, sum_exps]
  rfl

theorem apdSetString_err (n : JNum) (hwf : n.wf = true) (hr : ¬ n.inApdRange) :
    (apdSetString n.utext).2 = true := by
  rw [apdSetString_stages n hwf]
  split
  · rfl
  · exact apdFin_bad fun h => hr ((inApdRange_iff n).mpr h)

/-- Within apd's exponent limits the decoder reads exactly the decimal the spelling denotes
(`-0` becomes `0`: apd's Neg clears the sign of zero). -/
theorem number_value (n : JNum) (hwf : n.wf = true) (hr : n.inApdRange) :
    decodeNumber n.text = some (n.kind, .finite (n.neg && n.coeff != 0) n.coeff n.exponent) := by
  rw [decodeNumber_eq n hwf, apdSetString_utext n hwf hr]
  simp only [Bool.false_eq_true, if_false]
  cases n.neg with
  | false => rfl
  | true =>
    simp only [if_true, apdNeg, Bool.true_and, Bool.not_false]
    by_cases h0 : n.coeff = 0
    · simp [h0]
    · simp [h0]

/-- Outside the limits the decoder rejects the number (`NumInfo.decimal` returns apd's error):
never a silently different value. -/
theorem number_reject (n : JNum) (hwf : n.wf = true) (hr : ¬ n.inApdRange) :
    decodeNumber n.text = none := by
  rw [decodeNumber_eq n hwf, apdSetString_err n hwf hr]
  rfl

end CueVerif.Json