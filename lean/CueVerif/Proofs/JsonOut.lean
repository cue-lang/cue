/-
C10 helper lemmas: the encoder side (`jsonEscape` = Go's appendString without HTML escaping,
`fmtG` = apd's 'G' format) produces RFC 8259 tokens denoting exactly the input.  Core Lean only.
-/
import CueVerif.Spec.Json
import CueVerif.Model.Json
import CueVerif.Proofs.JsonString
namespace CueVerif.Json
open CueVerif CueVerif.Quote

/-! ## strings -/

/-- the item `appendString` writes for an ASCII byte -/
def asciiItem (b : Nat) : JItem :=
  if safeAscii b then .raw b
  else if b == 0x22 then .esc .quote
  else if b == 0x5C then .esc .backslash
  else if b == 8 then .esc .b
  else if b == 12 then .esc .f
  else if b == 10 then .esc .n
  else if b == 13 then .esc .r
  else if b == 9 then .esc .t
  else .u 0x30 0x30 (hexDigit (b / 16 % 16)) (hexDigit (b % 16))

/-- one round of the loop: the item written and how many bytes of `rest` it consumes -/
def step (b : Nat) (rest : Bytes) : JItem × Nat :=
  if b < 0x80 then (asciiItem b, 0)
  else
    if (decodeRune (b :: rest)).1 == 0xFFFD && (decodeRune (b :: rest)).2 == 1 then
      (.u 0x66 0x66 0x66 0x64, 0)
    else if (decodeRune (b :: rest)).1 == 0x2028 || (decodeRune (b :: rest)).1 == 0x2029 then
      (.u 0x32 0x30 0x32 (hexDigit ((decodeRune (b :: rest)).1 % 16)), (decodeRune (b :: rest)).2 - 1)
    else (.raw (decodeRune (b :: rest)).1, (decodeRune (b :: rest)).2 - 1)

def encItems : Bytes → List JItem
  | [] => []
  | b :: rest => (step b rest).1 :: encItems (rest.drop (step b rest).2)
termination_by s => s.length
decreasing_by simp_wf; omega

/-- no `\u` escape carries a surrogate code unit -/
def JItem.noSur : JItem → Bool
  | .u a b c d => !isHigh (uVal a b c d) && !isLow (uVal a b c d)
  | _ => true

/-- what a single item denotes when it is not a surrogate escape -/
def JItem.den : JItem → Bytes
  | .raw r => encodeRune r
  | .esc e => [e.value]
  | .u a b c d => encodeRune (uVal a b c d)

theorem hexCharVal_hexDigit (d : Nat) (h : d < 16) : hexCharVal (hexDigit d) = d := by
  unfold hexCharVal hexDigit
  repeat' split
  all_goals omega

theorem isHexChar_hexDigit (d : Nat) (h : d < 16) : isHexChar (hexDigit d) = true := by
  unfold isHexChar hexDigit
  split <;> simp <;> omega

theorem uVal_ctrl (b : Nat) (h : b < 256) :
    uVal 0x30 0x30 (hexDigit (b / 16 % 16)) (hexDigit (b % 16)) = b := by
  unfold uVal
  rw [hexCharVal_hexDigit _ (Nat.mod_lt _ (by decide)), hexCharVal_hexDigit _ (Nat.mod_lt _ (by decide))]
  have : hexCharVal 0x30 = 0 := by decide
  rw [this]
  omega

theorem uVal_FFFD : uVal 0x66 0x66 0x66 0x64 = 0xFFFD := by decide

theorem uVal_2028 (r : Nat) (h : r = 0x2028 ∨ r = 0x2029) :
    uVal 0x32 0x30 0x32 (hexDigit (r % 16)) = r := by
  rcases h with h | h <;> subst h <;> decide

/-- the three shapes of what `appendString` writes for a byte below 0x80: the byte itself, one
of its seven two-character escapes (never `\/`), or `\u00XX` for the other control characters -/
theorem asciiItem_cases (b : Nat) :
    (safeAscii b = true ∧ asciiItem b = .raw b) ∨
    (safeAscii b = false ∧ escapeAscii b = (asciiItem b).text ∧
      ((∃ e : Esc, asciiItem b = .esc e ∧ e.value = b) ∨
       (b < 0x20 ∧ asciiItem b = .u 0x30 0x30 (hexDigit (b / 16 % 16)) (hexDigit (b % 16))))) := by
  by_cases hs : safeAscii b = true
  · exact Or.inl ⟨hs, if_pos hs⟩
  · have hs' : safeAscii b = false := by simpa using hs
    refine Or.inr ⟨hs', ?_⟩
    by_cases he : b = 0x22 ∨ b = 0x5C ∨ b = 8 ∨ b = 12 ∨ b = 10 ∨ b = 13 ∨ b = 9
    · rcases he with rfl | rfl | rfl | rfl | rfl | rfl | rfl <;> exact ⟨rfl, .inl ⟨_, rfl, rfl⟩⟩
    · simp only [not_or] at he
      obtain ⟨h1, h2, h3, h4, h5, h6, h7⟩ := he
      have hi : asciiItem b = .u 0x30 0x30 (hexDigit (b / 16 % 16)) (hexDigit (b % 16)) := by
        simp only [asciiItem, hs', beq_iff_eq, h1, h2, h3, h4, h5, h6, h7, if_false, Bool.false_eq_true]
      refine ⟨?_, .inr ⟨?_, hi⟩⟩
      · simp only [hi, escapeAscii, Bool.or_eq_true, beq_iff_eq, h1, h2, h3, h4, h5, h6, h7, or_self, if_false, JItem.text]
      · simp only [safeAscii, Bool.and_eq_true, decide_eq_true_eq, bne_iff_ne, ne_eq] at hs
        omega

theorem asciiItem_spec (b : Nat) (h : b < 0x80) :
    (asciiItem b).text = (if safeAscii b then [b] else escapeAscii b) ∧ (asciiItem b).wf = true ∧
      (asciiItem b).noSur = true ∧ (asciiItem b).den = [b] ∧ (asciiItem b).plainEscape = true := by
  rcases asciiItem_cases b with ⟨hs, hi⟩ | ⟨hs, ht, ⟨e, hi, rfl⟩ | ⟨hc, hi⟩⟩
  · rw [hi, if_pos hs]
    refine ⟨encodeRune_ascii b h, ?_, rfl, encodeRune_ascii b h, rfl⟩
    simp only [safeAscii, Bool.and_eq_true, decide_eq_true_eq, bne_iff_ne, ne_eq] at hs
    simp only [JItem.wf, isScalar, Bool.and_eq_true, decide_eq_true_eq, Bool.not_eq_true',
      Bool.and_eq_false_iff, decide_eq_false_iff_not, bne_iff_ne, ne_eq]
    omega
  · rw [hs, ← ht, hi]
    exact ⟨rfl, rfl, rfl, rfl, rfl⟩
  · have hu := uVal_ctrl b (by omega)
    have hx := isHexChar_hexDigit
    rw [hs, ← ht, hi]
    refine ⟨rfl, ?_, ?_, ?_, ?_⟩
    · simp only [JItem.wf, hx _ (Nat.mod_lt _ (by decide : 0 < 16)), Bool.and_true]; rfl
    · simp only [JItem.noSur, hu, isHigh, isLow, Bool.and_eq_true, Bool.not_eq_true', Bool.and_eq_false_iff,
        decide_eq_false_iff_not]
      omega
    · simp only [JItem.den, hu]; exact encodeRune_ascii b h
    · simp only [JItem.plainEscape, hu, Bool.or_eq_true, decide_eq_true_eq]; omega
theorem width_ge_two (b : Nat) (rest : Bytes) (hb : ¬ b < 0x80)
    (h : ¬ ((decodeRune (b :: rest)).1 = 0xFFFD ∧ (decodeRune (b :: rest)).2 = 1)) :
    2 ≤ (decodeRune (b :: rest)).2 := by
  have h1 := decodeRune_width_pos b rest
  have h2 := decodeRune_width_one b rest
  omega

theorem step_spec (b : Nat) (rest : Bytes) :
    escapeLoop (b :: rest) = (step b rest).1.text ++ escapeLoop (rest.drop (step b rest).2) ∧
      (step b rest).1.wf = true ∧ (step b rest).1.noSur = true := by
  rw [escapeLoop]
  unfold step
  split
  · rename_i hb
    obtain ⟨ht, hw, hn, -⟩ := asciiItem_spec b hb
    exact ⟨by rw [ht, List.drop_zero], hw, hn⟩
  · rename_i hb
    simp only []
    split
    · exact ⟨by simp [JItem.text], by decide, by decide⟩
    · rename_i h1
      simp only [Bool.and_eq_true, beq_iff_eq] at h1
      have hr := encodeRune_decodeRune (b :: rest) (width_ge_two b rest hb h1)
      split
      · rename_i h2
        simp only [Bool.or_eq_true, beq_iff_eq] at h2
        refine ⟨by simp [JItem.text], ?_, ?_⟩
        · simp only [JItem.wf, Bool.and_eq_true]
          exact ⟨⟨⟨by decide, by decide⟩, by decide⟩, isHexChar_hexDigit _ (Nat.mod_lt _ (by decide))⟩
        · simp only [JItem.noSur]
          rw [uVal_2028 _ h2]
          rcases h2 with h2 | h2 <;> rw [h2] <;> decide
      · refine ⟨by simp only [JItem.text]; rw [hr.1], ?_, rfl⟩
        simp only [JItem.wf, isScalar, Bool.and_eq_true, decide_eq_true_eq, Bool.not_eq_true',
          Bool.and_eq_false_iff, decide_eq_false_iff_not, bne_iff_ne, ne_eq]
        omega

theorem step_valid (b : Nat) (rest : Bytes) (hv : validUTF8 (b :: rest) = true) :
    (step b rest).1.den = (b :: rest).take ((step b rest).2 + 1) ∧
      validUTF8 (rest.drop (step b rest).2) = true ∧ (step b rest).1.plainEscape = true := by
  rw [validUTF8] at hv
  unfold decodeFirst at hv
  unfold step
  split
  · rename_i hb
    simp only [if_pos hb] at hv
    have : ¬ 0x80 ≤ b := by omega
    simp only [this, decide_false, Bool.false_and, Bool.false_eq_true, if_false, Nat.sub_self,
      List.drop_zero] at hv
    obtain ⟨-, -, -, hd, hp⟩ := asciiItem_spec b hb
    exact ⟨by rw [hd]; rfl, by simpa using hv, hp⟩
  · rename_i hb
    simp only [if_neg hb] at hv
    have hb' : 0x80 ≤ b := by omega
    simp only [hb', decide_true, Bool.true_and] at hv
    split at hv
    · exact absurd hv (by simp)
    · rename_i hw1
      simp only [beq_iff_eq] at hw1
      have h1 : ¬ ((decodeRune (b :: rest)).1 = 0xFFFD ∧ (decodeRune (b :: rest)).2 = 1) := by
        intro h; exact hw1 h.2
      have hw := width_ge_two b rest hb h1
      have hr := encodeRune_decodeRune (b :: rest) hw
      have hk : (decodeRune (b :: rest)).2 - 1 + 1 = (decodeRune (b :: rest)).2 := by omega
      split
      · rename_i h; simp only [Bool.and_eq_true, beq_iff_eq] at h; exact absurd h h1
      · split
        · rename_i h2
          simp only [Bool.or_eq_true, beq_iff_eq] at h2
          refine ⟨?_, hv, ?_⟩
          · simp only [JItem.den]
            rw [uVal_2028 _ h2, hk]
            exact hr.1
          · simp only [JItem.plainEscape]
            rw [uVal_2028 _ h2]
            simp only [Bool.or_eq_true, decide_eq_true_eq, beq_iff_eq]
            omega
        · refine ⟨?_, hv, rfl⟩
          simp only [JItem.den]
          rw [hk]
          exact hr.1

theorem encItems_text (s : Bytes) : escapeLoop s = bodyText (encItems s) := by
  fun_induction encItems s with
  | case1 => rw [escapeLoop]; rfl
  | case2 b rest ih => rw [(step_spec b rest).1, ih]; rfl

theorem encItems_all (P : JItem → Prop) (hP : ∀ b rest, P (step b rest).1) (s : Bytes) :
    ∀ i ∈ encItems s, P i := by
  fun_induction encItems s with
  | case1 => intro i hi; cases hi
  | case2 b rest ih =>
    intro i hi
    rcases List.mem_cons.mp hi with h | h
    · rw [h]; exact hP b rest
    · exact ih i h

theorem wellPaired_of_noSur (l : List JItem) (h : ∀ i ∈ l, i.noSur = true) : wellPaired l = true := by
  induction l with
  | nil => rw [wellPaired]
  | cons i t ih =>
    have ht := ih (fun j hj => h j (List.mem_cons_of_mem _ hj))
    have hi := h i (List.mem_cons_self ..)
    cases i with
    | raw r => rw [wellPaired]; exact ht
    | esc e => rw [wellPaired]; exact ht
    | u a b c d =>
      simp only [JItem.noSur, Bool.and_eq_true, Bool.not_eq_true'] at hi
      rw [wellPaired_u_notHigh a b c d t hi.1, hi.2, ht]; rfl

theorem denote_cons_of_noSur (i : JItem) (t : List JItem) (hi : i.noSur = true) :
    denote (i :: t) = i.den ++ denote t := by
  cases i with
  | raw r => rw [denote.eq_2]; rfl
  | esc e => rw [denote.eq_3]; rfl
  | u a b c d =>
    simp only [JItem.noSur, Bool.and_eq_true, Bool.not_eq_true'] at hi
    exact denote_u_notHigh a b c d t hi.1

theorem encItems_valid (s : Bytes) (hv : validUTF8 s = true) :
    denote (encItems s) = s ∧ ∀ i ∈ encItems s, i.plainEscape = true := by
  fun_induction encItems s with
  | case1 => exact ⟨by rw [denote], fun i hi => by cases hi⟩
  | case2 b rest ih =>
    obtain ⟨h1, h2, h3⟩ := step_valid b rest hv
    obtain ⟨ih1, ih2⟩ := ih h2
    refine ⟨?_, ?_⟩
    · rw [denote_cons_of_noSur _ _ (step_spec b rest).2.2, h1, ih1]
      simp
    · intro i hi
      rcases List.mem_cons.mp hi with h | h
      · rw [h]; exact h3
      · exact ih2 i h

theorem encItems_out (s : Bytes) :
    WfItems (encItems s) ∧ jsonEscape s = stringText (encItems s) ∧
      wellPaired (encItems s) = true :=
  ⟨encItems_all _ (fun b rest => (step_spec b rest).2.1) s, by simp only [jsonEscape, stringText, encItems_text],
    wellPaired_of_noSur _ (encItems_all _ (fun b rest => (step_spec b rest).2.2) s)⟩

theorem string_out_valid (s : Bytes) :
    ∃ items, WfItems items ∧ jsonEscape s = stringText items ∧ wellPaired items = true :=
  ⟨encItems s, encItems_out s⟩

theorem string_out (s : Bytes) (hv : validUTF8 s = true) :
    ∃ items, WfItems items ∧ jsonEscape s = stringText items ∧ denote items = s ∧
      wellPaired items = true ∧ ∀ i ∈ items, i.plainEscape = true :=
  have ⟨h1, h2, h3⟩ := encItems_out s
  ⟨encItems s, h1, h2, (encItems_valid s hv).1, h3, (encItems_valid s hv).2⟩

/-! ## numbers -/

theorem allDigits_zeros (k : Nat) : allDigits (List.replicate k 48) = true := by
  simp only [allDigits, List.all_eq_true]
  intro x hx
  rw [List.eq_of_mem_replicate hx]
  decide

/-- `natDigits n` is the canonical spelling of `n`: the first three parts are what `JNum.wf`
asks of an integer part -/
theorem natDigits_spec (n : Nat) :
    natDigits n ≠ [] ∧ allDigits (natDigits n) = true ∧
      (natDigits n = [48] ∨ (natDigits n).head? ≠ some 48) ∧ digitsVal (natDigits n) = n := by
  induction n using Nat.strongRecOn with
  | _ n ih =>
    rw [natDigits]
    split
    · rename_i h
      refine ⟨List.cons_ne_nil _ _, allDigits_cons.mpr ⟨by omega, rfl⟩, ?_, ?_⟩
      · by_cases h0 : n = 0
        · left; rw [h0]
        · right; simp only [List.head?_cons, ne_eq, Option.some.injEq]; omega
      · simp only [digitsVal, List.foldl_cons, List.foldl_nil]
        omega
    · rename_i h
      obtain ⟨h0, h1, h2, h3⟩ := ih (n / 10) (by omega)
      obtain ⟨d, t, hd⟩ := List.exists_cons_of_ne_nil h0
      rw [hd] at h1 h2 h3 ⊢
      refine ⟨List.cons_ne_nil _ _, ?_, .inr ?_, ?_⟩
      · rw [allDigits_append, h1]
        exact allDigits_cons.mpr ⟨by omega, rfl⟩
      · rcases h2 with h2 | h2
        · rw [h2] at h3
          have h4 : digitsVal [48] = 0 := rfl
          omega
        · exact h2
      · rw [digitsVal_snoc, h3]
        omega

theorem fmtE_aux (d0 : Nat) (ds : Bytes) (adj : Int) :
    (d0 :: (if ds.isEmpty then [] else 0x2E :: ds)) ++ [0x45] ++ (if adj < 0 then [0x2D] else [0x2B]) ++
        natDigits adj.natAbs =
      [d0] ++ (fracText (if ds = [] then none else some ds) ++
        expText (some { upper := true, sign := some (decide (adj < 0)), digits := natDigits adj.natAbs })) := by
  by_cases h : ds = [] <;> by_cases h2 : adj < 0 <;> simp [h, h2, fracText, expText, JExp.text]

theorem fracDigits_ite (ds : Bytes) : fracDigits (if ds = [] then none else some ds) = ds := by
  by_cases h : ds = []
  · subst h; rfl
  · simp [fracDigits, h]

theorem fmtE_out (neg : Bool) {digits : Bytes} (hne : digits ≠ []) (hall : allDigits digits = true)
    (exp : Int) :
    ∃ n : JNum, n.wf = true ∧ fmtE digits exp = n.utext ∧ n.neg = neg ∧
      n.coeff = digitsVal digits ∧ n.exponent = exp := by
  obtain ⟨d0, ds, rfl, hd1, hd2, hds⟩ := digits_cons hne hall
  obtain ⟨hne', hall', -, hval'⟩ := natDigits_spec (exp + ((d0 :: ds).length : Int) - 1).natAbs
  refine ⟨{ neg := neg, int := [d0], frac := if ds = [] then none else some ds,
            exp := some { upper := true,
                          sign := some (decide (exp + ((d0 :: ds).length : Int) - 1 < 0)),
                          digits := natDigits (exp + ((d0 :: ds).length : Int) - 1).natAbs } },
    ?_, fmtE_aux d0 ds _, rfl, ?_, ?_⟩
  · refine (jnum_wf_iff _).mpr ⟨List.cons_ne_nil _ _, allDigits_cons.mpr ⟨⟨hd1, hd2⟩, rfl⟩, ?_, ?_,
      expWf_some.mpr ⟨hne', hall'⟩⟩
    · by_cases h : d0 = 48
      · left; rw [h]
      · right; simpa using h
    · show fracWf (if ds = [] then none else some ds) = true
      split
      · rfl
      · exact fracWf_some.mpr ⟨‹_›, hds⟩
  · simp only [JNum.coeff, fracDigits_ite]
    rfl
  · simp only [JNum.exponent, expValue, JExp.value, fracDigits_ite]
    rw [hval']
    have hl : (d0 :: ds).length = ds.length + 1 := rfl
    by_cases h2 : exp + ((d0 :: ds).length : Int) - 1 < 0
    · simp only [h2, decide_true]
      omega
    · simp only [h2, decide_false]
      omega

/-- `hz`: no leading zero, which the `dd.ddd` and the integer layout need of the integer part -/
theorem fmtF_out (neg : Bool) {digits : Bytes} (hne : digits ≠ []) (hall : allDigits digits = true)
    (hz : digits = [48] ∨ digits.head? ≠ some 48) (exp : Int) (hexp : exp ≤ 0) :
    ∃ n : JNum, n.wf = true ∧ fmtF digits exp = n.utext ∧ n.neg = neg ∧
      n.coeff = digitsVal digits ∧ n.exponent = exp := by
  unfold fmtF
  split
  · rename_i hneg
    simp only []
    split
    · -- 0.000ddd
      rename_i hleft
      refine ⟨{ neg := neg, int := [48],
                frac := some (List.replicate (-exp - (digits.length : Int)).toNat 48 ++ digits),
                exp := none }, ?_, ?_, rfl, ?_, ?_⟩
      · exact (jnum_wf_iff _).mpr ⟨List.cons_ne_nil _ _, rfl, Or.inl rfl,
          fracWf_some.mpr ⟨by simp [hne], by rw [allDigits_append, allDigits_zeros, hall]; rfl⟩, rfl⟩
      · simp [JNum.utext, fracText, expText]
      · simp only [JNum.coeff, fracDigits]
        rw [List.singleton_append]
        exact (digitsVal_zeros_append 1 _).trans (digitsVal_zeros_append _ _)
      · simp only [JNum.exponent, expValue, fracDigits, List.length_append, List.length_replicate]
        omega
    · -- dd.ddd
      rename_i hleft
      obtain ⟨k, hk, hk'⟩ : ∃ k, (-(-exp - (digits.length : Int))).toNat = k + 1 ∧
          k + 1 < digits.length :=
        ⟨(-(-exp - (digits.length : Int))).toNat - 1, by omega, by omega⟩
      rw [hk]
      have htd : allDigits (digits.take (k + 1)) = true ∧
          allDigits (digits.drop (k + 1)) = true := by
        have := hall
        rw [← List.take_append_drop (k + 1) digits, allDigits_append] at this
        simpa using this
      refine ⟨{ neg := neg, int := digits.take (k + 1), frac := some (digits.drop (k + 1)),
                exp := none }, ?_, ?_, rfl, ?_, ?_⟩
      · refine (jnum_wf_iff _).mpr ⟨by simp [hne], htd.1, Or.inr ?_,
          fracWf_some.mpr ⟨fun h => ?_, htd.2⟩, rfl⟩
        · rcases hz with h | h
          · rw [h] at hk'
            exact absurd hk' (by simp)
          · rwa [List.head?_take, if_neg (Nat.succ_ne_zero k)]
        · have := congrArg List.length h
          simp only [List.length_drop, List.length_nil] at this
          omega
      · simp [JNum.utext, fracText, expText]
      · simp only [JNum.coeff, fracDigits, List.take_append_drop]
      · simp only [JNum.exponent, expValue, fracDigits, List.length_drop]
        omega
  · have h0 : exp = 0 := by omega
    subst h0
    refine ⟨{ neg := neg, int := digits, frac := none, exp := none },
      (jnum_wf_iff _).mpr ⟨hne, hall, hz, rfl, rfl⟩, ?_, rfl, ?_, ?_⟩
    · simp [JNum.utext, fracText, expText]
    · simp only [JNum.coeff, fracDigits, List.append_nil]
    · simp [JNum.exponent, expValue, fracDigits]

theorem number_out (neg : Bool) (coeff : Nat) (exp : Int) :
    ∃ n : JNum, n.wf = true ∧ fmtG neg coeff exp = n.text ∧ n.neg = neg ∧ n.coeff = coeff ∧
      n.exponent = exp := by
  obtain ⟨hne, hall, hz, hval⟩ := natDigits_spec coeff
  have key : ∀ (c : Prop) [Decidable c], (c → exp ≤ 0) → ∃ n : JNum, n.wf = true ∧
      (if neg then [0x2D] else []) ++
        (if c then fmtF (natDigits coeff) exp else fmtE (natDigits coeff) exp) = n.text ∧
      n.neg = neg ∧ n.coeff = coeff ∧ n.exponent = exp := by
    intro c _ hc
    have hu : ∃ n : JNum, n.wf = true ∧
        (if c then fmtF (natDigits coeff) exp else fmtE (natDigits coeff) exp) = n.utext ∧
        n.neg = neg ∧ n.coeff = digitsVal (natDigits coeff) ∧ n.exponent = exp := by
      split
      · exact fmtF_out neg hne hall hz exp (hc ‹_›)
      · exact fmtE_out neg hne hall exp
    obtain ⟨n, h1, h2, h3, h4, h5⟩ := hu
    exact ⟨n, h1, by rw [JNum.text, h2, h3], h3, h4.trans hval, h5⟩
  exact key _ (fun h => h.1)

end CueVerif.Json
