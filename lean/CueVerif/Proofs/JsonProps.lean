/-
C10: combinations of the lemmas of Proofs/JsonString, JsonNumber, JsonOut into the statements
of Props/C10.lean, and the witnesses of the statements that are false.  Core Lean only.
-/
import CueVerif.Proofs.JsonString
import CueVerif.Proofs.JsonNumber
import CueVerif.Proofs.JsonOut
namespace CueVerif.Json
open CueVerif CueVerif.Quote

/-! ### decoder, strings -/

/-- full strength: every RFC 8259 string token with well-paired surrogates decodes to what it denotes -/
def string_decode_stmt : Prop :=
  ∀ items : List JItem, WfItems items → wellPaired items = true →
    decodeString (stringText items) = .ok (denote items)

theorem string_decode_bom (items : List JItem) (hwf : WfItems items) (hb : noRawBOM items = false) :
    decodeString (stringText items) = .error .scanner := by
  simp only [decodeString, string_scan items hwf, hb]
  rfl

theorem wf_bom : WfItems [JItem.raw 0xFEFF] := by
  intro i hi; simp at hi; subst hi; decide

/-- FALSE: the token consisting of a raw U+FEFF is rejected by the scanner -/
theorem string_decode_false : ¬ string_decode_stmt := by
  intro h
  have h1 := h [JItem.raw 0xFEFF] wf_bom (by simp [wellPaired])
  rw [string_decode_bom [JItem.raw 0xFEFF] wf_bom (by decide)] at h1
  cases h1

theorem string_decode_partial (items : List JItem) (hwf : WfItems items)
    (hp : wellPaired items = true) (hb : noRawBOM items = true) :
    decodeString (stringText items) = .ok (denote items) := by
  simp only [decodeString, string_scan items hwf, hb, string_embed items hwf hp]
  rfl

/-- without the pairing hypothesis: FALSE (lone surrogate escapes are rejected, Go's
encoding/json would substitute U+FFFD); informational — such a token is not Unicode text -/
def string_embed_unpaired_stmt : Prop :=
  ∀ items : List JItem, WfItems items → Quote.unquote (stringText items) = .ok (denote items)

/-- witness: the token `"\ud800"` (a lone surrogate escape) is rejected by `Unquote` -/
theorem lone_surrogate_rejected :
    Quote.unquote (stringText [JItem.u 0x64 0x38 0x30 0x30]) = .error .surrogate := by
  have h1 : stringText [JItem.u 0x64 0x38 0x30 0x30] = 0x22 :: ([0x5C, 0x75, 0x64, 0x38, 0x30, 0x30] ++ [0x22]) := rfl
  rw [h1]
  unfold unquote
  rw [parseQuotes_single 0x22 (Or.inl rfl) _ (by decide)]
  simp only [List.drop_succ_cons, List.drop_zero]
  unfold QuoteInfo.unquote
  have h2 : isSimple 0x22 ([0x5C, 0x75, 0x64, 0x38, 0x30, 0x30] ++ [0x22]).dropLast = false :=
    isSimple_backslash _ _
  rw [h2]
  rfl

theorem string_embed_unpaired_false : ¬ string_embed_unpaired_stmt := by
  intro h
  have := h [JItem.u 0x64 0x38 0x30 0x30] (by intro i hi; simp at hi; subst hi; decide)
  rw [lone_surrogate_rejected] at this
  cases this

/-! ### decoder, numbers -/

def number_value_stmt : Prop :=
  ∀ n : JNum, n.wf = true →
    decodeNumber n.text = some (n.kind, .finite (n.neg && n.coeff != 0) n.coeff n.exponent)

/-- the number token `1e100001` -/
def witness1e100001 : JNum :=
  { neg := false, int := [49], frac := none,
    exp := some { upper := false, sign := none, digits := [49, 48, 48, 48, 48, 49] } }

theorem number_value_false : ¬ number_value_stmt := by
  intro h
  have hr : ¬ witness1e100001.inApdRange := fun hr => absurd hr.2.1 (by decide)
  have := h witness1e100001 (by decide)
  rw [number_reject witness1e100001 (by decide) hr] at this
  cases this

/-! ### encoder then decoder -/

theorem string_roundtrip (s : Bytes) (hv : validUTF8 s = true) :
    Quote.unquote (jsonEscape s) = .ok s := by
  obtain ⟨items, hwf, ht, hd, hp, _⟩ := string_out s hv
  rw [ht, string_embed items hwf hp, hd]

/-- the same through the whole decoder is FALSE: U+FEFF is marshalled raw and then rejected -/
def string_roundtrip_decoder_stmt : Prop :=
  ∀ s : Bytes, IsBytes s → validUTF8 s = true → decodeString (jsonEscape s) = .ok s

theorem jsonEscape_bom : jsonEscape [0xEF, 0xBB, 0xBF] = stringText [JItem.raw 0xFEFF] := by
  simp [jsonEscape, escapeLoop, stringText, bodyText, JItem.text, encodeRune, decodeRune, isCont]

theorem string_roundtrip_decoder_false : ¬ string_roundtrip_decoder_stmt := by
  intro h
  have h1 := h [0xEF, 0xBB, 0xBF] (by intro b hb; simp at hb; omega)
    (by simp [validUTF8, decodeFirst, decodeRune, isCont])
  rw [jsonEscape_bom, string_decode_bom [JItem.raw 0xFEFF] wf_bom (by decide)] at h1
  cases h1

/-- a marshalled number is read back as exactly the decimal that was printed whenever the
spelling is within apd's exponent limits -/
theorem number_roundtrip (neg : Bool) (coeff : Nat) (exp : Int) :
    ∃ n : JNum, n.wf = true ∧ fmtG neg coeff exp = n.text ∧
      (n.inApdRange → decodeNumber (fmtG neg coeff exp) =
        some (n.kind, .finite (neg && coeff != 0) coeff exp)) := by
  obtain ⟨n, hwf, ht, hn, hc, he⟩ := number_out neg coeff exp
  refine ⟨n, hwf, ht, ?_⟩
  intro hr
  rw [ht, number_value n hwf hr, hn, hc, he]

end CueVerif.Json
