/-
C13 — laws of the JSON Schema oracle semantics `valid` (Spec/JsonSchema.lean): the strict
three-valued connectives, the Boolean applicators (double negation, De Morgan, allOf / anyOf /
oneOf, if/then/else), `const` = one-element `enum`, vacuity of kind-specific keywords on
other kinds, and fuel monotonicity (`valid_mono`).  Core Lean only.
-/
import CueVerif.Spec.JsonSchema

namespace CueVerif.JS

def sNot (s : Schema) : Schema := .obj [.not s]
def sAllOf (ss : List Schema) : Schema := .obj [.allOf ss]
def sAnyOf (ss : List Schema) : Schema := .obj [.anyOf ss]
def sOneOf (ss : List Schema) : Schema := .obj [.oneOf ss]
def sIf (c t e : Schema) : Schema := .obj [.ifS c, .thenS t, .elseS e]

/-! ## the strict connectives -/

@[simp] theorem all3_nil : all3 [] = some true := rfl
@[simp] theorem all3_none_cons (r) : all3 (none :: r) = none := rfl
@[simp] theorem all3_some_cons (b r) : all3 (some b :: r) = (all3 r).map (b && ·) := rfl
@[simp] theorem count3_nil : count3 [] = some 0 := rfl
@[simp] theorem count3_none_cons (r) : count3 (none :: r) = none := rfl
@[simp] theorem count3_some_cons (b r) :
    count3 (some b :: r) = (count3 r).map ((if b then 1 else 0) + ·) := rfl

theorem all3_singleton (x : Option Bool) : all3 [x] = x := by
  cases x <;> simp

theorem all3_cons_true (x : Option Bool) (r) (h : all3 r = some true) : all3 (x :: r) = x := by
  cases x <;> simp [h]

theorem not3_not3 (x : Option Bool) : not3 (not3 x) = x := by
  cases x <;> simp [not3]

/-- strictness of `all3`: a determined result means every operand is determined -/
theorem all3_isSome : ∀ (l : List (Option Bool)) (b), all3 l = some b → ∀ x ∈ l, x.isSome
  | [], _, _, x, hx => by cases hx
  | none :: r, b, h, _, _ => by simp at h
  | some a :: r, b, h, x, hx => by
    cases hr : all3 r with
    | none => simp [hr] at h
    | some c =>
      rcases List.mem_cons.1 hx with rfl | hx
      · rfl
      · exact all3_isSome r c hr x hx

/-- strictness of `count3` -/
theorem count3_isSome : ∀ (l : List (Option Bool)) (c), count3 l = some c → ∀ x ∈ l, x.isSome
  | [], _, _, x, hx => by cases hx
  | none :: r, b, h, _, _ => by simp at h
  | some a :: r, b, h, x, hx => by
    cases hr : count3 r with
    | none => simp [hr] at h
    | some c =>
      rcases List.mem_cons.1 hx with rfl | hx
      · rfl
      · exact count3_isSome r c hr x hx

/-- the converse: all operands determined ⇒ `count3` is determined and counts `some true` -/
theorem count3_of_isSome : ∀ (l : List (Option Bool)), (∀ x ∈ l, x.isSome) →
    count3 l = some (l.count (some true))
  | [], _ => rfl
  | none :: r, h => by have := h none (List.mem_cons_self ..); simp at this
  | some a :: r, h => by
    have ih := count3_of_isSome r (fun x hx => h x (List.mem_cons_of_mem _ hx))
    cases a <;> simp [ih] <;> omega

theorem count3_eq_some_iff (l : List (Option Bool)) (c : Nat) :
    count3 l = some c ↔ (∀ x ∈ l, x.isSome) ∧ c = l.count (some true) := by
  constructor
  · intro h
    have hs := count3_isSome l c h
    refine ⟨hs, ?_⟩
    rw [count3_of_isSome l hs] at h
    exact (Option.some.inj h).symm
  · rintro ⟨hs, rfl⟩
    exact count3_of_isSome l hs

theorem count3_map_not3_none (l : List (Option Bool)) :
    count3 (l.map not3) = none ↔ count3 l = none := by
  induction l with
  | nil => simp
  | cons x r ih =>
    cases x with
    | none => simp [not3]
    | some a =>
      cases hr : count3 r <;> cases hr' : count3 (r.map not3) <;> simp_all [not3]

/-- De Morgan on the connectives -/
theorem not3_any3 (l : List (Option Bool)) : not3 (any3 l) = all3 (l.map not3) := by
  induction l with
  | nil => rfl
  | cons x r ih =>
    cases x with
    | none => rfl
    | some a =>
      simp only [any3, not3, count3_some_cons, List.map_cons, Option.map_some, all3_some_cons,
        Option.map_map] at ih ⊢
      rw [← ih]
      cases count3 r with
      | none => rfl
      | some c => cases a <;> simp <;> omega

theorem not3_all3 (l : List (Option Bool)) : not3 (all3 l) = any3 (l.map not3) := by
  have h := not3_any3 (l.map not3)
  have hl : (l.map not3).map not3 = l := by
    rw [List.map_map]
    conv => rhs; rw [← List.map_id l]
    apply List.map_congr_left
    intro x _
    exact not3_not3 x
  rw [hl] at h
  rw [← h, not3_not3]

/-! ## Boolean schemas and the empty schema -/

theorem valid_true (re root n j) : valid re root (n+1) (.bool true) j = some true := rfl
theorem valid_false (re root n j) : valid re root (n+1) (.bool false) j = some false := rfl
theorem valid_empty (re root n j) : valid re root (n+1) (.obj []) j = some true := rfl

/-! ## applicators -/

/-! equations of `kwHolds` for the applicators that apply to every instance -/
theorem kwHolds_allOf (re rec res kws ss j) :
    kwHolds re rec res kws (.allOf ss) j = all3 (ss.map (rec · j)) := by cases j <;> rfl
theorem kwHolds_anyOf (re rec res kws ss j) :
    kwHolds re rec res kws (.anyOf ss) j = any3 (ss.map (rec · j)) := by cases j <;> rfl
theorem kwHolds_oneOf (re rec res kws ss j) :
    kwHolds re rec res kws (.oneOf ss) j = one3 (ss.map (rec · j)) := by cases j <;> rfl
theorem kwHolds_not (re rec res kws s j) :
    kwHolds re rec res kws (.not s) j = not3 (rec s j) := by cases j <;> rfl
theorem kwHolds_ifS (re rec res kws s j) :
    kwHolds re rec res kws (.ifS s) j =
      match rec s j with
      | none => none
      | some true => (match findThen kws with | some t => rec t j | none => some true)
      | some false => (match findElse kws with | some e => rec e j | none => some true) := by
  cases j <;> rfl
theorem kwHolds_ref (re rec res kws r j) :
    kwHolds re rec res kws (.ref r) j =
      (match res r with | some t => rec t j | none => none) := by cases j <;> rfl

theorem kwHolds_thenS (re rec res kws s j) :
    kwHolds re rec res kws (.thenS s) j = some true := by cases j <;> rfl
theorem kwHolds_elseS (re rec res kws s j) :
    kwHolds re rec res kws (.elseS s) j = some true := by cases j <;> rfl

theorem valid_sNot (re root n s j) :
    valid re root (n+1) (sNot s) j = not3 (valid re root n s j) := by
  simp only [sNot, valid, List.map_cons, List.map_nil, all3_singleton, kwHolds_not]

/-- allOf / anyOf / oneOf are "all" / "at least one" / "exactly one" of the members' verdicts -/
theorem valid_allOf (re root n ss j) :
    valid re root (n+1) (sAllOf ss) j = all3 (ss.map (valid re root n · j)) := by
  simp only [sAllOf, valid, List.map_cons, List.map_nil, all3_singleton, kwHolds_allOf]

theorem valid_anyOf (re root n ss j) :
    valid re root (n+1) (sAnyOf ss) j = any3 (ss.map (valid re root n · j)) := by
  simp only [sAnyOf, valid, List.map_cons, List.map_nil, all3_singleton, kwHolds_anyOf]

theorem valid_oneOf (re root n ss j) :
    valid re root (n+1) (sOneOf ss) j = one3 (ss.map (valid re root n · j)) := by
  simp only [sOneOf, valid, List.map_cons, List.map_nil, all3_singleton, kwHolds_oneOf]

/-- double negation -/
theorem valid_not_not (re root n s j) :
    valid re root (n+2) (sNot (sNot s)) j = valid re root n s j := by
  rw [valid_sNot, valid_sNot, not3_not3]

/-- De Morgan -/
theorem valid_not_anyOf (re root n ss j) :
    valid re root (n+2) (sNot (sAnyOf ss)) j = valid re root (n+2) (sAllOf (ss.map sNot)) j := by
  rw [valid_sNot, valid_anyOf, valid_allOf, not3_any3, List.map_map, List.map_map]
  apply congrArg
  apply List.map_congr_left
  intro s _
  simp only [Function.comp, valid_sNot]

theorem valid_not_allOf (re root n ss j) :
    valid re root (n+2) (sNot (sAllOf ss)) j = valid re root (n+2) (sAnyOf (ss.map sNot)) j := by
  rw [valid_sNot, valid_allOf, valid_anyOf, not3_all3, List.map_map, List.map_map]
  apply congrArg
  apply List.map_congr_left
  intro s _
  simp only [Function.comp, valid_sNot]

/-- when every member is determined, the three connectives are the Boolean
all / any / exactly-one -/
theorem all3_det (l : List Bool) : all3 (l.map some) = some (l.all id) := by
  induction l with
  | nil => rfl
  | cons a r ih => simp [ih]

theorem count3_det (l : List Bool) : count3 (l.map some) = some (l.count true) := by
  induction l with
  | nil => rfl
  | cons a r ih => cases a <;> simp [ih] <;> omega

theorem any3_det (l : List Bool) : any3 (l.map some) = some (l.any id) := by
  rw [any3, count3_det]
  simp only [Option.map_some, Option.some.injEq]
  induction l with
  | nil => rfl
  | cons a r ih =>
    cases a
    · simpa using ih
    · simp

theorem one3_det (l : List Bool) : one3 (l.map some) = some (l.count true == 1) := by
  rw [one3, count3_det]; rfl

/-- a list of determined verdicts is the image under `some` of its Boolean readings -/
theorem map_getD {α} (f : α → Option Bool) (l : List α) (h : ∀ x ∈ l, (f x).isSome = true) :
    l.map f = (l.map fun x => (f x).getD false).map some := by
  rw [List.map_map]
  apply List.map_congr_left
  intro x hx
  cases hf : f x with
  | none => have := h x hx; rw [hf] at this; cases this
  | some b => simp [hf]

theorem all3_of_isSome {α} (f : α → Option Bool) (l : List α) (h : ∀ x ∈ l, (f x).isSome = true) :
    all3 (l.map f) = some (l.all fun x => (f x).getD false) := by
  rw [map_getD f l h, all3_det, List.all_map]
  rfl

/-- if/then/else -/
theorem valid_if (re root n c t e j) :
    valid re root (n+1) (sIf c t e) j =
      match valid re root n c j with
      | none => none
      | some true => valid re root n t j
      | some false => valid re root n e j := by
  simp only [sIf, valid, List.map_cons, List.map_nil, kwHolds_ifS, kwHolds_thenS, kwHolds_elseS,
    findThen, findElse]
  cases valid re root n c j with
  | none => rfl
  | some a => cases a <;> exact all3_cons_true _ _ rfl

/-- const is a one-element enum -/
theorem const_eq_enum (re rec res kws v j) :
    kwHolds re rec res kws (.const v) j = kwHolds re rec res kws (.enum [v]) j := by
  have h : ∀ j, jeq v j = [v].any (jeq · j) := by intro j; simp
  cases j <;> exact congrArg some (h _)

/-- a keyword specific to one kind holds on every instance of another kind -/
theorem kw_other_kind (re rec res kws) (kw : Kw) (k : Kind) (j : Json)
    (hk : kw.kindOf = some k) (hj : j.kind ≠ k) : kwHolds re rec res kws kw j = some true := by
  cases kw <;> cases hk <;> cases j <;> first | rfl | exact absurd rfl hj

/-! ## fuel monotonicity -/

/-- `rec'` extends `rec`: every verdict determined by `rec` is the same under `rec'` -/
def Ext (rec rec' : Schema → Json → Option Bool) : Prop :=
  ∀ s j b, rec s j = some b → rec' s j = some b

theorem map_eq_of_isSome {α} (f g : α → Option Bool) (l : List α)
    (hs : ∀ y ∈ l.map f, y.isSome) (hfg : ∀ x ∈ l, ∀ c, f x = some c → g x = some c) :
    l.map g = l.map f := by
  apply List.map_congr_left
  intro x hx
  have := hs (f x) (List.mem_map_of_mem hx)
  cases hfx : f x with
  | none => simp [hfx] at this
  | some c => exact hfg x hx c hfx

theorem all3_map_ext {α} (f g : α → Option Bool) (l : List α) (b)
    (h : all3 (l.map f) = some b) (hfg : ∀ x ∈ l, ∀ c, f x = some c → g x = some c) :
    all3 (l.map g) = some b := by
  rw [map_eq_of_isSome f g l (all3_isSome _ b h) hfg]; exact h

theorem count3_map_ext {α} (f g : α → Option Bool) (l : List α) (c)
    (h : count3 (l.map f) = some c) (hfg : ∀ x ∈ l, ∀ c, f x = some c → g x = some c) :
    count3 (l.map g) = some c := by
  rw [map_eq_of_isSome f g l (count3_isSome _ c h) hfg]; exact h

theorem count3_map_map_ext {α β} (f g : α → Option Bool) (F : Nat → β) (l : List α) (b)
    (h : (count3 (l.map f)).map F = some b)
    (hfg : ∀ x ∈ l, ∀ c, f x = some c → g x = some c) :
    (count3 (l.map g)).map F = some b := by
  cases hc : count3 (l.map f) with
  | none => simp [hc] at h
  | some c => rw [count3_map_ext f g l c hc hfg, ← hc]; exact h

/-- every clause of `kwHolds` combines the verdicts of `rec` strictly, so a determined result has
consulted `rec` only where `rec'` agrees -/
theorem kwHolds_ext (re : String → String → Bool) {rec rec' : Schema → Json → Option Bool}
    (hx : Ext rec rec') (res : Ref → Option Schema) (kws : List Kw) (kw : Kw) (j : Json) (b : Bool) :
    kwHolds re rec res kws kw j = some b → kwHolds re rec' res kws kw j = some b := by
  have hall {α} (f g : α → Option Bool) (l : List α) := all3_map_ext f g l b
  have hcount {α} (f g : α → Option Bool) (F : Nat → Bool) (l : List α) := count3_map_map_ext f g F l b
  cases kw with
  | allOf ss =>
    rw [kwHolds_allOf, kwHolds_allOf]
    exact fun hb => hall _ _ _ hb fun s _ c => hx _ _ _
  | anyOf ss =>
    rw [kwHolds_anyOf, kwHolds_anyOf]
    exact fun hb => hcount _ _ _ _ hb fun s _ c => hx _ _ _
  | oneOf ss =>
    rw [kwHolds_oneOf, kwHolds_oneOf]
    exact fun hb => hcount _ _ _ _ hb fun s _ c => hx _ _ _
  | not s =>
    rw [kwHolds_not, kwHolds_not]
    cases hr : rec s j with
    | none => exact nofun
    | some a => rw [hx s j a hr]; exact id
  | ifS s =>
    rw [kwHolds_ifS, kwHolds_ifS]
    cases hr : rec s j with
    | none => exact nofun
    | some a =>
      rw [hx s j a hr]
      cases a
      · cases findElse kws with
        | none => exact id
        | some t => exact hx _ _ _
      · cases findThen kws with
        | none => exact id
        | some t => exact hx _ _ _
  | ref r =>
    rw [kwHolds_ref, kwHolds_ref]
    cases res r with
    | none => exact id
    | some t => exact hx _ _ _
  | properties ps =>
    cases j <;> first | exact id | refine fun hb => hall _ _ _ hb fun kv _ c => ?_
    cases ps.lookup kv.1 with
    | none => exact id
    | some s => exact hx _ _ _
  | patternProperties ps =>
    cases j <;> first | exact id | refine fun hb => hall _ _ _ hb fun kv _ c hc => ?_
    exact all3_map_ext _ _ _ c hc fun p _ c' => hx _ _ _
  | additionalProperties s | propertyNames s | items s =>
    cases j <;> first | exact id | exact fun hb => hall _ _ _ hb fun x _ c => hx _ _ _
  | prefixItems ss =>
    cases j with
    | arr xs =>
      -- `zipWith rec ss xs` is a map over `ss.zip xs`
      show all3 (List.zipWith rec ss xs) = some b → all3 (List.zipWith rec' ss xs) = some b
      rw [← List.map_uncurry_zip_eq_zipWith, ← List.map_uncurry_zip_eq_zipWith]
      exact fun hb => hall _ _ _ hb fun p _ c => hx _ _ _
    | _ => exact id
  | contains s =>
    cases j <;> first | exact id | exact fun hb => hcount _ _ _ _ hb fun x _ c => hx _ _ _
  | _ => cases j <;> exact id

/-- fuel monotonicity: a determined verdict never changes with more fuel -/
theorem valid_mono (re root) :
    ∀ n s j b, valid re root n s j = some b → valid re root (n+1) s j = some b := by
  intro n
  induction n with
  | zero => intro s j b h; simp [valid] at h
  | succ n ih =>
    intro s j b h
    cases s with
    | bool a => exact h
    | obj kws =>
      simp only [valid] at h ⊢
      exact all3_map_ext _ _ _ b h
        (fun kw _ c => kwHolds_ext re ih (resolve root) kws kw j c)

theorem valid_mono_le (re root n m s j b) (h : n ≤ m) :
    valid re root n s j = some b → valid re root m s j = some b := by
  induction h with
  | refl => exact id
  | step _ ih => exact fun hb => valid_mono re root _ s j b (ih hb)

end CueVerif.JS
