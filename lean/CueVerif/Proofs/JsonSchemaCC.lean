/-
C13 — the target language `CC` and the states of the transcribed builders (Model/JsonSchemaCC.lean):
denotation lemmas, the kind skeleton `finalize` on `CC`, the meaning `stAcc` of a state (what
`finalize` will accept), the invariant `SInv` the builders keep, and what each of the four primitive
updates of a state (`addC`, `addAll`, narrowing `allowedTypes`, narrowing `knownTypes`) does to both;
every builder is a composition of these.  Core Lean only.
-/
import CueVerif.Model.JsonSchemaCC
import CueVerif.Proofs.JsonSchemaKinds
namespace CueVerif.CCm
open CueVerif.JS CueVerif.Skel

variable (re : String → String → Bool)

/-! ## denotation of the list-shaped values -/

theorem accCount_eq (vs : List CC) (j : Json) : accCount re vs j = vs.countP (acc re · j) := by
  induction vs with
  | nil => simp [accCount]
  | cons v r ih =>
    rw [accCount, ih, List.countP_cons]
    omega

theorem acc_foldAnd (a : CC) (r : List CC) (j) :
    acc re (foldAnd a r) j = (acc re a j && r.all (acc re · j)) := by
  induction r generalizing a with
  | nil => simp [foldAnd]
  | cons b r ih => simp [foldAnd, ih, acc, Bool.and_assoc]

theorem acc_foldOr (a : CC) (r : List CC) (j) :
    acc re (foldOr a r) j = (acc re a j || r.any (acc re · j)) := by
  induction r generalizing a with
  | nil => simp [foldOr]
  | cons b r ih => simp [foldOr, ih, acc, Bool.or_assoc]

theorem acc_matchN (b : Bound) (vs : List CC) (j : Json) :
    acc re (.matchN b vs) j = b.ok (vs.countP (acc re · j)) := by
  rw [acc, accCount_eq]

theorem lenCC_eq (l : List CC) : lenCC l = l.length := by
  induction l with
  | nil => rfl
  | cons _ r ih => simp [lenCC, ih]

/-- `[_, …(n), ...]` = at least `n` elements -/
theorem accPrefix_tops (n : Nat) (xs : List Json) :
    accPrefix re (List.replicate n .top) xs = decide (n ≤ xs.length) := by
  induction n generalizing xs with
  | zero => simp [accPrefix]
  | succ n ih =>
    cases xs with
    | nil => simp [List.replicate, accPrefix]
    | cons x r => simp [List.replicate, accPrefix, acc, ih]

/-! ## the stable sort only permutes -/

theorem sortListsLast_perm (l : List CC) : (sortListsLast l).Perm l := by
  unfold sortListsLast
  exact (List.perm_append_comm.trans (List.filter_append_perm _ l))

theorem sorted_perm (st : TSt) (t : CoreType) : (st.sorted t).Perm (st.types t) := by
  unfold TSt.sorted
  split
  · exact sortListsLast_perm _
  · exact .refl _

/-! ## `finalize` on `CC` -/

/-- every per-type constraint accepts only instances of its own core type (each transcribed
builder adds such a constraint: `Own_addC`) -/
def Own (st : TSt) : Prop :=
  ∀ t c, c ∈ st.types t → ∀ j, acc re c j = true → coreOf j = t

theorem acc_finalize (st : TSt) (j : Json) :
    acc re (finalize st) j = (!st.allowed.isEmpty &&
      (st.all.all (acc re · j) &&
        ((disjuncts st).isEmpty || (disjuncts st).any (acc re · j)))) := by
  unfold finalize
  cases st.allowed.isEmpty with
  | true => simp [acc]
  | false =>
    simp only [Bool.false_eq_true, ↓reduceIte]
    cases hd : disjuncts st with
    | nil =>
      simp only [List.append_nil]
      cases st.all with
      | nil => simp [acc]
      | cons c cs => simp [acc_foldAnd]
    | cons d ds =>
      cases st.all with
      | nil => simp [acc_foldAnd, acc_foldOr]
      | cons c cs => simp [acc_foldAnd, acc_foldOr, List.all_append, Bool.and_assoc]

/-- the kind skeleton (`Skel.finalize_skeleton`) for the syntactic constraints the transcribed
builders produce; `hknown` is needed at the instance only -/
theorem finalize_acc (st : TSt) (j : Json) (hOwn : Own re st)
    (hknown : st.all.all (acc re · j) = true → hasCore st.known (coreOf j) = true)
    (hsub : ∀ t, hasCore st.allowed t = true → hasCore st.known t = true) :
    acc re (finalize st) j =
      (hasCore st.allowed (coreOf j) && st.all.all (acc re · j) &&
        (st.types (coreOf j)).all (acc re · j)) := by
  rw [acc_finalize, ← (sorted_perm st (coreOf j)).all_eq]
  exact Skel.finalize_skeleton (acc re · j) st.allowed st.known st.sorted foldAnd .kind
    (disjunctFor st) (coreOf j) _ (acc_foldAnd re · · j) (fun t => by rw [acc])
    (fun t x r h => by simp only [disjunctFor, h]) (fun t h => by simp only [disjunctFor, h])
    (fun t v hv => (hOwn t v ((sorted_perm st t).mem_iff.1 hv) j · |>.symm))
    hknown hsub (disjuncts st)
    (by simp only [disjuncts, needsTypeDisjunction, fun t => (sorted_perm st t).isEmpty_eq]; rfl)

/-! ## what a state accepts, and the invariant the builders keep -/

/-- the meaning of a state: what `finalize` will accept (right-hand side of `finalize_acc`) -/
def stAcc (st : TSt) (j : Json) : Bool :=
  hasCore st.allowed (coreOf j) && st.all.all (acc re · j) && (st.types (coreOf j)).all (acc re · j)

theorem stAcc_def (st : TSt) (j : Json) :
    stAcc re st j = (hasCore st.allowed (coreOf j) && st.all.all (acc re · j) &&
      (st.types (coreOf j)).all (acc re · j)) := rfl

theorem stAcc_hT (st : TSt) (j : Json) (h : stAcc re st j = true) :
    hasCore st.allowed (coreOf j) = true := by
  rw [stAcc_def] at h
  simp only [Bool.and_eq_true] at h
  exact h.1.1

/-- what is conjoined to `stAcc st j` may assume that the instance's kind is allowed -/
theorem stAcc_and_congr (st : TSt) (j : Json) (Y V : Bool)
    (h : hasCore st.allowed (coreOf j) = true → Y = V) :
    (stAcc re st j && Y) = (stAcc re st j && V) := by
  cases hs : stAcc re st j
  · rfl
  · rw [Bool.true_and, Bool.true_and]; exact h (stAcc_hT re st j hs)

/-- invariants of a `state` while the keywords are applied (at one instance `j`) -/
structure SInv (st : TSt) (j : Json) : Prop where
  closed : IntClosed st.allowed
  closedK : IntClosed st.known
  own : Own re st
  sub : ∀ k, st.allowed k = true → st.known k = true
  knownJ : st.all.all (acc re · j) = true → hasCore st.known (coreOf j) = true

/-- under the invariant, `finalize` accepts what the state means -/
theorem SInv.acc_finalize {st : TSt} {j : Json} (hI : SInv re st j) :
    acc re (finalize st) j = stAcc re st j :=
  finalize_acc re st j hI.own hI.knownJ (Skel.hasCore_mono _ _ hI.sub)

theorem Own_init (T : KSet) : Own re (TSt.init T) := by
  intro t c hc
  simp [TSt.init] at hc

theorem SInv_init (T : KSet) (j : Json) (hT : IntClosed T) : SInv re (TSt.init T) j :=
  ⟨hT, IntClosed_full, Own_init re T, fun _ _ => rfl, fun _ => Skel.hasCore_full _⟩

theorem stAcc_init (T : KSet) (j : Json) : stAcc re (TSt.init T) j = hasCore T (coreOf j) := by
  simp [stAcc, TSt.init]

/-- a state without constraints accepts exactly the instances of its allowed kinds -/
theorem stAcc_of_not_hasConstraints (st : TSt) (j : Json) (h : hasConstraints st = false) :
    stAcc re st j = hasCore st.allowed (coreOf j) := by
  simp only [hasConstraints, Bool.or_eq_false_iff, Bool.not_eq_false', List.isEmpty_iff] at h
  have h2 : st.types (coreOf j) = [] := by
    simpa using (List.any_eq_false.1 h.2) (coreOf j) (Skel.mem_CoreType_all _)
  rw [stAcc_def, h.1, h2]
  simp

/-! ## the primitive updates of a state -/

/-! ### `addC`: a per-type constraint -/

theorem isTop_eq (c : CC) (h : c.isTop = true) : c = .top := by
  cases c <;> first | rfl | cases h

/-- `state.add(n, t, c)` conjoins `c` on instances of core type `t` and nothing elsewhere (`_` is
dropped, which changes nothing) -/
theorem stAcc_addC (st : TSt) (t : CoreType) (c : CC) (j : Json) :
    stAcc re (addC st t c) j = (stAcc re st j && (coreOf j != t || acc re c j)) := by
  cases hc : c.isTop
  · unfold stAcc addC
    simp only [hc, Bool.false_eq_true, ↓reduceIte]
    cases ht : (coreOf j == t)
    · simp [ht, bne]
    · simp [ht, bne, List.all_append, Bool.and_assoc]
  · simp [addC, isTop_eq c hc, CC.isTop, acc]

theorem stAcc_addC_top (st : TSt) (t : CoreType) (j : Json) :
    stAcc re (addC st t .top) j = stAcc re st j := by
  rw [stAcc_addC]; simp [acc]

theorem addC_allowed (st : TSt) (t c) : (addC st t c).allowed = st.allowed := by
  unfold addC; split <;> rfl
theorem addC_known (st : TSt) (t c) : (addC st t c).known = st.known := by
  unfold addC; split <;> rfl
theorem addC_all (st : TSt) (t c) : (addC st t c).all = st.all := by
  unfold addC; split <;> rfl
theorem addC_ifS (st : TSt) (t c) : (addC st t c).ifS = st.ifS := by
  unfold addC; split <;> rfl

theorem Own_addC (st : TSt) (t : CoreType) (c : CC) (h : Own re st)
    (hc : ∀ j, acc re c j = true → coreOf j = t) : Own re (addC st t c) := by
  intro t' c' hm j ha
  unfold addC at hm
  split at hm
  · exact h t' c' hm j ha
  · simp only at hm
    split at hm
    · rename_i heq
      have : t' = t := by simpa using heq
      subst this
      rcases List.mem_append.1 hm with hm | hm
      · exact h _ c' hm j ha
      · simp only [List.mem_singleton] at hm
        subst hm
        exact hc j ha
    · exact h t' c' hm j ha

/-- an update that touches only the per-type constraints -/
theorem SInv.of_types {st : TSt} {j : Json} (hI : SInv re st j) (st' : TSt)
    (ha : st'.allowed = st.allowed) (hk : st'.known = st.known) (hall : st'.all = st.all)
    (hO : Own re st') : SInv re st' j :=
  ⟨ha ▸ hI.closed, hk ▸ hI.closedK, hO, fun k h => by rw [hk]; exact hI.sub k (ha ▸ h),
    fun h => by rw [hk]; exact hI.knownJ (hall ▸ h)⟩

theorem SInv_addC (st : TSt) (j : Json) (t c) (hI : SInv re st j)
    (hc : ∀ j, acc re c j = true → coreOf j = t) : SInv re (addC st t c) j :=
  hI.of_types re _ (addC_allowed ..) (addC_known ..) (addC_all ..) (Own_addC re st t c hI.own hc)

/-! ### `addAll`: an all-constraint -/

theorem addAll_allowed (st : TSt) (c : CC) : (addAll st c).allowed = st.allowed := by
  unfold addAll; split <;> rfl
theorem addAll_known (st : TSt) (c : CC) : (addAll st c).known = st.known := by
  unfold addAll; split <;> rfl
theorem addAll_types (st : TSt) (c : CC) : (addAll st c).types = st.types := by
  unfold addAll; split <;> rfl
theorem addAll_ifS (st : TSt) (c) : (addAll st c).ifS = st.ifS := by
  unfold addAll; split <;> rfl
theorem addAll_all_all (st : TSt) (c : CC) (j : Json) :
    (addAll st c).all.all (acc re · j) = (st.all.all (acc re · j) && acc re c j) := by
  unfold addAll
  cases hc : c.isTop
  · simp [List.all_append]
  · simp [isTop_eq c hc, acc]

theorem stAcc_addAll (st : TSt) (c : CC) (j : Json) :
    stAcc re (addAll st c) j = (stAcc re st j && acc re c j) := by
  rw [stAcc_def, addAll_allowed, addAll_types, addAll_all_all, stAcc_def]
  simp only [Bool.and_assoc, Bool.and_comm (acc re c j)]

/-- `addAll` commutes with an update of the two kind sets -/
theorem addAll_with (st : TSt) (A' K' : KSet) (c : CC) :
    addAll { st with allowed := A', known := K' } c = { addAll st c with allowed := A', known := K' } := by
  unfold addAll; split <;> rfl

theorem SInv_addAll (st : TSt) (j : Json) (c : CC) (hI : SInv re st j) : SInv re (addAll st c) j := by
  refine ⟨?_, ?_, ?_, ?_, ?_⟩
  · rw [addAll_allowed]; exact hI.closed
  · rw [addAll_known]; exact hI.closedK
  · intro t c' hm; rw [addAll_types] at hm; exact hI.own t c' hm
  · intro k hk
    rw [addAll_allowed] at hk
    rw [addAll_known]
    exact hI.sub k hk
  · intro hall
    rw [addAll_all_all] at hall
    simp only [Bool.and_eq_true] at hall
    rw [addAll_known]
    exact hI.knownJ hall.1

/-! ### narrowing `allowedTypes` -/

theorem SInv_allowed (st : TSt) (j : Json) (A' : KSet) (hI : SInv re st j) (h1 : IntClosed A')
    (h2 : ∀ k, A' k = true → st.allowed k = true) : SInv re { st with allowed := A' } j :=
  ⟨h1, hI.closedK, hI.own, fun k hk => hI.sub k (h2 k hk), hI.knownJ⟩

/-- `allowedTypes &= K` conjoins the test for `K` -/
theorem stAcc_inter (st : TSt) (K : KSet) (j : Json) (hcl : IntClosed st.allowed) (hK : IntClosed K) :
    stAcc re { st with allowed := st.allowed.inter K } j = (stAcc re st j && hasCore K (coreOf j)) := by
  simp only [stAcc, hasCore_inter _ _ hcl hK, Bool.and_assoc, Bool.and_comm]

/-! ### narrowing `knownTypes` -/

/-- `knownTypes &= K` keeps the invariant when the all-constraints already imply a kind in `K` -/
theorem SInv_known (st : TSt) (j : Json) (K : KSet) (hI : SInv re st j) (hK : IntClosed K)
    (hAK : ∀ k, st.allowed k = true → K k = true)
    (hcK : st.all.all (acc re · j) = true → hasCore K (coreOf j) = true) :
    SInv re { st with known := st.known.inter K } j :=
  ⟨hI.closed, IntClosed_inter _ _ hI.closedK hK, hI.own,
    fun k hk => by simp only [KSet.inter, hI.sub k hk, hAK k hk]; rfl,
    fun h => by
      show hasCore (st.known.inter K) (coreOf j) = true
      rw [hasCore_inter _ _ hI.closedK hK, hI.knownJ h, hcK h]; rfl⟩

end CueVerif.CCm
