/-
C13 — the NESTED keywords on a state: what the induction over nesting provides about a translated
member (`GoodA`, and its kind-level part `SubG` for a kept member), the members' verdicts as Booleans,
the step shared by the builders that narrow `allowedTypes`/`knownTypes` to the kept members
(`members_step`), and the state-level step lemmas of `constraintNot`, `constraintAnyOf` and
`constraintOneOf` as transcribed (`bNot`, `bAnyOf`, `bOneOf`); all RELATIVE to the allowed types handed
to the members and to one fixed instance.  Core Lean only.
-/
import CueVerif.Proofs.JsonSchema
import CueVerif.Proofs.JsonSchemaCC
namespace CueVerif.CCm
open CueVerif.JS CueVerif.Skel

variable (re : String → String → Bool)

/-! ## the members -/

def isFalseS : Schema → Bool
  | .bool false => true
  | _ => false

/-- what the induction hypothesis provides about the translation of a member `s` under allowed
types `T` (`vf` = the oracle's verdict on members, `tr` = the translation of members) -/
structure GoodA (tr : KSet → Schema → TSub) (vf : Schema → Option Bool) (j : Json) (T : KSet)
    (s : Schema) : Prop where
  closed : IntClosed (tr T s).allowed
  closedK : IntClosed (tr T s).known
  sub : ∀ k, (tr T s).allowed k = true → (tr T s).known k = true
  soundK : acc re (tr T s).expr j = true → hasCore (tr T s).known (coreOf j) = true
  defined : (vf s).isSome = true
  exact : hasCore T (coreOf j) = true → vf s = some (acc re (tr T s).expr j)
  sound : hasCore T (coreOf j) = true → acc re (tr T s).expr j = true →
    hasCore (tr T s).allowed (coreOf j) = true
  exactNC : hasCore T (coreOf j) = true → (tr T s).hasC = false → isFalseS s = false →
    acc re (tr T s).expr j = hasCore (tr T s).allowed (coreOf j)

/-- the verdict as a Boolean -/
def vd (vf : Schema → Option Bool) (s : Schema) : Bool := (vf s).getD false

theorem map_vf (vf : Schema → Option Bool) (ss : List Schema) (h : ∀ s ∈ ss, (vf s).isSome = true) :
    ss.map vf = (ss.map (vd vf)).map some :=
  map_getD vf ss h

/-- what the step lemmas need about each translated member `r` (at instance `j`, under `T`) -/
structure SubG (j : Json) (T : KSet) (r : TSub) : Prop where
  closed : IntClosed r.allowed
  closedK : IntClosed r.known
  sub : ∀ k, r.allowed k = true → r.known k = true
  soundK : acc re r.expr j = true → hasCore r.known (coreOf j) = true
  sound : hasCore T (coreOf j) = true → acc re r.expr j = true → hasCore r.allowed (coreOf j) = true

theorem subG_of_good (tr vf) (j : Json) (T : KSet) (ss : List Schema)
    (hg : ∀ s ∈ ss, GoodA re tr vf j T s) : ∀ r ∈ ss.map (tr T), SubG re j T r := by
  intro r hr
  obtain ⟨s, hs, rfl⟩ := List.mem_map.1 hr
  have g := hg s hs
  exact ⟨g.closed, g.closedK, g.sub, g.soundK, g.sound⟩

theorem dropped_false (j : Json) (T : KSet) (r : TSub) (g : SubG re j T r)
    (hT : hasCore T (coreOf j) = true) (h : (!r.allowed.isEmpty) = false) : acc re r.expr j = false :=
  Skel.eq_false_of_isEmpty (g.sound hT) h

/-- the oracle's verdicts on the members, as Booleans, are the acceptance of their translations -/
theorem vd_eq_acc (tr vf) (j : Json) (T : KSet) (ss : List Schema)
    (hg : ∀ s ∈ ss, GoodA re tr vf j T s) (hT : hasCore T (coreOf j) = true) :
    ss.map (vd vf) = (ss.map (tr T)).map (fun r => acc re r.expr j) := by
  rw [List.map_map]
  apply List.map_congr_left
  intro s hs
  simp only [vd, (hg s hs).exact hT, Option.getD_some, Function.comp]

theorem count3_vf (vf : Schema → Option Bool) (ss : List Schema) (h : ∀ s ∈ ss, (vf s).isSome = true) :
    count3 (ss.map vf) = some ((ss.map (vd vf)).count true) := by
  rw [map_vf vf ss h, count3_det]

theorem all3_vf (vf : Schema → Option Bool) (ss : List Schema) (h : ∀ s ∈ ss, (vf s).isSome = true) :
    all3 (ss.map vf) = some ((ss.map (vd vf)).all id) := by
  rw [map_vf vf ss h, all3_det]

theorem kept_count (tr vf) (st : TSt) (ss : List Schema) (j : Json)
    (hg : ∀ s ∈ ss, GoodA re tr vf j st.allowed s) (hT : hasCore st.allowed (coreOf j) = true) :
    (keptSubs tr st.allowed ss).countP (fun r => acc re r.expr j) = (ss.map (vd vf)).count true := by
  have hG := subG_of_good re tr vf j st.allowed ss hg
  rw [vd_eq_acc re tr vf j st.allowed ss hg hT, Skel.count_true_map]
  unfold keptSubs
  exact Skel.countP_filter_drop (fun r => acc re r.expr j) (fun r => !r.allowed.isEmpty)
    (ss.map (tr st.allowed)) (fun r hr h => dropped_false re j st.allowed r (hG r hr) hT h)

/-! ## narrowing to the kinds of the kept members -/

/-- `matchN` over the kept members counts the accepting ones -/
theorem acc_matchN_members (b : Bound) (a : List TSub) (j : Json) :
    acc re (.matchN b (a.map (·.expr))) j = b.ok (a.countP (fun r => acc re r.expr j)) := by
  rw [acc_matchN, List.countP_map]
  rfl

/-- `allowedTypes` and `knownTypes` are narrowed by the unions over the kept members `a`, and a
constraint `c` is added that accepts only if some member of `a` does: that member's kinds are in
the unions, so the narrowing costs nothing -/
theorem members_step (st : TSt) (j : Json) (a : List TSub) (c : CC) (hI : SInv re st j)
    (hkept : ∀ r ∈ a, SubG re j st.allowed r)
    (hc : acc re c j = true → ∃ r ∈ a, acc re r.expr j = true) :
    SInv re (addAll { st with allowed := st.allowed.inter (unionAllowed a),
                              known := st.known.inter (unionKnown a) } c) j ∧
    stAcc re (addAll { st with allowed := st.allowed.inter (unionAllowed a),
                               known := st.known.inter (unionKnown a) } c) j =
      (stAcc re st j && acc re c j) := by
  have hU : IntClosed (unionAllowed a) := IntClosed_any a (·.allowed) (fun r hr => (hkept r hr).closed)
  constructor
  · -- the builder narrows first and adds `c` last, but `knownTypes &= …` is justified by `c`: commute
    rw [addAll_with, ← addAll_known st c]
    refine SInv_known re _ j _ (SInv_allowed re _ j _ (SInv_addAll re st j c hI)
      (IntClosed_inter _ _ hI.closed hU) (addAll_allowed st c ▸ inter_sub_left _ _))
      (IntClosed_any a (·.known) (fun r hr => (hkept r hr).closedK)) ?_ ?_
    · intro k hk
      simp only [KSet.inter, Bool.and_eq_true, unionAllowed, List.any_eq_true] at hk
      obtain ⟨_, r, hr, hrk⟩ := hk
      exact List.any_eq_true.2 ⟨r, hr, (hkept r hr).sub k hrk⟩
    · intro hp
      rw [addAll_all_all, Bool.and_eq_true] at hp
      obtain ⟨r, hr, hpr⟩ := hc hp.2
      exact Skel.hasCore_any_mem a (·.known) r hr _ ((hkept r hr).soundK hpr)
  · rw [stAcc_addAll]
    show (stAcc re { st with allowed := st.allowed.inter (unionAllowed a) } j && acc re c j) = _
    rw [stAcc_inter re st _ j hI.closed hU, Bool.and_assoc]
    refine stAcc_and_congr re st j _ _ fun hT => ?_
    cases hp : acc re c j
    · exact Bool.and_false _
    · obtain ⟨r, hr, hpr⟩ := hc hp
      have hm : hasCore (unionAllowed a) (coreOf j) = true :=
        Skel.hasCore_any_mem a (·.allowed) r hr _ ((hkept r hr).sound hT hpr)
      rw [hm]
      rfl

/-! ## `not` -/

theorem not_step (tr vf) (st : TSt) (s : Schema) (j : Json) (hI : SInv re st j)
    (hg : GoodA re tr vf j KSet.full s) :
    SInv re (bNot tr s st) j ∧ (not3 (vf s)).isSome = true ∧
    stAcc re (bNot tr s st) j = (stAcc re st j && (not3 (vf s)).getD false) := by
  have hx := hg.exact (Skel.hasCore_full _)
  refine ⟨SInv_addAll re st j _ hI, by rw [hx]; rfl, ?_⟩
  unfold bNot
  rw [stAcc_addAll, hx, acc_matchN]
  simp only [List.countP_cons, List.countP_nil, Bound.ok, not3, Option.map_some, Option.getD_some]
  cases acc re (tr KSet.full s).expr j <;> simp

/-! ## anyOf -/

theorem anyOf_step (tr vf) (st : TSt) (ss : List Schema) (j : Json) (hI : SInv re st j)
    (hg : ∀ s ∈ ss, GoodA re tr vf j st.allowed s) :
    SInv re (bAnyOf tr ss st) j ∧ (any3 (ss.map vf)).isSome = true ∧
    stAcc re (bAnyOf tr ss st) j = (stAcc re st j && (any3 (ss.map vf)).getD false) := by
  have hdef : ∀ s ∈ ss, (vf s).isSome = true := fun s hs => (hg s hs).defined
  have hG := subG_of_good re tr vf j st.allowed ss hg
  rw [any3, count3_vf vf ss hdef]
  suffices h : SInv re (bAnyOf tr ss st) j ∧
      stAcc re (bAnyOf tr ss st) j = (stAcc re st j && decide (1 ≤ (ss.map (vd vf)).count true)) from
    ⟨h.1, rfl, h.2⟩
  have hkept : ∀ r ∈ keptSubs tr st.allowed ss, SubG re j st.allowed r :=
    fun r hr => hG r (List.mem_filter.1 hr).1
  have hcnt := kept_count re tr vf st ss j hg
  unfold bAnyOf
  simp only []
  generalize keptSubs tr st.allowed ss = a at hkept hcnt
  match a, hkept, hcnt with
  | [], _, hcnt =>
    refine ⟨SInv_allowed re st j _ hI IntClosed_empty (fun _ hk => by cases hk), ?_⟩
    have hl : stAcc re { st with allowed := KSet.empty } j = false := by simp [stAcc, hasCore_empty]
    rw [hl, ← Bool.and_false (stAcc re st j)]
    exact stAcc_and_congr re st j _ _ fun hT => by rw [← hcnt hT]; rfl
  | [x], _, hcnt =>
    refine ⟨SInv_addAll re st j _ hI, ?_⟩
    rw [stAcc_addAll]
    exact stAcc_and_congr re st j _ _ fun hT => by
      rw [← hcnt hT]; cases hp : acc re x.expr j <;> simp [hp]
  | x :: y :: r', hkept, hcnt =>
    have hn := members_step re st j (x :: y :: r') _ hI hkept (by
      intro hm
      rw [acc_matchN_members re (.ge 1)] at hm
      exact List.countP_pos_iff.1 (of_decide_eq_true hm))
    refine ⟨hn.1, ?_⟩
    rw [hn.2, acc_matchN_members]
    exact stAcc_and_congr re st j _ _ fun hT => by rw [hcnt hT]; rfl

theorem bAnyOf_ifS (tr ss) (st : TSt) : (bAnyOf tr ss st).ifS = st.ifS := by
  unfold bAnyOf
  simp only []
  split
  · rfl
  · exact addAll_ifS _ _
  · exact addAll_ifS _ _

/-! ## oneOf (with the `matchN(1, …)` constraint; the no-constraint shortcut is guarded out here and
proved on the semantic model: `Skel.oneOf_enc`) -/

theorem oneOf_step (tr vf) (st : TSt) (ss : List Schema) (j : Json) (hI : SInv re st j)
    (hg : ∀ s ∈ ss, GoodA re tr vf j st.allowed s)
    (hneeds : (oneOfNeeds KSet.empty (keptSubs tr st.allowed ss) ||
      (keptSubs tr st.allowed ss).isEmpty) = true) :
    SInv re (bOneOf tr ss st) j ∧ (one3 (ss.map vf)).isSome = true ∧
    stAcc re (bOneOf tr ss st) j = (stAcc re st j && (one3 (ss.map vf)).getD false) := by
  have hdef : ∀ s ∈ ss, (vf s).isSome = true := fun s hs => (hg s hs).defined
  have hG := subG_of_good re tr vf j st.allowed ss hg
  rw [one3, count3_vf vf ss hdef]
  suffices h : SInv re (bOneOf tr ss st) j ∧
      stAcc re (bOneOf tr ss st) j = (stAcc re st j && ((ss.map (vd vf)).count true == 1)) from
    ⟨h.1, rfl, h.2⟩
  have hkept : ∀ r ∈ keptSubs tr st.allowed ss, SubG re j st.allowed r :=
    fun r hr => hG r (List.mem_filter.1 hr).1
  have hcnt := kept_count re tr vf st ss j hg
  unfold bOneOf
  simp only []
  generalize keptSubs tr st.allowed ss = a at hkept hcnt hneeds
  match a, hkept, hcnt, hneeds with
  | [], _, hcnt, _ =>
    have hU : IntClosed (unionAllowed []) := IntClosed_empty
    refine ⟨SInv_allowed re st j _ hI (IntClosed_inter _ _ hI.closed hU) (inter_sub_left _ _), ?_⟩
    simp only [List.isEmpty_nil, Bool.not_true, Bool.false_and, Bool.false_eq_true, ↓reduceIte]
    rw [stAcc_inter re st _ j hI.closed hU]
    exact stAcc_and_congr re st j _ _ fun hT => by rw [← hcnt hT]; exact hasCore_empty _
  | [x], hkept, hcnt, hneeds =>
    have hnd : oneOfNeeds KSet.empty [x] = true := by simpa using hneeds
    simp only [List.isEmpty_cons, Bool.not_false, Bool.true_and, hnd, ↓reduceIte]
    have hn := members_step re st j [x] x.expr hI hkept (fun hp => ⟨x, List.mem_singleton.2 rfl, hp⟩)
    refine ⟨hn.1, ?_⟩
    rw [hn.2]
    exact stAcc_and_congr re st j _ _ fun hT => by
      rw [← hcnt hT]; cases hp : acc re x.expr j <;> simp [hp]
  | x :: y :: r', hkept, hcnt, hneeds =>
    have hnd : oneOfNeeds KSet.empty (x :: y :: r') = true := by simpa using hneeds
    simp only [List.isEmpty_cons, Bool.not_false, Bool.true_and, hnd, ↓reduceIte]
    have hn := members_step re st j (x :: y :: r') _ hI hkept (by
      intro hm
      rw [acc_matchN_members re (.eq 1)] at hm
      exact List.countP_pos_iff.1 (beq_iff_eq.1 hm ▸ Nat.one_pos))
    refine ⟨hn.1, ?_⟩
    rw [hn.2, acc_matchN_members]
    exact stAcc_and_congr re st j _ _ fun hT => by rw [hcnt hT]; rfl

theorem bOneOf_ifS (tr ss) (st : TSt) : (bOneOf tr ss st).ifS = st.ifS := by
  unfold bOneOf
  simp only []
  split
  · split
    · exact addAll_ifS _ _
    · exact addAll_ifS _ _
  · rfl

end CueVerif.CCm