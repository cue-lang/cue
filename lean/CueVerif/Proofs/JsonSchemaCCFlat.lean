/-
C13 — semantic exactness of the transcribed LEAF builders (numbers, strings, array sizes) and of
`constraintType` w.r.t. the oracle `JS.kwHolds`, one keyword at a time.  Core Lean only.
-/
import CueVerif.Proofs.JsonSchemaCC
namespace CueVerif.CCm
open CueVerif.JS CueVerif.Skel

variable (re : String → String → Bool)

/-! ## leaf keywords -/

/-- the per-type constraint a leaf keyword contributes (what the builder passes to `state.add`) -/
def leafOf : Kw → Option (CoreType × CC)
  | .minimum n => some (.num, .bound .ge n)
  | .maximum n => some (.num, .bound .le n)
  | .exclusiveMinimum n => some (.num, .bound .gt n)
  | .exclusiveMaximum n => some (.num, .bound .lt n)
  | .multipleOf n => some (.num, .multipleOf n)
  | .minLength n => some (.string, .minRunes n)
  | .maxLength n => some (.string, .maxRunes n)
  | .pattern p => some (.string, .matches p)
  | .minItems n => some (.array, .listOpen (List.replicate n .top) .top)
  | .maxItems n => some (.array, .maxItems n)
  | _ => none

theorem stepKw_leaf (tr) (st : TSt) (kw : Kw) (t c) (h : leafOf kw = some (t, c)) :
    stepKw tr st kw = addC st t c := by
  cases kw <;> cases h <;> rfl

theorem leaf_own (kw : Kw) (t c) (h : leafOf kw = some (t, c)) (j : Json)
    (ha : acc re c j = true) : coreOf j = t := by
  cases kw <;> cases h <;> cases j <;> first | rfl | cases ha

/-- EXACTNESS of the leaf builders: on instances of the keyword's kind the emitted CUE constraint
holds iff the JSON Schema keyword does; on other kinds the keyword asserts nothing -/
theorem leaf_exact (rec res kws) (kw : Kw) (t c) (h : leafOf kw = some (t, c)) (j : Json) :
    kwHolds re rec res kws kw j = some (coreOf j != t || acc re c j) := by
  cases kw <;> cases h <;> cases j <;>
    first | rfl | simp [kwHolds, acc, coreOf, accPrefix_tops, lenCC_eq]

theorem Own_leaf (tr) (st : TSt) (kw : Kw) (t c) (h : leafOf kw = some (t, c)) (hO : Own re st) :
    Own re (stepKw tr st kw) := by
  rw [stepKw_leaf tr st kw t c h]
  exact Own_addC re st t c hO (leaf_own re kw t c h)

/-- state level: the builder conjoins exactly the keyword's verdict -/
theorem leaf_step (tr rec res kws) (st : TSt) (kw : Kw) (t c) (h : leafOf kw = some (t, c))
    (j : Json) (b : Bool) (hb : kwHolds re rec res kws kw j = some b) :
    stAcc re (stepKw tr st kw) j = (stAcc re st j && b) := by
  rw [stepKw_leaf tr st kw t c h, stAcc_addC]
  rw [leaf_exact re rec res kws kw t c h j] at hb
  cases hb
  rfl

/-! ## `type` -/

/-- an integral number is written as an int literal (the instance-side guard that excludes the
known deviation `number-literal-form`: CUE `int` rejects `1.0`) -/
def intForm : Json → Bool
  | .num x => !x.isInt || isIntLit x
  | _ => true

/-- `type` lists naming both "integer" and "number" are the known deviation
`type-integer-and-number` -/
def typeOk (ts : List TypeName) : Bool := !(ts.contains .integer && ts.contains .number)

/-- the first half of `constraintType` -/
def intFold (ts : List TypeName) (st : TSt) : TSt :=
  ts.foldl (fun st t => if t == .integer then addC st .num .int else st) st

theorem intFold_cons (t : TypeName) (r : List TypeName) (st : TSt) :
    intFold (t :: r) st = intFold r (if t == .integer then addC st .num .int else st) := rfl

theorem int_own (j : Json) (ha : acc re .int j = true) : coreOf j = .num := by
  cases j <;> first | rfl | cases ha

/-- what `state.add(num, int)` preserves, the fold preserves -/
theorem intFold_ind {P : TSt → Prop} (ts : List TypeName) (st : TSt) (h0 : P st)
    (h : ∀ s, P s → P (addC s .num .int)) : P (intFold ts st) :=
  List.foldlRecOn ts _ h0 fun s hs t _ => by
    split
    · exact h s hs
    · exact hs

theorem stAcc_intFold (ts : List TypeName) (st : TSt) (j : Json) :
    stAcc re (intFold ts st) j =
      (stAcc re st j && (coreOf j != .num || !ts.contains .integer || acc re .int j)) := by
  induction ts generalizing st with
  | nil => simp [intFold]
  | cons t r ih =>
    rw [intFold_cons, ih, List.contains_cons]
    cases t
    case integer =>
      rw [if_pos (by decide), stAcc_addC]
      generalize stAcc re st j = S
      generalize (coreOf j != CoreType.num) = N
      generalize acc re CC.int j = I
      generalize r.contains TypeName.integer = R
      cases S <;> cases N <;> cases I <;> cases R <;> rfl
    all_goals
      rw [if_neg (by decide)]
      generalize r.contains TypeName.integer = R
      cases R <;> rfl

theorem typeMatches_num (ts : List TypeName) (x : Num) :
    ts.any (typeMatches · (.num x)) =
      (ts.contains .number || (ts.contains .integer && x.isInt)) := by
  induction ts with
  | nil => rfl
  | cons t r ih =>
    rw [List.any_cons, ih, List.contains_cons, List.contains_cons]
    generalize r.contains TypeName.number = A
    generalize r.contains TypeName.integer = B
    cases t <;> cases A <;> cases B <;> cases h : x.isInt <;> simp [typeMatches, h]

/-- the kinds named by a `type` value -/
def typeKinds (ts : List TypeName) : KSet := fun k => ts.any fun t => kindsOfTypeName t k

theorem hasCore_typeKinds (ts : List TypeName) (j : Json) :
    hasCore (typeKinds ts) (coreOf j) =
      match j with
      | .num _ => (ts.contains .number || ts.contains .integer)
      | j => ts.any (typeMatches · j) := by
  induction ts with
  | nil => cases j <;> rfl
  | cons t r ih =>
    have hor : typeKinds (t :: r) = fun k => kindsOfTypeName t k || typeKinds r k := by
      funext k; simp [typeKinds]
    rw [hor, Skel.hasCore_or, ih]
    cases j with
    | num x =>
      simp only []
      rw [List.contains_cons, List.contains_cons]
      generalize r.contains TypeName.number = A
      generalize r.contains TypeName.integer = B
      cases t <;> cases A <;> cases B <;> rfl
    | null | bool _ | str _ | arr _ | obj _ =>
      simp only [List.any_cons]
      congr 1
      cases t <;> rfl

theorem IntClosed_typeKinds (ts : List TypeName) : IntClosed (typeKinds ts) := by
  intro h
  simp only [typeKinds, List.any_eq_true] at h ⊢
  obtain ⟨t, ht, hk⟩ := h
  refine ⟨t, ht, ?_⟩
  cases t <;> simp [kindsOfTypeName, Skel.kindsOfTypeName] at hk ⊢

theorem bType_eq (ts : List TypeName) (st : TSt) :
    bType ts st = { intFold ts st with allowed := (intFold ts st).allowed.inter (typeKinds ts) } := rfl

theorem isInt_of_lit (x : Num) (h : isIntLit x = true) : x.isInt = true := by
  simp only [isIntLit, beq_iff_eq] at h
  simp [Num.isInt, h, Int.emod_one]

/-- the two guards matter for numbers only: `typeOk` rules out a list naming both "integer" and
"number", `intForm` makes "written as an int literal" the same as "integral" -/
theorem type_verdict (ts : List TypeName) (j : Json) (hts : typeOk ts = true) (hj : intForm j = true) :
    ((coreOf j != .num || !ts.contains .integer || acc re .int j) && hasCore (typeKinds ts) (coreOf j)) =
      ts.any (typeMatches · j) := by
  rw [hasCore_typeKinds]
  cases j with
  | num x =>
    have hlit : isIntLit x = x.isInt := by
      cases hi : x.isInt
      · exact Bool.eq_false_iff.2 fun hl => by rw [isInt_of_lit x hl] at hi; cases hi
      · simpa [intForm, hi] using hj
    simp only [typeMatches_num, coreOf, bne_self_eq_false, Bool.false_or, acc, hlit]
    revert hts
    unfold typeOk
    cases ts.contains TypeName.integer <;> cases ts.contains TypeName.number <;> cases x.isInt <;> decide
  | null | bool _ | str _ | arr _ | obj _ => rfl

/-- EXACTNESS of `constraintType`, under the two guards that exclude the known deviations -/
theorem type_step (ts : List TypeName) (st : TSt) (j : Json)
    (hcl : IntClosed st.allowed) (hts : typeOk ts = true) (hj : intForm j = true) :
    stAcc re (bType ts st) j = (stAcc re st j && ts.any (typeMatches · j)) := by
  have hF : IntClosed (intFold ts st).allowed :=
    intFold_ind (P := fun s => IntClosed s.allowed) ts st hcl fun s hs => (addC_allowed s _ _).symm ▸ hs
  rw [bType_eq, stAcc_inter re _ _ j hF (IntClosed_typeKinds ts), stAcc_intFold, Bool.and_assoc,
    type_verdict re ts j hts hj]

theorem SInv_bType (ts : List TypeName) (st : TSt) (j : Json) (hI : SInv re st j) :
    SInv re (bType ts st) j := by
  have hF : SInv re (intFold ts st) j :=
    intFold_ind (P := (SInv re · j)) ts st hI fun s hs => SInv_addC re s j .num .int hs (int_own re)
  exact SInv_allowed re _ j _ hF (IntClosed_inter _ _ hF.closed (IntClosed_typeKinds ts))
    (inter_sub_left _ _)

theorem bType_ifS (ts : List TypeName) (st : TSt) : (bType ts st).ifS = st.ifS :=
  intFold_ind (P := fun s => s.ifS = st.ifS) ts st rfl fun s hs => (addC_ifS s _ _).trans hs

end CueVerif.CCm
