/-
C13 — CUE literal equality (`CCm.litEq`: numbers equal by value AND by int/float-ness) coincides
with JSON Schema equality (`JS.jeq`) on NORMAL-FORM data: every integral number is written as an
int literal, denominators are positive (the region outside it is the known deviation
`number-literal-form`); hence the constraints emitted by `constraintConst`, `constraintEnum` and
`constraintUniqueItems` (as transcribed) are exact w.r.t. the oracle on such data.  Core Lean only.
-/
import CueVerif.Proofs.JsonSchemaCC
namespace CueVerif.CCm
open CueVerif.JS CueVerif.Skel

/-- a number in normal form: positive denominator, and integral ⇒ written as an int literal -/
def normalNum (x : Num) : Bool := x.den != 0 && (!x.isInt || isIntLit x)

mutual
def normal : Json → Bool
  | .num x => normalNum x
  | .arr xs => normalList xs
  | .obj kvs => normalObj kvs
  | _ => true
def normalList : List Json → Bool
  | [] => true
  | x :: r => normal x && normalList r
def normalObj : List (String × Json) → Bool
  | [] => true
  | (_, v) :: r => normal v && normalObj r
end

/-- value-equal numbers in normal form agree on being int literals -/
theorem lit_of_eq (a b : Num) (hb : normalNum b = true) (he : a.eq b = true)
    (ha : isIntLit a = true) : isIntLit b = true := by
  simp only [normalNum, Bool.and_eq_true, bne_iff_ne, ne_eq, Bool.or_eq_true, Bool.not_eq_true'] at hb
  simp only [isIntLit, beq_iff_eq] at ha
  simp only [Num.eq, decide_eq_true_eq, ha, Int.natCast_one, Int.mul_one] at he
  rcases hb.2 with h | h
  · -- b would not be integral, but b.num = a.num * b.den
    have : b.isInt = true := by
      simp only [Num.isInt, decide_eq_true_eq]
      rw [← he]
      exact Int.mul_emod_left _ _
    rw [this] at h; cases h
  · exact h

theorem isIntLit_eq_of_eq (a b : Num) (ha : normalNum a = true) (hb : normalNum b = true)
    (he : a.eq b = true) : isIntLit a = isIntLit b := by
  have hsym : b.eq a = true := by
    simp only [Num.eq, decide_eq_true_eq] at he ⊢
    exact he.symm
  cases h1 : isIntLit a <;> cases h2 : isIntLit b <;> try rfl
  · have := lit_of_eq b a ha hsym h2; rw [h1] at this; cases this
  · have := lit_of_eq a b hb he h1; rw [h2] at this; cases this

theorem numEq_normal (a b : Num) (ha : normalNum a = true) (hb : normalNum b = true) :
    (a.eq b && (isIntLit a == isIntLit b)) = a.eq b := by
  cases he : a.eq b
  · rfl
  · simp [isIntLit_eq_of_eq a b ha hb he]

theorem find_normal (k : String) : ∀ (b : List (String × Json)) (p : String × Json),
    normalObj b = true → b.find? (fun q => q.1 == k) = some p → normal p.2 = true
  | [], _, _, h => by simp at h
  | (k', v) :: r, p, hn, h => by
    simp only [normalObj, Bool.and_eq_true] at hn
    rw [List.find?_cons] at h
    split at h
    · cases h; exact hn.1
    · exact find_normal k r p hn.2 h

mutual
theorem litEq_eq_jeq : ∀ (a b : Json), normal a = true → normal b = true → litEq a b = jeq a b
  | .null, b, _, _ => by cases b <;> rfl
  | .bool _, b, _, _ => by cases b <;> rfl
  | .str _, b, _, _ => by cases b <;> rfl
  | .num x, b, ha, hb => by
    cases b with
    | num y => simp only [litEq, jeq]; exact numEq_normal x y (by simpa [normal] using ha) (by simpa [normal] using hb)
    | _ => rfl
  | .arr xs, b, ha, hb => by
    cases b with
    | arr ys =>
      simp only [litEq, jeq]
      exact litEqList_eq xs ys (by simpa [normal] using ha) (by simpa [normal] using hb)
    | _ => rfl
  | .obj kvs, b, ha, hb => by
    cases b with
    | obj kvs' =>
      simp only [litEq, jeq]
      rw [litEqObj_eq kvs kvs' (by simpa [normal] using ha) (by simpa [normal] using hb)]
    | _ => rfl
theorem litEqList_eq : ∀ (xs ys : List Json), normalList xs = true → normalList ys = true →
    litEqList xs ys = jeqList xs ys
  | [], ys, _, _ => by cases ys <;> rfl
  | x :: xs, [], _, _ => rfl
  | x :: xs, y :: ys, ha, hb => by
    simp only [normalList, Bool.and_eq_true] at ha hb
    simp only [litEqList, jeqList]
    rw [litEq_eq_jeq x y ha.1 hb.1, litEqList_eq xs ys ha.2 hb.2]
theorem litEqObj_eq : ∀ (a b : List (String × Json)), normalObj a = true → normalObj b = true →
    litEqObj a b = jeqObj a b
  | [], _, _, _ => rfl
  | (k, v) :: rest, b, ha, hb => by
    simp only [normalObj, Bool.and_eq_true] at ha
    simp only [litEqObj, jeqObj]
    rw [litEqObj_eq rest b ha.2 hb]
    cases hf : b.find? (fun p => p.1 == k) with
    | none => rfl
    | some p => simp only []; rw [litEq_eq_jeq v p.2 ha.1 (find_normal k b p hb hf)]
end

/-- `list.UniqueItems` (CUE equality) = JSON Schema `uniqueItems` on normal-form arrays -/
theorem allDistinctLit_eq (xs : List Json) (h : normalList xs = true) :
    allDistinctLit xs = allDistinct xs := by
  induction xs with
  | nil => rfl
  | cons x r ih =>
    simp only [normalList, Bool.and_eq_true] at h
    simp only [allDistinctLit, allDistinct]
    rw [ih h.2]
    congr 2
    clear ih
    have hr := h.2
    induction r with
    | nil => rfl
    | cons y r' ih' =>
      simp only [normalList, Bool.and_eq_true] at hr
      simp only [List.any_cons]
      rw [litEq_eq_jeq x y h.1 hr.1, ih' ⟨h.1, hr.2⟩ hr.2]

/-! ## `const`, `uniqueItems`, `enum`: the emitted constraint against the keyword -/

variable (re : String → String → Bool)

/-- `const`: the literal `constValue(v)` accepts exactly the instances equal to `v` -/
theorem const_exact (rec res kws) (v j : Json) (hv : normal v = true) (hj : normal j = true) :
    kwHolds re rec res kws (.const v) j = some (acc re (.lit v) j) := by
  simp only [kwHolds, acc, litEq_eq_jeq v j hv hj]

/-- `uniqueItems: true` ↦ `list.UniqueItems()` -/
theorem uniqueItems_exact (rec res kws) (j : Json) (hj : normal j = true) :
    kwHolds re rec res kws (.uniqueItems true) j = some (coreOf j != .array || acc re .uniqueItems j) := by
  cases j with
  | arr xs =>
    have hx : normalList xs = true := by simpa [normal] using hj
    simp [kwHolds, acc, coreOf, allDistinctLit_eq xs hx]
  | _ => simp [kwHolds, acc, coreOf]

/-- equal data (normal form) have the same CUE kind -/
theorem kindOf_of_jeq (v j : Json) (hv : normal v = true) (hj : normal j = true)
    (h : jeq v j = true) : kindOf v = kindOf j := by
  cases v <;> cases j <;> simp [jeq] at h <;> try rfl
  rename_i a b
  simp only [kindOf, isIntLit_eq_of_eq a b (by simpa [normal] using hv) (by simpa [normal] using hj)
    (by simpa [Num.eq] using h)]

/-- `enum`: dropping the values whose kind is not allowed loses nothing for an instance whose own
kind is allowed, and the disjunction of the kept literals accepts exactly the equal instances -/
theorem enum_filter_exact (allowed : KSet) (vs : List Json) (j : Json)
    (hvs : ∀ v ∈ vs, normal v = true) (hj : normal j = true) (hk : allowed (kindOf j) = true) :
    (vs.filter (fun v => allowed (kindOf v))).any (litEq · j) = vs.any (jeq · j) := by
  induction vs with
  | nil => rfl
  | cons v r ih =>
    have hv := hvs v (List.mem_cons_self ..)
    have ihr := ih (fun x hx => hvs x (List.mem_cons_of_mem _ hx))
    rw [List.filter_cons, List.any_cons, ← ihr]
    cases he : jeq v j
    · split
      · rw [List.any_cons, litEq_eq_jeq v j hv hj, he]
      · rfl
    · have hkind := kindOf_of_jeq v j hv hj he
      rw [hkind, hk, if_pos rfl, List.any_cons, litEq_eq_jeq v j hv hj, he]

theorem acc_lits (a : Json) (r : List Json) (j : Json) :
    acc re (foldOr (.lit a) (r.map CC.lit)) j = (a :: r).any (litEq · j) := by
  rw [acc_foldOr]
  simp [acc, List.any_map, Function.comp_def]

/-- the all-constraint `constraintEnum` adds (if any) holds iff the `enum` keyword does; with no
value kept the keyword fails for every instance whose kind is allowed -/
theorem enum_exact (rec res kws) (allowed : KSet) (vs : List Json) (j : Json)
    (hvs : ∀ v ∈ vs, normal v = true) (hj : normal j = true) (hk : allowed (kindOf j) = true) :
    kwHolds re rec res kws (.enum vs) j = some
      (match (vs.filter (fun v => allowed (kindOf v))).map CC.lit with
       | [] => false
       | c :: cs => acc re (foldOr c cs) j) := by
  simp only [kwHolds]
  rw [← enum_filter_exact allowed vs j hvs hj hk]
  cases hf : vs.filter (fun v => allowed (kindOf v)) with
  | nil => rfl
  | cons a r =>
    simp only [List.map_cons]
    rw [acc_lits]

end CueVerif.CCm
