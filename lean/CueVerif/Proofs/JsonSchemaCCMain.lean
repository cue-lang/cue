/-
C13 — SEMANTIC PRESERVATION through `translate`, by induction over nested schemas, for the
fragment checked by `fragOK` (leaf keywords, `type`, `not`, `anyOf`, `oneOf` nested to any depth,
with the guards evaluated along the real translation).  Core Lean only.
-/
import CueVerif.Proofs.JsonSchemaCCFlat
import CueVerif.Proofs.JsonSchemaCCComb
namespace CueVerif.CCm
open CueVerif.JS CueVerif.Skel

variable (re : String → String → Bool)

/-- the guard of ONE keyword, evaluated on the state the builder sees (`ok` = the guard of members) -/
def kwOk (tr : KSet → Schema → TSub) (ok : KSet → Schema → Bool) (st : TSt) : Kw → Bool
  | .type ts => typeOk ts
  | .minContains _ => true
  | .maxContains _ => true
  | .uniqueItems b => !b
  | .not s => ok KSet.full s
  | .anyOf ss => ss.all (ok st.allowed)
  | .oneOf ss => ss.all (ok st.allowed) &&
      (oneOfNeeds KSet.empty (keptSubs tr st.allowed ss) || (keptSubs tr st.allowed ss).isEmpty)
  | kw => (leafOf kw).isSome

def stepChk (tr : KSet → Schema → TSub) (ok : KSet → Schema → Bool) (p : TSt × Bool) (kw : Kw) :
    TSt × Bool :=
  (stepKw tr p.1 kw, p.2 && kwOk tr ok p.1 kw)

/-- the keywords in the order the importer applies them -/
def ordered (kws : List Kw) : List Kw :=
  kws.filter (phaseOf · == 0) ++ (kws.filter (phaseOf · == 1) ++ (kws.filter (phaseOf · == 2) ++
    (kws.filter (phaseOf · == 3) ++ kws.filter (phaseOf · == 4))))

/-- the fragment + guards for which semantic preservation is proved: evaluated along `translate` -/
def fragOK : Nat → KSet → Schema → Bool
  | 0, _, _ => false
  | _ + 1, _, .bool _ => true
  | n + 1, T, .obj kws =>
    ((ordered kws).foldl (stepChk (translate n) (fragOK n)) (TSt.init T, true)).2

/-! ## fold machinery -/

theorem runPhase_eq (tr) (p : Nat) (kws : List Kw) (st : TSt) :
    runPhase tr p kws st = (kws.filter (phaseOf · == p)).foldl (stepKw tr) st :=
  List.foldl_filter.symm

theorem runPhases_eq (tr) (kws : List Kw) (st : TSt) :
    runPhases tr kws st = (ordered kws).foldl (stepKw tr) st := by
  simp only [runPhases, ordered, List.foldl_cons, List.foldl_nil, runPhase_eq, List.foldl_append]

theorem foldChk_fst (tr ok) (l : List Kw) (st : TSt) (b : Bool) :
    (l.foldl (stepChk tr ok) (st, b)).1 = l.foldl (stepKw tr) st := by
  induction l generalizing st b with
  | nil => rfl
  | cons a r ih => rw [List.foldl_cons, List.foldl_cons]; exact ih _ _

theorem foldChk_snd_true (tr ok) (l : List Kw) (st : TSt) (b : Bool)
    (h : (l.foldl (stepChk tr ok) (st, b)).2 = true) : b = true := by
  induction l generalizing st b with
  | nil => exact h
  | cons a r ih =>
    rw [List.foldl_cons] at h
    have := ih _ _ h
    simp only [Bool.and_eq_true] at this
    exact this.1

theorem phase_cases (kw : Kw) : phaseOf kw = 1 ∨ phaseOf kw = 2 ∨ phaseOf kw = 3 ∨ phaseOf kw = 4 := by
  cases kw <;> simp [phaseOf]

theorem mem_ordered_iff (kws : List Kw) (kw : Kw) : kw ∈ ordered kws ↔ kw ∈ kws := by
  unfold ordered
  simp only [List.mem_append, List.mem_filter, beq_iff_eq]
  constructor
  · rintro (h | h | h | h | h) <;> exact h.1
  · intro h
    rcases phase_cases kw with hp | hp | hp | hp <;> simp [h, hp]

theorem all_ordered (v : Kw → Bool) (kws : List Kw) : (ordered kws).all v = kws.all v := by
  rw [Bool.eq_iff_iff, List.all_eq_true, List.all_eq_true]
  simp only [mem_ordered_iff]

/-! ## one keyword -/

theorem kw_step (tr) (ok : KSet → Schema → Bool) (rec res kws)
    (j : Json) (hj : intForm j = true)
    (hgood : ∀ T s, IntClosed T → ok T s = true → GoodA re tr (rec · j) j T s)
    (st : TSt) (kw : Kw) (hI : SInv re st j) (hif : st.ifS = none) (hok : kwOk tr ok st kw = true) :
    SInv re (stepKw tr st kw) j ∧ (stepKw tr st kw).ifS = none ∧
    (kwHolds re rec res kws kw j).isSome = true ∧
    stAcc re (stepKw tr st kw) j = (stAcc re st j && (kwHolds re rec res kws kw j).getD false) := by
  cases hl : leafOf kw with
  | some tc =>
    obtain ⟨t, c⟩ := tc
    have he := leaf_exact re rec res kws kw t c hl j
    refine ⟨?_, ?_, by rw [he]; rfl, ?_⟩
    · rw [stepKw_leaf tr st kw t c hl]; exact SInv_addC re st j t c hI (leaf_own re kw t c hl)
    · rw [stepKw_leaf tr st kw t c hl, addC_ifS]; exact hif
    · rw [leaf_step re tr rec res kws st kw t c hl j _ he, he]; rfl
  | none =>
    cases kw
    case type ts =>
      have hts : typeOk ts = true := by simpa [kwOk] using hok
      exact ⟨SInv_bType re ts st j hI, (bType_ifS ts st).trans hif, rfl,
        type_step re ts st j hI.closed hts hj⟩
    case uniqueItems b =>
      have hb : b = false := by simpa [kwOk] using hok
      subst hb
      exact ⟨hI, hif, by cases j <;> rfl, by cases j <;> simp [stepKw, bUniqueItems, kwHolds]⟩
    case minContains m | maxContains m =>
      exact ⟨⟨hI.closed, hI.closedK, hI.own, hI.sub, hI.knownJ⟩, hif, by cases j <;> rfl,
        by cases j <;> simp [stepKw, bMinContains, bMaxContains, kwHolds, stAcc]⟩
    case not s =>
      have hs : ok KSet.full s = true := by simpa [kwOk] using hok
      have h := not_step re tr (rec · j) st s j hI (hgood _ s IntClosed_full hs)
      rw [kwHolds_not]
      exact ⟨h.1, (addAll_ifS _ _).trans hif, h.2⟩
    case anyOf ss =>
      have hs : ∀ s ∈ ss, ok st.allowed s = true := by simpa [kwOk] using hok
      have h := anyOf_step re tr (rec · j) st ss j hI (fun s hm => hgood _ s hI.closed (hs s hm))
      rw [kwHolds_anyOf]
      exact ⟨h.1, (bAnyOf_ifS tr ss st).trans hif, h.2⟩
    case oneOf ss =>
      simp only [kwOk, Bool.and_eq_true, List.all_eq_true] at hok
      have h := oneOf_step re tr (rec · j) st ss j hI (fun s hm => hgood _ s hI.closed (hok.1 s hm)) hok.2
      rw [kwHolds_oneOf]
      exact ⟨h.1, (bOneOf_ifS tr ss st).trans hif, h.2⟩
    -- leaf keywords contradict `hl`; the rest fail `kwOk`'s default clause `(leafOf kw).isSome`
    all_goals first | (cases hl; done) | (cases hok; done)

/-! ## all keywords of one schema object, then the induction over nesting -/

theorem fold_spec (tr) (ok : KSet → Schema → Bool) (rec res kws)
    (j : Json) (hj : intForm j = true)
    (hgood : ∀ T s, IntClosed T → ok T s = true → GoodA re tr (rec · j) j T s) :
    ∀ (l : List Kw) (st : TSt) (b : Bool), SInv re st j → st.ifS = none →
      (l.foldl (stepChk tr ok) (st, b)).2 = true →
      SInv re (l.foldl (stepKw tr) st) j ∧ (l.foldl (stepKw tr) st).ifS = none ∧
      (∀ kw ∈ l, (kwHolds re rec res kws kw j).isSome = true) ∧
      stAcc re (l.foldl (stepKw tr) st) j =
        (stAcc re st j && l.all (fun kw => (kwHolds re rec res kws kw j).getD false))
  | [], st, b, hI, hif, _ => ⟨hI, hif, (fun kw h => by cases h), by simp⟩
  | kw :: r, st, b, hI, hif, h => by
    rw [List.foldl_cons] at h
    have hb := foldChk_snd_true tr ok r _ _ h
    simp only [Bool.and_eq_true] at hb
    have hs := kw_step re tr ok rec res kws j hj hgood st kw hI hif hb.2
    have ih := fold_spec tr ok rec res kws j hj hgood r (stepKw tr st kw)
      (b && kwOk tr ok st kw) hs.1 hs.2.1 h
    rw [List.foldl_cons]
    refine ⟨ih.1, ih.2.1, ?_, ?_⟩
    · intro kw' hm
      rcases List.mem_cons.1 hm with rfl | hm
      · exact hs.2.2.1
      · exact ih.2.2.1 kw' hm
    · rw [ih.2.2.2, hs.2.2.2, List.all_cons, Bool.and_assoc]

theorem bIfThenElse_none (tr) (st : TSt) (h : st.ifS = none) : bIfThenElse tr st = st := by
  unfold bIfThenElse
  rw [h]

/-- SEMANTIC PRESERVATION, the inductive statement: for every fuel `n`, allowed types `T` handed
down, schema `s` inside the guarded fragment and instance `j` in int-literal form, the
translation of `s` under `T` is "good": in particular `valid s j = some (acc (translate s) j)`
whenever the kind of `j` is among `T` -/
theorem translate_good (root : Schema) (j : Json) (hj : intForm j = true) :
    ∀ (n : Nat) (T : KSet) (s : Schema), IntClosed T → fragOK n T s = true →
      GoodA re (translate n) (fun s => valid re root n s j) j T s
  | 0, T, s, _, h => by simp [fragOK] at h
  | n + 1, T, .bool b, hT, _ => by
    refine ⟨hT, IntClosed_full, fun _ _ => rfl, fun _ => Skel.hasCore_full _, rfl, ?_, ?_, ?_⟩
    · intro _; cases b <;> simp [translate, valid, acc]
    · intro h ha
      cases b
      · simp [translate, acc] at ha
      · exact h
    · intro h _ hnf
      cases b
      · simp [isFalseS] at hnf
      · simp only [translate]; exact h.symm
  | n + 1, T, .obj kws, hT, h => by
    have ih := translate_good root j hj n
    have h' : ((ordered kws).foldl (stepChk (translate n) (fragOK n)) (TSt.init T, true)).2 = true := by
      simpa only [fragOK] using h
    have fs := fold_spec re (translate n) (fragOK n) (valid re root n) (resolve root) kws j hj
      (fun T s hT hok => ih T s hT hok)
      (ordered kws) (TSt.init T) true (SInv_init re T j hT) rfl h'
    generalize hst' : (ordered kws).foldl (stepKw (translate n)) (TSt.init T) = st' at fs
    obtain ⟨hI', hif', hsome, hacc⟩ := fs
    have hst : bIfThenElse (translate n) (runPhases (translate n) kws (TSt.init T)) = st' := by
      rw [runPhases_eq, hst', bIfThenElse_none _ _ hif']
    have htr : translate (n + 1) T (.obj kws) =
        ⟨finalize st', st'.allowed, st'.allowed, hasConstraints st'⟩ := by
      simp only [translate, hst]
    have hfin : acc re (finalize st') j = stAcc re st' j := hI'.acc_finalize
    have hsem : stAcc re st' j = (hasCore T (coreOf j) &&
        kws.all (fun kw => (kwHolds re (valid re root n) (resolve root) kws kw j).getD false)) := by
      rw [hacc, stAcc_init, all_ordered]
    have hval : valid re root (n + 1) (.obj kws) j = some
        (kws.all (fun kw => (kwHolds re (valid re root n) (resolve root) kws kw j).getD false)) := by
      simp only [valid]
      exact all3_of_isSome _ kws (fun kw hm => hsome kw ((mem_ordered_iff kws kw).2 hm))
    have hsound : acc re (finalize st') j = true → hasCore st'.allowed (coreOf j) = true := by
      intro ha
      rw [hfin] at ha
      exact stAcc_hT re st' j ha
    refine ⟨?_, ?_, ?_, ?_, ?_, ?_, ?_, ?_⟩
    · rw [htr]; exact hI'.closed
    · rw [htr]; exact hI'.closed
    · rw [htr]; exact fun _ hk => hk
    · rw [htr]; exact hsound
    · show (valid re root (n + 1) (.obj kws) j).isSome = true
      rw [hval]; rfl
    · intro hTj
      show valid re root (n + 1) (.obj kws) j = _
      rw [htr, hval, hfin, hsem, hTj]; rfl
    · intro _
      rw [htr]; exact hsound
    · intro _ hc _
      rw [htr] at hc ⊢
      exact hfin.trans (stAcc_of_not_hasConstraints re st' j hc)

/-- … at the root: all types allowed, references resolved against the schema itself -/
theorem translate_exact_partial (n : Nat) (s : Schema) (j : Json)
    (hs : fragOK n KSet.full s = true) (hj : intForm j = true) :
    valid re s n s j = some (acc re (translate n KSet.full s).expr j) :=
  (translate_good re s j hj n KSet.full s IntClosed_full hs).exact (Skel.hasCore_full _)

end CueVerif.CCm

