/-
C13 — what the two models of the importer (Model/JsonSchemaSkel.lean, Model/JsonSchemaCC.lean) share:
counting over a filtered member list (what `matchN` over the kept members needs), kind sets (`KSet`
seen through `hasCore` at the granularity of the six core types: a ∪-homomorphism always, a
∩-homomorphism on `IntClosed` sets), and the kind-skeleton argument `finalize_skeleton` for any
representation of the constraint values.  Core Lean only.
-/
import CueVerif.Model.JsonSchemaSkel
namespace CueVerif.Skel
open CueVerif.JS

/-! ## counting members -/

theorem countP_eq_length_iff_all {α} (p : α → Bool) (l : List α) :
    (l.countP p == l.length) = l.all p := by
  rw [Bool.eq_iff_iff]
  simp [List.countP_eq_length]

theorem one_le_countP_iff_any {α} (p : α → Bool) (l : List α) :
    decide (1 ≤ l.countP p) = l.any p := by
  rw [Bool.eq_iff_iff]
  simp

theorem count_true_map {α} (p : α → Bool) (l : List α) : (l.map p).count true = l.countP p := by
  induction l with
  | nil => rfl
  | cons a r ih => cases h : p a <;> simp [h, ih]

/-- dropping members that accept nothing does not change the number of members that accept … -/
theorem countP_filter_drop {α} (p q : α → Bool) (l : List α)
    (h : ∀ a ∈ l, q a = false → p a = false) :
    (l.filter q).countP p = l.countP p := by
  rw [List.countP_filter]
  apply List.countP_congr
  intro a ha
  cases hq : q a with
  | true => simp
  | false => simp [h a ha hq]

/-- … nor whether some member accepts -/
theorem any_filter_drop {α} (p q : α → Bool) (l : List α) (h : ∀ a ∈ l, q a = false → p a = false) :
    (l.filter q).any p = l.any p := by
  rw [← one_le_countP_iff_any, ← one_le_countP_iff_any, countP_filter_drop p q l h]

/-! ## kind sets -/

theorem mem_CKind_all (k : CKind) : k ∈ CKind.all := by
  cases k <;> decide

theorem mem_CoreType_all (t : CoreType) : t ∈ CoreType.all := by
  cases t <;> simp [CoreType.all]

theorem KSet.isEmpty_iff (a : KSet) : a.isEmpty = true ↔ ∀ k, a k = false := by
  simp [KSet.isEmpty, mem_CKind_all]

theorem KSet.beq_iff (a b : KSet) : a.beq b = true ↔ ∀ k, a k = b k := by
  simp [KSet.beq, mem_CKind_all]

theorem KSet.overlaps_iff (a b : KSet) : a.overlaps b = true ↔ ∃ k, a k = true ∧ b k = true := by
  simp [KSet.overlaps, mem_CKind_all]

theorem inter_sub_left (a b : KSet) : ∀ k, a.inter b k = true → a k = true := by
  intro k hk
  simp only [KSet.inter, Bool.and_eq_true] at hk
  exact hk.1

theorem hasCore_iff (a : KSet) (t : CoreType) :
    hasCore a t = true ↔ ∃ k, k ∈ coreToCUE t ∧ a k = true := by
  simp [hasCore]

theorem hasCore_mono (a b : KSet) (h : ∀ k, a k = true → b k = true) (t : CoreType) :
    hasCore a t = true → hasCore b t = true := by
  rw [hasCore_iff, hasCore_iff]
  rintro ⟨k, hk, ha⟩
  exact ⟨k, hk, h k ha⟩

/-- a member's core types are in the union over the list (`unionAllowed`, `unionKnown` are this
union for `f` the respective field) -/
theorem hasCore_any_mem {α} (l : List α) (f : α → KSet) (x : α) (hx : x ∈ l) (t : CoreType)
    (h : hasCore (f x) t = true) : hasCore (fun k => l.any (f · k)) t = true :=
  hasCore_mono (f x) _ (fun _ hk => List.any_eq_true.2 ⟨x, hx, hk⟩) t h

theorem hasCore_congr (a b : KSet) (h : ∀ k, a k = b k) (t : CoreType) :
    hasCore a t = hasCore b t :=
  congrArg (hasCore · t) (funext h)

theorem hasCore_full (t : CoreType) : hasCore KSet.full t = true := by
  cases t <;> rfl

theorem hasCore_empty (t : CoreType) : hasCore KSet.empty t = false := by cases t <;> rfl

theorem hasCore_of_isEmpty (a : KSet) (h : a.isEmpty = true) (t : CoreType) :
    hasCore a t = false := by
  rw [KSet.isEmpty_iff] at h
  simp [hasCore, h]

/-- a member whose acceptance implies an allowed core type, and that allows none, accepts nothing
(`b` = its verdict on one instance) -/
theorem eq_false_of_isEmpty {b : Bool} {a : KSet} {t : CoreType}
    (hs : b = true → hasCore a t = true) (h : (!a.isEmpty) = false) : b = false := by
  cases b with
  | false => rfl
  | true =>
    have := hs rfl
    rw [hasCore_of_isEmpty _ (by simpa using h)] at this
    cases this

theorem exists_core (k : CKind) : ∃ t ∈ CoreType.all, k ∈ coreToCUE t := by
  cases k <;> decide

theorem exists_hasCore_of_not_isEmpty (a : KSet) (h : a.isEmpty = false) :
    ∃ t, hasCore a t = true := by
  obtain ⟨k, -, hk⟩ := List.all_eq_false.1 h
  obtain ⟨t, -, ht⟩ := exists_core k
  exact ⟨t, (hasCore_iff a t).2 ⟨k, ht, by simpa using hk⟩⟩

theorem hasCore_or (a b : KSet) (t : CoreType) :
    hasCore (fun k => a k || b k) t = (hasCore a t || hasCore b t) := by
  cases t <;> simp [hasCore, coreToCUE] <;> ac_rfl

theorem hasCore_union (a b : KSet) (t : CoreType) :
    hasCore (a.union b) t = (hasCore a t || hasCore b t) :=
  hasCore_or a b t

/-- kind-level disjointness gives core-level disjointness when the second set does not split
`number` (`int` and `float` together or not at all) -/
theorem core_disjoint (seen a : KSet) (hno : seen.overlaps a = false) (hw : a .int = a .float)
    (t : CoreType) (h1 : hasCore seen t = true) : hasCore a t = false := by
  have hno' : ∀ k, seen k = true → a k = false := by
    intro k hk
    cases hak : a k with
    | false => rfl
    | true => rw [(KSet.overlaps_iff seen a).2 ⟨k, hk, hak⟩] at hno; cases hno
  cases t <;> simp only [hasCore, coreToCUE, List.any_cons, List.any_nil, Bool.or_false,
    Bool.or_eq_true, Bool.or_eq_false_iff] at h1 ⊢
  case num =>
    rcases h1 with h1 | h1
    · have := hno' _ h1; exact ⟨this, hw ▸ this⟩
    · have := hno' _ h1; exact ⟨hw ▸ this, this⟩
  all_goals exact hno' _ h1

/-! ## the kind skeleton -/

theorem any_core_filterMap {V} (a : V → Bool) (f : CoreType → Option V) (c : CoreType)
    (hown : ∀ t v, f t = some v → a v = true → t = c) :
    (CoreType.all.filterMap f).any a = (f c).any a := by
  rw [Bool.eq_iff_iff, List.any_eq_true, Option.any_eq_true]
  constructor
  · rintro ⟨v, hv, hav⟩
    obtain ⟨t, _, hf⟩ := List.mem_filterMap.1 hv
    exact ⟨v, hown t v hf hav ▸ hf, hav⟩
  · rintro ⟨v, hf, hav⟩
    exact ⟨v, List.mem_filterMap.2 ⟨c, mem_CoreType_all _, hf⟩, hav⟩

/-- THE KIND SKELETON, for any representation `V` of constraint values (`a` = "accepts the instance",
`c` = its core type, `L t` = the constraints of core type `t` as `finalize` conjoins them,
`f` = `disjunctFor`, described by hcons/hnil).
hown = a per-type constraint accepts instances of its own type only;
hknown = meaning of knownTypes ("the all-constraints already restrict to these kinds");
hsub = allowedTypes ⊆ knownTypes (an invariant of the builders). -/
theorem finalize_skeleton {V} (a : V → Bool) (allowed known : KSet) (L : CoreType → List V)
    (AND : V → List V → V) (kind : CoreType → V) (f : CoreType → Option V) (c : CoreType) (A : Bool)
    (hAND : ∀ x r, a (AND x r) = (a x && r.all a)) (hkind : ∀ t, a (kind t) = (c == t))
    (hcons : ∀ t x r, L t = x :: r → f t = if hasCore allowed t then some (AND x r) else none)
    (hnil : ∀ t, L t = [] →
      f t = if hasCore allowed t && hasCore known t then some (kind t) else none)
    (hown : ∀ t, ∀ v ∈ L t, a v = true → t = c)
    (hknown : A = true → hasCore known c = true)
    (hsub : ∀ t, hasCore allowed t = true → hasCore known t = true)
    (ds : List V)
    (hds : ds = if (!(allowed.beq known) ||
        CoreType.all.any fun t => !(L t).isEmpty && hasCore allowed t)
      then CoreType.all.filterMap f else []) :
    (!allowed.isEmpty && (A && (ds.isEmpty || ds.any a))) =
      (hasCore allowed c && A && (L c).all a) := by
  subst hds
  cases hemp : allowed.isEmpty with
  | true => simp [hasCore_of_isEmpty _ hemp]
  | false =>
    simp only [Bool.not_false, Bool.true_and]
    split
    · -- a type disjunction is written: it is not empty, and the disjunct of `c` decides
      obtain ⟨t0, ht0⟩ := exists_hasCore_of_not_isEmpty _ hemp
      have hne : (CoreType.all.filterMap f).isEmpty = false := by
        refine List.isEmpty_eq_false_iff_exists_mem.2 ?_
        cases hl : L t0 with
        | nil => exact ⟨_, List.mem_filterMap.2 ⟨t0, mem_CoreType_all _, by
            rw [hnil t0 hl, ht0, hsub t0 ht0]; rfl⟩⟩
        | cons x r => exact ⟨_, List.mem_filterMap.2 ⟨t0, mem_CoreType_all _, by
            rw [hcons t0 x r hl, ht0]; rfl⟩⟩
      -- a disjunct accepts instances of its own core type only
      have hown' : ∀ t v, f t = some v → a v = true → t = c := by
        intro t v hf hav
        cases hl : L t with
        | nil =>
          rw [hnil t hl] at hf
          split at hf
          · cases hf; rw [hkind] at hav; exact (beq_iff_eq.1 hav).symm
          · cases hf
        | cons x r =>
          rw [hcons t x r hl] at hf
          split at hf
          · cases hf
            rw [hAND, Bool.and_eq_true] at hav
            exact hown t x (hl ▸ List.mem_cons_self ..) hav.1
          · cases hf
      rw [hne, any_core_filterMap a f c hown']
      cases hl : L c with
      | nil =>
        rw [hnil c hl]
        cases h1 : hasCore allowed c
        · simp
        · simp [hsub _ h1, hkind]
      | cons x r => rw [hcons c x r hl]; cases hasCore allowed c <;> simp [hAND]
    · -- none is written: allowed = known and no allowed type has constraints
      rename_i hneed
      simp only [Bool.or_eq_true, Bool.not_eq_true', not_or, Bool.not_eq_false, Bool.not_eq_true,
        List.any_eq_false, Bool.and_eq_true, not_and] at hneed
      cases hA : A with
      | false => simp
      | true =>
        have hk := hknown hA
        rw [← hasCore_congr _ _ ((KSet.beq_iff _ _).1 hneed.1)] at hk
        have hc : L c = [] := by
          cases hn : (L c).isEmpty with
          | true => exact List.isEmpty_iff.1 hn
          | false => rw [hneed.2 c (mem_CoreType_all _) (by simp [hn])] at hk; cases hk
        simp [hk, hc]

end CueVerif.Skel

namespace CueVerif.CCm
open CueVerif.Skel

/-! ## int-closed kind sets: where `hasCore` commutes with intersection -/

/-- `float ∈ s → int ∈ s`: holds of every `allowedTypes` reachable without enum/const -/
def IntClosed (s : KSet) : Prop := s .float = true → s .int = true

theorem IntClosed_empty : IntClosed KSet.empty := by intro h; cases h

theorem IntClosed_full : IntClosed KSet.full := fun _ => rfl

theorem IntClosed_inter (a b : KSet) (ha : IntClosed a) (hb : IntClosed b) :
    IntClosed (a.inter b) := by
  intro h
  simp only [KSet.inter, Bool.and_eq_true] at h ⊢
  exact ⟨ha h.1, hb h.2⟩

theorem IntClosed_union (a b : KSet) (ha : IntClosed a) (hb : IntClosed b) : IntClosed (a.union b) := by
  intro h
  simp only [KSet.union, Bool.or_eq_true] at h ⊢
  rcases h with h | h
  · exact Or.inl (ha h)
  · exact Or.inr (hb h)

/-- the union over a list, as in `Skel.hasCore_any_mem` -/
theorem IntClosed_any {α} (a : List α) (f : α → KSet) (h : ∀ r ∈ a, IntClosed (f r)) :
    IntClosed (fun k => a.any (f · k)) := by
  intro hf
  simp only [List.any_eq_true] at hf ⊢
  obtain ⟨r, hr, hk⟩ := hf
  exact ⟨r, hr, h r hr hk⟩

theorem hasCore_inter (a b : KSet) (ha : IntClosed a) (hb : IntClosed b) (t : CoreType) :
    hasCore (a.inter b) t = (hasCore a t && hasCore b t) := by
  unfold IntClosed at ha hb
  cases t <;> simp only [hasCore, coreToCUE, KSet.inter, List.any_cons, List.any_nil, Bool.or_false]
  revert ha hb
  cases a .int <;> cases a .float <;> cases b .int <;> cases b .float <;> simp

end CueVerif.CCm
