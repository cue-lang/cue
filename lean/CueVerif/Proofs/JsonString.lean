/-
C10 helper lemmas: RFC 8259 string tokens read by the CUE scanner (`scanStringTok`) and by
`literal.Unquote` (`Quote.unquote`).  Core Lean only.
-/
import CueVerif.Spec.Json
import CueVerif.Model.Json
import CueVerif.Proofs.Unquote
import CueVerif.Proofs.JsonGrammar
namespace CueVerif.Json
open CueVerif CueVerif.Quote

/-- no item is a raw (unescaped) U+FEFF -/
def noRawBOM (items : List JItem) : Bool := items.all fun i => i != JItem.raw 0xFEFF

/-- the quote info of a JSON string token -/
def jq : QuoteInfo := { char := 0x22, numHash := 0, multiline := false, whitespace := [] }

/-- the UTF-8 spelling of a scalar value from 0x80 on: a lead byte and at least one more, every
byte in 0x80..0xFF, and `decodeRune` reads the value back in front of any tail -/
theorem encodeRune_multi {r : Nat} (h1 : 0x80 ≤ r) (h2 : r ≤ 0x10FFFF) (h3 : ¬ (0xD800 ≤ r ∧ r < 0xE000)) :
    ∃ c cs, encodeRune r = c :: cs ∧ cs ≠ [] ∧ (∀ b ∈ c :: cs, 0x80 ≤ b ∧ b < 256) ∧
      ∀ t, decodeRune (c :: (cs ++ t)) = (r, cs.length + 1) ∧ (cs ++ t).drop (cs.length + 1 - 1) = t := by
  have hb := encodeRune_bytes_high r h1
  have hl := encodeRune_length r h1
  match he : encodeRune r with
  | [] => rw [he] at hl; simp at hl
  | c :: cs =>
    rw [he] at hb hl
    refine ⟨c, cs, rfl, fun e => by rw [e] at hl; simp at hl, hb, fun t => ⟨?_, ?_⟩⟩
    · simpa [he] using decodeRune_encodeRune r t h1 h2 h3
    · rw [Nat.add_sub_cancel, List.drop_left]

theorem item_text_facts (i : JItem) (h : i.wf = true) :
    (∃ c cs, i.text = c :: cs ∧ c ≠ 0x22) ∧ (∀ b ∈ i.text, b ≠ 10 ∧ b ≠ 13) := by
  cases i with
  | raw r =>
    have hw := raw_wf h
    by_cases h80 : r < 0x80
    · simp only [JItem.text, encodeRune_ascii r h80]
      exact ⟨⟨r, [], rfl, hw.2.2.2.1⟩, by intro b hb; simp at hb; omega⟩
    · obtain ⟨c, cs, he, -, hb, -⟩ := encodeRune_multi (by omega) hw.1 hw.2.1
      simp only [JItem.text, he]
      exact ⟨⟨c, cs, rfl, by have := hb c (List.mem_cons_self ..); omega⟩,
        fun b hb' => by have := hb b hb'; omega⟩
  | esc e =>
    refine ⟨⟨0x5C, [e.letter], rfl, by decide⟩, ?_⟩
    intro b hb
    cases e <;> simp [JItem.text, Esc.letter] at hb <;> omega
  | u a b c d =>
    refine ⟨⟨0x5C, _, rfl, by decide⟩, ?_⟩
    simp only [JItem.wf, isHexChar, Bool.and_eq_true, Bool.or_eq_true, decide_eq_true_eq] at h
    intro x hx
    simp only [JItem.text, List.mem_cons, List.mem_nil_iff, or_false] at hx
    omega

/-! ### hex digits -/

theorem unhex_hexChar (c : Nat) (h : isHexChar c = true) :
    unhexByte c = some (hexCharVal c) ∧ hexCharVal c < 16 := by
  unfold unhexByte hexCharVal
  rcases isHexChar_cases h with h | h | h
  · rw [if_pos h, if_pos h.2]; exact ⟨rfl, by omega⟩
  · rw [if_neg (by omega), if_neg (by omega), if_pos h, if_neg (by omega), if_pos h.2]
    exact ⟨by congr 1; omega, by omega⟩
  · rw [if_neg (by omega), if_pos h, if_neg (by omega), if_neg (by omega)]
    exact ⟨by congr 1; omega, by omega⟩

theorem hexVal_u (a b c d : Nat) (h : (JItem.u a b c d).wf = true) :
    hexVal [a, b, c, d] 0 = some (uVal a b c d) ∧ uVal a b c d < 65536 := by
  simp only [JItem.wf, Bool.and_eq_true] at h
  obtain ⟨⟨⟨ha, hb⟩, hc⟩, hd⟩ := h
  have ha := unhex_hexChar a ha
  have hb := unhex_hexChar b hb
  have hc := unhex_hexChar c hc
  have hd := unhex_hexChar d hd
  refine ⟨?_, ?_⟩
  · simp [hexVal, ha.1, hb.1, hc.1, hd.1, uVal]
  · unfold uVal; omega

theorem scanHexOk_hexChar (c : Nat) (h : isHexChar c = true) : scanHexOk c = true := by
  have hv : NumLit.digitVal c < 16 := by
    unfold NumLit.digitVal
    rcases isHexChar_cases h with h | h | h
    · rw [if_pos h]; omega
    · rw [if_neg (by omega), if_neg (by omega), if_neg (by omega), if_pos h]; omega
    · rw [if_neg (by omega), if_neg (by omega), if_pos h]; omega
  have h95 : c ≠ 95 := by rcases isHexChar_cases h with h | h | h <;> omega
  simp only [scanHexOk, Bool.and_eq_true, bne_iff_ne, ne_eq, decide_eq_true_eq]
  exact ⟨h95, hv⟩

/-! ### `unquoteChar` on the three kinds of items -/

theorem uc_esc (e : Esc) (t : Bytes) :
    unquoteChar (0x5C :: e.letter :: t) jq = .ok (.char e.value false, t) := by
  have := uc_backslash jq (Or.inl rfl) e.letter t
  refine Eq.trans this ?_
  cases e <;> simp [unquoteEscape, Esc.letter, Esc.value, jq]

theorem uc_u (a b c d : Nat) (h : (JItem.u a b c d).wf = true) (t : Bytes) :
    unquoteChar (0x5C :: 0x75 :: a :: b :: c :: d :: t) jq = .ok (.char (uVal a b c d) true, t) :=
  (uc_backslash jq (.inl rfl) 0x75 (a :: b :: c :: d :: t)).trans <|
    unicodeEscape_ok 4 [a, b, c, d] t _ rfl (hexVal_u a b c d h).1
      (by have := (hexVal_u a b c d h).2; omega)

/-! ### each kind of item extends a reading by one iteration of `unquoteLoop` -/

theorem raw_good {r : Nat} (h : (JItem.raw r).wf = true) : GoodUnit r (encodeRune r) := by
  have hw := raw_wf h
  by_cases h80 : r < 0x80
  · exact .inl ⟨h80, encodeRune_ascii r h80⟩
  · exact .inr ⟨by omega, hw.1, hw.2.1, rfl⟩

theorem reads_raw {r : Nat} (h : (JItem.raw r).wf = true) {T s : Bytes} (hT : Reads jq T false s) :
    Reads jq (encodeRune r ++ T) false (encodeRune r ++ s) :=
  have hw := raw_wf h
  hT.step (encodeRune_ne_nil r) fun fuel buf =>
    step_unit jq (.inl rfl) (raw_good h) (by omega) (by omega) (by omega) T
      (fun hr => absurd hr (not_or.2 ⟨hw.2.2.2.1, hw.2.2.2.2⟩)) fuel buf false false

theorem reads_esc (e : Esc) {T s : Bytes} (hT : Reads jq T false s) :
    Reads jq (0x5C :: e.letter :: T) false (e.value :: s) :=
  hT.step (X := [0x5C, e.letter]) (orig := [e.value]) (by simp) fun fuel buf => by
    show unquoteLoop jq (fuel + 1) (0x5C :: e.letter :: T) buf false false = _
    rw [loop_step_char jq _ _ (by decide) (by decide) e.value false T (uc_esc e T)
      (by cases e <;> simp only [Esc.value] <;> omega)]
    have : e.value % 256 = e.value := by cases e <;> rfl
    simp [pushChar, this]

theorem reads_u {a b c d : Nat} (h : (JItem.u a b c d).wf = true)
    (hs : isHigh (uVal a b c d) = false) (hl : isLow (uVal a b c d) = false)
    {T s : Bytes} (hT : Reads jq T false s) :
    Reads jq (0x5C :: 0x75 :: a :: b :: c :: d :: T) false (encodeRune (uVal a b c d) ++ s) :=
  hT.step (X := [0x5C, 0x75, a, b, c, d]) (by simp) fun fuel buf => by
    have hv : ¬ (0xD800 ≤ uVal a b c d ∧ uVal a b c d < 0xE000) := by
      simp only [isHigh, isLow, Bool.and_eq_false_iff, decide_eq_false_iff_not] at hs hl
      omega
    show unquoteLoop jq (fuel + 1) (0x5C :: 0x75 :: a :: b :: c :: d :: T) buf false false = _
    rw [loop_step_char jq _ _ (by decide) (by decide) _ true T (uc_u a b c d h T) hv]
    simp [pushChar]

theorem sur_pair (q : QuoteInfo) (s : Bytes) (hi lo : Nat) (mb mb' : Bool) (c' : Nat) (rest' ss' : Bytes)
    (huc : unquoteChar s q = .ok (.char hi mb, c' :: rest'))
    (huc' : unquoteChar (c' :: rest') q = .ok (.char lo mb', ss'))
    (hhi : 0xD800 ≤ hi ∧ hi < 0xDC00) (hlo : 0xDC00 ≤ lo ∧ lo < 0xE000) :
    unquoteCharSur s q = .ok (.char (combine hi lo) mb, ss') := by
  have e1 : (decide (0xD800 ≤ hi) && decide (hi < 0xE000)) = true := by
    simp only [Bool.and_eq_true, decide_eq_true_eq]; omega
  have e2 : ¬ (hi ≥ 0xDC00) := by omega
  have e3 : (decide (lo < 0xDC00) || decide (0xE000 ≤ lo)) = false := by
    simp only [Bool.or_eq_false_iff, decide_eq_false_iff_not]; omega
  unfold unquoteCharSur
  rw [huc]
  simp only [e1, if_true]
  rw [if_neg e2, huc']
  dsimp only
  rw [e3]
  rfl

theorem loop_step_sur (q : QuoteInfo) (c : Nat) (rest : Bytes) (hc13 : c ≠ 13) (hc10 : c ≠ 10)
    (v : Nat) (mb : Bool) (ss : Bytes) (huc : unquoteCharSur (c :: rest) q = .ok (.char v mb, ss))
    (fuel : Nat) (buf : Bytes) (sn we : Bool) :
    unquoteLoop q (fuel + 1) (c :: rest) buf sn we = unquoteLoop q fuel ss (pushChar buf v mb) false false := by
  simp [unquoteLoop, huc, hc13, hc10]

theorem reads_pair {a b c d a' b' c' d' : Nat} (h : (JItem.u a b c d).wf = true)
    (h' : (JItem.u a' b' c' d').wf = true)
    (hs : isHigh (uVal a b c d) = true) (hl : isLow (uVal a' b' c' d') = true)
    {T s : Bytes} (hT : Reads jq T false s) :
    Reads jq (0x5C :: 0x75 :: a :: b :: c :: d :: 0x5C :: 0x75 :: a' :: b' :: c' :: d' :: T) false
      (encodeRune (combine (uVal a b c d) (uVal a' b' c' d')) ++ s) :=
  hT.step (X := [0x5C, 0x75, a, b, c, d, 0x5C, 0x75, a', b', c', d']) (by simp) fun fuel buf => by
    rw [high_iff] at hs
    rw [low_iff] at hl
    have hsur := sur_pair jq _ _ _ _ _ _ _ _ (uc_u a b c d h (0x5C :: 0x75 :: a' :: b' :: c' :: d' :: T))
      (uc_u a' b' c' d' h' T) hs hl
    show unquoteLoop jq (fuel + 1)
      (0x5C :: 0x75 :: a :: b :: c :: d :: 0x5C :: 0x75 :: a' :: b' :: c' :: d' :: T) buf false false = _
    rw [loop_step_sur jq _ _ (by decide) (by decide) _ _ _ hsur]
    simp [pushChar]

/-! ### whole bodies -/

theorem item_text_pos (i : JItem) (h : i.wf = true) : 1 ≤ i.text.length := by
  obtain ⟨⟨c, cs, he, _⟩, _⟩ := item_text_facts i h
  rw [he]; simp

theorem body_no_nl (items : List JItem) (hwf : WfItems items) : ∀ b ∈ bodyText items, b ≠ 10 ∧ b ≠ 13 := by
  induction items with
  | nil => intro b hb; simp [bodyText] at hb
  | cons i t ih =>
    intro b hb
    simp only [bodyText, List.mem_append] at hb
    rcases hb with hb | hb
    · exact (item_text_facts i hwf.head).2 b hb
    · exact ih hwf.tail b hb

theorem body_head (items : List JItem) (hwf : WfItems items) :
    (bodyText items).head? ≠ some 0x22 := by
  match items with
  | [] => simp [bodyText]
  | i :: t =>
    obtain ⟨⟨c, cs, he, hc⟩, _⟩ := item_text_facts i hwf.head
    simp only [bodyText, he, List.cons_append, List.head?_cons, ne_eq, Option.some.injEq]
    exact hc

/-- the main loop of `QuoteInfo.Unquote` on the body of a well-paired token: one iteration per raw
item, escape or surrogate pair -/
theorem loop_items : ∀ items : List JItem, wellPaired items = true → WfItems items →
    Reads jq (bodyText items ++ [0x22]) false (denote items) := by
  apply wellPaired_induct
  case nil =>
    intro _
    simp only [denote, bodyText, List.nil_append]
    exact Reads.close jq (.inl rfl) rfl
  case raw =>
    intro r t ih hwf
    simp only [bodyText, JItem.text, List.append_assoc, denote]
    exact reads_raw hwf.head (ih hwf.tail)
  case esc =>
    intro e t ih hwf
    simp only [denote]
    exact reads_esc e (ih hwf.tail)
  case single =>
    intro a b c d t hh hl ih hwf
    rw [denote_u_notHigh a b c d t hh]
    exact reads_u hwf.head hh hl (ih hwf.tail)
  case pair =>
    intro a b c d a' b' c' d' t hh hl ih hwf
    rw [denote_u_pair a b c d a' b' c' d' t hh hl]
    exact reads_pair hwf.head hwf.tail.head hh hl (ih hwf.tail.tail)

/-- Every RFC 8259 string token whose surrogate escapes are well paired unquotes, under the
CUE rules, to exactly the string it denotes. -/
theorem string_embed (items : List JItem) (hwf : WfItems items) (hp : wellPaired items = true) :
    Quote.unquote (stringText items) = .ok (denote items) :=
  unquote_single 0x22 (.inl rfl) 0 _ _ (startsTwoQuotes_of_head (body_head items hwf))
    (body_no_nl items hwf) (loop_items items hp hwf)

theorem scanTok_body (body : Bytes) (hh : body.head? ≠ some 0x22) :
    scanStringTok (0x22 :: (body ++ [0x22])) = scanStrLoop (body ++ [0x22]) := by
  match body with
  | [] => simp [scanStringTok]
  | c :: cs =>
    have hc : c ≠ 0x22 := by simpa using hh
    simp only [List.cons_append]
    unfold scanStringTok
    split
    · next heq => simp at heq; omega
    · next heq => simp at heq; rw [heq]
    · next h1 h2 => exact absurd rfl (h2 _)

/-! ### the scanner loop -/

theorem scan_esc (e : Esc) (t : Bytes) : scanStrLoop (0x5C :: e.letter :: t) = scanStrLoop t := by
  cases e <;> simp [scanStrLoop, Esc.letter, scanSimpleEscape]

theorem scan_u (a b c d : Nat) (h : (JItem.u a b c d).wf = true) (t : Bytes) :
    scanStrLoop (0x5C :: 0x75 :: a :: b :: c :: d :: t) = scanStrLoop t := by
  simp only [JItem.wf, Bool.and_eq_true] at h
  obtain ⟨⟨⟨ha, hb⟩, hc⟩, hd⟩ := h
  simp [scanStrLoop, scanHexOk_hexChar a ha, scanHexOk_hexChar b hb, scanHexOk_hexChar c hc,
    scanHexOk_hexChar d hd]

theorem scanStrLoop_cons (c : Nat) (rest : Bytes) (h : c ≠ 0x5C) :
    scanStrLoop (c :: rest) =
      if c == 10 then false else if c == 0 then false else if c == 0x22 then rest.isEmpty
      else if 0x80 ≤ c then
        let rw := decodeRune (c :: rest)
        if rw.1 == 0xFFFD && rw.2 == 1 then false else if rw.1 == 0xFEFF then false
        else scanStrLoop (rest.drop (rw.2 - 1))
      else scanStrLoop rest := by
  rw [scanStrLoop.eq_def]
  split
  · next heq => cases heq
  · next heq => exact absurd (List.cons.inj heq).1 h
  · next heq => cases heq; rfl

theorem scan_raw (r : Nat) (h : (JItem.raw r).wf = true) (t : Bytes) :
    scanStrLoop (encodeRune r ++ t) = (r != 0xFEFF && scanStrLoop t) := by
  have hw := raw_wf h
  by_cases h80 : r < 0x80
  · rw [encodeRune_ascii r h80]
    have hne : r ≠ 10 ∧ r ≠ 0 ∧ r ≠ 0x22 ∧ ¬ 0x80 ≤ r ∧ r ≠ 0xFEFF := by omega
    show scanStrLoop (r :: t) = _
    rw [scanStrLoop_cons r t hw.2.2.2.2]
    simp [hne]
  · obtain ⟨c, cs, he, hcs, hb, hdec⟩ := encodeRune_multi (by omega) hw.1 hw.2.1
    obtain ⟨hd', e5⟩ := hdec t
    have hc := (hb c (List.mem_cons_self ..)).1
    have hne : c ≠ 10 ∧ c ≠ 0 ∧ c ≠ 0x22 := by omega
    have e4 : ((r == 0xFFFD) && (cs.length + 1 == 1)) = false := by
      simp only [Bool.and_eq_false_iff, beq_eq_false_iff_ne]; right
      intro h; exact hcs (List.eq_nil_of_length_eq_zero (by omega))
    rw [he]
    show scanStrLoop (c :: (cs ++ t)) = _
    rw [scanStrLoop_cons c _ (by omega)]
    simp only [beq_iff_eq, hne, hc, hd', e4, e5, Bool.false_eq_true, if_false, if_true]
    by_cases hr : r = 0xFEFF <;> simp [hr]

theorem raw_bne (r : Nat) : (JItem.raw r != JItem.raw 0xFEFF) = (r != 0xFEFF) := by
  rw [Bool.eq_iff_iff]; simp

theorem noRawBOM_cons (i : JItem) (t : List JItem) :
    noRawBOM (i :: t) = (i != JItem.raw 0xFEFF && noRawBOM t) := by
  simp [noRawBOM]

theorem scan_items (items : List JItem) (hwf : WfItems items) :
    scanStrLoop (bodyText items ++ [0x22]) = noRawBOM items := by
  induction items with
  | nil => simp [bodyText, noRawBOM, scanStrLoop]
  | cons i t ih =>
    rw [noRawBOM_cons, ← ih hwf.tail]
    cases i with
    | raw r =>
      simp only [bodyText, JItem.text, List.append_assoc]
      rw [scan_raw r hwf.head, raw_bne]
    | esc e =>
      simp only [bodyText, JItem.text, List.cons_append, List.nil_append]
      rw [scan_esc]
      simp
    | u a b c d =>
      simp only [bodyText, JItem.text, List.cons_append, List.nil_append]
      rw [scan_u a b c d hwf.head]
      simp

/-- The CUE scanner accepts an RFC 8259 string token as one clean STRING token iff the token
contains no raw U+FEFF. -/
theorem string_scan (items : List JItem) (hwf : WfItems items) :
    scanStringTok (stringText items) = noRawBOM items := by
  unfold stringText
  rw [scanTok_body _ (body_head items hwf), scan_items items hwf]

end CueVerif.Json
