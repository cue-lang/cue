/-
C10: `pValue`/`pElems`/`pMembers` (Spec/JsonDoc.lean) and `sValue`/`sElems`/`sMembers`
(Spec/JsonTree.lean) are the same four loops over two kinds of results.  Each loop is given once,
with the equation folding a parser step into it, exactly when it succeeds (`…_some`) and its
transport along a map of results (`…_map`); no later proof unfolds a parser.  Core Lean only.
-/
import CueVerif.Spec.JsonTree
namespace CueVerif.Json
open CueVerif.Quote (Bytes)

/-- `null` / `true` / `false` / a string after its opening quote / a number, by the first byte -/
def pScalar {β : Type} (null : β) (bool : Bool → β) (str num : Bytes → Option (β × Bytes))
    (c : Nat) (r : Bytes) : Option (β × Bytes) :=
  if c == 0x6E then (if r.take 3 == [0x75, 0x6C, 0x6C] then some (null, r.drop 3) else none)
  else if c == 0x74 then (if r.take 3 == [0x72, 0x75, 0x65] then some (bool true, r.drop 3) else none)
  else if c == 0x66 then (if r.take 4 == [0x61, 0x6C, 0x73, 0x65] then some (bool false, r.drop 4) else none)
  else if c == 0x22 then str r
  else num (c :: r)

/-- after `[` / `{`: the closing bracket at once, or a non-empty list read by `p` -/
def pBracket {α β : Type} (close : Nat) (mk : List α → β) (p : Bytes → Option (List α × Bytes))
    (r : Bytes) : Option (β × Bytes) :=
  match skipWs r with
  | [] => none
  | c :: r1 => if c == close then some (mk [], r1) else (p (c :: r1)).map fun q => (mk q.1, q.2)

/-- one item read by `item`, then `,` and the rest of the list read by `more`, or `close` -/
def pList {α : Type} (close : Nat) (item : Bytes → Option (α × Bytes))
    (more : Bytes → Option (List α × Bytes)) (s : Bytes) : Option (List α × Bytes) :=
  match item s with
  | none => none
  | some (v, r) =>
    match skipWs r with
    | [] => none
    | c :: r' =>
      if c == 0x2C then consFst v (more (skipWs r')) else if c == close then some ([v], r') else none

/-- `member = string ws ":" ws value`, the name read by `key` after its opening quote -/
def pMember {κ α : Type} (key : Bytes → Option (κ × Bytes)) (val : Bytes → Option (α × Bytes))
    (s : Bytes) : Option ((κ × α) × Bytes) :=
  match s with
  | [] => none
  | q :: r =>
    if q != 0x22 then none
    else
      match key r with
      | none => none
      | some (k, r1) =>
        match skipWs r1 with
        | [] => none
        | c :: r2 =>
          if c != 0x3A then none
          else
            match val (skipWs r2) with
            | none => none
            | some (v, r3) => some ((k, v), r3)

theorem pValue_succ (f c : Nat) (r : Bytes) :
    pValue (f + 1) (c :: r) =
      if c == 0x5B then pBracket 0x5D JVal.arr (pElems f) r
      else if c == 0x7B then pBracket 0x7D JVal.obj (pMembers f) r
      else pScalar .null .bool (fun r => (pString r).map fun p => (JVal.str p.1, p.2))
        (fun s => (pNumber s).map fun p => (JVal.num p.1.neg p.1.coeff p.1.exponent, p.2)) c r := by
  by_cases h1 : c = 0x5B
  · subst h1; rfl
  · by_cases h2 : c = 0x7B
    · subst h2; rfl
    · simp only [pValue, pScalar, beq_iff_eq, h1, h2, if_false]

theorem sValue_succ (f c : Nat) (r : Bytes) :
    sValue (f + 1) (c :: r) =
      if c == 0x5B then pBracket 0x5D JTree.arr (sElems f) r
      else if c == 0x7B then pBracket 0x7D JTree.obj (sMembers f) r
      else pScalar .null .bool (fun r => (pStrBody (r.length + 1) r).map fun p => (JTree.str p.1, p.2))
        (fun s => (pNumber s).map fun p => (JTree.num p.1, p.2)) c r := by
  by_cases h1 : c = 0x5B
  · subst h1; rfl
  · by_cases h2 : c = 0x7B
    · subst h2; rfl
    · simp only [sValue, pScalar, beq_iff_eq, h1, h2, if_false]

theorem pElems_succ (f : Nat) (s : Bytes) : pElems (f + 1) s = pList 0x5D (pValue f) (pElems f) s := by
  rw [pElems]; unfold pList
  cases pValue f s with
  | none => rfl
  | some p => cases skipWs p.2 <;> rfl

theorem sElems_succ (f : Nat) (s : Bytes) : sElems (f + 1) s = pList 0x5D (sValue f) (sElems f) s := by
  rw [sElems]; unfold pList
  cases sValue f s with
  | none => rfl
  | some p => cases skipWs p.2 <;> rfl

theorem pMembers_succ (f : Nat) (s : Bytes) :
    pMembers (f + 1) s = pList 0x7D (pMember pString (pValue f)) (pMembers f) s := by
  unfold pList pMember
  cases s with
  | nil => rfl
  | cons q r =>
    simp only [pMembers]
    split
    · rfl
    · cases pString r with
      | none => rfl
      | some kp =>
        obtain ⟨k, r1⟩ := kp
        dsimp only
        cases skipWs r1 with
        | nil => rfl
        | cons c r2 =>
          dsimp only
          split
          · rfl
          · cases pValue f (skipWs r2) <;> rfl

theorem sMembers_succ (f : Nat) (s : Bytes) :
    sMembers (f + 1) s =
      pList 0x7D (pMember (fun r => pStrBody (r.length + 1) r) (sValue f)) (sMembers f) s := by
  unfold pList pMember
  cases s with
  | nil => rfl
  | cons q r =>
    simp only [sMembers]
    split
    · rfl
    · cases pStrBody (r.length + 1) r with
      | none => rfl
      | some kp =>
        obtain ⟨k, r1⟩ := kp
        dsimp only
        cases skipWs r1 with
        | nil => rfl
        | cons c r2 =>
          dsimp only
          split
          · rfl
          · cases sValue f (skipWs r2) <;> rfl

theorem consFst_some {α β : Type} {a : α} {o : Option (List α × β)} {x : List α × β}
    (h : consFst a o = some x) : ∃ as r, o = some (as, r) ∧ x = (a :: as, r) := by
  cases o with
  | none => cases h
  | some p => exact ⟨p.1, p.2, rfl, (Option.some.inj h).symm⟩

theorem pScalar_some {β : Type} {null : β} {bool : Bool → β} {str num : Bytes → Option (β × Bytes)}
    {c : Nat} {r : Bytes} {x : β × Bytes} (h : pScalar null bool str num c r = some x) :
    x = (null, r.drop 3) ∨ (∃ b, x = (bool b, r.drop (if b then 3 else 4))) ∨ str r = some x ∨
      num (c :: r) = some x := by
  unfold pScalar at h
  by_cases h1 : (c == 0x6E) = true
  · rw [if_pos h1] at h; split at h
    · exact .inl (Option.some.inj h).symm
    · cases h
  rw [if_neg h1] at h
  by_cases h2 : (c == 0x74) = true
  · rw [if_pos h2] at h; split at h
    · exact .inr (.inl ⟨true, (Option.some.inj h).symm⟩)
    · cases h
  rw [if_neg h2] at h
  by_cases h3 : (c == 0x66) = true
  · rw [if_pos h3] at h; split at h
    · exact .inr (.inl ⟨false, (Option.some.inj h).symm⟩)
    · cases h
  rw [if_neg h3] at h
  by_cases h4 : (c == 0x22) = true
  · rw [if_pos h4] at h; exact .inr (.inr (.inl h))
  · rw [if_neg h4] at h; exact .inr (.inr (.inr h))

theorem pBracket_some {α β : Type} {close : Nat} {mk : List α → β} {p : Bytes → Option (List α × Bytes)}
    {r : Bytes} {x : β × Bytes} :
    pBracket close mk p r = some x ↔ ∃ c r1, skipWs r = c :: r1 ∧
      ((c = close ∧ x = (mk [], r1)) ∨
       (c ≠ close ∧ ∃ l r', p (c :: r1) = some (l, r') ∧ x = (mk l, r'))) := by
  unfold pBracket
  cases skipWs r with
  | nil => exact ⟨nofun, fun ⟨_, _, h, _⟩ => nomatch h⟩
  | cons c r1 =>
    by_cases hc : c = close
    · simp only [beq_iff_eq, hc, if_true]
      exact ⟨fun h => ⟨_, _, rfl, .inl ⟨rfl, (Option.some.inj h).symm⟩⟩,
        fun ⟨_, _, h, hx⟩ => by
          cases h; rcases hx with ⟨-, rfl⟩ | ⟨h, -⟩
          · rfl
          · exact absurd rfl h⟩
    · simp only [beq_iff_eq, hc, if_false]
      constructor
      · intro h
        obtain ⟨q, hp, hx⟩ := Option.map_eq_some_iff.mp h
        exact ⟨_, _, rfl, .inr ⟨hc, q.1, q.2, hp, hx.symm⟩⟩
      · rintro ⟨_, _, h, hx⟩
        cases h; rcases hx with ⟨h, -⟩ | ⟨-, l, r', hp, rfl⟩
        · exact absurd h hc
        · rw [hp]; rfl

theorem pList_some {α : Type} {close : Nat} {item : Bytes → Option (α × Bytes)}
    {more : Bytes → Option (List α × Bytes)} {s : Bytes} {x : List α × Bytes} :
    pList close item more s = some x ↔ ∃ v r c r', item s = some (v, r) ∧ skipWs r = c :: r' ∧
      ((c = 0x2C ∧ ∃ l r'', more (skipWs r') = some (l, r'') ∧ x = (v :: l, r'')) ∨
       (c ≠ 0x2C ∧ c = close ∧ x = ([v], r'))) := by
  unfold pList
  constructor
  · intro h
    split at h
    · cases h
    · next v r hi =>
      split at h
      · cases h
      · next c r' hs =>
        refine ⟨v, r, c, r', hi, hs, ?_⟩
        split at h
        · next hc =>
          obtain ⟨l, r'', hm, hx⟩ := consFst_some h
          exact .inl ⟨eq_of_beq hc, l, r'', hm, hx⟩
        · next hc =>
          split at h
          · next hd => exact .inr ⟨fun e => hc (by rw [e]; rfl), eq_of_beq hd, (Option.some.inj h).symm⟩
          · cases h
  · rintro ⟨v, r, c, r', hi, hs, ⟨rfl, l, r'', hm, rfl⟩ | ⟨hc, rfl, rfl⟩⟩
    · simp only [hi, hs, hm, consFst, beq_self_eq_true, if_true]
    · simp only [hi, hs, beq_iff_eq, hc, if_false, if_true]

theorem pMember_some {κ α : Type} {key : Bytes → Option (κ × Bytes)} {val : Bytes → Option (α × Bytes)}
    {s : Bytes} {x : (κ × α) × Bytes} :
    pMember key val s = some x ↔ ∃ r k r1 r2 v r3, s = 0x22 :: r ∧ key r = some (k, r1) ∧
      skipWs r1 = 0x3A :: r2 ∧ val (skipWs r2) = some (v, r3) ∧ x = ((k, v), r3) := by
  unfold pMember
  constructor
  · intro h
    split at h
    · cases h
    · next q r =>
      split at h
      · cases h
      · next hq =>
        split at h
        · cases h
        · next k r1 hk =>
          split at h
          · cases h
          · next c r2 hs =>
            split at h
            · cases h
            · next hc =>
              split at h
              · cases h
              · next v r3 hv =>
                simp only [bne_iff_ne, ne_eq, Decidable.not_not] at hq hc
                subst hq hc
                exact ⟨r, k, r1, r2, v, r3, rfl, hk, hs, hv, (Option.some.inj h).symm⟩
  · rintro ⟨r, k, r1, r2, v, r3, rfl, hk, hs, hv, rfl⟩
    simp only [hk, hs, hv, bne_self_eq_false, Bool.false_eq_true, if_false]

section map
variable {α α' β β' κ κ' : Type}

theorem pScalar_map {null : β} {null' : β'} {bool : Bool → β} {bool' : Bool → β'}
    {str num : Bytes → Option (β × Bytes)} {str' num' : Bytes → Option (β' × Bytes)} (d : β' → β)
    (hn : null = d null') (hb : ∀ b, bool b = d (bool' b))
    (hs : ∀ s, str s = (str' s).map fun q => (d q.1, q.2))
    (hm : ∀ s, num s = (num' s).map fun q => (d q.1, q.2)) (c : Nat) (r : Bytes) :
    pScalar null bool str num c r = (pScalar null' bool' str' num' c r).map fun q => (d q.1, q.2) := by
  unfold pScalar
  rw [hn, hb, hb, hs, hm]
  simp only [apply_ite (Option.map fun q : β' × Bytes => (d q.1, q.2)), Option.map_some, Option.map_none]

theorem pBracket_map {close : Nat} {mk : List α → β} {mk' : List α' → β'} {p : Bytes → Option (List α × Bytes)}
    {p' : Bytes → Option (List α' × Bytes)} (d : β' → β) (gl : List α' → List α) (hnil : mk [] = d (mk' []))
    (hmk : ∀ l, mk (gl l) = d (mk' l)) (hp : ∀ s, p s = (p' s).map fun q => (gl q.1, q.2)) (r : Bytes) :
    pBracket close mk p r = (pBracket close mk' p' r).map fun q => (d q.1, q.2) := by
  unfold pBracket
  cases skipWs r with
  | nil => rfl
  | cons c r1 =>
    dsimp only
    split
    · rw [hnil]; rfl
    · rw [hp]; cases p' (c :: r1) with
      | none => rfl
      | some q => simp only [Option.map_some, hmk]

theorem pList_map {close : Nat} {item : Bytes → Option (α × Bytes)} {item' : Bytes → Option (α' × Bytes)}
    {more : Bytes → Option (List α × Bytes)} {more' : Bytes → Option (List α' × Bytes)}
    (g : α' → α) (gl : List α' → List α) (hnil : gl [] = []) (hcons : ∀ a l, gl (a :: l) = g a :: gl l)
    (hi : ∀ s, item s = (item' s).map fun q => (g q.1, q.2))
    (hm : ∀ s, more s = (more' s).map fun q => (gl q.1, q.2)) (s : Bytes) :
    pList close item more s = (pList close item' more' s).map fun q => (gl q.1, q.2) := by
  unfold pList
  rw [hi]
  cases item' s with
  | none => rfl
  | some q =>
    dsimp only [Option.map_some]
    cases skipWs q.2 with
    | nil => rfl
    | cons c r' =>
      dsimp only
      split
      · rw [hm]; cases more' (skipWs r') with
        | none => rfl
        | some l => simp only [Option.map_some, consFst, hcons]
      · split
        · simp only [Option.map_some, hcons, hnil]
        · rfl

theorem pMember_map {key : Bytes → Option (κ × Bytes)} {key' : Bytes → Option (κ' × Bytes)}
    {val : Bytes → Option (α × Bytes)} {val' : Bytes → Option (α' × Bytes)} (gk : κ' → κ) (g : α' → α)
    (hk : ∀ s, key s = (key' s).map fun q => (gk q.1, q.2))
    (hv : ∀ s, val s = (val' s).map fun q => (g q.1, q.2)) (s : Bytes) :
    pMember key val s = (pMember key' val' s).map fun q => ((gk q.1.1, g q.1.2), q.2) := by
  unfold pMember
  cases s with
  | nil => rfl
  | cons c r =>
    dsimp only
    split
    · rfl
    · rw [hk]; cases key' r with
      | none => rfl
      | some q =>
        dsimp only [Option.map_some]
        cases skipWs q.2 with
        | nil => rfl
        | cons c r2 =>
          dsimp only
          split
          · rfl
          · rw [hv]; cases val' (skipWs r2) <;> rfl

end map

mutual
theorem pValue_eq : ∀ (f : Nat) (s : Bytes), pValue f s = (sValue f s).map fun p => (p.1.den, p.2)
  | 0, _ | _ + 1, [] => by simp [pValue, sValue]
  | f + 1, c :: r => by
    rw [pValue_succ, sValue_succ]
    split
    · exact pBracket_map JTree.den JTree.denList (by simp [JTree.den, JTree.denList])
        (fun l => by simp [JTree.den]) (pElems_eq f) r
    · split
      · exact pBracket_map JTree.den JTree.denMembers (by simp [JTree.den, JTree.denMembers])
          (fun l => by simp [JTree.den]) (pMembers_eq f) r
      · exact pScalar_map JTree.den (by simp [JTree.den]) (fun b => by simp [JTree.den])
          (fun s => by simp only [pString, Option.map_map]; rfl)
          (fun s => by simp only [Option.map_map]; rfl) c r
theorem pElems_eq : ∀ (f : Nat) (s : Bytes), pElems f s = (sElems f s).map fun p => (JTree.denList p.1, p.2)
  | 0, s => by simp [pElems, sElems]
  | f + 1, s => by
    rw [pElems_succ, sElems_succ]
    exact pList_map JTree.den JTree.denList (by simp [JTree.denList]) (fun a l => by simp [JTree.denList])
      (pValue_eq f) (pElems_eq f) s
theorem pMembers_eq : ∀ (f : Nat) (s : Bytes),
    pMembers f s = (sMembers f s).map fun p => (JTree.denMembers p.1, p.2)
  | 0, s => by simp [pMembers, sMembers]
  | f + 1, s => by
    rw [pMembers_succ, sMembers_succ]
    exact pList_map (fun kv : List JItem × JTree => (denote kv.1, kv.2.den)) JTree.denMembers
      (by simp [JTree.denMembers]) (fun a l => by simp [JTree.denMembers])
      (pMember_map denote JTree.den (fun r => rfl) (pValue_eq f)) (pMembers_eq f) s
end

theorem parseJSON_eq (s : Bytes) : parseJSON s = (parseTree s).map JTree.den := by
  simp only [parseJSON, parseTree, pValue_eq]
  cases sValue (s.length + 1) (skipWs s) with
  | none => rfl
  | some p =>
    obtain ⟨t, r⟩ := p
    simp only [Option.map_some]
    split <;> rfl

end CueVerif.Json
