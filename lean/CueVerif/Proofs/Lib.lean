/-
Facts about core types that several properties use and core Lean does not state.  Core Lean only.
-/
namespace CueVerif

/-- takes the long `if` chains of the models apart from the outside, one test at a time -/
theorem ite_ind {α : Sort _} {P : α → Prop} {c : Prop} [Decidable c] {a b : α}
    (ha : c → P a) (hb : ¬c → P b) : P (if c then a else b) := by
  split
  · exact ha ‹_›
  · exact hb ‹_›

theorem all_congr_mem {α : Type _} {l : List α} {p q : α → Bool} (h : ∀ a ∈ l, p a = q a) :
    l.all p = l.all q := by
  induction l with
  | nil => rfl
  | cons a l ih =>
    simp only [List.all_cons, h a (List.mem_cons_self ..),
      ih fun b hb => h b (List.mem_cons_of_mem _ hb)]

theorem span_loop_eq {α} (p : α → Bool) : ∀ (l acc : List α),
    List.span.loop p l acc = (acc.reverse ++ l.takeWhile p, l.dropWhile p) := by
  intro l
  induction l with
  | nil => intro acc; simp [List.span.loop]
  | cons a l ih => intro acc; cases ha : p a <;> simp [List.span.loop, ha, ih]

theorem span_eq {α} (p : α → Bool) (l : List α) : l.span p = (l.takeWhile p, l.dropWhile p) := by
  simpa [List.span] using span_loop_eq p l []

/-- Two lists sorted by an asymmetric relation are duplicate free, hence permutations of each other
once they have the same members, and a strict order leaves a permutation no freedom. -/
theorem pairwise_ext {α} {r : α → α → Prop} (hr : ∀ a b, r a b → ¬ r b a) {l m : List α}
    (hl : l.Pairwise r) (hm : m.Pairwise r) (h : ∀ x, x ∈ l ↔ x ∈ m) : l = m := by
  have nd : ∀ {l : List α}, l.Pairwise r → l.Nodup := fun h =>
    h.imp fun {a b} hab e => by subst e; exact hr a a hab hab
  exact ((List.perm_ext_iff_of_nodup (nd hl) (nd hm)).2 h).eq_of_pairwise
    (fun a b _ _ hab hba => absurd hba (hr a b hab)) hl hm

end CueVerif
