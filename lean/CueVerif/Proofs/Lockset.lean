/-
Proofs for the generic lock machine (Model/Lockset.lean): soundness of the static lockset
check (no race, no fatal unlock, no leak) and deadlock freedom of strictly checked
protocols.
-/
import CueVerif.Proofs.LocksetMutex
namespace CueVerif.Lockset

/-- the per-thread invariant: the rest of the thread's protocol passes the check -/
def ThOk {L : Type} (g : Loc → Lk) (strict : Bool) (t : Th L) : Prop :=
  match t.st with
  | .run => ∃ fuel, check g strict t.prog fuel t.pc t.held t.dfr = true
  | .unwinding => checkUnwind t.dfr t.held = true
  | .done => t.held = []

/-- what a successful check at `pc` says, one instruction deep (any fuel) -/
def CheckInv (g : Loc → Lk) (strict : Bool) (prog : Prog) (pc : Nat) (held dfr : Held) : Prop :=
  match prog[pc]? with
  | none => checkUnwind dfr held = true
  | some .ret => checkUnwind dfr held = true
  | some (.acq l w) =>
    (if strict then held.isEmpty else !(holdsAny held l)) = true ∧
      ∃ fuel, check g strict prog fuel (pc + 1) ((l, w) :: held) dfr = true
  | some (.rel l w) =>
    held.contains (l, w) = true ∧ ∃ fuel, check g strict prog fuel (pc + 1) (held.erase (l, w)) dfr = true
  | some (.dfr l w) => ∃ fuel, check g strict prog fuel (pc + 1) held ((l, w) :: dfr) = true
  | some (.acc x k) => okAcc g held x k = true ∧ ∃ fuel, check g strict prog fuel (pc + 1) held dfr = true
  | some (.br _ n) =>
    (∃ fuel, check g strict prog fuel (pc + 1) held dfr = true) ∧
      ∃ fuel, check g strict prog fuel (pc + 1 + n) held dfr = true
  | some (.jmp n) => ∃ fuel, check g strict prog fuel (pc + 1 + n) held dfr = true
  | some (.call _) => ∃ fuel, check g strict prog fuel (pc + 1) held dfr = true
  | some (.bad _) => False

theorem check_inv {g : Loc → Lk} {strict : Bool} {prog : Prog} {pc : Nat} {held dfr : Held}
    (h : ∃ fuel, check g strict prog fuel pc held dfr = true) : CheckInv g strict prog pc held dfr := by
  obtain ⟨fuel, h⟩ := h
  cases fuel with
  | zero => simp only [check] at h; cases h
  | succ fuel =>
    rw [check] at h
    unfold CheckInv
    split at h <;> rename_i he <;> simp only [he]
    · exact h
    · exact h
    · rw [Bool.and_eq_true] at h; exact ⟨h.1, fuel, h.2⟩
    · rw [Bool.and_eq_true] at h; exact ⟨h.1, fuel, h.2⟩
    · exact ⟨fuel, h⟩
    · rw [Bool.and_eq_true] at h; exact ⟨h.1, fuel, h.2⟩
    · rw [Bool.and_eq_true] at h; exact ⟨⟨fuel, h.1⟩, fuel, h.2⟩
    · exact ⟨fuel, h⟩
    · rw [Bool.and_eq_true] at h; exact ⟨fuel, h.2⟩
    · cases h

theorem ThOk_run {L : Type} {g : Loc → Lk} {strict : Bool} {t : Th L} (hst : t.st = .run)
    (h : ThOk g strict t) : CheckInv g strict t.prog t.pc t.held t.dfr := by
  simp only [ThOk, hst] at h
  exact check_inv h

theorem ThOk_unwinding {L : Type} {g : Loc → Lk} {strict : Bool} {t : Th L}
    (hst : t.st = .unwinding) (h : ThOk g strict t) : checkUnwind t.dfr t.held = true := by
  simpa only [ThOk, hst] using h

theorem ThOk_done {L : Type} {g : Loc → Lk} {strict : Bool} {t : Th L}
    (hst : t.st = .done) (h : ThOk g strict t) : t.held = [] := by
  simpa only [ThOk, hst] using h

theorem ThOk_new {L : Type} {g : Loc → Lk} {strict : Bool} {p : Prog} (l0 : L)
    (h : wellLocked g strict p = true) : ThOk g strict (Th.new p l0) := by
  simp only [ThOk, Th.new]
  exact ⟨_, h⟩

/-- preservation and progress from one case analysis: a checked thread steps to a checked
thread, and has no step only when it is finished or waits at an `acq` (holding nothing, if
the check was strict) -/
theorem next_cases {D L : Type} {g : Loc → Lk} {strict : Bool} (sem : Sem D L)
    (fr : Lk → Bool → Bool) (d : D) (t : Th L) (hok : ThOk g strict t) :
    match next sem fr d t with
    | some (_, t') => ThOk g strict t'
    | none => t.st = .done ∨ ((strict = true → t.held = []) ∧
        ∃ l w, t.prog[t.pc]? = some (.acq l w) ∧ fr l w = false) := by
  obtain ⟨prog, pc, held, dfr, st, loc⟩ := t
  cases st with
  | done => exact .inl rfl
  | unwinding =>
    have hu : checkUnwind dfr held = true := hok
    cases dfr with
    | nil => exact List.isEmpty_iff.1 hu
    | cons e r =>
      rw [checkUnwind, Bool.and_eq_true] at hu
      simp only [next, hu.1, if_true]
      exact hu.2
  | run =>
    -- `CheckInv` is the check unfolded at this instruction; `next` moves to where it recurses
    have hc := check_inv hok
    unfold CheckInv at hc
    simp only [next]
    split at hc <;> rename_i he <;> simp only [he]
    · exact hc
    · exact hc
    · next l w =>
      cases hf : fr l w with
      | true => exact hc.2
      | false =>
        refine .inr ⟨fun hs => List.isEmpty_iff.1 ?_, l, w, rfl, hf⟩
        simpa only [hs, if_true] using hc.1
    · simp only [hc.1, if_true]; exact hc.2
    · exact hc
    · exact hc.2
    · show ∃ fuel, check g strict prog fuel _ held dfr = true
      split
      · exact hc.1
      · exact hc.2
    · exact hc
    · exact hc
    · exact hc.elim

theorem next_ok {D L : Type} {g : Loc → Lk} {strict : Bool} (sem : Sem D L)
    (fr : Lk → Bool → Bool) (d : D) (t : Th L) (d' : D) (t' : Th L)
    (hok : ThOk g strict t) (h : next sem fr d t = some (d', t')) : ThOk g strict t' := by
  have := next_cases sem fr d t hok
  rwa [h] at this

theorem all_ok {D L : Type} (sem : Sem D L) (progs : List Prog) (initL : L → Prop) (d0 : D)
    (g : Loc → Lk) (strict : Bool) (hp : ∀ p ∈ progs, wellLocked g strict p = true)
    (s : St D L) (hr : Run sem progs initL d0 s) : ∀ t ∈ s.ths, ThOk g strict t := by
  induction hr with
  | init => intro t ht; cases ht
  | step _ hs ih =>
    cases hs with
    | spawn p hpp l0 hl =>
      exact List.forall_mem_append.2 ⟨ih, List.forall_mem_singleton.2 (ThOk_new l0 (hp p hpp))⟩
    | thread i t hi d' t' hn =>
      exact forall_mem_set ih (next_ok sem _ _ t d' _ (ih t (List.mem_of_getElem? hi)) hn) i

theorem okAcc_spec {g : Loc → Lk} {held : Held} {x : Loc} {k : Acc}
    (h : okAcc g held x k = true) (hs : k.isSync = false) :
    holdsAny held (g x) = true ∧ (k.isWrite = true → held.contains (g x, true) = true) := by
  simp only [okAcc, hs, Bool.false_eq_true, if_false] at h
  split at h
  · exact ⟨holdsAny_eq_true.2 ⟨true, List.contains_iff_mem.1 h⟩, fun _ => h⟩
  · next hw => exact ⟨h, fun hw' => absurd hw' hw⟩

theorem poised_ok {L : Type} {g : Loc → Lk} {strict : Bool} {t : Th L} {x : Loc} {w : Bool}
    (hok : ThOk g strict t) (hp : Poised t x w) :
    holdsAny t.held (g x) = true ∧ (w = true → t.held.contains (g x, true) = true) := by
  obtain ⟨hst, k, he, hs, hw⟩ := hp
  have hc := ThOk_run hst hok
  unfold CheckInv at hc
  simp only [he] at hc
  exact hw ▸ okAcc_spec hc.1 hs

theorem no_race {D L : Type} (sem : Sem D L) (progs : List Prog) (initL : L → Prop) (d0 : D)
    (g : Loc → Lk) (strict : Bool) (hp : ∀ p ∈ progs, wellLocked g strict p = true)
    (s : St D L) (hr : Run sem progs initL d0 s) : ¬ Race s := by
  rintro ⟨i, j, ti, tj, x, wi, wj, hij, hi, hj, hpi, hpj, hw⟩
  have hok := all_ok sem progs initL d0 g strict hp s hr
  have hi' := poised_ok (hok ti (List.mem_of_getElem? hi)) hpi
  have hj' := poised_ok (hok tj (List.mem_of_getElem? hj)) hpj
  rcases hw with hw | hw
  · have := mutual_exclusion sem progs initL d0 s hr i j ti tj (g x) hij hi hj (hi'.2 hw)
    rw [hj'.1] at this; cases this
  · have := mutual_exclusion sem progs initL d0 s hr j i tj ti (g x) (Ne.symm hij) hj hi (hj'.2 hw)
    rw [hi'.1] at this; cases this

theorem no_fatal_unlock {D L : Type} (sem : Sem D L) (progs : List Prog) (initL : L → Prop)
    (d0 : D) (g : Loc → Lk) (strict : Bool) (hp : ∀ p ∈ progs, wellLocked g strict p = true)
    (s : St D L) (hr : Run sem progs initL d0 s) : ∀ t ∈ s.ths, ¬ FatalUnlock t := by
  intro t ht hf
  have hok := all_ok sem progs initL d0 g strict hp s hr t ht
  rcases hf with ⟨hst, l, w, he, hc⟩ | ⟨hst, l, w, r, hd, hc⟩
  · have h := ThOk_run hst hok
    unfold CheckInv at h
    simp only [he] at h
    rw [h.1] at hc; cases hc
  · have h := ThOk_unwinding hst hok
    rw [hd, checkUnwind, Bool.and_eq_true] at h
    rw [h.1] at hc; cases hc

theorem no_lock_leak {D L : Type} (sem : Sem D L) (progs : List Prog) (initL : L → Prop)
    (d0 : D) (g : Loc → Lk) (strict : Bool) (hp : ∀ p ∈ progs, wellLocked g strict p = true)
    (s : St D L) (hr : Run sem progs initL d0 s) : ∀ t ∈ s.ths, t.st = .done → t.held = [] :=
  fun t ht hst => ThOk_done hst (all_ok sem progs initL d0 g strict hp s hr t ht)

theorem blocked_at_acq {D L : Type} {g : Loc → Lk} (sem : Sem D L) (fr : Lk → Bool → Bool)
    (d : D) (t : Th L) (hok : ThOk g true t) (hnd : t.st ≠ .done)
    (h : next sem fr d t = none) :
    t.held = [] ∧ ∃ l w, t.prog[t.pc]? = some (.acq l w) ∧ fr l w = false := by
  have := next_cases sem fr d t hok
  rw [h] at this
  exact (this.resolve_left hnd).imp_left (· rfl)

theorem free_of_nothing_held {L : Type} (ths : List (Th L)) (hn : ∀ t ∈ ths, t.held = [])
    (l : Lk) (w : Bool) : free ths l w = true := by
  simp only [free, List.all_eq_true]
  intro u hu
  rw [hn u hu]
  cases w <;> rfl

theorem no_deadlock {D L : Type} (sem : Sem D L) (progs : List Prog) (initL : L → Prop)
    (d0 : D) (g : Loc → Lk) (hp : ∀ p ∈ progs, wellLocked g true p = true)
    (s : St D L) (hr : Run sem progs initL d0 s) : ¬ Deadlock sem s := by
  rintro ⟨hnd, hblk⟩
  have hok := all_ok sem progs initL d0 g true hp s hr
  have hnone : ∀ t ∈ s.ths, t.held = [] := by
    intro t ht
    by_cases hst : t.st = .done
    · exact ThOk_done hst (hok t ht)
    · obtain ⟨i, hi⟩ := List.getElem?_of_mem ht
      exact (blocked_at_acq sem _ _ t (hok t ht) hst (hblk i t hi)).1
  apply hnd
  intro t ht
  apply Classical.byContradiction
  intro hst
  obtain ⟨i, hi⟩ := List.getElem?_of_mem ht
  obtain ⟨_, l, w, _, hf⟩ := blocked_at_acq sem _ _ t (hok t ht) hst (hblk i t hi)
  rw [free_of_nothing_held s.ths hnone l w] at hf
  cases hf

end CueVerif.Lockset
