/-
Mutual exclusion of RWMutex holders in the generic lock machine (Model/Lockset.lean):
holds in every reachable state for ALL protocols (it is the lock contract, not a property
of the checked programs).
-/
import CueVerif.Model.Lockset
namespace CueVerif.Lockset

theorem holdsAny_eq_true {h : Held} {l : Lk} : holdsAny h l = true ↔ ∃ w, (l, w) ∈ h := by
  simp only [holdsAny, List.any_eq_true, beq_iff_eq]
  constructor
  · rintro ⟨⟨l', w⟩, hm, rfl⟩; exact ⟨w, hm⟩
  · rintro ⟨w, hm⟩; exact ⟨(l, w), hm, rfl⟩

theorem holdsAny_eq_false {h : Held} {l : Lk} : holdsAny h l = false ↔ ∀ w, (l, w) ∉ h := by
  rw [← Bool.not_eq_true, holdsAny_eq_true]
  exact ⟨fun hn w hm => hn ⟨w, hm⟩, fun hn ⟨w, hm⟩ => hn w hm⟩

/-- a lock that is free in mode `w` is held by nobody in a mode `w'` conflicting with `w`
(one of the two is the write mode) -/
theorem free_excl {L : Type} {ths : List (Th L)} {l : Lk} {w : Bool} (h : free ths l w = true)
    {u : Th L} (hu : u ∈ ths) {w' : Bool} (hw : w = true ∨ w' = true) : (l, w') ∉ u.held := by
  have := List.all_eq_true.1 h u hu
  cases w with
  | true => exact holdsAny_eq_false.1 (by simpa using this) w'
  | false =>
    rcases hw with hw | rfl
    · cases hw
    · rw [← List.contains_iff_mem]; simpa using this

/-- what one enabled instruction does to program, data and lock set, read off `next` once -/
theorem next_spec {D L : Type} {sem : Sem D L} {fr : Lk → Bool → Bool} {d d' : D} {t t' : Th L}
    (h : next sem fr d t = some (d', t')) :
    t'.prog = t.prog ∧
    ((d' = d ∧ t'.loc = t.loc) ∨
      (t.st = .run ∧ ∃ x k, t.prog[t.pc]? = some (.acc x k) ∧
        d' = (sem.acc x k d t.loc).1 ∧ t'.loc = (sem.acc x k d t.loc).2)) ∧
    ((∀ e, e ∈ t'.held → e ∈ t.held) ∨ ∃ l w, fr l w = true ∧ t'.held = (l, w) :: t.held) := by
  have same : ∀ e : Lk × Bool, e ∈ t.held → e ∈ t.held := fun _ he => he
  unfold next at h
  split at h
  · cases h
  · split at h
    · cases h; exact ⟨rfl, .inl ⟨rfl, rfl⟩, .inl same⟩
    · split at h
      · cases h; exact ⟨rfl, .inl ⟨rfl, rfl⟩, .inl fun e he => List.mem_of_mem_erase he⟩
      · cases h
  · next hst =>
    split at h
    · cases h; exact ⟨rfl, .inl ⟨rfl, rfl⟩, .inl same⟩
    · split at h
      · next hf => cases h; exact ⟨rfl, .inl ⟨rfl, rfl⟩, .inr ⟨_, _, hf, rfl⟩⟩
      · cases h
    · split at h
      · cases h; exact ⟨rfl, .inl ⟨rfl, rfl⟩, .inl fun e he => List.mem_of_mem_erase he⟩
      · cases h
    · cases h; exact ⟨rfl, .inl ⟨rfl, rfl⟩, .inl same⟩
    · next x k he => cases h; exact ⟨rfl, .inr ⟨hst, x, k, he, rfl, rfl⟩, .inl same⟩
    · cases h; exact ⟨rfl, .inl ⟨rfl, rfl⟩, .inl same⟩
    · cases h; exact ⟨rfl, .inl ⟨rfl, rfl⟩, .inl same⟩
    · cases h; exact ⟨rfl, .inl ⟨rfl, rfl⟩, .inl same⟩
    · cases h; exact ⟨rfl, .inl ⟨rfl, rfl⟩, .inl same⟩
    · cases h

/-- the invariant, in membership form -/
def MX {D L : Type} (s : St D L) : Prop :=
  ∀ (i j : Nat) (ti tj : Th L) (l : Lk) (w : Bool), i ≠ j → s.ths[i]? = some ti →
    s.ths[j]? = some tj → (l, true) ∈ ti.held → (l, w) ∉ tj.held

theorem get_of_grows {α : Type} {l ext : List α} {i : Nat} {y : α} (h : l[i]? = some y) :
    (l ++ ext)[i]? = some y := by
  rw [List.getElem?_append_left (List.getElem?_eq_some_iff.1 h).1]; exact h

theorem getElem?_concat_cases {α : Type} {l : List α} {x y : α} {i : Nat}
    (h : (l ++ [x])[i]? = some y) : l[i]? = some y ∨ (i = l.length ∧ y = x) := by
  by_cases hi : i < l.length
  · rw [List.getElem?_append_left hi] at h; exact .inl h
  · have := (List.getElem?_eq_some_iff.1 h).1
    rw [List.length_append, List.length_singleton] at this
    have hi : i = l.length := by omega
    subst hi
    rw [List.getElem?_concat_length] at h
    exact .inr ⟨rfl, (Option.some.inj h).symm⟩

theorem getElem?_set_cases {α : Type} {l : List α} {x y : α} {k i : Nat}
    (h : (l.set k x)[i]? = some y) : (i = k ∧ y = x) ∨ (i ≠ k ∧ l[i]? = some y) := by
  by_cases hik : k = i
  · subst hik
    rw [List.getElem?_set] at h
    simp only [if_true] at h
    split at h
    · exact .inl ⟨rfl, (Option.some.inj h).symm⟩
    · cases h
  · rw [List.getElem?_set_ne hik] at h
    exact .inr ⟨fun e => hik e.symm, h⟩

theorem mem_set_cases {α : Type} {l : List α} {a : Nat} {x u : α} (h : u ∈ l.set a x) :
    u = x ∨ ∃ b, b ≠ a ∧ l[b]? = some u := by
  obtain ⟨b, hb⟩ := List.getElem?_of_mem h
  rcases getElem?_set_cases hb with ⟨_, e⟩ | hb
  · exact .inl e
  · exact .inr ⟨b, hb⟩

theorem forall_mem_set {α : Type} {l : List α} {P : α → Prop} (h : ∀ u ∈ l, P u) {x : α}
    (hx : P x) (a : Nat) : ∀ u ∈ l.set a x, P u :=
  fun u hu => (List.mem_or_eq_of_mem_set hu).elim (h u) fun e => e ▸ hx

theorem nodup_get_inj {α : Type} {l : List α} (hn : l.Nodup) {i j : Nat} {a : α}
    (hi : l[i]? = some a) (hj : l[j]? = some a) : i = j :=
  (List.getElem?_inj (List.getElem?_eq_some_iff.1 hi).1 hn).1 (hi.trans hj.symm)

theorem MX_step {D L : Type} (sem : Sem D L) (progs : List Prog) (initL : L → Prop)
    (s s' : St D L) (hs : Step sem progs initL s s') (ih : MX s) : MX s' := by
  cases hs with
  | spawn p hp l0 hl =>
    intro i j ti tj l w hij hi hj hw
    rcases getElem?_concat_cases hi with hi | ⟨_, rfl⟩
    · rcases getElem?_concat_cases hj with hj | ⟨_, rfl⟩
      · exact ih i j ti tj l w hij hi hj hw
      · exact List.not_mem_nil
    · cases hw
  | thread k t hk d' t' hn =>
    -- the thread that moved only gave locks up, or took one that `free` said nobody excludes
    have hnh := (next_spec hn).2.2
    intro i j ti tj l w hij hi hj hw
    rcases getElem?_set_cases hi with ⟨rfl, rfl⟩ | ⟨_, hi'⟩ <;>
      rcases getElem?_set_cases hj with ⟨rfl, rfl⟩ | ⟨_, hj'⟩
    · exact absurd rfl hij
    · rcases hnh with hsub | ⟨l', w', hf, he⟩
      · exact ih _ j t tj l w hij hk hj' (hsub _ hw)
      · rw [he, List.mem_cons] at hw
        rcases hw with heq | hw
        · cases heq
          exact free_excl hf (List.mem_of_getElem? hj') (.inl rfl)
        · exact ih _ j t tj l w hij hk hj' hw
    · rcases hnh with hsub | ⟨l', w', hf, he⟩
      · exact fun hm => ih i _ ti t l w hij hi' hk hw (hsub _ hm)
      · rw [he, List.mem_cons]
        rintro (heq | hm)
        · cases heq
          exact free_excl hf (List.mem_of_getElem? hi') (.inr rfl) hw
        · exact ih i _ ti t l w hij hi' hk hw hm
    · exact ih i j ti tj l w hij hi' hj' hw

theorem MX_run {D L : Type} (sem : Sem D L) (progs : List Prog) (initL : L → Prop)
    (d0 : D) (s : St D L) (hr : Run sem progs initL d0 s) : MX s := by
  induction hr with
  | init => intro i j ti tj l w _ hi; simp at hi
  | step _ hs ih => exact MX_step sem progs initL _ _ hs ih

theorem mutual_exclusion {D L : Type} (sem : Sem D L) (progs : List Prog) (initL : L → Prop)
    (d0 : D) (s : St D L) (hr : Run sem progs initL d0 s)
    (i j : Nat) (ti tj : Th L) (l : Lk) (hij : i ≠ j)
    (hi : s.ths[i]? = some ti) (hj : s.ths[j]? = some tj)
    (hw : ti.held.contains (l, true) = true) : holdsAny tj.held l = false :=
  holdsAny_eq_false.2 fun w =>
    MX_run sem progs initL d0 s hr i j ti tj l w hij hi hj (List.contains_iff_mem.1 hw)

end CueVerif.Lockset
