import CueVerif.Proofs.ModCacheInv
/-!
C16: `Inv` is inductive — it holds initially, every branch of `next` is one of the effects of
`Proofs/ModCacheInv.lean` (`inv_next`), and a crash leaves idle threads behind (`inv_crash`) — hence it holds
in every reachable state (any number of processes and goroutines, any interleaving, crashes and registry
faults anywhere), of one version and of the whole cache.

A proof about all of `next` (here `inv_next`; the observations of `Proofs/ModCacheObs.lean` likewise) goes through
its branches by `fun_cases next n s t c`: one goal per branch, in the order in which `Model/ModCache.lean` writes
them, with the tests on the way to the branch as hypotheses and the branch's result in place of `next n s t c`.
-/
namespace CueVerif.ModCache

theorem inv_next {n s t c s' o} (h : Inv n s) (hn : next n s t c = some (s', o)) : Inv n s' := by
  have hg := h.glob
  have ht := h.thr t
  revert hn
  fun_cases next n s t c
  all_goals intro hn; cases hn
  all_goals have hd : s.dead t.1 = false := Bool.eq_false_iff.mpr ‹_›
  -- one goal per branch of `next` that makes a step, in the order of `next`
  -- idle
  · next hp _ => exact h.move hp hd rfl rfl nofun nofun trivial
  · next hp _ => exact h.move hp hd rfl rfl nofun nofun trivial
  · next hp _ => exact h.move hp hd rfl rfl nofun nofun trivial
  -- fStatDir
  · next hp _ => exact h.move hp hd rfl rfl nofun nofun trivial
  · next hp _ e => exact h.move hp hd rfl rfl nofun nofun (.inl (e ▸ rfl))
  -- fStatMark
  · next hp _ => exact h.move hp hd rfl rfl nofun nofun trivial
  · next hp _ => exact h.move hp hd rfl rfl nofun nofun trivial
  -- cStatDir
  · next hp _ => exact h.move hp hd rfl rfl nofun nofun trivial
  · next hp _ e => exact h.move hp hd rfl rfl nofun nofun (.inl (e ▸ rfl))
  -- cStatMark
  · next hp _ => exact h.move hp hd rfl rfl nofun nofun trivial
  · next hp _ => exact h.move hp hd rfl rfl nofun nofun trivial
  -- zEnter
  · next hp e =>
    exact h.zc hp rfl (fun g x => nomatch e ▸ x) nofun nofun
      ⟨nofun, ⟨fun _ => upd_same .., fun _ => hg.z.idle _ e⟩, ⟨nofun, nofun⟩, nofun, nofun, trivial,
        fun x => (nomatch hd ▸ x)⟩
  · next hp e => exact h.move hp hd rfl rfl (fun _ => hg.z.done _ e) nofun trivial
  · next hp _ => exact h.move hp hd rfl rfl nofun nofun trivial
  -- zStat1
  · next hp _ e =>
    rw [hp] at ht
    exact h.zc hp rfl (fun g x => (CSt.running.inj ((ht.z.run rfl).symm.trans x)).symm) nofun
      (fun _ => e ▸ rfl)
      { ht.to (q' := .lLock) rfl hd nofun (fun _ => e ▸ rfl) nofun trivial with z := ⟨nofun, nofun⟩ }
  · next hp _ => exact h.move hp hd rfl rfl nofun nofun trivial
  -- zLock
  · next hp e => exact h.acquire hp hd e rfl rfl nofun nofun trivial
  -- zStat2
  · next hp _ e => exact h.move hp hd rfl rfl (fun _ => e ▸ rfl) nofun trivial
  · next hp _ => exact h.move hp hd rfl rfl nofun nofun trivial
  -- zClean
  · next hp _ => exact h.move hp hd rfl rfl nofun nofun trivial
  · next hp k _ _ _ =>
    have := h.tmps (q' := .zClean) hp hd rfl rfl rfl (tdel k s.ztmps) s.mtmps nofun nofun trivial
    rwa [upd_self hp] at this
  -- zCreate
  · next hp _ =>
    exact h.tmps hp hd rfl rfl rfl (tset c.name .part s.ztmps) s.mtmps nofun nofun (tget_tset_same ..)
  -- zGet
  · next k hp =>
    rw [hp] at ht
    cases c.fault
    · exact h.nget (q' := .zCopy k) rfl (ht.z.run rfl) (ht.z.zero rfl)
        ⟨fun _ => ht.crit_lock rfl, ⟨fun _ => ht.z.run rfl, nofun⟩, ⟨nofun, nofun⟩, nofun, nofun, ht.loc,
          fun x => (nomatch hd ▸ x)⟩
    · exact h.nget (q' := .zFail k) rfl (ht.z.run rfl) (ht.z.zero rfl)
        ⟨fun _ => ht.crit_lock rfl, ⟨fun _ => ht.z.run rfl, nofun⟩, ⟨nofun, nofun⟩, nofun, nofun, trivial,
          fun x => (nomatch hd ▸ x)⟩
  -- zCopy
  · next k hp _ => exact h.move hp hd rfl rfl nofun nofun trivial
  · next k hp _ =>
    rw [hp] at ht
    exact h.tmps hp hd rfl rfl rfl _ s.mtmps nofun nofun
      (show tget k (if (tget k s.ztmps).isSome then _ else _) = _ by
        rw [ht.loc]; exact tget_tset_same ..)
  -- zRename
  · next k hp b e =>
    rw [hp] at ht
    exact h.fs hp hd rfl rfl rfl (zt := tdel k s.ztmps) (mt := s.mtmps)
      { hg with
        zip_ok := fun b' x => Option.some.inj x ▸ Option.some.inj (e.symm.trans ht.loc)
        z := hg.z.mono fun _ => rfl }
      (fun _ => rfl) id (fun _ => rfl) nofun trivial
  · next k hp _ => exact h.move hp hd rfl rfl nofun nofun trivial
  -- zFail
  · next k hp => exact h.tmps hp hd rfl rfl rfl (tdel k s.ztmps) s.mtmps nofun nofun trivial
  -- zUnlock
  · next ok hp =>
    rw [hp] at ht
    rw [unlock_holder (ht.crit_lock rfl)]
    cases ok
    · exact h.release_zc (q' := .idle) hp rfl rfl (ht.z.run rfl) rfl nofun
        (ht.to rfl hd nofun nofun nofun trivial)
    · exact h.release_zc (q' := .lLock) hp rfl rfl (ht.z.run rfl) rfl (fun _ => ht.has_zip rfl)
        (ht.to rfl hd nofun (fun _ => ht.has_zip rfl) nofun trivial)
  -- lLock
  · next hp e =>
    rw [hp] at ht
    exact h.acquire hp hd e rfl rfl (fun _ => ht.has_zip rfl) nofun trivial
  -- lStatDir
  · next hp e =>
    rw [hp] at ht
    exact h.move hp hd rfl rfl (fun _ => ht.has_zip rfl) nofun e
  · next hp _ e =>
    rw [hp] at ht
    exact h.move hp hd rfl rfl (fun _ => ht.has_zip rfl) nofun (show _ = _ from e ▸ rfl)
  -- lStatMark
  · next hp e =>
    rw [hp] at ht
    exact h.move hp hd rfl rfl (fun _ => ht.has_zip rfl) nofun e
  · next hp e =>
    rw [hp] at ht
    have e : s.mark = false := by simpa using e
    obtain ⟨d, hdir⟩ := Option.isSome_iff_exists.mp ht.loc
    exact h.move hp hd rfl rfl nofun nofun ⟨hdir.trans (congrArg some (hg.avail_ok e d hdir)), e⟩
  -- lRmAll
  · next hp e =>
    rw [hp] at ht
    exact h.move hp hd rfl rfl (fun _ => ht.has_zip rfl) nofun e
  · next hp d _ =>
    rw [hp] at ht
    have := h.dirmark (q' := .lRmAll) (d := rmOne d) hp hd rfl rfl rfl (fun x => nomatch ht.loc ▸ x)
      (fun _ => .inr ht.loc) (fun _ => ht.has_zip rfl) nofun ht.loc
    rwa [upd_self hp] at this
  -- lMark
  · next hp =>
    rw [hp] at ht
    exact h.dirmark hp hd rfl rfl rfl nofun (fun _ => .inr rfl) (fun _ => ht.has_zip rfl) nofun
      ⟨ht.loc, rfl⟩
  -- uCheck: `Unzip` finds no directory and an archive, its failure path is not taken
  · next hp e =>
    rw [hp] at ht
    obtain ⟨b, hb⟩ := Option.isSome_iff_exists.mp (ht.has_zip rfl)
    simp [ht.loc.1, hb] at e
  · next hp _ =>
    rw [hp] at ht
    exact h.move hp hd rfl rfl (fun _ => ht.has_zip rfl) nofun ht.loc
  -- uMkdir
  · next hp =>
    rw [hp] at ht
    obtain ⟨b, hb⟩ := Option.isSome_iff_exists.mp (ht.has_zip rfl)
    exact h.dirmark hp hd rfl rfl rfl (fun x => nomatch ht.loc.2 ▸ x) (fun _ => .inr ht.loc.2)
      (fun _ => ht.has_zip rfl) nofun
      ⟨by rw [ht.loc.1, hb, hg.zip_ok b hb]; rfl, ht.loc.2, Nat.zero_le n⟩
  -- uCreate
  · next i hp e =>
    rw [hp] at ht
    exact h.dirmark hp hd rfl rfl rfl (fun x => nomatch ht.loc.2.1 ▸ x) (fun _ => .inr ht.loc.2.1)
      (fun _ => ht.has_zip rfl) nofun ⟨by rw [ht.loc.1], ht.loc.2.1, e⟩
  · next i hp e =>
    rw [hp] at ht
    have hi : i = n := Nat.le_antisymm ht.loc.2.2 (Nat.not_lt.mp e)
    exact h.move hp hd rfl rfl nofun nofun ⟨hi ▸ ht.loc.1, ht.loc.2.1⟩
  -- uWrite
  · next i hp =>
    rw [hp] at ht
    exact h.dirmark hp hd rfl rfl rfl (fun x => nomatch ht.loc.2.1 ▸ x) (fun _ => .inr ht.loc.2.1)
      (fun _ => ht.has_zip rfl) nofun ⟨by rw [ht.loc.1], ht.loc.2.1, ht.loc.2.2⟩
  -- fUnmark
  · next hp _ =>
    rw [hp] at ht
    exact h.dirmark hp hd rfl rfl rfl (fun _ x hx => Option.some.inj (hx.symm.trans ht.loc.1))
      (fun _ => .inl (ht.loc.1 ▸ rfl)) nofun nofun ⟨ht.loc.1, rfl⟩
  · next hp e => rw [hp] at ht; exact absurd ht.loc.2 e
  -- fReadOnly
  · next hp => rw [hp] at ht; exact h.move hp hd rfl rfl nofun nofun ht.loc
  -- fUnlock
  · next r hp =>
    rw [hp] at ht
    rw [unlock_holder (ht.crit_lock rfl)]
    exact h.release hp rfl rfl (ht.to rfl hd nofun nofun nofun trivial)
  -- eRmAll, eUnmark: not reached
  · next hp _ => rw [hp] at ht; exact ht.loc.elim
  · next hp _ _ => rw [hp] at ht; exact ht.loc.elim
  · next hp => rw [hp] at ht; exact ht.loc.elim
  -- mEnter
  · next hp e =>
    exact h.mc hp rfl (fun g x => nomatch e ▸ x) nofun nofun
      ⟨nofun, ⟨nofun, nofun⟩, ⟨fun _ => upd_same .., fun _ => hg.m.idle _ e⟩, nofun, nofun, trivial,
        fun x => (nomatch hd ▸ x)⟩
  · next hp _ => exact h.move hp hd rfl rfl nofun nofun trivial
  · next hp _ => exact h.move hp hd rfl rfl nofun nofun trivial
  -- mRead1
  · next hp _ e =>
    rw [hp] at ht
    exact h.mc hp rfl (fun g x => (CSt.running.inj ((ht.m.run rfl).symm.trans x)).symm) nofun
      (fun _ => e ▸ rfl) { ht.to (q' := .idle) rfl hd nofun nofun nofun trivial with m := ⟨nofun, nofun⟩ }
  · next hp _ => exact h.move hp hd rfl rfl nofun nofun trivial
  -- mLock
  · next hp e => exact h.acquire hp hd e rfl rfl nofun nofun trivial
  -- mRead2
  · next hp _ e => exact h.move hp hd rfl rfl nofun (fun _ => e ▸ rfl) trivial
  · next hp _ => exact h.move hp hd rfl rfl nofun nofun trivial
  -- mGet
  · next hp _ => exact h.move hp hd rfl rfl nofun nofun trivial
  · next hp _ =>
    rw [hp] at ht
    exact h.nmod rfl (ht.m.run rfl) (ht.m.zero rfl)
      ⟨fun _ => ht.crit_lock rfl, ⟨nofun, nofun⟩, ⟨fun _ => ht.m.run rfl, nofun⟩, nofun, nofun, trivial,
        fun x => (nomatch hd ▸ x)⟩
  -- mCreate
  · next hp _ =>
    exact h.tmps hp hd rfl rfl rfl s.ztmps (tset c.name .part s.mtmps) nofun nofun (tget_tset_same ..)
  -- mWrite
  · next k hp =>
    rw [hp] at ht
    exact h.tmps hp hd rfl rfl rfl s.ztmps _ nofun nofun
      (show tget k (if (tget k s.mtmps).isSome then _ else _) = _ by
        rw [ht.loc]; exact tget_tset_same ..)
  -- mRename
  · next k hp b e =>
    rw [hp] at ht
    exact h.fs hp hd rfl rfl rfl (zt := s.ztmps) (mt := tdel k s.mtmps)
      { hg with
        mod_ok := fun b' x => Option.some.inj x ▸ Option.some.inj (e.symm.trans ht.loc)
        m := hg.m.mono fun _ => rfl }
      id id nofun (fun _ => rfl) trivial
  · next k hp _ => exact h.move hp hd rfl rfl nofun nofun trivial
  -- mFail
  · next k hp => exact h.tmps hp hd rfl rfl rfl s.ztmps (tdel k s.mtmps) nofun nofun trivial
  -- mUnlock
  · next ok hp =>
    rw [hp] at ht
    rw [unlock_holder (ht.crit_lock rfl)]
    exact h.release_mc hp rfl rfl (ht.m.run rfl) rfl (fun x => ht.has_mod (x ▸ rfl))
      (ht.to rfl hd nofun nofun nofun trivial)

theorem inv_init (n : Nat) : Inv n VSt.init :=
  .of_thr ⟨nofun, nofun, nofun, ⟨fun _ => Nat.zero_le 1, fun _ _ => rfl, nofun⟩,
    ⟨fun _ => Nat.zero_le 1, fun _ _ => rfl, nofun⟩⟩ nofun Thr.idle

/-- killing a process at any point preserves the invariant: its threads become idle, the others keep
what they rely on (a lock held by a live thread is not released) -/
theorem inv_crash {n s} (h : Inv n s) (p : Pid) : Inv n (crash s p) := by
  have hpc : ∀ u, (crash s p).pc u = if u.1 = p then .idle else s.pc u := fun u => rfl
  refine .of_thr { h.glob with } (fun v hv => ?_) (fun u => ?_)
  · obtain ⟨hl, hv⟩ := crash_lock.mp hv
    rw [hpc, if_neg hv]
    exact h.lock_crit v hl
  · rw [hpc]
    by_cases e : u.1 = p
    · rw [if_pos e]; exact .idle u
    · rw [if_neg e]
      exact { h.thr u with
        crit_lock := fun hc => crash_lock.mpr ⟨(h.thr u).crit_lock hc, e⟩,
        dead_idle := fun hd => (h.thr u).dead_idle ((upd_other s.dead p u.1 true e).symm.trans hd) }

theorem inv_step {n s s'} (h : Inv n s) (hs : Step n s s') : Inv n s' := by
  cases hs with
  | act _ t c o hn => exact inv_next h hn
  | crash p => exact inv_crash h p

theorem reachable_inv {n s} (hr : Reachable n s) : Inv n s := by
  induction hr with
  | init => exact inv_init n
  | step _ hs ih => exact inv_step ih hs

/-! ### the whole cache -/

/-- the invariant of the whole cache: every version's component satisfies `Inv` -/
def GInv (n : Ver → Nat) (g : GSt) : Prop := ∀ v, Inv (n v) (g v)

theorem ginv_init (n : Ver → Nat) : GInv n (fun _ => VSt.init) := fun v => inv_init (n v)

theorem ginv_step {n g g'} (h : GInv n g) (hs : GStep n g g') : GInv n g' := by
  cases hs with
  | act v s' t c o hn =>
    intro w
    by_cases e : w = v
    · subst e; simp only [upd_same]; exact inv_next (h w) hn
    · rw [upd_other _ _ _ _ e]; exact h w
  | crash p => intro w; exact inv_crash (h w) p

theorem greachable_inv {n g} (hr : GReachable n g) : GInv n g := by
  induction hr with
  | init => exact ginv_init n
  | step _ hs ih => exact ginv_step ih hs

end CueVerif.ModCache
