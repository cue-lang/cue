import CueVerif.Spec.ModCache
/-!
C16: the data the model is built from — the temp-file maps, function update, the lock — and which fields
`Local` and the program-point classes of `Spec/ModCache.lean` depend on.
-/
namespace CueVerif.ModCache

/-! ### temp-file maps -/

@[simp] theorem tget_tdel_same (t : Nat) (l : Tmps) : tget t (tdel t l) = none := by
  induction l with
  | nil => rfl
  | cons e r ih =>
    obtain ⟨k, b⟩ := e
    by_cases h : k = t <;> simp [tdel, tget, h, ih]

theorem tget_tdel_other (t k : Nat) (l : Tmps) (h : k ≠ t) : tget k (tdel t l) = tget k l := by
  induction l with
  | nil => rfl
  | cons e r ih =>
    obtain ⟨j, b⟩ := e
    by_cases hj : j = t
    · subst hj
      have : ¬ j = k := fun e => h e.symm
      simp [tdel, tget, ih, this]
    · by_cases hk : j = k
      · subst hk; simp [tdel, tget, hj]
      · simp [tdel, tget, hj, hk, ih]

@[simp] theorem tget_tset_same (t : Nat) (b : Blob) (l : Tmps) : tget t (tset t b l) = some b := by
  simp [tset, tget]

theorem tget_tset_other (t k : Nat) (b : Blob) (l : Tmps) (h : k ≠ t) :
    tget k (tset t b l) = tget k l := by
  have : ¬ t = k := fun e => h e.symm
  simp [tset, tget, this, tget_tdel_other t k l h]

theorem tdel_length_le (t : Nat) (l : Tmps) : (tdel t l).length ≤ l.length := by
  induction l with
  | nil => exact Nat.le_refl _
  | cons e r ih =>
    obtain ⟨k, b⟩ := e
    by_cases h : k = t <;> simp [tdel, h] <;> omega

theorem tdel_head_length_lt (k : Nat) (b : Blob) (r : Tmps) :
    (tdel k ((k, b) :: r)).length < ((k, b) :: r).length := by
  have := tdel_length_le k r
  simp [tdel]; omega

theorem foldl_max_ge (l : Tmps) (m : Nat) :
    m ≤ l.foldl (fun m e => max m (e.1 + 1)) m := by
  induction l generalizing m with
  | nil => exact Nat.le_refl _
  | cons e r ih => exact Nat.le_trans (Nat.le_max_left _ _) (ih _)

theorem tget_lt_foldl (l : Tmps) (m t : Nat) (h : (tget t l).isSome = true) :
    t < l.foldl (fun m e => max m (e.1 + 1)) m := by
  induction l generalizing m with
  | nil => simp [tget] at h
  | cons e r ih =>
    obtain ⟨k, b⟩ := e
    by_cases hk : k = t
    · subst hk
      have := foldl_max_ge r (max m (k + 1))
      simp only [List.foldl_cons]
      omega
    · simp [tget, hk] at h
      exact ih _ (by simp [h])

theorem tget_fresh (l : Tmps) : tget (fresh l) l = none := by
  cases h : tget (fresh l) l with
  | none => rfl
  | some b =>
    have := tget_lt_foldl l 0 (fresh l) (by simp [h])
    simp [fresh] at this

/-! ### function update -/

@[simp] theorem upd_same {α β} [DecidableEq α] (f : α → β) (a : α) (b : β) : upd f a b a = b := by
  simp [upd]

theorem upd_other {α β} [DecidableEq α] (f : α → β) (a x : α) (b : β) (h : x ≠ a) :
    upd f a b x = f x := by
  simp [upd, h]

theorem upd_self {α β} [DecidableEq α] {f : α → β} {a : α} {b : β} (h : f a = b) : upd f a b = f := by
  funext x; by_cases e : x = a
  · subst e; rw [upd_same, h]
  · exact upd_other f a x b e

/-! ### the lock -/

theorem unlock_holder {s : VSt} {t : Tid} (h : s.lock = some t) : unlock s t = none := by
  simp [unlock, h]

/-- the OS releases the flock of a killed process, and no other -/
theorem crash_lock {s : VSt} {p : Pid} {v : Tid} :
    (crash s p).lock = some v ↔ s.lock = some v ∧ v.1 ≠ p := by
  cases hs : s.lock with
  | none => simp [crash, hs]
  | some j =>
    by_cases e : j.1 = p <;> simp [crash, hs, e]
    all_goals rintro rfl; exact e

/-! ### `Local` looks at the files only -/

theorem local_congr {n : Nat} {s s' : VSt} (pc : Pc)
    (h1 : s'.dir = s.dir) (h2 : s'.mark = s.mark) (h3 : s'.ztmps = s.ztmps) (h4 : s'.mtmps = s.mtmps) :
    Local n s' pc = Local n s pc := by
  cases pc <;> simp [Local, h1, h2, h3, h4]
  all_goals (rename_i r; cases r <;> simp [Local, h1, h2, h3, h4])

theorem local_noncrit {n : Nat} {s s' : VSt} (pc : Pc) (hc : pc.crit = false)
    (hm : (s.dir.isSome = true ∨ s.mark = true) → (s'.dir.isSome = true ∨ s'.mark = true))
    (h : Local n s pc) : Local n s' pc := by
  cases pc <;> simp_all [Local, Pc.crit]

theorem zpre_zphase (pc : Pc) (h : pc.zpre = true) : pc.zphase = true := by
  cases pc <;> simp_all [Pc.zpre, Pc.zphase]
theorem mpre_mphase (pc : Pc) (h : pc.mpre = true) : pc.mphase = true := by
  cases pc <;> simp_all [Pc.mpre, Pc.mphase]

end CueVerif.ModCache
