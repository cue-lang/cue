import CueVerif.Proofs.ModCacheBase
/-!
C16: `Inv` as a proof outline, and the kinds of effect that keep it.

`Inv` = `Glob` (the clauses that do not mention program counters) + "the holder of the lock is inside
a locked region" + `Thr n s u (s.pc u)` for every thread `u`: what a thread standing at a program point
relies on, stated about the shared state only (`Inv.thr`, `Inv.glob`, and back by `Inv.of_thr`). A step of
`t` then owes (`Inv.frame`) `Glob` afterwards, `Thr` for `t` at its new program point, and non-interference:
what every other thread relies on survives. Non-interference is proved per kind of effect on the shared
state, not per program point, and says which clause of `Thr` the effect touches: `{ h.thr u with z := … }`.
Two disciplines carry it. Files are written under the lock only: everybody else is then outside the locked
regions (`Inv.others_noncrit`), where a thread relies on the files only through facts that stay true (`Thr.fs`).
An entry of a single-flight cache and its counter are written only by the goroutine that runs the entry, or
that finds it idle (`Flight.set`, `Flight.bump`); the two caches (`downloadZipCache` with the GetZip counter and
the zip, `modFileCache` with the ModuleFile counter and the module file) are the two instances of `Flight` /
`GFlight`.

Nothing here mentions `next`: `Proofs/ModCache.lean` shows that each of its branches is one of these effects.
-/
namespace CueVerif.ModCache

/-- what goroutine `g` relies on about one `par.ErrCache` entry `e` of its process and the number `k` of
registry calls made under it: inside the function passed to `Do` (`ph`) the entry is running for `g`;
before the registry call (`pre`) nothing has been counted -/
structure Flight (e : CSt) (k g : Nat) (ph pre : Bool) : Prop where
  run : ph = true → e = .running g
  zero : pre = true → k = 0

/-- one single-flight cache over all processes, its call counters and the file it produces -/
structure GFlight (e : Pid → CSt) (k : Pid → Nat) (file : Option Blob) : Prop where
  le : ∀ p, k p ≤ 1
  idle : ∀ p, e p = .idle → k p = 0
  done : ∀ p, e p = .done true → file.isSome = true

section
variable {e : Pid → CSt} {k : Pid → Nat} {fl : Option Blob} {u t : Tid} {ph pre : Bool}

/-- `t` sets its process's entry, which is idle or run by `t` itself: no other goroutine of that
process is inside `Do` -/
theorem Flight.set (h : Flight (e u.1) (k u.1) u.2 ph pre) (hu : u ≠ t)
    (hz : ∀ g, e t.1 = .running g → g = t.2) (c : CSt) : Flight (upd e t.1 c u.1) (k u.1) u.2 ph pre := by
  refine ⟨fun hq => ?_, h.zero⟩
  have hr := h.run hq
  by_cases x : u.1 = t.1
  · exact absurd (Prod.ext x (hz u.2 (x ▸ hr))) hu
  · exact (upd_other e t.1 u.1 c x).trans hr

/-- `t` counts a registry call from inside `Do` -/
theorem Flight.bump (h : Flight (e u.1) (k u.1) u.2 ph pre) (hpp : pre = true → ph = true) (hu : u ≠ t)
    (hz : e t.1 = .running t.2) (j : Nat) : Flight (e u.1) (upd k t.1 j u.1) u.2 ph pre := by
  refine ⟨h.run, fun hq => ?_⟩
  by_cases x : u.1 = t.1
  · have hr := h.run (hpp hq)
    rw [x, hz] at hr
    exact absurd (Prod.ext x (CSt.running.inj hr).symm) hu
  · exact (upd_other k t.1 u.1 j x).trans (h.zero hq)

theorem GFlight.set (h : GFlight e k fl) (p : Pid) {c : CSt} (hc : c ≠ .idle)
    (hd : c = .done true → fl.isSome = true) : GFlight (upd e p c) k fl := by
  refine ⟨h.le, fun r hr => ?_, fun r hr => ?_⟩ <;> by_cases x : r = p
  · subst x; exact absurd (upd_same e r c ▸ hr) hc
  · exact h.idle r (upd_other e p r c x ▸ hr)
  · subst x; exact hd (upd_same e r c ▸ hr)
  · exact h.done r (upd_other e p r c x ▸ hr)

/-- the first (and only) registry call of a process whose entry is running -/
theorem GFlight.bump (h : GFlight e k fl) (p : Pid) (h0 : k p = 0) (hr : e p ≠ .idle) :
    GFlight e (upd k p (k p + 1)) fl := by
  refine ⟨fun r => ?_, fun r hi => ?_, h.done⟩ <;> by_cases x : r = p
  · subst x; exact Nat.le_of_eq ((upd_same k r _).trans (by rw [h0]))
  · exact Nat.le_trans (Nat.le_of_eq (upd_other k p r _ x)) (h.le r)
  · subst x; exact absurd hi hr
  · exact (upd_other k p r _ x).trans (h.idle r hi)

theorem GFlight.mono (h : GFlight e k fl) {f : Option Blob} (hf : fl.isSome = true → f.isSome = true) :
    GFlight e k f :=
  ⟨h.le, h.idle, fun p hp => hf (h.done p hp)⟩

end

/-- the files, which is all that `Local` reads -/
def VSt.files (s : VSt) : VSt :=
  { VSt.init with dir := s.dir, mark := s.mark, ztmps := s.ztmps, mtmps := s.mtmps }

theorem local_files {n : Nat} {s : VSt} (q : Pc) : Local n s.files q = Local n s q :=
  local_congr q rfl rfl rfl rfl

structure Thr (n : Nat) (s : VSt) (u : Tid) (q : Pc) : Prop where
  crit_lock : q.crit = true → s.lock = some u
  z : Flight (s.zc u.1) (s.nget u.1) u.2 q.zphase q.zpre
  m : Flight (s.mc u.1) (s.nmod u.1) u.2 q.mphase q.mpre
  has_zip : q.needZip = true → s.zip.isSome = true
  has_mod : q = .mUnlock true → s.modf.isSome = true
  floc : Local n s.files q
  dead_idle : s.dead u.1 = true → q = .idle

structure Glob (n : Nat) (s : VSt) : Prop where
  zip_ok : ∀ b, s.zip = some b → b = .full
  mod_ok : ∀ b, s.modf = some b → b = .full
  avail_ok : s.mark = false → ∀ d, s.dir = some d → d = ⟨n, false, true⟩
  z : GFlight s.zc s.nget s.zip
  m : GFlight s.mc s.nmod s.modf

section
variable {n : Nat} {s : VSt}

theorem Thr.loc {u : Tid} {q : Pc} (h : Thr n s u q) : Local n s q := (local_files q).mp h.floc

theorem Inv.thr (h : Inv n s) (u : Tid) : Thr n s u (s.pc u) :=
  ⟨h.crit_lock u, ⟨h.zphase u, h.zpre u⟩, ⟨h.mphase u, h.mpre u⟩, h.has_zip u, h.has_mod u,
    (local_files _).mpr (h.loc u), h.dead_idle u⟩

theorem Inv.glob (h : Inv n s) : Glob n s :=
  ⟨h.zip_ok, h.mod_ok, h.avail_ok, ⟨h.nget_le, h.zc_idle, h.zc_done⟩, ⟨h.nmod_le, h.mc_idle, h.mc_done⟩⟩

theorem Inv.of_thr (glob : Glob n s) (lock_crit : ∀ v, s.lock = some v → (s.pc v).crit = true)
    (thr : ∀ u, Thr n s u (s.pc u)) : Inv n s :=
  ⟨glob.zip_ok, glob.mod_ok, glob.avail_ok, glob.z.le, glob.m.le, glob.z.idle, glob.m.idle,
    glob.z.done, glob.m.done, fun u => (thr u).crit_lock, lock_crit,
    fun u => (thr u).z.run, fun u => (thr u).z.zero, fun u => (thr u).m.run, fun u => (thr u).m.zero,
    fun u => (thr u).has_zip, fun u => (thr u).has_mod, fun u => (thr u).loc,
    fun u => (thr u).dead_idle⟩

/-- an idle thread relies on nothing -/
theorem Thr.idle (u : Tid) : Thr n s u .idle :=
  ⟨nofun, ⟨nofun, nofun⟩, ⟨nofun, nofun⟩, nofun, nofun, trivial, fun _ => rfl⟩

/-- a step of `t` to `q'`: `Glob` afterwards, the lock passes only through `t`'s hands, `t` has what it
relies on at `q'`, and everybody else keeps what they rely on where they stand -/
theorem Inv.frame {s' : VSt} (h : Inv n s) (t : Tid) (q' : Pc) (hpc : s'.pc = upd s.pc t q')
    (glob : Glob n s')
    (lock : ∀ v, v ≠ t → s'.lock = some v → s.lock = some v)
    (own : s'.lock = some t → q'.crit = true)
    (self : Thr n s' t q')
    (frame : ∀ u, u ≠ t → Thr n s' u (s.pc u)) : Inv n s' := by
  refine .of_thr glob (fun v hv => ?_) (fun u => ?_) <;> rw [hpc]
  · by_cases x : v = t
    · subst x; rw [upd_same]; exact own hv
    · rw [upd_other _ _ _ _ x]; exact h.lock_crit v (lock v x hv)
  · by_cases hu : u = t
    · subst hu; rw [upd_same]; exact self
    · rw [upd_other _ _ _ _ hu]; exact frame u hu

end

/-! ### non-interference -/

section
variable {n : Nat} {s : VSt} {u t : Tid} {q : Pc}

/-- while the lock is free or held by somebody else, a thread is outside the locked regions -/
theorem Thr.noncrit (h : Thr n s u q) (hl : s.lock ≠ some u) : q.crit = false := by
  cases hc : q.crit with
  | false => rfl
  | true => exact absurd (h.crit_lock hc) hl

/-- files change: a thread outside the locked regions relies only on the zip, once there, staying
there, and on "the directory or the marker exists" staying true -/
theorem Thr.fs (h : Thr n s u q) (hc : q.crit = false)
    {d : Option DirSt} {m : Bool} {z : Option Blob} (zt : Tmps) (mf : Option Blob) (mt : Tmps)
    (hz : s.zip.isSome = true → z.isSome = true)
    (hdm : (s.dir.isSome = true ∨ s.mark = true) → (d.isSome = true ∨ m = true)) :
    Thr n { s with dir := d, mark := m, zip := z, ztmps := zt, modf := mf, mtmps := mt } u q :=
  { h with
    has_zip := fun hq => hz (h.has_zip hq)
    has_mod := fun hq => by subst hq; cases hc
    floc := local_noncrit q hc hdm h.floc }

end

/-- `q'` asks for nothing about the single-flight entries and the counters that `q` does not
already grant -/
def Pc.within (q' q : Pc) : Bool :=
  (!q'.zphase || q.zphase) && (!q'.zpre || q.zpre) && (!q'.mphase || q.mphase) && (!q'.mpre || q.mpre)

section
variable {n : Nat} {s : VSt} {t : Tid} {q q' : Pc}

theorem Pc.within_imp (hw : q'.within q = true) :
    (q'.zphase = true → q.zphase = true) ∧ (q'.zpre = true → q.zpre = true) ∧
    (q'.mphase = true → q.mphase = true) ∧ (q'.mpre = true → q.mpre = true) := by
  simp only [Pc.within, Bool.and_eq_true, Bool.or_eq_true, Bool.not_eq_true'] at hw
  obtain ⟨⟨⟨a, b⟩, d⟩, e⟩ := hw
  exact ⟨fun x => by simpa [x] using a, fun x => by simpa [x] using b, fun x => by simpa [x] using d,
    fun x => by simpa [x] using e⟩

theorem Thr.to (h : Thr n s t q) (hw : q'.within q = true) (hd : s.dead t.1 = false) {l : Option Tid}
    {d : Option DirSt} {m : Bool} {z : Option Blob} {zt : Tmps} {mf : Option Blob} {mt : Tmps}
    (hc : q'.crit = true → l = some t)
    (hz : q'.needZip = true → z.isSome = true) (hm : q' = .mUnlock true → mf.isSome = true)
    (hl : Local n { s with dir := d, mark := m, zip := z, ztmps := zt, modf := mf, mtmps := mt } q') :
    Thr n { s with lock := l, dir := d, mark := m, zip := z, ztmps := zt, modf := mf, mtmps := mt } t q' :=
  have ⟨a, b, d, e⟩ := Pc.within_imp hw
  ⟨hc, ⟨fun x => h.z.run (a x), fun x => h.z.zero (b x)⟩, ⟨fun x => h.m.run (d x), fun x => h.m.zero (e x)⟩,
    hz, hm, (local_congr q' rfl rfl rfl rfl).mpr hl, fun x => (nomatch hd ▸ x)⟩

theorem Inv.move (h : Inv n s) (hp : s.pc t = q) (hd : s.dead t.1 = false) (hc : q'.crit = q.crit)
    (hw : q'.within q = true) (hz : q'.needZip = true → s.zip.isSome = true)
    (hm : q' = .mUnlock true → s.modf.isSome = true) (hl : Local n s q') :
    Inv n { s with pc := upd s.pc t q' } :=
  have ht := hp ▸ h.thr t
  -- `{ x with }`, here and below: the clauses of `x`, read for a state that differs only in fields they do not mention
  h.frame t q' rfl { h.glob with } (fun _ _ hv => hv) (fun hv => by rw [hc, ← hp]; exact h.lock_crit t hv)
    { ht.to hw hd (fun x => ht.crit_lock (hc ▸ x)) hz hm hl with } (fun u _ => { h.thr u with })

theorem Inv.acquire (h : Inv n s) (hp : s.pc t = q) (hd : s.dead t.1 = false) (hf : s.lock = none)
    (hc : q'.crit = true) (hw : q'.within q = true) (hz : q'.needZip = true → s.zip.isSome = true)
    (hm : q' = .mUnlock true → s.modf.isSome = true) (hl : Local n s q') :
    Inv n { s with pc := upd s.pc t q', lock := some t } :=
  have ht := hp ▸ h.thr t
  h.frame t q' rfl { h.glob with } (fun v hv e => absurd (Option.some.inj e).symm hv) (fun _ => hc)
    { ht.to hw hd (fun _ => rfl) hz hm hl with }
    (fun u _ => { h.thr u with crit_lock := fun x => nomatch ((h.thr u).noncrit (by simp [hf])) ▸ x })

/-- when `t` holds the lock everybody else is outside the locked regions -/
theorem Inv.others_noncrit (h : Inv n s) (hlk : s.lock = some t) {u : Tid} (hu : u ≠ t) :
    (s.pc u).crit = false :=
  (h.thr u).noncrit (hlk ▸ fun x => hu (Option.some.inj x).symm)

/-- `t`, holding the lock, changes files and stays inside the locked region -/
theorem Inv.fs (h : Inv n s) (hp : s.pc t = q) (hd : s.dead t.1 = false) (hq : q.crit = true)
    (hc : q'.crit = true) (hw : q'.within q = true)
    {d : Option DirSt} {m : Bool} {z : Option Blob} {zt : Tmps} {mf : Option Blob} {mt : Tmps}
    (glob : Glob n { s with dir := d, mark := m, zip := z, ztmps := zt, modf := mf, mtmps := mt })
    (hz : s.zip.isSome = true → z.isSome = true)
    (hdm : (s.dir.isSome = true ∨ s.mark = true) → (d.isSome = true ∨ m = true))
    (hnz : q'.needZip = true → z.isSome = true) (hhm : q' = .mUnlock true → mf.isSome = true)
    (hl : Local n { s with dir := d, mark := m, zip := z, ztmps := zt, modf := mf, mtmps := mt } q') :
    Inv n { s with pc := upd s.pc t q', dir := d, mark := m, zip := z, ztmps := zt, modf := mf,
                   mtmps := mt } :=
  have ht := hp ▸ h.thr t
  have hlk := ht.crit_lock hq
  h.frame t q' rfl { glob with } (fun _ _ hv => hv) (fun _ => hc)
    { ht.to hw hd (fun _ => hlk) hnz hhm hl with }
    (fun u hu => { (h.thr u).fs (h.others_noncrit hlk hu) zt mf mt hz hdm with })

theorem Inv.tmps (h : Inv n s) (hp : s.pc t = q) (hd : s.dead t.1 = false) (hq : q.crit = true)
    (hc : q'.crit = true) (hw : q'.within q = true) (zt mt : Tmps)
    (hnz : q'.needZip = true → s.zip.isSome = true) (hhm : q' = .mUnlock true → s.modf.isSome = true)
    (hl : Local n { s with ztmps := zt, mtmps := mt } q') :
    Inv n { s with pc := upd s.pc t q', ztmps := zt, mtmps := mt } :=
  h.fs hp hd hq hc hw { h.glob with } id id hnz hhm hl

theorem Inv.dirmark (h : Inv n s) (hp : s.pc t = q) (hd : s.dead t.1 = false) (hq : q.crit = true)
    (hc : q'.crit = true) (hw : q'.within q = true) {d : Option DirSt} {m : Bool}
    (avail_ok : m = false → ∀ x, d = some x → x = ⟨n, false, true⟩)
    (hdm : (s.dir.isSome = true ∨ s.mark = true) → (d.isSome = true ∨ m = true))
    (hnz : q'.needZip = true → s.zip.isSome = true) (hhm : q' = .mUnlock true → s.modf.isSome = true)
    (hl : Local n { s with dir := d, mark := m } q') :
    Inv n { s with pc := upd s.pc t q', dir := d, mark := m } :=
  h.fs hp hd hq hc hw { h.glob with avail_ok := avail_ok } id hdm hnz hhm hl

/-- outside the locked regions, `t` sets its process's `downloadZipCache` entry, which is idle or
run by `t` itself -/
theorem Inv.zc (h : Inv n s) (hp : s.pc t = q) (hq : q.crit = false)
    (hrun : ∀ g, s.zc t.1 = .running g → g = t.2) {c : CSt} (hci : c ≠ .idle)
    (hcd : c = .done true → s.zip.isSome = true)
    (self : Thr n { s with zc := upd s.zc t.1 c } t q') :
    Inv n { s with pc := upd s.pc t q', zc := upd s.zc t.1 c } :=
  h.frame t q' rfl { h.glob with z := h.glob.z.set t.1 hci hcd } (fun _ _ hv => hv)
    (fun hv => nomatch hq ▸ hp ▸ h.lock_crit t hv) { self with }
    (fun u hu => { h.thr u with z := (h.thr u).z.set hu hrun c })

theorem Inv.mc (h : Inv n s) (hp : s.pc t = q) (hq : q.crit = false)
    (hrun : ∀ g, s.mc t.1 = .running g → g = t.2) {c : CSt} (hci : c ≠ .idle)
    (hcd : c = .done true → s.modf.isSome = true)
    (self : Thr n { s with mc := upd s.mc t.1 c } t q') :
    Inv n { s with pc := upd s.pc t q', mc := upd s.mc t.1 c } :=
  h.frame t q' rfl { h.glob with m := h.glob.m.set t.1 hci hcd } (fun _ _ hv => hv)
    (fun hv => nomatch hq ▸ hp ▸ h.lock_crit t hv) { self with }
    (fun u hu => { h.thr u with m := (h.thr u).m.set hu hrun c })

/-- inside the locked region and inside `downloadZipCache.Do`, `t` makes its process's first call
of the registry -/
theorem Inv.nget (h : Inv n s) (hc : q'.crit = true) (hr : s.zc t.1 = .running t.2)
    (h0 : s.nget t.1 = 0) (self : Thr n { s with nget := upd s.nget t.1 (s.nget t.1 + 1) } t q') :
    Inv n { s with pc := upd s.pc t q', nget := upd s.nget t.1 (s.nget t.1 + 1) } :=
  h.frame t q' rfl { h.glob with z := h.glob.z.bump t.1 h0 (by rw [hr]; nofun) } (fun _ _ hv => hv)
    (fun _ => hc) { self with }
    (fun u hu => { h.thr u with z := (h.thr u).z.bump (zpre_zphase _) hu hr _ })

theorem Inv.nmod (h : Inv n s) (hc : q'.crit = true) (hr : s.mc t.1 = .running t.2)
    (h0 : s.nmod t.1 = 0) (self : Thr n { s with nmod := upd s.nmod t.1 (s.nmod t.1 + 1) } t q') :
    Inv n { s with pc := upd s.pc t q', nmod := upd s.nmod t.1 (s.nmod t.1 + 1) } :=
  h.frame t q' rfl { h.glob with m := h.glob.m.bump t.1 h0 (by rw [hr]; nofun) } (fun _ _ hv => hv)
    (fun _ => hc) { self with }
    (fun u hu => { h.thr u with m := (h.thr u).m.bump (mpre_mphase _) hu hr _ })

/-- `t` leaves a locked region and gives up the lock; others were outside and stay outside -/
theorem Inv.release (h : Inv n s) (hp : s.pc t = q) (hq : q.crit = true) (hc : q'.crit = false)
    (self : Thr n s t q') : Inv n { s with pc := upd s.pc t q', lock := none } :=
  have hlk : s.lock = some t := (hp ▸ h.thr t).crit_lock hq
  h.frame t q' rfl { h.glob with } (fun _ _ x => nomatch x) (fun x => nomatch x)
    { self with crit_lock := fun x => nomatch hc ▸ x }
    (fun u hu => { h.thr u with crit_lock := fun x => nomatch h.others_noncrit hlk hu ▸ x })

/-- … completing its process's `downloadZipCache` entry, which it was running -/
theorem Inv.release_zc (h : Inv n s) (hp : s.pc t = q) (hq : q.crit = true) (hc : q'.crit = false)
    (hr : s.zc t.1 = .running t.2) (hzp : q'.zphase = false) {ok : Bool}
    (hok : ok = true → s.zip.isSome = true) (self : Thr n s t q') :
    Inv n { s with pc := upd s.pc t q', lock := none, zc := upd s.zc t.1 (.done ok) } :=
  have hlk : s.lock = some t := (hp ▸ h.thr t).crit_lock hq
  h.frame t q' rfl { h.glob with z := h.glob.z.set t.1 (c := .done ok) nofun (fun x => hok (CSt.done.inj x)) }
    (fun _ _ x => nomatch x) (fun x => nomatch x)
    { self with crit_lock := fun x => (nomatch hc ▸ x), z := ⟨fun x => (nomatch hzp ▸ x), self.z.zero⟩ }
    (fun u hu => { h.thr u with
      crit_lock := fun x => (nomatch h.others_noncrit hlk hu ▸ x),
      z := (h.thr u).z.set hu (fun _ x => (CSt.running.inj (hr.symm.trans x)).symm) _ })

theorem Inv.release_mc (h : Inv n s) (hp : s.pc t = q) (hq : q.crit = true) (hc : q'.crit = false)
    (hr : s.mc t.1 = .running t.2) (hmp : q'.mphase = false) {ok : Bool}
    (hok : ok = true → s.modf.isSome = true) (self : Thr n s t q') :
    Inv n { s with pc := upd s.pc t q', lock := none, mc := upd s.mc t.1 (.done ok) } :=
  have hlk : s.lock = some t := (hp ▸ h.thr t).crit_lock hq
  h.frame t q' rfl { h.glob with m := h.glob.m.set t.1 (c := .done ok) nofun (fun x => hok (CSt.done.inj x)) }
    (fun _ _ x => nomatch x) (fun x => nomatch x)
    { self with crit_lock := fun x => (nomatch hc ▸ x), m := ⟨fun x => (nomatch hmp ▸ x), self.m.zero⟩ }
    (fun u hu => { h.thr u with
      crit_lock := fun x => (nomatch h.others_noncrit hlk hu ▸ x),
      m := (h.thr u).m.set hu (fun _ x => (CSt.running.inj (hr.symm.trans x)).symm) _ })

end

end CueVerif.ModCache
