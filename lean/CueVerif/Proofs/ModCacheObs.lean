import CueVerif.Proofs.ModCacheBase
/-!
C16: what `Inv` gives, read off its clauses and the branches of `next` (that `Inv` is inductive is not used here).
In a state: `Safe`, mutual exclusion. About a step: it touches no other thread (`next_frame`); the directory and
its marker are written only where "available" is false, so "available" is stable; every event keeps its promise
(`event_sound`: what a caller is handed, what ModFile serves); the GetZip counter counts exactly the `getZip`
events.
-/
namespace CueVerif.ModCache

/-! ### in a state -/

theorem safe_of_inv {n s} (h : Inv n s) : Safe n s := by
  refine ⟨?_, h.zip_ok, h.mod_ok⟩
  rintro ⟨hd, hm⟩
  cases hs : s.dir with
  | none => simp [hs] at hd
  | some d =>
    have := h.avail_ok hm d hs
    subst this
    exact hs

theorem Inv.modf_full {n s} (h : Inv n s) (hs : s.modf.isSome = true) : s.modf = some .full := by
  obtain ⟨b, e⟩ := Option.isSome_iff_exists.mp hs
  exact e.trans (congrArg some (h.mod_ok b e))

/-- `downloadDir` saw the directory before it looked for the marker, and finds none -/
theorem Inv.complete_of_nomark {n s} (h : Inv n s) (hl : s.dir.isSome = true ∨ s.mark = true)
    (hm : ¬ s.mark = true) : Complete n s ∧ s.mark = false :=
  have hm' : s.mark = false := Bool.eq_false_iff.mpr hm
  ⟨(safe_of_inv h).dir_ok ⟨hl.resolve_right hm, hm'⟩, hm'⟩

/-- mutual exclusion: two threads inside locked regions are the same thread -/
theorem mutex {n s} (h : Inv n s) (u v : Tid) (hu : (s.pc u).crit = true)
    (hv : (s.pc v).crit = true) : u = v := by
  have a := h.crit_lock u hu
  have b := h.crit_lock v hv
  rw [a] at b
  exact Option.some.inj b

/-! ### about a step -/

/-- a step of `t` touches nobody else's program counter and kills nobody -/
theorem next_frame {n s t c s' o} (hn : next n s t c = some (s', o)) :
    (∀ u, u ≠ t → s'.pc u = s.pc u) ∧ s'.dead = s.dead := by
  revert hn
  fun_cases next n s t c
  all_goals intro hn; cases hn
  -- the new program counters are `upd s.pc t _`, or `s.pc` itself where `RemoveAll` and the cleanup of temp files loop
  all_goals exact ⟨fun u hu => by first | exact if_neg hu | rfl, rfl⟩

/-- whoever writes the directory or its marker (`RemoveAll`, the marker write, `Unzip`, the marker
removal) knows from `Local` that the directory is absent or the marker present -/
theorem next_writes {n s t c s' o} (hn : next n s t c = some (s', o)) (hl : Local n s (s.pc t)) :
    s'.dir = s.dir ∧ s'.mark = s.mark ∨ s.dir = none ∨ s.mark = true := by
  have at_pc : ∀ q, s.pc t = q → Local n s q := fun _ e => e ▸ hl
  revert hn
  fun_cases next n s t c
  all_goals intro hn; cases hn
  -- every other branch leaves both alone
  all_goals first | exact .inl ⟨rfl, rfl⟩ | skip
  · exact .inr (.inr (at_pc .lRmAll ‹_›))
  · exact .inr (.inl (at_pc .lMark ‹_›))
  · exact .inr (.inr (at_pc .uMkdir ‹_›).2)
  · exact .inr (.inr (at_pc (.uCreate _) ‹_›).2.1)
  · exact .inr (.inr (at_pc (.uWrite _) ‹_›).2.1)
  · exact .inr (.inr (at_pc .fUnmark ‹_›).2)
  · exact (at_pc .eRmAll ‹_›).elim
  · exact (at_pc .eUnmark ‹_›).elim

/-- once a directory is available it stays available: no step of anyone (and no crash)
takes it away again -/
theorem avail_stable_next {n s t c s' o} (h : Inv n s) (hn : next n s t c = some (s', o))
    (ha : Available s) : Available s' := by
  rcases next_writes hn (h.loc t) with ⟨hd, hm⟩ | hd | hm
  · exact ⟨hd ▸ ha.1, hm ▸ ha.2⟩
  · exact absurd ha.1 (by simp [hd])
  · exact absurd ha.2 (by simp [hm])

theorem avail_stable {n s s'} (h : Inv n s) (hs : Step n s s') (ha : Available s) : Available s' := by
  cases hs with
  | act _ t c o hn => exact avail_stable_next h hn ha
  | crash p => exact ha

/-- what an event promises: `avail` about the state it leaves, `modRead` about the state it is read in -/
def Ev.Sound (n : Nat) (s s' : VSt) : Ev → Prop
  | .avail => Complete n s' ∧ s'.mark = false
  | .modRead => s.modf = some .full
  | _ => True

/-- every event of every step keeps its promise; the three program points that hand out the directory
do not write it, the two that serve the module file have just seen it -/
theorem event_sound {n s t c s' o} (h : Inv n s) (hn : next n s t c = some (s', o)) :
    Ev.Sound n s s' o.ev := by
  have hl := h.loc t
  revert hn
  fun_cases next n s t c
  all_goals intro hn; cases hn
  -- every other branch has an event that promises nothing
  all_goals first | trivial | skip
  · next hp hm => rw [hp] at hl; exact h.complete_of_nomark hl hm -- fStatMark, no marker
  · next hp hm => rw [hp] at hl; exact h.complete_of_nomark hl hm -- cStatMark, no marker
  · next ok _ => cases ok <;> trivial -- zUnlock
  · next r hp => rw [hp] at hl; cases r <;> first | trivial | exact hl -- fUnlock
  · next e => exact h.modf_full (e ▸ rfl) -- mRead1, the file is there
  · next e => exact h.modf_full (e ▸ rfl) -- mRead2, the file is there
  · next ok _ => cases ok <;> trivial -- mUnlock

/-- whenever Fetch / FetchFromCache hands a directory to its caller, that directory is — at
that very moment, lock or no lock — the complete module, and no marker exists -/
theorem avail_event {n s t c s' o} (h : Inv n s) (hn : next n s t c = some (s', o))
    (he : o.ev = .avail) : Complete n s' ∧ s'.mark = false := by
  have := event_sound h hn
  rwa [he] at this

/-- whenever ModFile serves bytes read from the cached module file, they are the complete file -/
theorem modRead_event {n s t c s' o} (h : Inv n s) (hn : next n s t c = some (s', o))
    (he : o.ev = .modRead) : s.modf = some .full := by
  have := event_sound h hn
  rwa [he] at this

/-- the counter `nget p` counts exactly the `getZip` events of process p -/
theorem nget_event {n s t c s' o} (hn : next n s t c = some (s', o)) (p : Pid) :
    s'.nget p = s.nget p + (if o.ev = .getZip ∧ t.1 = p then 1 else 0) := by
  revert hn
  fun_cases next n s t c
  all_goals intro hn; cases hn
  -- every other branch leaves the counter alone and has another event
  all_goals first | rfl | skip
  · by_cases e : t.1 = p -- zGet
    · subst e; simp [upd]
    · simp [upd_other _ _ _ _ (Ne.symm e), e]
  · next ok _ => cases ok <;> rfl -- zUnlock
  · next r _ => cases r <;> rfl -- fUnlock
  · next ok _ => cases ok <;> rfl -- mUnlock

end CueVerif.ModCache
