import CueVerif.Proofs.ModCache
import CueVerif.Proofs.ModCacheObs
/-!
C16: recovery.  From any state that satisfies the invariant in which no thread is running
(e.g. every process that ever touched the cache has been killed at an arbitrary point), a
clean `Fetch` by a fresh process, run alone and without registry faults, terminates, returns
the directory, and the directory is the complete module.
-/
namespace CueVerif.ModCache

/-- reflexive-transitive closure of `Step` -/
inductive Steps (n : Nat) : VSt → VSt → Prop
  | refl (s) : Steps n s s
  | tail {s s' s''} : Steps n s s' → Step n s' s'' → Steps n s s''

theorem Steps.head {n s s' s''} (h : Step n s s') (hs : Steps n s' s'') : Steps n s s'' := by
  induction hs with
  | refl => exact .tail (.refl _) h
  | tail _ st ih => exact .tail ih st

theorem runAlone_idle {n t fuel s evs} (h : s.pc t = .idle) :
    runAlone n t fuel s evs = (s, evs) := by
  cases fuel with
  | zero => rfl
  | succ f => unfold runAlone; simp [h]

theorem runAlone_succ {n t fuel s evs s' o} (hne : s.pc t ≠ .idle)
    (hn : next n s t (choiceFor s t .none false) = some (s', o)) :
    runAlone n t (fuel + 1) s evs = runAlone n t fuel s' (evs ++ [o.ev]) := by
  rw [runAlone]
  split
  · rename_i e; exact absurd e hne
  · simp [hn]

theorem runAlone_steps (n : Nat) (t : Tid) : ∀ fuel s evs, Steps n s (runAlone n t fuel s evs).1 := by
  intro fuel
  induction fuel with
  | zero => intro s evs; exact .refl _
  | succ f ih =>
    intro s evs
    by_cases hp : s.pc t = .idle
    · rw [runAlone_idle hp]; exact .refl _
    · cases hn : next n s t (choiceFor s t .none false) with
      | none =>
        rw [runAlone]
        split
        · exact .refl _
        · simp only [hn]; exact .refl _
      | some r =>
        obtain ⟨s', o⟩ := r
        rw [runAlone_succ hp hn]
        exact Steps.head (.act _ _ t _ o hn) (ih _ _)

/-- size of what RemoveAll still has to remove -/
def dsize : Option DirSt → Nat
  | none => 0
  | some d => d.files + (if d.cur then 1 else 0) + 1

theorem dsize_rmOne (d : DirSt) : dsize (rmOne d) < dsize (some d) := by
  obtain ⟨k, c, g⟩ := d
  cases c
  · cases k <;> simp [rmOne, dsize]
  · simp [rmOne, dsize]

/-- a bound on the number of steps the fetching thread still needs -/
def rank (n : Nat) (s : VSt) : Pc → Nat
  | .fStatDir => 25 + s.ztmps.length + dsize s.dir + 2 * n
  | .fStatMark => 24 + s.ztmps.length + dsize s.dir + 2 * n
  | .zEnter => 23 + s.ztmps.length + dsize s.dir + 2 * n
  | .zStat1 => 22 + s.ztmps.length + dsize s.dir + 2 * n
  | .zLock => 21 + s.ztmps.length + dsize s.dir + 2 * n
  | .zStat2 => 20 + s.ztmps.length + dsize s.dir + 2 * n
  | .zClean => 19 + s.ztmps.length + dsize s.dir + 2 * n
  | .zCreate => 18 + dsize s.dir + 2 * n
  | .zGet _ => 17 + dsize s.dir + 2 * n
  | .zCopy _ => 16 + dsize s.dir + 2 * n
  | .zRename _ => 15 + dsize s.dir + 2 * n
  | .zUnlock true => 14 + dsize s.dir + 2 * n
  | .lLock => 13 + dsize s.dir + 2 * n
  | .lStatDir => 12 + dsize s.dir + 2 * n
  | .lStatMark => 11 + dsize s.dir + 2 * n
  | .lRmAll => 10 + dsize s.dir + 2 * n
  | .lMark => 9 + 2 * n
  | .uCheck => 8 + 2 * n
  | .uMkdir => 7 + 2 * n
  | .uCreate i => 6 + 2 * (n - i)
  | .uWrite i => 5 + 2 * (n - i)
  | .fUnmark => 4
  | .fReadOnly => 3
  | .fUnlock _ => 2
  | _ => 0

/-- the program points a fault-free Fetch passes through -/
def Pc.onPath : Pc → Bool
  | .fStatDir | .fStatMark | .zEnter | .zStat1 | .zLock | .zStat2 | .zClean | .zCreate
  | .zGet _ | .zCopy _ | .zRename _ | .zUnlock true | .lLock | .lStatDir | .lStatMark | .lRmAll
  | .lMark | .uCheck | .uMkdir | .uCreate _ | .uWrite _ | .fUnmark | .fReadOnly
  | .fUnlock .avail | .idle => true
  | _ => false

/-- thread `t` is the only one running, inside a fault-free Fetch -/
structure Solo (n : Nat) (t : Tid) (s : VSt) : Prop where
  inv : Inv n s
  others : ∀ u, u ≠ t → s.pc u = .idle
  alive : s.dead t.1 = false
  path : (s.pc t).onPath = true
  fresh : (s.pc t = .fStatDir ∨ s.pc t = .fStatMark ∨ s.pc t = .zEnter) → s.zc t.1 = .idle

theorem solo_lock_none {n t s} (h : Solo n t s) (hc : (s.pc t).crit = false) : s.lock = none := by
  cases hl : s.lock with
  | none => rfl
  | some k =>
    have := h.inv.lock_crit k hl
    by_cases e : k = t
    · subst e; rw [hc] at this; cases this
    · rw [h.others k e] at this; simp [Pc.crit] at this

/-- what one step of the lone thread has to achieve -/
def Good (n : Nat) (t : Tid) (s : VSt) (c : Choice) : Prop :=
  ∃ s' o, next n s t c = some (s', o) ∧
    (s'.pc t).onPath = true ∧
    ((s'.pc t = .fStatDir ∨ s'.pc t = .fStatMark ∨ s'.pc t = .zEnter) → s'.zc t.1 = .idle) ∧
    rank n s' (s'.pc t) < rank n s (s.pc t) ∧ (s'.pc t = .idle → o.ev = .avail)

/-- all that matters of the environment's choice: the registry does not fail, and the temp name offered
to `tempFile` is free -/
theorem solo_good {n t s c} (h : Solo n t s) (hne : s.pc t ≠ .idle) (hf : c.fault = false)
    (hname : s.pc t = .zCreate → tget c.name s.ztmps = none) : Good n t s c := by
  have ha := h.alive
  have hpath := h.path
  have ht := h.inv.thr t
  unfold Good next
  rw [if_neg (by simp [ha])]
  split
  next hp => exact absurd hp hne
  next hp => -- fStatDir
    have hz := h.fresh (.inl hp)
    split <;> exact ⟨_, _, rfl, by simp [upd, Pc.onPath, rank, *]⟩
  next hp => -- fStatMark
    have hz := h.fresh (.inr (.inl hp))
    split <;> exact ⟨_, _, rfl, by simp [upd, Pc.onPath, rank, hp, hz] <;> omega⟩
  next hp => simp [hp, Pc.onPath] at hpath
  next hp => simp [hp, Pc.onPath] at hpath
  next hp => -- zEnter
    rw [h.fresh (.inr (.inr hp))]
    exact ⟨_, _, rfl, by simp [upd, Pc.onPath, rank, hp] <;> omega⟩
  next hp => -- zStat1
    split <;> exact ⟨_, _, rfl, by simp [upd, Pc.onPath, rank, hp] <;> omega⟩
  next hp => -- zLock
    rw [solo_lock_none h (by rw [hp]; rfl)]
    exact ⟨_, _, rfl, by simp [upd, Pc.onPath, rank, hp] <;> omega⟩
  next hp => -- zStat2
    split <;> exact ⟨_, _, rfl, by simp [upd, Pc.onPath, rank, hp] <;> omega⟩
  next hp => -- zClean
    split
    · next e => exact ⟨_, _, rfl, by simp [upd, Pc.onPath, rank, hp, e]⟩
    · next k b r e =>
      have := tdel_head_length_lt k b r
      exact ⟨_, _, rfl, by simp [Pc.onPath, rank, hp, e]; omega⟩
  next hp => -- zCreate
    rw [if_pos (hname hp)]
    exact ⟨_, _, rfl, by simp [upd, Pc.onPath, rank, hp] <;> omega⟩
  next k hp => -- zGet
    exact ⟨_, _, rfl, by simp [upd, Pc.onPath, rank, hp, hf] <;> omega⟩
  next k hp => -- zCopy
    rw [if_neg (by simp [hf])]
    exact ⟨_, _, rfl, by simp [upd, Pc.onPath, rank, hp] <;> omega⟩
  next k hp => -- zRename
    rw [hp] at ht
    rw [show tget k s.ztmps = some .full from ht.loc]
    exact ⟨_, _, rfl, by simp [upd, Pc.onPath, rank, hp] <;> omega⟩
  next k hp => simp [hp, Pc.onPath] at hpath
  next ok hp => -- zUnlock
    cases ok
    · simp [hp, Pc.onPath] at hpath
    · exact ⟨_, _, rfl, by simp [upd, Pc.onPath, rank, hp] <;> omega⟩
  next hp => -- lLock
    rw [solo_lock_none h (by rw [hp]; rfl)]
    exact ⟨_, _, rfl, by simp [upd, Pc.onPath, rank, hp] <;> omega⟩
  next hp => -- lStatDir
    split <;> exact ⟨_, _, rfl, by simp [upd, Pc.onPath, rank, hp] <;> omega⟩
  next hp => -- lStatMark
    split <;> exact ⟨_, _, rfl, by simp [upd, Pc.onPath, rank, hp] <;> omega⟩
  next hp => -- lRmAll
    split
    · next e => exact ⟨_, _, rfl, by simp [upd, Pc.onPath, rank, hp, e, dsize]⟩
    · next d e =>
      have := dsize_rmOne d
      exact ⟨_, _, rfl, by simp [Pc.onPath, rank, hp, e]; omega⟩
  next hp => -- lMark
    exact ⟨_, _, rfl, by simp [upd, Pc.onPath, rank, hp] <;> omega⟩
  next hp => -- uCheck
    rw [hp] at ht
    obtain ⟨b, hb⟩ := Option.isSome_iff_exists.mp (ht.has_zip rfl)
    rw [if_neg (by simp [ht.loc.1, hb])]
    exact ⟨_, _, rfl, by simp [upd, Pc.onPath, rank, hp]⟩
  next hp => -- uMkdir
    exact ⟨_, _, rfl, by simp [upd, Pc.onPath, rank, hp] <;> omega⟩
  next i hp => -- uCreate
    split <;> exact ⟨_, _, rfl, by simp [upd, Pc.onPath, rank, hp] <;> omega⟩
  next i hp => -- uWrite
    rw [hp] at ht
    have := ht.loc.2.2
    exact ⟨_, _, rfl, by simp [upd, Pc.onPath, rank, hp] <;> omega⟩
  next hp => -- fUnmark
    rw [hp] at ht
    rw [if_pos ht.loc.2]
    exact ⟨_, _, rfl, by simp [upd, Pc.onPath, rank, hp] <;> omega⟩
  next hp => -- fReadOnly
    exact ⟨_, _, rfl, by simp [upd, Pc.onPath, rank, hp] <;> omega⟩
  next r hp => -- fUnlock
    cases r
    · exact ⟨_, _, rfl, by simp [upd, Pc.onPath, rank, hp] <;> omega⟩
    · simp [hp, Pc.onPath] at hpath
  all_goals next hp => simp [hp, Pc.onPath] at hpath
/-- one step of the lone thread: it is enabled, stays on the path, the rank drops, and if it
returns, it returns the directory -/
theorem solo_step {n t s} (h : Solo n t s) (hne : s.pc t ≠ .idle) :
    ∃ s' o, next n s t (choiceFor s t .none false) = some (s', o) ∧ Solo n t s' ∧
      rank n s' (s'.pc t) < rank n s (s.pc t) ∧ (s'.pc t = .idle → o.ev = .avail) := by
  obtain ⟨s', o, hn, hpath, hfresh, hrank, hev⟩ :=
    solo_good (c := choiceFor s t .none false) h hne rfl fun hp => by simp [choiceFor, hp, tget_fresh]
  obtain ⟨hpc, hdead⟩ := next_frame hn
  refine ⟨s', o, hn, ⟨inv_next h.inv hn, ?_, ?_, hpath, hfresh⟩, hrank, hev⟩
  · intro u hu; rw [hpc u hu]; exact h.others u hu
  · rw [hdead]; exact h.alive

theorem solo_run {n t} : ∀ fuel s evs, Solo n t s → s.pc t ≠ .idle → rank n s (s.pc t) ≤ fuel →
    (runAlone n t fuel s evs).1.pc t = .idle ∧ Complete n (runAlone n t fuel s evs).1 ∧
      (runAlone n t fuel s evs).1.mark = false ∧ Ev.avail ∈ (runAlone n t fuel s evs).2 := by
  intro fuel
  induction fuel with
  | zero =>
    intro s evs h hne hr
    -- a thread that is not idle has a step, and the step lowers the rank
    obtain ⟨_, _, _, _, hrank, _⟩ := solo_step h hne
    omega
  | succ f ih =>
    intro s evs h hne hr
    obtain ⟨s', o, hn, h', hrank, hev⟩ := solo_step h hne
    rw [runAlone_succ hne hn]
    by_cases hi : s'.pc t = .idle
    · rw [runAlone_idle hi]
      obtain ⟨hc, hm⟩ := avail_event h.inv hn (hev hi)
      exact ⟨hi, hc, hm, by simp [hev hi]⟩
    · exact ih s' _ h' hi (by omega)

/-- **recovery** -/
theorem recover {n s} (h : Inv n s) (hq : ∀ u, s.pc u = .idle) (t : Tid)
    (ha : s.dead t.1 = false) (hz : s.zc t.1 = .idle) :
    (cleanFetch n s t).1.pc t = .idle ∧ Complete n (cleanFetch n s t).1 ∧
      (cleanFetch n s t).1.mark = false ∧ Ev.avail ∈ (cleanFetch n s t).2 ∧
      Steps n s (cleanFetch n s t).1 := by
  have hn : next n s t { start := .fetch } = some ({ s with pc := upd s.pc t .fStatDir }, {}) := by
    simp [next, ha, hq t]
  have hsolo : Solo n t { s with pc := upd s.pc t .fStatDir } := by
    refine ⟨inv_next h hn, ?_, ha, by simp [upd, Pc.onPath], fun _ => hz⟩
    intro u hu; simp [upd, hu, hq u]
  have hrank : rank n { s with pc := upd s.pc t .fStatDir } (upd s.pc t .fStatDir t) ≤ fuelFor n s := by
    simp only [upd_same, rank, fuelFor]
    cases hd : s.dir with
    | none => simp [dsize]; omega
    | some d => cases hc : d.cur <;> simp [dsize, hc] <;> omega
  have hne : upd s.pc t .fStatDir t ≠ .idle := by simp
  have hrun := solo_run (fuelFor n s) _ [] hsolo hne hrank
  have hst := runAlone_steps n t (fuelFor n s) { s with pc := upd s.pc t .fStatDir } []
  have hcf : cleanFetch n s t = runAlone n t (fuelFor n s) { s with pc := upd s.pc t .fStatDir } [] := by
    simp [cleanFetch, hn]
  rw [hcf]
  exact ⟨hrun.1, hrun.2.1, hrun.2.2.1, hrun.2.2.2, Steps.head (.act _ _ t _ _ hn) hst⟩

end CueVerif.ModCache
