import CueVerif.Model.Modfile
/-!
Proofs about the module-file model (Model/Modfile.lean), for all module files, data trees and
library verdicts `L`.  `decode_iff` says when `decode` accepts a tree (the record `Accepted`: the
language version, the schema chosen for it, every field decoder's success); each field decoder
has an inversion lemma (`…_ok`, `…_some`) saying what the tree then looks like at that field; the
rejection theorems are the two read backwards (`rejected_of_accepted`).  `Format` writes chains
of `fld`: `optFields` presents such a chain as a table with distinct keys, for which `lookup` and
`closed` are characterised once; the round trip shows `Accepted` of what `Format` writes.
-/
namespace CueVerif.Modfile
open CueVerif

/-- the tree is refused -/
def Rejected (r : Except Err Modfile) : Prop := ∃ e, r = .error e

theorem mem_of_lookup {k : Str} {v : Val} : ∀ {fs : Fields}, lookup k fs = some v → (k, v) ∈ fs
  | (k', v') :: r, h => by
    unfold lookup at h
    split at h
    · next hk =>
      cases h
      exact hk ▸ List.mem_cons_self
    · exact List.mem_cons_of_mem _ (mem_of_lookup h)

theorem closed_mem {allowed : List Str} {fs : Fields} (h : closed allowed fs = true)
    {k : Str} {v : Val} (hm : (k, v) ∈ fs) : k ∈ allowed := by
  have h' := List.all_eq_true.mp h (k, v) hm
  simpa using h'

/-! ### inversion of `decode` -/

/-- when `decodeWith` answers `f`: every field decoder succeeds, with the field of `f`, and
`File.init` accepts `f` -/
structure DecodedWith (L : Lib) (sch : Schema) (lv : Str) (top : Fields) (f : Modfile) : Prop where
  topClosed : closed topFields top = true
  language : checkLanguage top = .ok ()
  module : decodeModule top = .ok f.module
  source : decodeSource sch top = .ok f.source
  description : checkDescription top = .ok ()
  deps : decodeDeps sch top = .ok f.deps
  custom : decodeCustom top = .ok f.custom
  fileLanguage : f.language = some lv
  initOk : init L f = .ok ()

theorem decodeWith_iff {L : Lib} {sch : Schema} {lv : Str} {top : Fields} {f : Modfile} :
    decodeWith L sch lv top = .ok f ↔ DecodedWith L sch lv top f := by
  refine ⟨fun h => ?_, fun a => ?_⟩
  · unfold decodeWith at h
    split at h
    · cases h
    next hc =>
    split at h
    · cases h
    next hl =>
    split at h
    · cases h
    next m hm =>
    split at h
    · cases h
    next src hs =>
    split at h
    · cases h
    next hd =>
    split at h
    · cases h
    next deps hdeps =>
    split at h
    · cases h
    next cust hcu =>
    simp only at h
    split at h
    · cases h
    next hi =>
    cases h
    exact ⟨by simpa using hc, hl, hm, hs, hd, hdeps, hcu, rfl, hi⟩
  · obtain ⟨m, lang, src, deps, cust⟩ := f
    cases a.fileLanguage
    simp [decodeWith, a.topClosed, a.language, a.module, a.source, a.description, a.deps,
      a.custom, a.initOk]

theorem chooseSchema_ok {L : Lib} {lv : Str} {sch : Schema} (h : chooseSchema L lv = .ok sch) :
    lv ≠ [] ∧ pickSchema lv = some sch := by
  unfold chooseSchema at h
  split at h
  · cases h
  next hne =>
  split at h
  · cases h
  split at h
  · cases h
  split at h
  · cases h
  next hp =>
  cases h
  exact ⟨hne, hp⟩

/-- acceptance by `decode`: a language version for which `chooseSchema` finds a schema, and
what `decodeWith` demands under that schema -/
structure Accepted (L : Lib) (top : Fields) (f : Modfile) (lv : Str) (sch : Schema) : Prop
    extends DecodedWith L sch lv top f where
  version : baseVersion top = .ok lv
  chosen : chooseSchema L lv = .ok sch

theorem Accepted.version_ne {L : Lib} {top : Fields} {f : Modfile} {lv : Str} {sch : Schema}
    (a : Accepted L top f lv sch) : lv ≠ [] := (chooseSchema_ok a.chosen).1

theorem Accepted.schema {L : Lib} {top : Fields} {f : Modfile} {lv : Str} {sch : Schema}
    (a : Accepted L top f lv sch) : pickSchema lv = some sch := (chooseSchema_ok a.chosen).2

theorem decode_iff {L : Lib} {top : Fields} {f : Modfile} :
    decode L (.struct top) = .ok f ↔ ∃ lv sch, Accepted L top f lv sch := by
  constructor
  · intro h
    simp only [decode] at h
    split at h
    · cases h
    next lv hb =>
    split at h
    · cases h
    next sch hs =>
    exact ⟨lv, sch, decodeWith_iff.1 h, hb, hs⟩
  · rintro ⟨lv, sch, a⟩
    simp only [decode, a.version, a.chosen]
    exact decodeWith_iff.2 a.toDecodedWith

/-- a tree is refused when no accepted tree looks like it -/
theorem rejected_of_accepted {L : Lib} {top : Fields}
    (h : ∀ f lv sch, ¬ Accepted L top f lv sch) : Rejected (decode L (.struct top)) := by
  cases hd : decode L (.struct top) with
  | error e => exact ⟨e, rfl⟩
  | ok f =>
    obtain ⟨lv, sch, a⟩ := decode_iff.1 hd
    exact absurd a (h f lv sch)

theorem baseVersion_ok {top : Fields} {lv : Str} (h : baseVersion top = .ok lv) (hne : lv ≠ []) :
    ∃ lfs, lookup kLanguage top = some (.struct lfs) ∧ lookup kVersion lfs = some (.str lv) := by
  unfold baseVersion at h
  split at h
  · cases h; exact absurd rfl hne
  · next lfs hl =>
    refine ⟨lfs, hl, ?_⟩
    split at h
    · cases h; exact absurd rfl hne
    · next s hv => cases h; exact hv
    · cases h
  · cases h

theorem checkLanguage_ok {top : Fields} (h : checkLanguage top = .ok ()) :
    ∃ lfs, lookup kLanguage top = some (.struct lfs) ∧ closed languageFields lfs = true := by
  unfold checkLanguage at h
  split at h
  · next lfs hl =>
    refine ⟨lfs, hl, ?_⟩
    split at h
    · assumption
    · cases h
  · cases h

theorem decodeModule_some {top : Fields} {v : Val} {m : Str}
    (hl : lookup kModule top = some v) (h : decodeModule top = .ok m) : v = .str m := by
  unfold decodeModule at h
  rw [hl] at h
  cases v with
  | str s => cases h; rfl
  | _ => cases h

theorem decodeSource_some {sch : Schema} {top : Fields} {sv : Val} {o : Option Str}
    (hl : lookup kSource top = some sv) (h : decodeSource sch top = .ok o) :
    ∃ sfs k, sv = .struct sfs ∧ closed sourceFields sfs = true ∧
      lookup kKind sfs = some (.str k) ∧ (k = kSelf ∨ k = kGit) ∧ o = some k ∧ sch ≠ .v08 := by
  unfold decodeSource at h
  rw [hl] at h
  simp only at h
  split at h
  · cases h
  next h8 =>
  split at h
  · next sfs =>
    split at h
    · cases h
    next hc =>
    split at h
    · cases h
    · next k hk =>
      split at h
      · next hkk => cases h; exact ⟨sfs, k, rfl, by simpa using hc, hk, hkk, rfl, h8⟩
      · cases h
    · cases h
  · cases h

theorem checkDescription_some {top : Fields} {v : Val}
    (hl : lookup kDescription top = some v) (h : checkDescription top = .ok ()) :
    ∃ s, v = .str s := by
  unfold checkDescription at h
  rw [hl] at h
  cases v with
  | str s => exact ⟨s, rfl⟩
  | _ => cases h

theorem decodeDeps_some {sch : Schema} {top : Fields} {v : Val} {ds : List (Str × Dep)}
    (hl : lookup kDeps top = some v) (h : decodeDeps sch top = .ok ds) :
    ∃ dfs, v = .struct dfs ∧ decodeDepList sch dfs = .ok ds := by
  unfold decodeDeps at h
  rw [hl] at h
  cases v with
  | struct dfs => exact ⟨dfs, rfl, h⟩
  | _ => cases h

theorem decodeDepList_cons {sch : Schema} {m : Str} {dv : Val} {r : Fields}
    {ds : List (Str × Dep)} (h : decodeDepList sch ((m, dv) :: r) = .ok ds) :
    ∃ d ds', decodeDep sch dv = .ok d ∧ decodeDepList sch r = .ok ds' ∧ ds = (m, d) :: ds' := by
  unfold decodeDepList at h
  split at h
  · cases h
  next d hd =>
  split at h
  · cases h
  next ds' hr =>
  cases h
  exact ⟨d, ds', hd, hr, rfl⟩

theorem decodeDepList_mem {sch : Schema} {dfs : Fields} {ds : List (Str × Dep)}
    (h : decodeDepList sch dfs = .ok ds) {m : Str} {dv : Val} (hm : (m, dv) ∈ dfs) :
    ∃ d, decodeDep sch dv = .ok d := by
  induction dfs generalizing ds with
  | nil => cases hm
  | cons hd tl ih =>
    obtain ⟨d, ds', h1, h2, _⟩ := decodeDepList_cons h
    cases hm with
    | head => exact ⟨d, h1⟩
    | tail _ hm' => exact ih h2 hm'

theorem decodeDep_struct {sch : Schema} {dv : Val} {d : Dep} (h : decodeDep sch dv = .ok d) :
    ∃ fs, dv = .struct fs := by
  cases dv with
  | struct fs => exact ⟨fs, rfl⟩
  | _ => cases h

theorem decodeDep_ok {sch : Schema} {fs : Fields} {d : Dep}
    (h : decodeDep sch (.struct fs) = .ok d) :
    closed depFields fs = true ∧ depV sch fs = .ok d.v ∧
      depDefault fs = .ok d.dflt ∧ depReplace sch fs = .ok d.replaceWith := by
  simp only [decodeDep] at h
  split at h
  · cases h
  next hc =>
  split at h
  · cases h
  next v hv =>
  split at h
  · cases h
  next b hb =>
  split at h
  · cases h
  next rw hr =>
  cases h
  exact ⟨by simpa using hc, hv, hb, hr⟩

theorem depV_none {sch : Schema} {fs : Fields} {s : Str}
    (hl : lookup kV fs = none) (h : depV sch fs = .ok s) : sch = .v017 := by
  unfold depV at h
  rw [hl] at h
  simp only at h
  split at h
  · assumption
  · cases h

theorem depV_some {sch : Schema} {fs : Fields} {v : Val} {s : Str}
    (hl : lookup kV fs = some v) (h : depV sch fs = .ok s) : v = .str s ∧ s ≠ [] := by
  unfold depV at h
  rw [hl] at h
  cases v with
  | str s' =>
    simp only at h
    split at h
    · cases h
    · next hne => cases h; exact ⟨rfl, hne⟩
  | _ => cases h

theorem depDefault_some {fs : Fields} {v : Val} {b : Bool}
    (hl : lookup kDefault fs = some v) (h : depDefault fs = .ok b) : v = .bool b := by
  unfold depDefault at h
  rw [hl] at h
  cases v with
  | bool b' => cases h; rfl
  | _ => cases h

theorem depReplace_some {sch : Schema} {fs : Fields} {v : Val} {s : Str}
    (hl : lookup kReplaceWith fs = some v) (h : depReplace sch fs = .ok s) :
    sch = .v017 ∧ v = .str s := by
  unfold depReplace at h
  rw [hl] at h
  simp only at h
  split at h
  · cases h
  next h17 =>
  cases v with
  | str s' => cases h; exact ⟨Decidable.not_not.mp h17, rfl⟩
  | _ => cases h

theorem decodeCustom_some {top : Fields} {v : Val} {o : Option (List (Str × Fields))}
    (hl : lookup kCustom top = some v) (h : decodeCustom top = .ok o) :
    ∃ cfs cs, v = .struct cfs ∧ decodeCustomList cfs = .ok cs ∧ o = some cs := by
  unfold decodeCustom at h
  rw [hl] at h
  cases v with
  | struct cfs =>
    simp only at h
    split at h
    · cases h
    · next cs hc => cases h; exact ⟨cfs, cs, rfl, hc, rfl⟩
  | _ => cases h

theorem decodeCustomList_mem {cfs : Fields} {cs : List (Str × Fields)}
    (h : decodeCustomList cfs = .ok cs) {k : Str} {v : Val} (hm : (k, v) ∈ cfs) :
    ∃ fs, v = .struct fs := by
  induction cfs generalizing cs with
  | nil => cases hm
  | cons hd tl ih =>
    obtain ⟨k0, v0⟩ := hd
    cases v0 with
    | struct fs0 =>
      simp only [decodeCustomList] at h
      split at h
      · cases h
      next cs0 h2 =>
      cases hm with
      | head => exact ⟨fs0, rfl⟩
      | tail _ hm' => exact ih h2 hm'
    | _ => cases h

theorem dep_entry_ok {sch : Schema} {top dfs : Fields} {ds : List (Str × Dep)}
    (h : decodeDeps sch top = .ok ds) (hl : lookup kDeps top = some (.struct dfs))
    {m : Str} {dv : Val} (hm : (m, dv) ∈ dfs) : ∃ d, decodeDep sch dv = .ok d := by
  obtain ⟨dfs', e, hdl⟩ := decodeDeps_some hl h
  cases e
  exact decodeDepList_mem hdl hm

/-! ### closedness: unknown fields are rejected at every level -/

/-- any top-level field that is not one of the schema's fields (the set is the same for
every language version) makes Parse fail -/
theorem unknown_top_rejected (L : Lib) (top : Fields) (k : Str) (v : Val)
    (hm : (k, v) ∈ top) (hk : k ∉ topFields) : Rejected (decode L (.struct top)) :=
  rejected_of_accepted fun _ _ _ a => hk (closed_mem a.topClosed hm)

theorem unknown_language_field_rejected (L : Lib) (top lfs : Fields) (k : Str) (v : Val)
    (hl : lookup kLanguage top = some (.struct lfs)) (hm : (k, v) ∈ lfs) (hk : k ≠ kVersion) :
    Rejected (decode L (.struct top)) := by
  refine rejected_of_accepted fun _ _ _ a => ?_
  obtain ⟨lfs', hl', hc⟩ := checkLanguage_ok a.language
  cases hl.symm.trans hl'
  exact hk (List.mem_singleton.mp (closed_mem hc hm))

theorem unknown_source_field_rejected (L : Lib) (top sfs : Fields) (k : Str) (v : Val)
    (hl : lookup kSource top = some (.struct sfs)) (hm : (k, v) ∈ sfs) (hk : k ≠ kKind) :
    Rejected (decode L (.struct top)) := by
  refine rejected_of_accepted fun _ _ _ a => ?_
  obtain ⟨sfs', _, e, hc, _⟩ := decodeSource_some hl a.source
  cases e
  exact hk (List.mem_singleton.mp (closed_mem hc hm))

theorem unknown_dep_field_rejected (L : Lib) (top dfs fs : Fields) (m k : Str) (v : Val)
    (hl : lookup kDeps top = some (.struct dfs)) (hm : (m, .struct fs) ∈ dfs)
    (hf : (k, v) ∈ fs) (hk : k ∉ depFields) : Rejected (decode L (.struct top)) := by
  refine rejected_of_accepted fun _ _ _ a => ?_
  obtain ⟨d, hd⟩ := dep_entry_ok a.deps hl hm
  exact hk (closed_mem (decodeDep_ok hd).1 hf)

/-! ### language-version gates -/

/-- `replaceWith` only exists from schema v0.17.0 on -/
theorem replaceWith_rejected_below_v017 (L : Lib) (top dfs fs : Fields) (m lv : Str) (rv : Val)
    (hb : baseVersion top = .ok lv) (hp : pickSchema lv ≠ some .v017)
    (hl : lookup kDeps top = some (.struct dfs)) (hm : (m, .struct fs) ∈ dfs)
    (hr : lookup kReplaceWith fs = some rv) : Rejected (decode L (.struct top)) := by
  refine rejected_of_accepted fun _ _ _ a => ?_
  cases hb.symm.trans a.version
  obtain ⟨d, hd⟩ := dep_entry_ok a.deps hl hm
  exact hp ((depReplace_some hr (decodeDep_ok hd).2.2.2).1 ▸ a.schema)

/-- `v` is mandatory below schema v0.17.0 -/
theorem missing_v_rejected_below_v017 (L : Lib) (top dfs fs : Fields) (m lv : Str)
    (hb : baseVersion top = .ok lv) (hp : pickSchema lv ≠ some .v017)
    (hl : lookup kDeps top = some (.struct dfs)) (hm : (m, .struct fs) ∈ dfs)
    (hr : lookup kV fs = none) : Rejected (decode L (.struct top)) := by
  refine rejected_of_accepted fun _ _ _ a => ?_
  cases hb.symm.trans a.version
  obtain ⟨d, hd⟩ := dep_entry_ok a.deps hl hm
  exact hp (depV_none hr (decodeDep_ok hd).2.1 ▸ a.schema)

/-- `source` only exists from schema v0.9.0-alpha.0 on -/
theorem source_rejected_below_v09 (L : Lib) (top : Fields) (lv : Str) (sv : Val)
    (hb : baseVersion top = .ok lv) (hp : pickSchema lv = some .v08)
    (hl : lookup kSource top = some sv) : Rejected (decode L (.struct top)) := by
  refine rejected_of_accepted fun _ _ _ a => ?_
  cases hb.symm.trans a.version
  cases hp.symm.trans a.schema
  obtain ⟨_, _, _, _, _, _, _, h8⟩ := decodeSource_some hl a.source
  exact h8 rfl

/-! ### malformed: a known field of the wrong type, or a missing mandatory field -/

inductive Malformed (top : Fields) : Prop where
  | moduleType (v : Val) (h : lookup kModule top = some v) (hne : ∀ s, v ≠ .str s)
  | languageMissing (h : lookup kLanguage top = none)
  | languageType (v : Val) (h : lookup kLanguage top = some v) (hne : ∀ fs, v ≠ .struct fs)
  | versionMissing (lfs : Fields) (h : lookup kLanguage top = some (.struct lfs))
      (hv : lookup kVersion lfs = none)
  | versionType (lfs : Fields) (v : Val) (h : lookup kLanguage top = some (.struct lfs))
      (hv : lookup kVersion lfs = some v) (hne : ∀ s, v ≠ .str s)
  | versionEmpty (lfs : Fields) (h : lookup kLanguage top = some (.struct lfs))
      (hv : lookup kVersion lfs = some (.str []))
  | sourceType (v : Val) (h : lookup kSource top = some v) (hne : ∀ fs, v ≠ .struct fs)
  | kindMissing (sfs : Fields) (h : lookup kSource top = some (.struct sfs))
      (hk : lookup kKind sfs = none)
  | kindType (sfs : Fields) (v : Val) (h : lookup kSource top = some (.struct sfs))
      (hk : lookup kKind sfs = some v) (hne : ∀ s, v ≠ .str s)
  | kindBad (sfs : Fields) (k : Str) (h : lookup kSource top = some (.struct sfs))
      (hk : lookup kKind sfs = some (.str k)) (h1 : k ≠ kSelf) (h2 : k ≠ kGit)
  | descriptionType (v : Val) (h : lookup kDescription top = some v) (hne : ∀ s, v ≠ .str s)
  | depsType (v : Val) (h : lookup kDeps top = some v) (hne : ∀ fs, v ≠ .struct fs)
  | depEntryType (dfs : Fields) (m : Str) (dv : Val) (h : lookup kDeps top = some (.struct dfs))
      (hm : (m, dv) ∈ dfs) (hne : ∀ fs, dv ≠ .struct fs)
  | depVType (dfs fs : Fields) (m : Str) (v : Val) (h : lookup kDeps top = some (.struct dfs))
      (hm : (m, .struct fs) ∈ dfs) (hv : lookup kV fs = some v) (hne : ∀ s, v ≠ .str s)
  | depVEmpty (dfs fs : Fields) (m : Str) (h : lookup kDeps top = some (.struct dfs))
      (hm : (m, .struct fs) ∈ dfs) (hv : lookup kV fs = some (.str []))
  | depDefaultType (dfs fs : Fields) (m : Str) (v : Val)
      (h : lookup kDeps top = some (.struct dfs)) (hm : (m, .struct fs) ∈ dfs)
      (hv : lookup kDefault fs = some v) (hne : ∀ b, v ≠ .bool b)
  | depReplaceType (dfs fs : Fields) (m : Str) (v : Val)
      (h : lookup kDeps top = some (.struct dfs)) (hm : (m, .struct fs) ∈ dfs)
      (hv : lookup kReplaceWith fs = some v) (hne : ∀ s, v ≠ .str s)
  | customType (v : Val) (h : lookup kCustom top = some v) (hne : ∀ fs, v ≠ .struct fs)
  | customEntryType (cfs : Fields) (k : Str) (v : Val)
      (h : lookup kCustom top = some (.struct cfs)) (hm : (k, v) ∈ cfs)
      (hne : ∀ fs, v ≠ .struct fs)

theorem malformed_rejected (L : Lib) (top : Fields) (hmal : Malformed top) :
    Rejected (decode L (.struct top)) := by
  refine rejected_of_accepted fun _ _ _ a => ?_
  obtain ⟨lfs0, hl0, hv0⟩ := baseVersion_ok a.version a.version_ne
  cases hmal with
  | moduleType v hl hne => exact hne _ (decodeModule_some hl a.module)
  | languageMissing hl => cases hl.symm.trans hl0
  | languageType v hl hne => exact hne _ (Option.some.inj (hl.symm.trans hl0))
  | versionMissing lfs hl hv =>
    cases hl.symm.trans hl0
    cases hv.symm.trans hv0
  | versionType lfs v hl hv hne =>
    cases hl.symm.trans hl0
    exact hne _ (Option.some.inj (hv.symm.trans hv0))
  | versionEmpty lfs hl hv =>
    cases hl.symm.trans hl0
    cases hv.symm.trans hv0
    exact a.version_ne rfl
  | sourceType v hl hne =>
    obtain ⟨sfs, _, e, _⟩ := decodeSource_some hl a.source
    exact hne _ e
  | kindMissing sfs hl hk =>
    obtain ⟨_, _, e, _, hk', _⟩ := decodeSource_some hl a.source
    cases e
    cases hk.symm.trans hk'
  | kindType sfs v hl hk hne =>
    obtain ⟨_, _, e, _, hk', _⟩ := decodeSource_some hl a.source
    cases e
    exact hne _ (Option.some.inj (hk.symm.trans hk'))
  | kindBad sfs k hl hk h1 h2 =>
    obtain ⟨_, _, e, _, hk', hor, _⟩ := decodeSource_some hl a.source
    cases e
    cases hk.symm.trans hk'
    exact hor.elim h1 h2
  | descriptionType v hl hne =>
    obtain ⟨s, e⟩ := checkDescription_some hl a.description
    exact hne s e
  | depsType v hl hne =>
    obtain ⟨dfs, e, _⟩ := decodeDeps_some hl a.deps
    exact hne dfs e
  | depEntryType dfs m dv hl hm hne =>
    obtain ⟨d, hd⟩ := dep_entry_ok a.deps hl hm
    obtain ⟨fs, e⟩ := decodeDep_struct hd
    exact hne fs e
  | depVType dfs fs m v hl hm hv hne =>
    obtain ⟨d, hd⟩ := dep_entry_ok a.deps hl hm
    exact hne _ (depV_some hv (decodeDep_ok hd).2.1).1
  | depVEmpty dfs fs m hl hm hv =>
    obtain ⟨d, hd⟩ := dep_entry_ok a.deps hl hm
    obtain ⟨e, hne⟩ := depV_some hv (decodeDep_ok hd).2.1
    exact hne (Val.str.inj e).symm
  | depDefaultType dfs fs m v hl hm hv hne =>
    obtain ⟨d, hd⟩ := dep_entry_ok a.deps hl hm
    exact hne _ (depDefault_some hv (decodeDep_ok hd).2.2.1)
  | depReplaceType dfs fs m v hl hm hv hne =>
    obtain ⟨d, hd⟩ := dep_entry_ok a.deps hl hm
    exact hne _ (depReplace_some hv (decodeDep_ok hd).2.2.2).2
  | customType v hl hne =>
    obtain ⟨cfs, _, e, _⟩ := decodeCustom_some hl a.custom
    exact hne cfs e
  | customEntryType cfs k v hl hm hne =>
    obtain ⟨_, cs, e, hc, _⟩ := decodeCustom_some hl a.custom
    cases e
    obtain ⟨fs, e⟩ := decodeCustomList_mem hc hm
    exact hne fs e

/-! ### what `Format` writes: tables of optional fields -/

def optFields : List (Str × Option Val) → Fields
  | [] => []
  | (k, o) :: r => fld k o (optFields r)

theorem lookup_fld_ne {k k' : Str} (h : k' ≠ k) (o : Option Val) (r : Fields) :
    lookup k (fld k' o r) = lookup k r := by
  cases o with
  | none => rfl
  | some v => simp only [fld, lookup, if_neg h]

theorem lookup_optFields_none {k : Str} {l : List (Str × Option Val)}
    (h : k ∉ l.map (·.1)) : lookup k (optFields l) = none := by
  induction l with
  | nil => rfl
  | cons e r ih =>
    rw [List.map_cons, List.mem_cons, not_or] at h
    rw [optFields, lookup_fld_ne (Ne.symm h.1), ih h.2]

theorem lookup_optFields {l : List (Str × Option Val)} (hnd : (l.map (·.1)).Nodup)
    {k : Str} {o : Option Val} (h : (k, o) ∈ l) : lookup k (optFields l) = o := by
  induction l with
  | nil => cases h
  | cons e r ih =>
    obtain ⟨hk, hr⟩ := List.nodup_cons.mp hnd
    cases h with
    | head =>
      cases o with
      | none => exact lookup_optFields_none (l := r) hk
      | some v => simp only [optFields, fld, lookup, if_true]
    | tail _ h' =>
      have hne : e.1 ≠ k := fun e' => hk (List.mem_map.mpr ⟨(k, o), h', e'.symm⟩)
      rw [optFields, lookup_fld_ne hne, ih hr h']

theorem closed_optFields {allowed : List Str} {l : List (Str × Option Val)}
    (h : ∀ k ∈ l.map (·.1), k ∈ allowed) : closed allowed (optFields l) = true := by
  induction l with
  | nil => rfl
  | cons e r ih =>
    have hr := ih fun k hk => h k (List.mem_cons_of_mem _ hk)
    obtain ⟨k, o⟩ := e
    cases o with
    | none => exact hr
    | some v =>
      have hk : allowed.contains k = true := List.contains_iff_mem.mpr (h k List.mem_cons_self)
      simpa only [optFields, fld, closed, List.all_cons, hk, Bool.true_and] using hr

/-- the table `encodeFields` writes (there is no `description` row: `File` has no such field) -/
def fieldTable (f : Modfile) : List (Str × Option Val) :=
  [(kModule, some (.str f.module)), (kLanguage, f.language.map encodeLanguage),
   (kSource, f.source.map fun k => .struct [(kKind, .str k)]),
   (kDeps, if f.deps.isEmpty then none else some (.struct (encodeDepList f.deps))),
   (kCustom, f.custom.map fun c => .struct (encodeCustomList c))]

theorem fieldTable_nodup : [kModule, kLanguage, kSource, kDeps, kCustom].Nodup := by decide

theorem lookup_encodeFields {f : Modfile} {k : Str} {o : Option Val} (i : Nat)
    (h : (fieldTable f)[i]? = some (k, o)) : lookup k (encodeFields f) = o :=
  lookup_optFields (l := fieldTable f) fieldTable_nodup (List.mem_of_getElem? h)

theorem lookup_encodeFields_description (f : Modfile) :
    lookup kDescription (encodeFields f) = none :=
  lookup_optFields_none (l := fieldTable f)
    (show kDescription ∉ [kModule, kLanguage, kSource, kDeps, kCustom] by decide)

theorem closed_encodeFields (f : Modfile) : closed topFields (encodeFields f) = true :=
  closed_optFields (l := fieldTable f)
    (show ∀ k ∈ [kModule, kLanguage, kSource, kDeps, kCustom], k ∈ topFields by decide)

/-! ### Format then Parse is the identity on well-formed files -/

theorem decodeDep_encodeDep {sch : Schema} {d : Dep} (h : wfDep sch d = true) :
    decodeDep sch (encodeDep d) = .ok d := by
  obtain ⟨v, dflt, rw⟩ := d
  let t : List (Str × Option Val) :=
    [(kV, some (.str v)), (kDefault, if dflt then some (.bool true) else none),
     (kReplaceWith, if rw.isEmpty then none else some (.str rw))]
  have hnd : [kV, kDefault, kReplaceWith].Nodup := by decide
  have hc : closed depFields (optFields t) = true :=
    closed_optFields (show ∀ k ∈ [kV, kDefault, kReplaceWith], k ∈ depFields by decide)
  have hv : lookup kV (optFields t) = some (.str v) := lookup_optFields (l := t) hnd (.head _)
  have hd : lookup kDefault (optFields t) = if dflt then some (.bool true) else none :=
    lookup_optFields (l := t) hnd (.tail _ (.head _))
  have hr : lookup kReplaceWith (optFields t) = if rw.isEmpty then none else some (.str rw) :=
    lookup_optFields (l := t) hnd (.tail _ (.tail _ (.head _)))
  simp only [wfDep, Bool.and_eq_true, Bool.not_eq_true', Bool.or_eq_true, beq_iff_eq] at h
  have hvne : v ≠ [] := fun e => by simp [e] at h
  show decodeDep sch (.struct (optFields t)) = _
  simp only [decodeDep, depV, depDefault, depReplace, hc, hv, hd, hr]
  cases rw with
  | nil => cases dflt <;> simp [hvne]
  | cons b r =>
    have h17 : sch = .v017 := by simpa using h.2
    cases dflt <;> simp [hvne, h17]

theorem decodeDepList_encodeDepList {sch : Schema} {ds : List (Str × Dep)}
    (h : ds.all (fun md => wfDep sch md.2) = true) :
    decodeDepList sch (encodeDepList ds) = .ok ds := by
  induction ds with
  | nil => rfl
  | cons hd tl ih =>
    obtain ⟨m, d⟩ := hd
    simp only [List.all_cons, Bool.and_eq_true] at h
    simp [encodeDepList, decodeDepList, decodeDep_encodeDep h.1, ih h.2]

theorem decodeCustomList_encodeCustomList (c : List (Str × Fields)) :
    decodeCustomList (encodeCustomList c) = .ok c := by
  induction c with
  | nil => rfl
  | cons hd tl ih =>
    obtain ⟨k, fs⟩ := hd
    simp [encodeCustomList, decodeCustomList, ih]

def WF (L : Lib) (f : Modfile) : Prop := wf L f = true

theorem wf_ok {L : Lib} {f : Modfile} (h : wf L f = true) :
    ∃ lv sch, f.language = some lv ∧ chooseSchema L lv = .ok sch ∧ wfSource sch f.source = true ∧
      f.deps.all (fun md => wfDep sch md.2) = true ∧ init L f = .ok () := by
  unfold wf at h
  split at h
  · cases h
  next lv hl =>
  split at h
  · cases h
  next sch hs =>
  simp only [Bool.and_eq_true] at h
  refine ⟨lv, sch, hl, hs, h.1.1, h.1.2, ?_⟩
  split at h
  · assumption
  · cases h.2

theorem lookup_language_encodeFields {f : Modfile} {lv : Str}
    (h : f.language = some lv) (hne : lv ≠ []) :
    lookup kLanguage (encodeFields f) = some (.struct [(kVersion, .str lv)]) := by
  rw [lookup_encodeFields 1 rfl, h]
  simp only [Option.map_some, encodeLanguage, List.isEmpty_iff, if_neg hne, fld]

theorem decodeModule_encodeFields (f : Modfile) : decodeModule (encodeFields f) = .ok f.module := by
  simp only [decodeModule, lookup_encodeFields 0 rfl]

theorem decodeSource_encodeFields {sch : Schema} {f : Modfile} (h : wfSource sch f.source = true) :
    decodeSource sch (encodeFields f) = .ok f.source := by
  unfold decodeSource
  rw [lookup_encodeFields 2 rfl]
  cases hs : f.source with
  | none => rfl
  | some k =>
    simp only [hs, wfSource, Bool.and_eq_true, bne_iff_ne, ne_eq, Bool.or_eq_true, beq_iff_eq] at h
    simp [h.1, h.2, closed, sourceFields, lookup]

theorem decodeDeps_encodeFields {sch : Schema} {f : Modfile}
    (h : f.deps.all (fun md => wfDep sch md.2) = true) :
    decodeDeps sch (encodeFields f) = .ok f.deps := by
  unfold decodeDeps
  rw [lookup_encodeFields 3 rfl]
  cases hd : f.deps with
  | nil => rfl
  | cons d ds => exact decodeDepList_encodeDepList (hd ▸ h)

theorem decodeCustom_encodeFields (f : Modfile) :
    decodeCustom (encodeFields f) = .ok f.custom := by
  unfold decodeCustom
  rw [lookup_encodeFields 4 rfl]
  cases f.custom with
  | none => rfl
  | some c => simp [decodeCustomList_encodeCustomList]

/-- Parse (Format f) = f for every well-formed module file (all fields, any number of
dependencies incl. defaults and replaceWith, arbitrary custom data) -/
theorem decode_encode (L : Lib) (f : Modfile) (h : WF L f) : decode L (encode f) = .ok f := by
  obtain ⟨lv, sch, hl, hs, hsrc, hdeps, hi⟩ := wf_ok h
  have hlang := lookup_language_encodeFields hl (chooseSchema_ok hs).1
  exact decode_iff.2 ⟨lv, sch, {
    version := by simp only [baseVersion, hlang, lookup, if_true]
    chosen := hs
    topClosed := closed_encodeFields f
    language := by simp only [checkLanguage, hlang]; rfl
    module := decodeModule_encodeFields f
    source := decodeSource_encodeFields hsrc
    description := by simp only [checkDescription, lookup_encodeFields_description]
    deps := decodeDeps_encodeFields hdeps
    custom := decodeCustom_encodeFields f
    fileLanguage := hl
    initOk := hi }⟩

/-! non-vacuity of `WF` (a TEST of satisfiability, not the property): module, language,
source, two dependencies (one default, one replaced), custom data -/
def exLib : Lib :=
  { current := [118, 48, 46, 49, 56, 46, 48]
    okMain := fun m => m == [102, 111, 111, 46, 99, 111, 109, 64, 118, 49]
    okDep := fun m _ => m == [98, 97, 114, 46, 99, 111, 109, 64, 118, 48] ||
      m == [98, 97, 122, 46, 111, 114, 103, 47, 120, 64, 118, 50] }

def exFile : Modfile :=
  { module := [102, 111, 111, 46, 99, 111, 109, 64, 118, 49]
    language := some [118, 48, 46, 49, 55, 46, 48]
    source := some kGit
    deps := [([98, 97, 114, 46, 99, 111, 109, 64, 118, 48], ⟨[118, 48, 46, 49, 46, 48], true, []⟩),
             ([98, 97, 122, 46, 111, 114, 103, 47, 120, 64, 118, 50],
               ⟨[118, 50, 46, 48, 46, 48, 45, 114, 99, 46, 49], false, [46, 47, 120]⟩)]
    custom := some [([108, 101, 103, 97, 99, 121],
      [([120], .list [.num 1, .str [120], .null, .struct [([120], .bool true)]])])] }

theorem exFile_wf : WF exLib exFile := by unfold WF; decide +kernel

example : decode exLib (encode exFile) = .ok exFile := decode_encode _ _ exFile_wf

/-! ### "rejected rather than dropped": FALSE for `description` -/

/-- every top-level field of an accepted tree (other than an empty struct, which denotes
the same File as its absence for `deps`) is still present after Format -/
def accepted_fields_kept_stmt : Prop :=
  ∀ (L : Lib) (top : Fields) (f : Modfile) (k : Str) (v : Val),
    decode L (.struct top) = .ok f → lookup k top = some v → v ≠ .struct [] →
    ∃ v', lookup k (encodeFields f) = some v'

def exDescTop : Fields :=
  [(kModule, .str [102, 111, 111, 46, 99, 111, 109, 64, 118, 49]),
   (kLanguage, .struct [(kVersion, .str [118, 48, 46, 49, 55, 46, 48])]),
   (kDescription, .str [120])]

/-- witness: `module: "foo.com@v1", language: version: "v0.17.0", description: "x"` is
accepted and the description is gone from the File (replayed on the implementation by
the harness, class `modfile-description-dropped`) -/
theorem accepted_fields_kept_false : ¬ accepted_fields_kept_stmt := by
  intro h
  have hd : decode exLib (.struct exDescTop) =
      .ok ⟨[102, 111, 111, 46, 99, 111, 109, 64, 118, 49], some [118, 48, 46, 49, 55, 46, 48],
        none, [], none⟩ := by rfl
  obtain ⟨v', hv'⟩ := h exLib exDescTop _ kDescription (.str [120]) hd rfl (by simp)
  rw [lookup_encodeFields_description] at hv'
  cases hv'

theorem accepted_fields_kept_partial (L : Lib) (top : Fields) (f : Modfile) (k : Str) (v : Val)
    (h : decode L (.struct top) = .ok f) (hl : lookup k top = some v) (hv : v ≠ .struct [])
    (hk : k ≠ kDescription) : ∃ v', lookup k (encodeFields f) = some v' := by
  obtain ⟨lv, sch, a⟩ := decode_iff.1 h
  have hin := closed_mem a.topClosed (mem_of_lookup hl)
  simp only [topFields, List.mem_cons, List.not_mem_nil, or_false] at hin
  rcases hin with rfl | rfl | rfl | rfl | rfl | rfl
  · exact ⟨_, lookup_encodeFields 0 rfl⟩
  · exact ⟨_, (lookup_encodeFields 1 rfl).trans (by rw [a.fileLanguage]; rfl)⟩
  · obtain ⟨_, _, _, _, _, _, ho, _⟩ := decodeSource_some hl a.source
    exact ⟨_, (lookup_encodeFields 2 rfl).trans (by rw [ho]; rfl)⟩
  · exact absurd rfl hk
  · obtain ⟨dfs, e, hdl⟩ := decodeDeps_some hl a.deps
    cases e
    cases dfs with
    | nil => exact absurd rfl hv
    | cons e r =>
      obtain ⟨d, ds', _, _, hds⟩ := decodeDepList_cons hdl
      exact ⟨_, (lookup_encodeFields 3 rfl).trans (by rw [hds]; rfl)⟩
  · obtain ⟨_, cs, _, _, ho⟩ := decodeCustom_some hl a.custom
    exact ⟨_, (lookup_encodeFields 4 rfl).trans (by rw [ho]; rfl)⟩

/-! ### schema choice: TESTS on sample versions (the gate theorems above are stated for an
arbitrary language version through `pickSchema`) -/
example : pickSchema [118, 48, 46, 55, 46, 48] = none := by decide +kernel                      -- v0.7.0
example : pickSchema ver08 = some .v08 := by decide +kernel                                     -- v0.8.0-alpha.0
example : pickSchema [118, 48, 46, 56, 46, 50] = some .v08 := by decide +kernel                 -- v0.8.2
example : pickSchema ver09 = some .v09 := by decide +kernel                                     -- v0.9.0-alpha.0
example : pickSchema [118, 48, 46, 49, 54, 46, 57] = some .v09 := by decide +kernel             -- v0.16.9
example : pickSchema [118, 48, 46, 49, 55, 46, 48, 45, 48] = some .v09 := by decide +kernel     -- v0.17.0-0
example : pickSchema ver017 = some .v017 := by decide +kernel                                   -- v0.17.0
example : pickSchema [118, 49, 46, 50, 46, 51] = some .v017 := by decide +kernel                -- v1.2.3

end CueVerif.Modfile
