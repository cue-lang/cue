import CueVerif.Proofs.ModzipCreate
/-!
C15, "the three ways of checking agree", the converse direction: an archive that CheckZip
accepts (no directory entries, vendored files or `.hg_archival.txt`) is accepted by the
file-list check (checkFiles: core of CheckFiles, CheckDir and Create) with the same valid
names, nothing omitted.

The proof is a simulation of the two loops: as long as CheckZip has reported no error the two
states agree on the collision map, the remaining size budget, the valid list and the
"module file found" flag.
-/
namespace CueVerif.Modzip

/-! ### the cue.mod rules read from the zip side -/

theorem cueModSlash_prefix (a r : Str) (ha : 47 ∉ a)
    (h : sCueModSlash.isPrefixOf (a ++ 47 :: r) = true) : a = sCueMod := by
  obtain ⟨t, ht⟩ := List.isPrefixOf_iff_prefix.mp h
  have e : sCueModSlash ++ t = sCueMod ++ 47 :: t := by simp [sCueModSlash]
  rw [e] at ht
  have h1 := cutAt_concat (x := 47) sCueMod t (by decide)
  have h2 := cutAt_concat a r ha
  rw [ht, h2] at h1
  exact (Prod.mk.inj h1).1

/-! ### the cue.mod placement rules: zip ⇒ list -/

theorem cueModTopRule_nofold (U : Uni) (p : Str)
    (hf : ¬ equalFold U (cutAt 47 p).1 sCueMod = true) : cueModTopRule U p = none := by
  unfold cueModTopRule
  exact if_neg hf

theorem cueModTopRule_of_zip (U : Uni) (p : Str) (b : Bool)
    (hp : checkFilePath U p = none) (hr : cueModZipRule U p = (none, b)) :
    cueModTopRule U p = none ∧ (b = true ↔ p = sCueModModule) ∧
    (∀ d r, splitCUEMod U p = (d, r) → r ≠ [] → d = []) := by
  have hmod : p = sCueModModule → b = true := by
    intro h; subst h
    rw [cueModZipRule_module] at hr
    exact ((Prod.mk.inj hr).2).symm
  have hg := checkFilePath_goodName U p hp
  rcases splitCUEMod_char U hg with ⟨h1, hnf⟩ | ⟨h2, hfold⟩ | ⟨x, y, hy, rfl, h3⟩
  · -- no cue.mod element
    have hb : b = false := by
      unfold cueModZipRule at hr
      rw [h1] at hr
      simp at hr
      exact hr
    refine ⟨cueModTopRule_nofold U p hnf, ⟨fun h => ?_, hmod⟩, ?_⟩
    · rw [hb] at h; cases h
    · intro d r hs hr'
      rw [h1] at hs
      exact absurd ((Prod.mk.inj hs).2).symm hr'
  · -- the first element is the last one that folds to cue.mod
    have hsplit : ∀ d r, splitCUEMod U p = (d, r) → r ≠ [] → d = [] := by
      intro d r hs _
      rw [h2] at hs
      exact ((Prod.mk.inj hs).1).symm
    unfold cueModZipRule at hr
    rw [h2] at hr
    dsimp only at hr
    rw [List.isEmpty_eq_false_iff.mpr hg.ne_nil] at hr
    simp only [Bool.false_eq_true, if_false, List.isEmpty_nil, Bool.not_true] at hr
    have ha := not_mem_cutAt_fst 47 p
    rcases cutAt_eq 47 p with h | h
    · exfalso
      rw [h] at hr
      simp [ha] at hr
    · generalize (cutAt 47 p).1 = a at h ha hfold
      generalize (cutAt 47 p).2 = r at h
      subst h
      have hc : (a ++ 47 :: r).contains 47 = true := by simp
      rw [hc] at hr
      simp only [Bool.not_true, Bool.false_eq_true, if_false] at hr
      by_cases hpre : sCueModSlash.isPrefixOf (a ++ 47 :: r) = true
      · have hacm := cueModSlash_prefix a _ ha hpre
        subst hacm
        rw [hpre] at hr
        simp only [Bool.not_true, Bool.false_eq_true, if_false] at hr
        by_cases hfm : equalFold U (sCueMod ++ 47 :: r) sCueModModule = true
        · rw [if_pos hfm] at hr
          by_cases heq : sCueMod ++ 47 :: r = sCueModModule
          · refine ⟨?_, ⟨fun _ => heq, hmod⟩, hsplit⟩
            rw [heq]; rfl
          · rw [if_pos heq] at hr
            cases hr
        · rw [if_neg hfm] at hr
          have hb : b = false := ((Prod.mk.inj hr).2).symm
          refine ⟨?_, ⟨fun h => (by rw [hb] at h; cases h), hmod⟩, hsplit⟩
          unfold cueModTopRule
          rw [cutAt_concat (x := 47) sCueMod _ (by decide)]
          dsimp only
          rw [if_pos hfold, if_neg (fun h => h rfl)]
          have : equalFold U r sModuleCue = false :=
            Bool.eq_false_iff.mpr fun hq => hfm ((equalFold_cueModSlash U _).mpr hq)
          rw [this]
          simp
      · exfalso
        have : sCueModSlash.isPrefixOf (a ++ 47 :: r) = false :=
          Bool.eq_false_iff.mpr hpre
        simp [this] at hr
  · -- a later element folds to cue.mod: CheckZip rejects
    exfalso
    unfold cueModZipRule at hr
    rw [h3] at hr
    dsimp only at hr
    rw [List.isEmpty_eq_false_iff.mpr hy.ne_nil] at hr
    simp at hr

/-! ### `inSubmodule` with no nested module directory -/

theorem inSubmodule_false (hv : List Str) (hhv : ∀ d ∈ hv, d = []) (p : Str) :
    inSubmodule hv p = false :=
  Bool.eq_false_iff.mpr fun h => by
    obtain ⟨d, hm, -, hl⟩ := (inSubmodule_iff hv p).mp h
    rw [hhv d hm] at hl
    cases hl

/-! ### the simulation -/

/-- the list entry CheckFiles sees for a (file) entry of an archive -/
def zipFEnt (e : ZEnt) : FEnt := ⟨e.name, .regular, (e.declared : Int)⟩

/-- the hypotheses on an entry: not a directory entry, a size that is non-negative as an
int64, not vendored, not `.hg_archival.txt` -/
def PlainEnt (e : ZEnt) : Prop :=
  isDirName e.name = false ∧ e.declared < 2 ^ 63 ∧
  isVendoredPackage e.name = false ∧ e.name ≠ sHgArchival

structure AgreeSim (cf : CFState) (cz : CZState) : Prop where
  ok : cz.ok
  inv : cf.cf.invalid = []
  om : cf.cf.omitted = []
  se : cf.cf.sizeError = false
  cc : cf.cc = cz.cc
  ms : cf.maxSize = (maxZipFile : Int) - cz.size
  valid : cf.cf.valid = cz.cf.valid
  found : cf.found = cz.modFile

theorem AgreeSim.init : AgreeSim {} {} :=
  ⟨⟨rfl, rfl⟩, rfl, rfl, rfl, rfl, by simp, rfl, rfl⟩

theorem agreeSim_step (U : Uni) (hv : List Str) (hhv : ∀ d ∈ hv, d = []) (cf : CFState)
    (cz : CZState) (e : ZEnt) (hpl : PlainEnt e) (hrel : AgreeSim cf cz)
    (hok : (czStep U cz e).ok) :
    AgreeSim (cfStep U hv cf (zipFEnt e)) (czStep U cz e) := by
  obtain ⟨hd, h63, hven, hhg⟩ := hpl
  obtain ⟨-, cc', b, ha⟩ := (czStep_ok_iff U cz e).mp hok
  obtain ⟨hclean, hpath, hloc, hcc, hrule⟩ := ha.toCZPassed
  rw [entName_of_file hd] at hclean hpath hloc hcc hrule
  rw [hd] at hcc
  obtain ⟨htop, hbmod, -⟩ := cueModTopRule_of_zip U e.name b hpath hrule
  have h64 : toInt64 e.declared = (e.declared : Int) := toInt64_of_lt (by
    have : (2:Nat) ^ 63 = 9223372036854775808 := by decide
    omega)
  obtain ⟨g0, g2, g4, g5⟩ := ha.fits hd
  rw [h64] at g0 g2 g4 g5
  have hcf : CFAccept U hv cf (zipFEnt e) cc' :=
    ⟨⟨rfl, hpath, hclean.symm, (checkFilePath_clean U e.name hpath).2.1, hloc, hven,
      inSubmodule_false hv hhv _, hhg, htop, by rw [hrel.cc]; exact hcc⟩, g0,
      by rw [hrel.ms]; show (e.declared : Int) ≤ _; omega, g4, g5⟩
  rw [cfStep_accept hcf, czStep_accept ha]
  refine ⟨hrel.ok, hrel.inv, hrel.om, hrel.se, rfl, ?_, ?_, ?_⟩
  · show cf.maxSize - (e.declared : Int) = _ - (cz.size + _)
    rw [hrel.ms, hd, if_neg Bool.false_ne_true, h64]
    omega
  · show cf.cf.valid ++ _ = cz.cf.valid ++ _
    rw [hrel.valid, hd]
    rfl
  · show (cf.found || _) = (cz.modFile || b)
    rw [hrel.found]
    congr 1
    cases b
    · exact decide_eq_false (fun h => absurd (hbmod.mpr h) (by decide))
    · exact decide_eq_true (hbmod.mp rfl)

theorem agreeSim_fold (U : Uni) (hv : List Str) (hhv : ∀ d ∈ hv, d = []) (z : List ZEnt) :
    ∀ (cf : CFState) (cz : CZState), (∀ e ∈ z, PlainEnt e) → AgreeSim cf cz →
    (z.foldl (czStep U) cz).ok →
    AgreeSim ((z.map zipFEnt).foldl (cfStep U hv) cf) (z.foldl (czStep U) cz) := by
  induction z with
  | nil => intro cf cz _ hrel _; exact hrel
  | cons e es ih =>
    intro cf cz hpl hrel hok
    rw [List.foldl_cons] at hok
    rw [List.map_cons, List.foldl_cons, List.foldl_cons]
    have hok1 := (czFold_ok U es _ hok).1
    exact ih _ _ (fun x hx => hpl x (List.mem_cons_of_mem _ hx))
      (agreeSim_step U hv hhv cf cz e (hpl e List.mem_cons_self) hrel hok1) hok

theorem haveCUEMod_zip (U : Uni) (z : List ZEnt) (hpl : ∀ e ∈ z, PlainEnt e)
    (h : (checkZipState U z).ok) : ∀ d ∈ haveCUEMod U (z.map zipFEnt), d = [] := by
  intro d hd
  unfold haveCUEMod at hd
  obtain ⟨f, hf, hfd⟩ := List.mem_filterMap.mp hd
  obtain ⟨e, he, rfl⟩ := List.mem_map.mp hf
  have hent := (czFold_ok U z {} h).2.1 e he
  obtain ⟨b, hr⟩ := hent.rule
  have hp := hent.path
  rw [entName_of_file (hpl e he).1] at hp hr
  obtain ⟨-, -, hsp⟩ := cueModTopRule_of_zip U e.name b hp hr
  have hpth : (zipFEnt e).path = e.name := rfl
  rw [hpth] at hfd
  rcases hs : splitCUEMod U e.name with ⟨dir, rest⟩
  rw [hs] at hfd
  dsimp only at hfd
  by_cases hre : rest.isEmpty = true
  · rw [if_pos hre] at hfd; cases hfd
  · rw [if_neg hre] at hfd
    cases hfd
    exact hsp _ _ hs (by simpa using hre)

theorem checkZip_to_checkFiles (U : Uni) (zipSize : Nat) (z : List ZEnt)
    (h : (checkZip U zipSize z).isErr = false) (hpl : ∀ e ∈ z, PlainEnt e) :
    (checkFiles U (z.map zipFEnt)).1.isErr = false ∧
    (checkFiles U (z.map zipFEnt)).1.valid = (checkZip U zipSize z).valid ∧
    (checkFiles U (z.map zipFEnt)).1.valid = z.map (·.name) ∧
    (checkFiles U (z.map zipFEnt)).1.omitted = [] ∧
    (checkFiles U (z.map zipFEnt)).1.invalid = [] := by
  obtain ⟨_, hok, hmod, hvalid⟩ := checkZip_noErr U zipSize z h
  have hhv := haveCUEMod_zip U z hpl hok
  have hrel := agreeSim_fold U _ hhv z {} {} hpl AgreeSim.init hok
  have hnames : (checkZipState U z).cf.valid = z.map (·.name) := by
    have := (czFold_ok U z {} hok).2.2.2.2
    rw [show checkZipState U z = z.foldl (czStep U) {} from rfl, this]
    simp only [fileNames, List.nil_append]
    show ([] : List Str) ++ _ = _
    rw [List.nil_append]
    congr 1
    apply List.filter_eq_self.mpr
    intro e he
    simp [(hpl e he).1]
  have hfv : (checkFiles U (z.map zipFEnt)).1.valid = (checkZipState U z).cf.valid := by
    show (checkFilesState U (z.map zipFEnt)).cf.valid = _
    exact hrel.valid
  refine ⟨?_, ?_, ?_, ?_, ?_⟩
  · refine (checkFiles_noErr U _).mpr ⟨hrel.se, hrel.inv, ?_⟩
    have := hrel.found
    rwa [show (z.foldl (czStep U) {}) = checkZipState U z from rfl, hmod] at this
  · rw [hfv, hvalid]
  · rw [hfv, hnames]
  · exact hrel.om
  · exact hrel.inv

end CueVerif.Modzip
