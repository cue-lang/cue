import CueVerif.Proofs.ModzipPath
import CueVerif.Proofs.ModzipStep
/-!
C15, collision freedom: the names `checkZip` / `checkFiles` report as valid are pairwise
distinct under case folding and none of them is (up to case folding) a directory another
valid name lies in.

The collision map only grows (`CCMono`); a successful check of a good name registers the name and
every ancestor directory (`ccCheck_good`); so the map, read as a relation between valid names,
is an invariant of both loops (`CollInv`).
-/
namespace CueVerif.Modzip

/-! ### `ccCheck` -/

theorem ccCheck_step_ok (U : Uni) (fuel : Nat) (cc cc' : CC) (p : Str) (isDir : Bool)
    (h : ccCheck U (fuel + 1) cc p isDir = (cc', none)) :
    ∃ cc1, CCMono cc cc1 ∧ ccLookup cc1 (foldKey U p) = some (p, isDir) ∧
      (isDir = false → ccLookup cc (foldKey U p) = none) ∧
      (if pathDir p ≠ sDot then ccCheck U fuel cc1 (pathDir p) true = (cc', none)
       else cc' = cc1) := by
  rcases ccCheck_succ_cases U fuel cc p isDir with ⟨w, hw⟩ | ⟨cc1, hm, hl, hn, heq⟩
  · rw [hw] at h; cases h
  · rw [heq] at h
    refine ⟨cc1, hm, hl, hn, ?_⟩
    split
    · rename_i hp; rw [if_pos hp] at h; exact h
    · rename_i hp; rw [if_neg hp] at h; exact (Prod.mk.inj h).1.symm

theorem ccCheck_good (U : Uni) {p : Str} (hg : GoodName p) :
    ∀ (fuel : Nat) (cc cc' : CC) (isDir : Bool), p.length < fuel →
    ccCheck U fuel cc p isDir = (cc', none) →
    ccLookup cc' (foldKey U p) = some (p, isDir) ∧
    (isDir = false → ccLookup cc (foldKey U p) = none) ∧
    ∀ d, IsAncestor d p → ccLookup cc' (foldKey U d) = some (d, true) := by
  induction hg with
  | @single e he =>
    intro fuel cc cc' isDir hf h
    obtain ⟨fuel, rfl⟩ := Nat.exists_eq_succ_of_ne_zero (Nat.ne_zero_of_lt hf)
    obtain ⟨cc1, -, hl, hnone, hrec⟩ := ccCheck_step_ok U fuel cc cc' _ isDir h
    rw [pathDir_single e he.2.2.2, if_neg (fun h => h rfl)] at hrec
    subst hrec
    exact ⟨hl, hnone, fun d hd => absurd hd (no_ancestor_single d e he.2.2.2)⟩
  | @snoc q e hq he ih =>
    intro fuel cc cc' isDir hf h
    obtain ⟨fuel, rfl⟩ := Nat.exists_eq_succ_of_ne_zero (Nat.ne_zero_of_lt hf)
    obtain ⟨cc1, -, hl, hnone, hrec⟩ := ccCheck_step_ok U fuel cc cc' _ isDir h
    rw [pathDir_snoc hq he.2.2.2, if_pos hq.ne_sDot] at hrec
    obtain ⟨i1, -, i2⟩ := ih fuel cc1 cc' true
      (by simp only [List.length_append, List.length_cons] at hf; omega) hrec
    have hm' : CCMono cc1 cc' := by
      have := ccCheck_mono U fuel cc1 q true
      rwa [hrec] at this
    refine ⟨hm' _ _ hl, hnone, fun d hd => ?_⟩
    rcases ancestor_snoc hq.getLast he.2.2.2 hd with rfl | hd
    · exact i1
    · exact i2 d hd

/-! ### the loop invariant -/

structure CollInv (U : Uni) (cc : CC) (valid : List Str) : Prop where
  file : ∀ v ∈ valid, ccLookup cc (foldKey U v) = some (v, false)
  dirs : ∀ v ∈ valid, ∀ d, IsAncestor d v → ccLookup cc (foldKey U d) = some (d, true)
  pw : valid.Pairwise (fun a b => foldKey U a ≠ foldKey U b)

theorem CollInv.collisionFree {U : Uni} {cc : CC} {valid : List Str} (h : CollInv U cc valid) :
    CollisionFree U valid := by
  refine ⟨h.pw, ?_⟩
  intro a ha b hb d hd heq
  have h1 := h.file a ha
  have h2 := h.dirs b hb d hd
  rw [heq, h1] at h2
  cases h2

theorem CollInv.init (U : Uni) : CollInv U [] [] :=
  ⟨by simp, by simp, List.Pairwise.nil⟩

theorem CollInv.mono {U : Uni} {cc cc' : CC} {valid : List Str} (h : CollInv U cc valid)
    (hm : CCMono cc cc') : CollInv U cc' valid :=
  ⟨fun v hv => hm _ _ (h.file v hv), fun v hv d hd => hm _ _ (h.dirs v hv d hd), h.pw⟩

theorem CollInv.add {U : Uni} {cc cc' : CC} {valid : List Str} (h : CollInv U cc valid)
    (p : Str) (hp : checkFilePath U p = none) (hc : ccCheckTop U cc p false = (cc', none)) :
    CollInv U cc' (valid ++ [p]) := by
  obtain ⟨k3, k1, k4⟩ := ccCheck_good U (checkFilePath_goodName U p hp) _ cc cc' false
    (Nat.lt_succ_self _) hc
  have k2 := ccCheckTop_mono hc
  refine ⟨List.forall_mem_append.mpr
      ⟨fun v hv => k2 _ _ (h.file v hv), List.forall_mem_singleton.mpr k3⟩,
    List.forall_mem_append.mpr
      ⟨fun v hv d hd => k2 _ _ (h.dirs v hv d hd), List.forall_mem_singleton.mpr k4⟩, ?_⟩
  rw [List.pairwise_append]
  refine ⟨h.pw, List.pairwise_singleton _ _, ?_⟩
  intro a ha b hb heq
  rw [List.mem_singleton.mp hb] at heq
  have := h.file a ha
  rw [heq, k1 rfl] at this
  cases this

/-- what one loop iteration may do to (collision map, valid names) -/
def CollStep (U : Uni) (cc : CC) (valid : List Str) (cc' : CC) (valid' : List Str) : Prop :=
  (CCMono cc cc' ∧ valid' = valid) ∨
  ∃ p, checkFilePath U p = none ∧ ccCheckTop U cc p false = (cc', none) ∧ valid' = valid ++ [p]

theorem CollInv.step {U : Uni} {cc cc' : CC} {valid valid' : List Str} (h : CollInv U cc valid)
    (hs : CollStep U cc valid cc' valid') : CollInv U cc' valid' := by
  rcases hs with ⟨hm, rfl⟩ | ⟨p, hp, hc, rfl⟩
  · exact h.mono hm
  · exact h.add p hp hc

theorem CollInv.foldl {U : Uni} {σ α : Type} {step : σ → α → σ} {cc : σ → CC}
    {valid : σ → List Str}
    (hstep : ∀ st x, CollStep U (cc st) (valid st) (cc (step st x)) (valid (step st x)))
    (l : List α) (st : σ) (h : CollInv U (cc st) (valid st)) :
    CollInv U (cc (l.foldl step st)) (valid (l.foldl step st)) := by
  induction l generalizing st with
  | nil => exact h
  | cons x xs ih => exact ih _ (h.step (hstep st x))

/-! ### CheckZip -/

theorem czStep_step (U : Uni) (st : CZState) (e : ZEnt) :
    CollStep U st.cc st.cf.valid (czStep U st e).cc (czStep U st e).cf.valid := by
  have ho := czStep_outcome U st e
  generalize czStep U st e = s at ho
  cases ho with
  | nameErr cc' w hm hnp => exact Or.inl ⟨hm, rfl⟩
  | dir cc' b hp hd => exact Or.inl ⟨ccCheckTop_mono hp.coll, rfl⟩
  | limit cc' b w hp hd hover =>
    obtain ⟨a, -, -, c, -⟩ := czSize_frame (czNamed st cc' b) (toInt64 e.declared)
    exact Or.inl ⟨c ▸ ccCheckTop_mono hp.coll, a⟩
  | valid cc' b hp hd hcm hli =>
    obtain ⟨a, -, -, c, -⟩ := czSize_frame (czNamed st cc' b) (toInt64 e.declared)
    have hpath := hp.path
    have hcoll := hp.coll
    rw [entName_of_file hd] at hpath hcoll
    rw [hd] at hcoll
    exact Or.inr ⟨e.name, hpath, hcoll.trans (congrArg (·, none) c.symm), congrArg (· ++ [e.name]) a⟩

theorem checkZip_collisionFree (U : Uni) (zipSize : Nat) (z : List ZEnt) :
    CollisionFree U (checkZip U zipSize z).valid := by
  unfold checkZip
  split
  · exact (CollInv.init U).collisionFree
  · exact (CollInv.foldl (czStep_step U) z {} (CollInv.init U)).collisionFree

/-! ### checkFiles -/

theorem cfStep_step (U : Uni) (hv : List Str) (st : CFState) (f : FEnt) :
    CollStep U st.cc st.cf.valid (cfStep U hv st f).cc (cfStep U hv st f).cf.valid := by
  have ho := cfStep_outcome U hv st f
  generalize cfStep U hv st f = s at ho
  cases ho with
  | skip hk => exact Or.inl ⟨CCMono.refl _, rfl⟩
  | nameErr cc' o w hm hnp =>
    obtain ⟨a, -, -, -, -, c, -⟩ := CFState.addError_frame { st with cc := cc' } f.path o w
    rw [a, c]
    exact Or.inl ⟨hm, rfl⟩
  | limit cc' w hp hover =>
    obtain ⟨a, -, -, -, -, c, -⟩ :=
      CFState.addError_frame (cfSize { st with cc := cc' } f) f.path false w
    obtain ⟨a2, -, -, -, c2, -⟩ := cfSize_frame { st with cc := cc' } f
    rw [a, c, a2, c2]
    exact Or.inl ⟨ccCheckTop_mono hp.coll, rfl⟩
  | valid cc' hp hcm hli =>
    obtain ⟨a2, -, -, -, c2, -⟩ := cfSize_frame { st with cc := cc' } f
    exact Or.inr ⟨f.path, hp.path, hp.coll.trans (congrArg (·, none) c2.symm),
      congrArg (· ++ [f.path]) a2⟩

theorem checkFiles_collisionFree (U : Uni) (files : List FEnt) :
    CollisionFree U (checkFiles U files).1.valid :=
  (CollInv.foldl (cfStep_step U (haveCUEMod U files)) files {} (CollInv.init U)).collisionFree

end CueVerif.Modzip
