import CueVerif.Proofs.ModzipSizes
import CueVerif.Proofs.ModzipColl
/-!
C15: `create` (= modzip.Create after sorting) only emits archives that `checkZip`
(= modzip.CheckZip) accepts, with the same list of valid names.

The proof is a simulation: CheckZip run on the entries written so far keeps a collision map that
is a sub-map of the one checkFiles has built (checkFiles also registers the files it rejects), and
a name that passed every test of checkFiles passes the cue.mod placement rules of CheckZip.
-/
namespace CueVerif.Modzip

/-- what Open delivers for the valid entry `e`: content of the first source file with that Lstat -/
def srcOf (files : List SrcFile) (e : FEnt) : List Nat :=
  match files.find? (fun s => s.ent = e) with
  | some s => s.content
  | none => []

/-- the archive entry `create` writes for a valid entry -/
def mkEnt (files : List SrcFile) (e : FEnt) : ZEnt :=
  { name := e.path, declared := (srcOf files e).length, data := srcOf files e }

theorem create_eq (U : Uni) (files : List SrcFile) :
    create U files =
      if (checkFiles U (files.map (·.ent))).1.isErr then none
      else if (checkFiles U (files.map (·.ent))).2.any
          (fun e => decide ((srcOf files e).length > e.size.toNat)) then none
      else some ((checkFiles U (files.map (·.ent))).2.map (mkEnt files)) := rfl

theorem create_some (U : Uni) (files : List SrcFile) (z : List ZEnt) :
    create U files = some z ↔
    (checkFiles U (files.map (·.ent))).1.isErr = false ∧
    (∀ e ∈ (checkFiles U (files.map (·.ent))).2, (srcOf files e).length ≤ e.size.toNat) ∧
    z = (checkFiles U (files.map (·.ent))).2.map (mkEnt files) := by
  have hany : (checkFiles U (files.map (·.ent))).2.any
        (fun e => decide ((srcOf files e).length > e.size.toNat)) = false ↔
      ∀ e ∈ (checkFiles U (files.map (·.ent))).2, (srcOf files e).length ≤ e.size.toNat := by
    simp only [List.any_eq_false, decide_eq_true_eq, gt_iff_lt, Nat.not_lt]
  rw [create_eq, ← hany]
  cases (checkFiles U (files.map (·.ent))).1.isErr <;>
    cases (checkFiles U (files.map (·.ent))).2.any _ <;> simp [eq_comm]

theorem create_isSome_iff (U : Uni) (files : List SrcFile) :
    (create U files).isSome = true ↔
      ((checkFiles U (files.map (·.ent))).1.isErr = false ∧
       ∀ e ∈ (checkFiles U (files.map (·.ent))).2, (srcOf files e).length ≤ e.size.toNat) := by
  simp only [Option.isSome_iff_exists, create_some]
  exact ⟨fun ⟨_, a, b, _⟩ => ⟨a, b⟩, fun ⟨a, b⟩ => ⟨_, a, b, rfl⟩⟩

theorem srcOf_spec (files : List SrcFile) (e : FEnt) (he : e ∈ files.map (·.ent)) :
    ∃ s ∈ files, s.ent = e ∧ srcOf files e = s.content := by
  obtain ⟨s0, hs0, hs0e⟩ := List.mem_map.mp he
  unfold srcOf
  cases hf : files.find? (fun s => s.ent = e) with
  | none =>
    have := List.find?_eq_none.mp hf s0 hs0
    simp [hs0e] at this
  | some s =>
    refine ⟨s, List.mem_of_find?_eq_some hf, ?_, rfl⟩
    have := List.find?_some hf
    simpa using this

/-! ### the collision checker on a sub-map -/

theorem ccMono_cons_left {small big : CC} {k : List Nat} {v : Str × Bool}
    (h : CCMono small big) (hk : ccLookup big k = some v) : CCMono ((k, v) :: small) big := by
  intro k' v' h'
  simp only [ccLookup] at h'
  split at h'
  · rename_i hkk
    subst hkk
    cases h'
    exact hk
  · exact h _ _ h'

/-- if the check of `p` succeeds on a map, it succeeds on every sub-map, and the results are
again sub-map and map -/
theorem ccCheck_sim (U : Uni) (fuel : Nat) (small big big' : CC) (p : Str) (d : Bool)
    (hsub : CCMono small big) (h : ccCheck U fuel big p d = (big', none)) :
    ∃ small', ccCheck U fuel small p d = (small', none) ∧ CCMono small' big' := by
  induction fuel generalizing small big p d with
  | zero =>
    refine ⟨small, rfl, ?_⟩
    have : big' = big := (Prod.mk.inj h).1.symm
    rw [this]; exact hsub
  | succ fuel ih =>
    obtain ⟨cc1, hm1, hl1, hfile, hrec⟩ := ccCheck_step_ok U fuel big big' p d h
    -- the lookup of `p` in the small map: absent, or the directory entry that `big` holds too
    have hstep : ∃ sm1, CCMono sm1 cc1 ∧ ccCheck U (fuel + 1) small p d =
        if pathDir p ≠ sDot then ccCheck U fuel sm1 (pathDir p) true else (sm1, none) := by
      rw [ccCheck_succ]
      cases hl : ccLookup small (foldKey U p) with
      | none => exact ⟨_, ccMono_cons_left (hsub.trans hm1) hl1, rfl⟩
      | some v =>
        have hb : ccLookup big (foldKey U p) = some v := hsub _ _ hl
        have hv : v = (p, d) := Option.some.inj ((hm1 _ _ hb).symm.trans hl1)
        subst hv
        have hd : d = true := by
          cases d with
          | true => rfl
          | false => rw [hfile rfl] at hb; cases hb
        subst hd
        exact ⟨small, hsub.trans hm1, by
          simp only [ne_eq, not_true_eq_false, if_false, Bool.not_true, Bool.false_eq_true]⟩
    obtain ⟨sm1, hs1, heq⟩ := hstep
    rw [heq]
    by_cases hp : pathDir p ≠ sDot
    · rw [if_pos hp] at hrec ⊢
      exact ih _ _ _ _ hs1 hrec
    · rw [if_neg hp] at hrec ⊢
      exact ⟨_, rfl, by rw [hrec]; exact hs1⟩

theorem ccCheckTop_sim (U : Uni) (small big big' : CC) (p : Str) (d : Bool)
    (hsub : CCMono small big) (h : ccCheckTop U big p d = (big', none)) :
    ∃ small', ccCheckTop U small p d = (small', none) ∧ CCMono small' big' :=
  ccCheck_sim U _ small big big' p d hsub h

/-! ### case folding of an ASCII prefix -/

theorem foldKey_cons_ascii (U : Uni) (b : Nat) (s : Str) (hb : b < 128) :
    foldKey U (b :: s) = foldRune U b :: foldKey U s := by
  simp [foldKey, runes_cons_ascii b s hb]

theorem foldKey_append_ascii (U : Uni) (a s : Str) (h : ∀ b ∈ a, b < 128) :
    foldKey U (a ++ s) = a.map (foldRune U) ++ foldKey U s := by
  induction a with
  | nil => rfl
  | cons b a ih =>
    rw [List.cons_append, foldKey_cons_ascii U b _ (h b List.mem_cons_self),
      ih (fun x hx => h x (List.mem_cons_of_mem _ hx))]
    rfl

theorem equalFold_iff (U : Uni) (s t : Str) : equalFold U s t = true ↔ foldKey U s = foldKey U t := by
  simp [equalFold]

theorem equalFold_cueModSlash (U : Uni) (r : Str) :
    equalFold U (sCueMod ++ 47 :: r) sCueModModule = true ↔ equalFold U r sModuleCue = true := by
  have ha : ∀ b ∈ sCueModSlash, b < 128 := by decide
  rw [equalFold_iff, equalFold_iff, show sCueMod ++ 47 :: r = sCueModSlash ++ r by simp [sCueModSlash],
    show sCueModModule = sCueModSlash ++ sModuleCue from rfl, foldKey_append_ascii U _ _ ha,
    foldKey_append_ascii U _ _ ha]
  exact List.append_right_inj _

/-! ### `splitCUEMod` and `inSubmodule` on good names -/

theorem splitCUEModAux_succ (U : Uni) (p : Str) (fuel : Nat) (s : Str) :
    splitCUEModAux U p (fuel + 1) s =
      if equalFold U (pathSplit s).2 sCueMod then
        (p.take (pathSplit s).1.length, p.drop (pathSplit s).1.length)
      else if (trimRightSlash (pathSplit s).1).isEmpty then (p, [])
      else splitCUEModAux U p fuel (trimRightSlash (pathSplit s).1) := rfl

/-- the possible results of `splitCUEMod` on a good name: the first element does not fold to
"cue.mod" and no later one does; or the last element that does is the first one; or it is a
later one (`s` is the part of the name still to be searched, from its end, `r` what follows
it) -/
theorem splitCUEModAux_char (U : Uni) (p : Str) {s : Str} (hs : GoodName s) :
    ∀ (fuel : Nat) (r : Str), p = s ++ r → (r = [] ∨ ∃ y, GoodName y ∧ r = 47 :: y) →
    s.length < fuel →
    (splitCUEModAux U p fuel s = (p, []) ∧ ¬ equalFold U (cutAt 47 s).1 sCueMod = true) ∨
    (splitCUEModAux U p fuel s = ([], p) ∧ equalFold U (cutAt 47 s).1 sCueMod = true) ∨
    (∃ x y, GoodName y ∧ p = x ++ 47 :: y ∧
      splitCUEModAux U p fuel s = (x ++ [47], y)) := by
  induction hs with
  | @single e he =>
    intro fuel r hp _ hf
    obtain ⟨fuel, rfl⟩ := Nat.exists_eq_succ_of_ne_zero (Nat.ne_zero_of_lt hf)
    rw [splitCUEModAux_succ, pathSplit_single e he.2.2.2, cutAt_single e he.2.2.2]
    by_cases hfold : equalFold U e sCueMod = true
    · exact Or.inr (Or.inl ⟨by rw [if_pos hfold]; rfl, hfold⟩)
    · exact Or.inl ⟨by rw [if_neg hfold]; rfl, hfold⟩
  | @snoc q e hq he ih =>
    intro fuel r hp hr hf
    obtain ⟨fuel, rfl⟩ := Nat.exists_eq_succ_of_ne_zero (Nat.ne_zero_of_lt hf)
    have hy : GoodName (e ++ r) := by
      rcases hr with rfl | ⟨y, hy, rfl⟩
      · rw [List.append_nil]; exact .single he
      · exact (GoodName.single he).append hy
    have hp' : p = (q ++ [47]) ++ (e ++ r) := by rw [hp]; simp
    rw [splitCUEModAux_succ, pathSplit_concat q e he.2.2.2, cutAt_fst_snoc]
    by_cases hfold : equalFold U e sCueMod = true
    · refine Or.inr (Or.inr ⟨q, e ++ r, hy, by rw [hp']; simp, ?_⟩)
      rw [if_pos hfold, hp', List.take_left' rfl, List.drop_left' rfl]
    · rw [if_neg hfold, trimRightSlash_snoc q hq.getLast,
        if_neg (by simpa using hq.ne_nil)]
      exact ih fuel _ (by rw [hp']; simp) (Or.inr ⟨_, hy, rfl⟩)
        (by simp only [List.length_append, List.length_cons] at hf; omega)

theorem splitCUEMod_char (U : Uni) {p : Str} (hg : GoodName p) :
    (splitCUEMod U p = (p, []) ∧ ¬ equalFold U (cutAt 47 p).1 sCueMod = true) ∨
    (splitCUEMod U p = ([], p) ∧ equalFold U (cutAt 47 p).1 sCueMod = true) ∨
    (∃ x y, GoodName y ∧ p = x ++ 47 :: y ∧
      splitCUEMod U p = (x ++ [47], y)) :=
  splitCUEModAux_char U p hg _ [] (List.append_nil p).symm (Or.inl rfl) (Nat.lt_succ_self _)

/-! ### `inSubmodule`, for every byte string -/

theorem prefix_dropLast_of_ne {d l : Str} (h : d <+: l) (hne : d ≠ l) : d <+: l.dropLast := by
  obtain ⟨t, rfl⟩ := h
  have ht : t ≠ [] := fun h0 => hne (by rw [h0, List.append_nil])
  rw [List.dropLast_append_of_ne_nil ht]
  exact List.prefix_append _ _

theorem inSubmoduleAux_succ (hv : List Str) (fuel : Nat) (p : Str) :
    inSubmoduleAux hv (fuel + 1) p =
      if (pathSplit p).1.isEmpty then false
      else if hv.contains (pathSplit p).1 then true
      else inSubmoduleAux hv fuel ((pathSplit p).1.take ((pathSplit p).1.length - 1)) := rfl

theorem inSubmoduleAux_iff (hv : List Str) (fuel : Nat) : ∀ p : Str, p.length < fuel →
    (inSubmoduleAux hv fuel p = true ↔ ∃ d ∈ hv, d <+: p ∧ d.getLast? = some 47) := by
  induction fuel with
  | zero => intro p h; omega
  | succ fuel ih =>
    intro p hlen
    obtain ⟨hsplit, hfile, hdir⟩ := pathSplit_spec p
    rw [inSubmoduleAux_succ]
    generalize (pathSplit p).1 = dir at hsplit hdir ⊢
    generalize (pathSplit p).2 = file at hsplit hfile
    subst hsplit
    -- a prefix of `p` that ends in a slash is a prefix of the directory part
    have key : ∀ d : Str, d.getLast? = some 47 → d <+: dir ++ file → d <+: dir := by
      intro d hl hd
      rcases List.prefix_or_prefix_of_prefix hd (List.prefix_append dir file) with h | ⟨x, rfl⟩
      · exact h
      · rw [List.prefix_append_right_inj] at hd
        cases x with
        | nil => rw [List.append_nil]; exact List.prefix_refl _
        | cons c cs =>
          rw [List.getLast?_append] at hl
          cases hx : (c :: cs).getLast? with
          | none => simp at hx
          | some y =>
            rw [hx] at hl
            cases hl
            exact absurd (hd.subset (List.mem_of_getLast? hx)) hfile
    rcases hdir with rfl | hlast
    · simp only [List.isEmpty_nil, if_true, Bool.false_eq_true, false_iff]
      rintro ⟨d, -, hd, hl⟩
      rw [List.prefix_nil.mp (key d hl hd)] at hl
      cases hl
    · have hne : dir ≠ [] := by rintro rfl; cases hlast
      rw [List.isEmpty_eq_false_iff.mpr hne, if_neg Bool.false_ne_true]
      by_cases hc : hv.contains dir = true
      · rw [if_pos hc]
        exact iff_of_true rfl ⟨dir, List.contains_iff_mem.mp hc, List.prefix_append _ _, hlast⟩
      · rw [if_neg hc, ← List.dropLast_eq_take, ih _ (by
          have := List.length_pos_iff.mpr hne
          simp only [List.length_dropLast, List.length_append] at hlen ⊢
          omega)]
        constructor
        · rintro ⟨d, hm, hd, hl⟩
          exact ⟨d, hm, (hd.trans (List.dropLast_prefix _)).trans (List.prefix_append _ _), hl⟩
        · rintro ⟨d, hm, hd, hl⟩
          exact ⟨d, hm, prefix_dropLast_of_ne (key d hl hd)
            (fun h => hc (List.contains_iff_mem.mpr (h ▸ hm))), hl⟩

/-- `inSubmodule`, for every byte string: some directory prefix of `p` (a prefix ending in a
slash) is listed -/
theorem inSubmodule_iff (hv : List Str) (p : Str) :
    inSubmodule hv p = true ↔ ∃ d ∈ hv, d <+: p ∧ d.getLast? = some 47 :=
  inSubmoduleAux_iff hv _ p (Nat.lt_succ_self _)

theorem mem_haveCUEMod (U : Uni) (ents : List FEnt) (f : FEnt) (hf : f ∈ ents) (d r : Str)
    (hs : splitCUEMod U f.path = (d, r)) (hr : r ≠ []) : d ∈ haveCUEMod U ents := by
  unfold haveCUEMod
  apply List.mem_filterMap.mpr
  refine ⟨f, hf, ?_⟩
  rw [hs]
  simp [hr]

/-! ### the cue.mod placement rules on a valid name -/

theorem cueModTopRule_cut (U : Uni) (p : Str)
    (hfold : equalFold U (cutAt 47 p).1 sCueMod = true) (h : cueModTopRule U p = none) :
    (cutAt 47 p).1 = sCueMod ∧
    (equalFold U (cutAt 47 p).2 sModuleCue = true → (cutAt 47 p).2 = sModuleCue) := by
  unfold cueModTopRule at h
  generalize cutAt 47 p = c at hfold h ⊢
  obtain ⟨a, r⟩ := c
  dsimp only at hfold h ⊢
  rw [if_pos hfold] at h
  by_cases h1 : a = sCueMod
  · refine ⟨h1, fun hr => ?_⟩
    rw [if_neg (fun hh => hh h1)] at h
    by_cases h2 : r = sModuleCue
    · exact h2
    · simp [hr, h2] at h
  · rw [if_pos h1] at h; cases h

theorem cueModZipRule_module (U : Uni) : cueModZipRule U sCueModModule = (none, true) := rfl

theorem cueModZipRule_of_valid (U : Uni) (hv : List Str) (p : Str)
    (hhv : ∀ d r, splitCUEMod U p = (d, r) → r ≠ [] → d ∈ hv)
    (hp : checkFilePath U p = none) (hsub : inSubmodule hv p = false)
    (htop : cueModTopRule U p = none) (hne : p ≠ sCueMod) (hm : p ≠ sCueModModule) :
    cueModZipRule U p = (none, false) := by
  rcases splitCUEMod_char U (checkFilePath_goodName U p hp) with ⟨h1, -⟩ | ⟨h2, hfold⟩ |
      ⟨x, y, hy, rfl, h3⟩
  · unfold cueModZipRule
    rw [h1]
    simp
  · obtain ⟨ha, hcase⟩ := cueModTopRule_cut U p hfold htop
    rcases cutAt_eq 47 p with h | h
    · exact absurd (h.trans ha) hne
    · rw [ha] at h
      generalize (cutAt 47 p).2 = r at h hcase
      subst h
      unfold cueModZipRule
      rw [h2]
      dsimp only
      have e1 : (sCueMod ++ 47 :: r).isEmpty = false := by simp [sCueMod]
      have e3 : sCueModSlash.isPrefixOf (sCueMod ++ 47 :: r) = true := by
        apply List.isPrefixOf_iff_prefix.mpr
        exact ⟨r, by simp [sCueModSlash]⟩
      have e4 : equalFold U (sCueMod ++ 47 :: r) sCueModModule = false :=
        Bool.eq_false_iff.mpr fun hq => hm (by
          rw [hcase ((equalFold_cueModSlash U _).mp hq)]
          decide)
      simp [e1, e3, e4]
  · have := (inSubmodule_iff hv (x ++ 47 :: y)).mpr
      ⟨x ++ [47], hhv _ _ h3 hy.ne_nil, ⟨y, by simp⟩, by simp⟩
    rw [hsub] at this
    cases this

theorem isDirName_false_of_path {U : Uni} {p : Str} (hp : checkFilePath U p = none) :
    isDirName p = false := by
  simpa [isDirName] using (checkFilePath_none hp).2.1

theorem cfStep_validEnts_prefix (U : Uni) (hv : List Str) (st : CFState) (f : FEnt) :
    st.validEnts <+: (cfStep U hv st f).validEnts := by
  have ho := cfStep_outcome U hv st f
  generalize cfStep U hv st f = s at ho
  cases ho with
  | skip hk => exact List.prefix_refl _
  | nameErr cc' o w hm hnp =>
    rw [(CFState.addError_frame _ _ _ _).2.1]; exact List.prefix_refl _
  | limit cc' w hp hover =>
    rw [(CFState.addError_frame _ _ _ _).2.1, (cfSize_frame _ _).2.1]; exact List.prefix_refl _
  | valid cc' hp hcm hli =>
    show _ <+: (cfSize _ _).validEnts ++ _
    rw [(cfSize_frame _ _).2.1]; exact List.prefix_append _ _

theorem cfFold_validEnts_prefix (U : Uni) (hv : List Str) (l : List FEnt) (st : CFState) :
    st.validEnts <+: (l.foldl (cfStep U hv) st).validEnts := by
  induction l generalizing st with
  | nil => exact List.prefix_refl _
  | cons f fs ih => exact List.IsPrefix.trans (cfStep_validEnts_prefix U hv st f) (ih _)

/-! ### the simulation relation between the two loops -/

/-- `cz` is the state of CheckZip after the entries written for the valid files seen so far by
checkFiles, whose state is `st` -/
structure CreateSim (st : CFState) (cz : CZState) : Prop where
  cc : CCMono cz.cc st.cc
  valid : cz.cf.valid = st.cf.valid
  ok : cz.ok
  size : st.cf.sizeError = false → 0 ≤ cz.size ∧ cz.size + st.maxSize ≤ (maxZipFile : Int)
  found : st.found = true → cz.modFile = true

theorem CreateSim.init : CreateSim {} {} :=
  ⟨CCMono.refl _, rfl, ⟨rfl, rfl⟩, fun _ => ⟨Int.le_refl _, Int.le_of_eq (Int.zero_add _)⟩, nofun⟩

theorem CreateSim.frame {st st' : CFState} {cz : CZState} (h : CreateSim st cz)
    (hcc : CCMono st.cc st'.cc) (hv : st'.cf.valid = st.cf.valid)
    (hs : st'.cf.sizeError = false → st.cf.sizeError = false ∧ st'.maxSize ≤ st.maxSize)
    (hf : st'.found = true → st.found = true) : CreateSim st' cz := by
  refine ⟨h.cc.trans hcc, by rw [hv]; exact h.valid, h.ok, ?_, fun hh => h.found (hf hh)⟩
  intro hh
  obtain ⟨s1, s2⟩ := hs hh
  obtain ⟨z1, z2⟩ := h.size s1
  exact ⟨z1, by omega⟩

theorem createSim_step (U : Uni) (ents : List FEnt) (st : CFState) (cz : CZState) (f : FEnt)
    (hf : f ∈ ents) (hrel : CreateSim st cz)
    (hse : (cfStep U (haveCUEMod U ents) st f).cf.sizeError = false) :
    ((cfStep U (haveCUEMod U ents) st f).validEnts = st.validEnts ∧
      CreateSim (cfStep U (haveCUEMod U ents) st f) cz) ∨
    ((cfStep U (haveCUEMod U ents) st f).validEnts = st.validEnts ++ [f] ∧
      ∀ e : ZEnt, e.name = f.path → f.path ≠ sCueMod → e.declared ≤ f.size.toNat →
        CreateSim (cfStep U (haveCUEMod U ents) st f) (czStep U cz e)) := by
  have ho := cfStep_outcome U (haveCUEMod U ents) st f
  generalize cfStep U (haveCUEMod U ents) st f = s at ho hse
  cases ho with
  | skip hk => exact Or.inl ⟨rfl, hrel⟩
  | nameErr cc' o w hm hnp =>
    obtain ⟨x1, x2, x3, x4, x5, x6, -⟩ :=
      CFState.addError_frame ({ st with cc := cc' } : CFState) f.path o w
    exact Or.inl ⟨x2, hrel.frame (x6 ▸ hm) x1 (fun hh => ⟨x4 ▸ hh, by rw [x5]; exact Int.le_refl _⟩)
      (by rw [x3]; exact id)⟩
  | limit cc' w hp hover =>
    obtain ⟨x1, x2, x3, x4, x5, x6, -⟩ :=
      CFState.addError_frame (cfSize { st with cc := cc' } f) f.path false w
    obtain ⟨a2, b2, c2, -, cc2, d2, -⟩ := cfSize_frame { st with cc := cc' } f
    refine Or.inl ⟨x2.trans b2, hrel.frame (x6 ▸ cc2 ▸ ccCheckTop_mono hp.coll) (x1.trans a2)
      (fun hh => ?_) (by rw [x3, c2]; exact id)⟩
    obtain ⟨k1, k2, k3, k4⟩ := d2 (x4 ▸ hh)
    have k4' : (cfSize { st with cc := cc' } f).maxSize = st.maxSize - f.size := k4
    exact ⟨k1, by rw [x5, k4']; omega⟩
  | valid cc' hp hcm hli =>
    obtain ⟨a2, b2, c2, -, cc2, d2, -⟩ := cfSize_frame { st with cc := cc' } f
    obtain ⟨s1, s2, s3, s4⟩ := d2 hse
    have hs : cfSize { st with cc := cc' } f =
        { st with cc := cc', maxSize := st.maxSize - f.size } := if_pos ⟨s2, s3⟩
    rw [hs]
    refine Or.inr ⟨rfl, ?_⟩
    intro e hn hne hdecl
    have s1' : st.cf.sizeError = false := s1
    have s3' : f.size ≤ st.maxSize := s3
    obtain ⟨z1, z2⟩ := hrel.size s1'
    obtain ⟨c3, hcc2, hm2⟩ := ccCheckTop_sim U cz.cc st.cc cc' f.path false hrel.cc hp.coll
    obtain ⟨b, hb, hbm⟩ :
        ∃ b, cueModZipRule U f.path = (none, b) ∧ (f.path = sCueModModule → b = true) := by
      by_cases hmod : f.path = sCueModModule
      · exact ⟨true, by rw [hmod]; exact cueModZipRule_module U, fun _ => rfl⟩
      · exact ⟨false, cueModZipRule_of_valid U _ f.path
          (fun d r hs hr => mem_haveCUEMod U ents f hf d r hs hr) hp.path hp.notSub hp.topRule
          hne hmod, fun hh => absurd hh hmod⟩
    have hdir : isDirName e.name = false := by rw [hn]; exact isDirName_false_of_path hp.path
    have h64 : toInt64 e.declared = (e.declared : Int) := toInt64_of_lt (by
      have : (maxZipFile : Int) = 524288000 := rfl
      omega)
    have hacc : CZAccept U cz e c3 b := by
      refine ⟨?_, fun _ => ?_⟩
      · refine ⟨?_, ?_, ?_, ?_, ?_⟩ <;> rw [entName_of_file hdir, hn]
        · exact (checkFilePath_clean U _ hp.path).1
        · exact hp.path
        · exact hp.notLocal
        · rw [← hn, hdir, hn]; exact hcc2
        · exact hb
      · rw [h64, hn]
        exact ⟨by omega, by omega, fun h1 => by have := hcm h1; omega,
          fun h1 => by have := hli h1; omega⟩
    rw [czStep_accept hacc]
    refine ⟨hm2, ?_, hrel.ok, fun _ => ?_, fun hfd => ?_⟩
    · show cz.cf.valid ++ _ = st.cf.valid ++ _
      rw [hdir, hn, hrel.valid]
      rfl
    · show 0 ≤ cz.size + _ ∧ cz.size + _ + (st.maxSize - f.size) ≤ _
      rw [hdir, if_neg Bool.false_ne_true, h64]
      omega
    · show (cz.modFile || b) = true
      rcases Bool.or_eq_true_iff.mp hfd with h1 | h1
      · rw [hrel.found h1]; rfl
      · rw [hbm (of_decide_eq_true h1)]; simp

theorem createSim_fold (U : Uni) (ents : List FEnt) (files : List SrcFile) :
    ∀ (l : List FEnt) (st : CFState) (cz : CZState), (∀ f ∈ l, f ∈ ents) → CreateSim st cz →
      (l.foldl (cfStep U (haveCUEMod U ents)) st).cf.sizeError = false →
      (∀ f ∈ (l.foldl (cfStep U (haveCUEMod U ents)) st).validEnts,
        f.path ≠ sCueMod ∧ (srcOf files f).length ≤ f.size.toNat) →
      ∃ new, (l.foldl (cfStep U (haveCUEMod U ents)) st).validEnts = st.validEnts ++ new ∧
        CreateSim (l.foldl (cfStep U (haveCUEMod U ents)) st)
          ((new.map (mkEnt files)).foldl (czStep U) cz) := by
  intro l
  induction l with
  | nil =>
    intro st cz _ hrel _ _
    exact ⟨[], by simp, hrel⟩
  | cons f fs ih =>
    intro st cz hmem hrel hse hgood
    rw [List.foldl_cons] at hse hgood ⊢
    have hse1 : (cfStep U (haveCUEMod U ents) st f).cf.sizeError = false :=
      Bool.eq_false_iff.mpr fun h =>
        Bool.false_ne_true (hse.symm.trans (cfFold_sizeError_mono U _ fs _ h))
    have hmem' : ∀ g ∈ fs, g ∈ ents := fun g hg => hmem g (List.mem_cons_of_mem _ hg)
    rcases createSim_step U ents st cz f (hmem f List.mem_cons_self) hrel hse1 with
      ⟨hv1, hr1⟩ | ⟨hv1, hr1⟩
    · obtain ⟨new, hn, hr⟩ := ih _ cz hmem' hr1 hse hgood
      exact ⟨new, by rw [hn, hv1], hr⟩
    · have hfmem : f ∈ (fs.foldl (cfStep U (haveCUEMod U ents))
          (cfStep U (haveCUEMod U ents) st f)).validEnts :=
        (cfFold_validEnts_prefix U _ fs _).subset (by rw [hv1]; simp)
      obtain ⟨g1, g2⟩ := hgood f hfmem
      have hr1' := hr1 (mkEnt files f) rfl g1 g2
      obtain ⟨new, hn, hr⟩ := ih _ _ hmem' hr1' hse hgood
      exact ⟨f :: new, by rw [hn, hv1]; simp, hr⟩

theorem le_foldl_sum (l : List Int) (h : ∀ x ∈ l, 0 ≤ x) :
    ∀ a : Int, a ≤ l.foldl (· + ·) a ∧ ∀ x ∈ l, a + x ≤ l.foldl (· + ·) a := by
  induction l with
  | nil => intro a; exact ⟨Int.le_refl _, fun x hx => by cases hx⟩
  | cons c cs ih =>
    intro a
    have hc := h c List.mem_cons_self
    obtain ⟨i1, i2⟩ := ih (fun x hx => h x (List.mem_cons_of_mem _ hx)) (a + c)
    rw [List.foldl_cons]
    refine ⟨by omega, ?_⟩
    intro x hx
    rcases List.mem_cons.mp hx with rfl | hx
    · exact i1
    · have := i2 x hx
      have := h x (List.mem_cons_of_mem _ hx)
      omega

theorem isAncestor_cueMod : IsAncestor sCueMod sCueModModule :=
  ⟨by decide, sModuleCue, by decide, by decide⟩

theorem create_passes_checkZip (U : Uni) (files : List SrcFile) (z : List ZEnt) (zipSize : Nat)
    (hc : create U files = some z) (hz : zipSize ≤ maxZipFile) :
    (checkZip U zipSize z).isErr = false ∧
    (checkZip U zipSize z).valid = (checkFiles U (files.map (·.ent))).1.valid ∧
    z.map (·.name) = (checkFiles U (files.map (·.ent))).1.valid ∧
    (∀ e ∈ z, skipEntry e = false ∧ Honest e) ∧
    (∀ e ∈ z, ∃ s ∈ files, s.ent ∈ (checkFiles U (files.map (·.ent))).2 ∧
        e.name = s.ent.path ∧ e.data = s.content) := by
  obtain ⟨herr, hsrc, hzeq⟩ := (create_some U files z).mp hc
  generalize hents : files.map (·.ent) = ents at herr hsrc hzeq ⊢
  obtain ⟨k1, k2, k3, k4, -⟩ := checkFiles_ok U ents herr
  have hcoll := checkFiles_collisionFree U ents
  obtain ⟨hse, -, hfound⟩ := (checkFiles_noErr U ents).mp herr
  -- no valid name is the file "cue.mod"
  have hnoCueMod : ∀ f ∈ (checkFiles U ents).2, f.path ≠ sCueMod := by
    intro f hf hfp
    have hfv : f.path ∈ (checkFiles U ents).1.valid := by
      rw [k1]; exact List.mem_map.mpr ⟨f, hf, rfl⟩
    have := hcoll.2 f.path hfv sCueModModule k4 sCueMod isAncestor_cueMod
    exact this (by rw [hfp])
  obtain ⟨new, hnew, hrel⟩ := createSim_fold U ents files ents {} {}
    (fun _ h => h) CreateSim.init hse
    (fun f hf => ⟨hnoCueMod f hf, hsrc f hf⟩)
  have hnew' : (checkFiles U ents).2 = new := hnew
  have hrel' : CreateSim (checkFilesState U ents) (checkZipState U z) := by
    rw [hzeq, hnew']; exact hrel
  have hcz : checkZip U zipSize z =
      { (checkZipState U z).cf with noMod := !(checkZipState U z).modFile } := by
    unfold checkZip
    rw [if_neg (by omega)]
  have hnames : z.map (·.name) = (checkFiles U ents).1.valid := by
    rw [k1, hzeq, List.map_map]
    rfl
  refine ⟨?_, ?_, hnames, ?_, ?_⟩
  · rw [hcz]
    obtain ⟨o1, o2⟩ := hrel'.ok
    have o3 := hrel'.found hfound
    simp [Checked.isErr, o1, o2, o3]
  · rw [hcz]
    exact hrel'.valid
  · intro e he
    rw [hzeq] at he
    obtain ⟨f, hf, rfl⟩ := List.mem_map.mp he
    have hpath := (k2 f hf).2.2.2
    refine ⟨?_, ?_, rfl, rfl, rfl, rfl⟩
    · show (f.path.isEmpty || isDirName f.path) = false
      rw [isDirName_false_of_path hpath, Bool.or_false]
      simpa using (checkFilePath_none hpath).1
    · show (srcOf files f).length < 2 ^ 64
      have h1 := hsrc f hf
      have hall : ∀ x ∈ (checkFiles U ents).2.map (·.size), 0 ≤ x := by
        intro x hx
        obtain ⟨g, hg, rfl⟩ := List.mem_map.mp hx
        exact (k2 g hg).2.2.1
      have h2 := (le_foldl_sum _ hall 0).2 f.size (List.mem_map.mpr ⟨f, hf, rfl⟩)
      have : (maxZipFile : Int) = 524288000 := rfl
      omega
  · intro e he
    rw [hzeq] at he
    obtain ⟨f, hf, rfl⟩ := List.mem_map.mp he
    obtain ⟨s, hs, hse', hsc⟩ := srcOf_spec files f (by rw [hents]; exact (k2 f hf).1)
    exact ⟨s, hs, by rw [hse']; exact hf, by rw [hse']; rfl, hsc⟩

end CueVerif.Modzip
