import CueVerif.Model.ModzipDir
import CueVerif.Proofs.ModzipCreate
/-!
C15: the directory walk (listFilesInDir / CheckDir) and Create's sort.
-/
namespace CueVerif.Modzip

/-! ### the walk lists only regular, non-vendored files of the tree -/

mutual
theorem walkEntry_sound (rel name : Str) : (t : DTree) →
    ∀ f ∈ (walkEntry rel name t).files,
      f ∈ allFilesEntry rel t ∧ f.kind = .regular ∧ isVendoredPackage f.path = false
  | .file size => by
    intro f hf
    unfold walkEntry at hf
    split at hf
    · cases hf
    · rename_i hv
      simp only [List.mem_singleton] at hf
      subst hf
      exact ⟨by simp [allFilesEntry], rfl, by simpa using hv⟩
  | .irregular => by
    intro f hf
    unfold walkEntry at hf
    split at hf <;> cases hf
  | .dir ch => by
    intro f hf
    unfold walkEntry at hf
    unfold allFilesEntry
    split at hf
    · simp only [Listing.append, List.nil_append] at hf
      exact walkList_sound _ ch f hf
    · split at hf
      · cases hf
      · split at hf
        · cases hf
        · exact walkList_sound _ ch f hf
theorem walkList_sound (pre : Str) : (l : DList) →
    ∀ f ∈ (walkList pre l).files,
      f ∈ allFilesList pre l ∧ f.kind = .regular ∧ isVendoredPackage f.path = false
  | .nil => by
    intro f hf
    unfold walkList at hf
    cases hf
  | .cons n t rest => by
    intro f hf
    unfold walkList at hf
    unfold allFilesList
    simp only [Listing.append, List.mem_append] at hf ⊢
    rcases hf with hf | hf
    · obtain ⟨a, b, c⟩ := walkEntry_sound _ n t f hf
      exact ⟨Or.inl a, b, c⟩
    · obtain ⟨a, b, c⟩ := walkList_sound pre rest f hf
      exact ⟨Or.inr a, b, c⟩
end

/-! ### on a plain tree the walk lists every regular file and omits nothing -/

mutual
theorem walkEntry_plain (rel name : Str) : (t : DTree) → plainEntry rel name t = true →
    walkEntry rel name t = ⟨allFilesEntry rel t, []⟩
  | .file size => by
    intro h
    unfold plainEntry at h
    have hv : isVendoredPackage rel = false := by simpa using h
    unfold walkEntry allFilesEntry
    simp [hv]
  | .irregular => by
    intro h
    unfold plainEntry at h
    cases h
  | .dir ch => by
    intro h
    unfold plainEntry at h
    simp only [Bool.and_eq_true, Bool.not_eq_true'] at h
    obtain ⟨⟨⟨h1, h2⟩, h3⟩, h4⟩ := h
    unfold walkEntry allFilesEntry
    simp only [h1, h2, h3, Bool.false_eq_true, if_false]
    exact walkList_plain _ ch h4
theorem walkList_plain (pre : Str) : (l : DList) → plainList pre l = true →
    walkList pre l = ⟨allFilesList pre l, []⟩
  | .nil => by
    intro _
    unfold walkList allFilesList
    rfl
  | .cons n t rest => by
    intro h
    unfold plainList at h
    simp only [Bool.and_eq_true] at h
    unfold walkList allFilesList
    rw [walkEntry_plain _ n t h.1, walkList_plain pre rest h.2]
    simp [Listing.append]
end

theorem checkDir_plain (U : Uni) (root : DList) (h : plainList [] root = true) :
    checkDir U root = ((checkFiles U (allFilesList [] root)).1, []) := by
  unfold checkDir listFilesInDir
  rw [walkList_plain [] root h]

/-! ### Create's comparator and sort -/

theorem createCmp_eq (ap bp : Str) :
    createCmp ap bp = if strLt ap bp then -1 else if strLt bp ap then 1 else 0 := by
  unfold createCmp
  simp

theorem insertBy_perm {α : Type} (lt : α → α → Bool) (x : α) (l : List α) :
    (insertBy lt x l).Perm (x :: l) := by
  induction l with
  | nil => exact List.Perm.refl _
  | cons y ys ih =>
    unfold insertBy
    split
    · exact List.Perm.refl _
    · exact (List.Perm.cons y ih).trans (List.Perm.swap x y ys)

theorem foldl_insertBy_perm {α : Type} (lt : α → α → Bool) (l acc : List α) :
    (l.foldl (fun acc x => insertBy lt x acc) acc).Perm (l ++ acc) := by
  induction l generalizing acc with
  | nil => exact List.Perm.refl _
  | cons x xs ih =>
    rw [List.foldl_cons]
    refine (ih _).trans ?_
    refine (List.Perm.append_left xs (insertBy_perm lt x acc)).trans ?_
    rw [List.cons_append]
    exact List.perm_middle

theorem sortFiles_perm (files : List SrcFile) : (sortFiles files).Perm files := by
  unfold sortFiles
  have := foldl_insertBy_perm
    (fun (a b : SrcFile) => decide (createCmp a.ent.path b.ent.path < 0)) files []
  simpa using this

theorem mem_sortFiles (files : List SrcFile) (s : SrcFile) : s ∈ sortFiles files ↔ s ∈ files :=
  (sortFiles_perm files).mem_iff

theorem createFull_iff (U : Uni) (files : List SrcFile) :
    (createFull U files).isSome = true ↔
      ((checkFiles U ((sortFiles files).map (·.ent))).1.isErr = false ∧
       ∀ e ∈ (checkFiles U ((sortFiles files).map (·.ent))).2,
         (srcOf (sortFiles files) e).length ≤ e.size.toNat) :=
  create_isSome_iff U (sortFiles files)

end CueVerif.Modzip
