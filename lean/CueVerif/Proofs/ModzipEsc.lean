import CueVerif.Model.ModzipEsc
import CueVerif.Proofs.ModzipPath
/-!
mod/module/escape.go.  The byte-level `escapeString`: the escaped form has no upper-case letter
and escaping is injective (distinct module versions get distinct cache directory names also on
case-insensitive file systems).  The literal transcription equals the byte-level model, unescape
is a left inverse of escape, and the cache directory name `enc@encVer` determines (path, version).
-/
namespace CueVerif.Modzip

def escRune (r : Nat) : List Nat := if 65 ≤ r ∧ r ≤ 90 then [33, r + 32] else [r]

theorem escapeString_eq (s e : Str) (h : escapeString s = some e) :
    (∀ r ∈ s, r ≠ 33 ∧ r < 128) ∧ e = s.flatMap escRune := by
  unfold escapeString at h
  split at h
  · cases h
  · next hn =>
    cases h
    refine ⟨?_, rfl⟩
    intro r hr
    have : ¬ (r == 33 || decide (r ≥ 128)) = true := by
      intro hc; exact hn (List.any_eq_true.mpr ⟨r, hr, hc⟩)
    simp only [Bool.or_eq_true, beq_iff_eq, decide_eq_true_eq, not_or] at this
    omega

theorem mem_escRune {b r : Nat} (h : b ∈ escRune r) :
    b = 33 ∨ (b = r + 32 ∧ 65 ≤ r ∧ r ≤ 90) ∨ (b = r ∧ ¬ (65 ≤ r ∧ r ≤ 90)) := by
  unfold escRune at h
  split at h
  · next hu =>
    simp only [List.mem_cons, List.not_mem_nil, or_false] at h
    exact h.imp_right fun hb => Or.inl ⟨hb, hu⟩
  · next hu =>
    simp only [List.mem_cons, List.not_mem_nil, or_false] at h
    exact Or.inr (Or.inr ⟨h, hu⟩)

theorem escape_no_upper (s e : Str) (h : escapeString s = some e) :
    ∀ b ∈ e, ¬ (65 ≤ b ∧ b ≤ 90) := by
  obtain ⟨_, rfl⟩ := escapeString_eq s e h
  intro b hb
  obtain ⟨r, -, hbr⟩ := List.mem_flatMap.mp hb
  have := mem_escRune hbr
  omega

/-! ### the literal transcription -/

theorem runes_ascii (s : Str) (h : ∀ b ∈ s, b < 128) : runes s = s := by
  induction s with
  | nil => rfl
  | cons b t ih =>
    rw [runes_cons_ascii b t (h b List.mem_cons_self),
      ih (fun x hx => h x (List.mem_cons_of_mem _ hx))]

theorem runes_any_ge (s : Str) (h : ∃ b ∈ s, 128 ≤ b) : ∃ r ∈ runes s, 128 ≤ r := by
  induction s with
  | nil => obtain ⟨b, hb, _⟩ := h; cases hb
  | cons b t ih =>
    by_cases hb : b < 128
    · rw [runes_cons_ascii b t hb]
      obtain ⟨x, hx, hx128⟩ := h
      rcases List.mem_cons.mp hx with rfl | hx
      · omega
      · obtain ⟨r, hr, hr128⟩ := ih ⟨x, hx, hx128⟩
        exact ⟨r, List.mem_cons_of_mem _ hr, hr128⟩
    · unfold runes
      simp only [List.length_cons, runesAux]
      split
      · rename_i r s' hd
        exact ⟨r, by simp, (decodeRune_multibyte (by omega) hd).1⟩
      · exact ⟨65533, by simp, by omega⟩

theorem flatMap_escRune_noUpper (s : Str) (h : ∀ r ∈ s, ¬ (65 ≤ r ∧ r ≤ 90)) :
    s.flatMap escRune = s := by
  induction s with
  | nil => rfl
  | cons a t ih =>
    rw [List.flatMap_cons, ih (fun r hr => h r (List.mem_cons_of_mem _ hr))]
    unfold escRune
    rw [if_neg (h a List.mem_cons_self)]
    rfl

theorem escapeStringLit_eq (s : Str) : escapeStringLit s = escapeString s := by
  by_cases hall : ∀ b ∈ s, b < 128
  · unfold escapeStringLit escapeString
    simp only [runes_ascii s hall]
    split
    · rfl
    · split
      · rename_i hnu
        have : ∀ r ∈ s, ¬ (65 ≤ r ∧ r ≤ 90) := by simpa [isUpper] using hnu
        have := flatMap_escRune_noUpper s this
        unfold escRune at this
        rw [this]
      · rfl
  · have hex : ∃ b ∈ s, 128 ≤ b := by simpa using hall
    obtain ⟨r, hr, hr128⟩ := runes_any_ge s hex
    obtain ⟨b, hb, hb128⟩ := hex
    have h1 : (runes s).any (fun r => r == 33 || decide (r ≥ 128)) = true :=
      List.any_eq_true.mpr ⟨r, hr, by simp; right; exact hr128⟩
    have h2 : s.any (fun r => r == 33 || decide (r ≥ 128)) = true :=
      List.any_eq_true.mpr ⟨b, hb, by simp; right; exact hb128⟩
    unfold escapeStringLit escapeString
    simp only [h1, h2, if_true]

/-! ### unescape ∘ escape = id, hence escape is injective -/

theorem unescape_flatMap (s : Str) (h : ∀ r ∈ s, r ≠ 33 ∧ r < 128) :
    unescapeString (s.flatMap escRune) = some s := by
  induction s with
  | nil => rfl
  | cons a t ih =>
    have ha := h a List.mem_cons_self
    have iht := ih (fun r hr => h r (List.mem_cons_of_mem _ hr))
    rw [List.flatMap_cons]
    unfold escRune
    by_cases hu : 65 ≤ a ∧ a ≤ 90
    · rw [if_pos hu]
      show unescapeString (33 :: (a + 32) :: t.flatMap escRune) = some (a :: t)
      unfold unescapeString
      simp only [if_true]
      have : 97 ≤ a + 32 ∧ a + 32 ≤ 122 := by omega
      rw [if_pos this, iht]
      simp
    · rw [if_neg hu]
      show unescapeString (a :: t.flatMap escRune) = some (a :: t)
      unfold unescapeString
      rw [if_neg ha.1, if_neg hu, iht]
      rfl

theorem unescape_escape (s e : Str) (h : escapeString s = some e) :
    unescapeString e = some s := by
  obtain ⟨h1, rfl⟩ := escapeString_eq s e h
  exact unescape_flatMap s h1

theorem escape_injective (s t e : Str) (hs : escapeString s = some e)
    (ht : escapeString t = some e) : s = t :=
  Option.some.inj ((unescape_escape s e hs).symm.trans (unescape_escape t e ht))

/-! ### `enc@encVer` determines (path, version) -/

theorem append_sep_inj (x : Nat) (a a' b b' : Str) (ha : x ∉ a) (ha' : x ∉ a')
    (h : a ++ x :: b = a' ++ x :: b') : a = a' ∧ b = b' :=
  Prod.mk.inj ((cutAt_concat a b ha).symm.trans (h ▸ cutAt_concat a' b' ha'))

theorem escape_no_at (s e : Str) (h : escapeString s = some e) (hs : 64 ∉ s) : 64 ∉ e := by
  obtain ⟨_, rfl⟩ := escapeString_eq s e h
  intro hb
  obtain ⟨r, hr, hbr⟩ := List.mem_flatMap.mp hb
  rcases mem_escRune hbr with h1 | ⟨h1, h2, -⟩ | ⟨h1, -⟩
  · cases h1
  · omega
  · exact hs (h1 ▸ hr)

theorem escapeVersion_some {U : Uni} {sv : Bool} {v e : Str} (h : escapeVersion U sv v = some e) :
    sv = true ∧ checkElem U v = none ∧ 33 ∉ v ∧ escapeString v = some e := by
  unfold escapeVersion at h
  split at h
  · cases h
  · rename_i h1
    split at h
    · cases h
    · rename_i h2
      simp only [Bool.or_eq_true, Option.isSome_iff_ne_none, ne_eq, List.contains_eq_mem,
        decide_eq_true_eq, not_or, Decidable.not_not] at h2
      rw [escapeStringLit_eq] at h
      exact ⟨by simpa using h1, h2.1, h2.2, h⟩

theorem escapePath_some {ok : Bool} {p e : Str} (h : escapePath ok p = some e) :
    ok = true ∧ escapeString p = some e := by
  unfold escapePath at h
  split at h
  · cases h
  · rename_i h1
    rw [escapeStringLit_eq] at h
    exact ⟨by simpa using h1, h⟩

theorem cacheDirName_some {U : Uni} {ok sv : Bool} {p v d : Str}
    (h : cacheDirName U ok sv p v = some d) :
    ∃ ep ev, escapeString p = some ep ∧ escapeString v = some ev ∧ d = ep ++ 64 :: ev := by
  unfold cacheDirName at h
  split at h
  · rename_i ep ev h1 h2
    exact ⟨ep, ev, (escapePath_some h1).2, (escapeVersion_some h2).2.2.2, (Option.some.inj h).symm⟩
  · cases h

theorem cacheDirName_no_upper {U : Uni} {ok sv : Bool} {p v d : Str}
    (h : cacheDirName U ok sv p v = some d) : ∀ b ∈ d, ¬ (65 ≤ b ∧ b ≤ 90) := by
  obtain ⟨ep, ev, h1, h2, rfl⟩ := cacheDirName_some h
  intro x hx
  rcases List.mem_append.mp hx with hx | hx
  · exact escape_no_upper _ _ h1 x hx
  · rcases List.mem_cons.mp hx with rfl | hx
    · omega
    · exact escape_no_upper _ _ h2 x hx

/-- two module versions with the same extraction directory name are the same module version
(module paths contain no '@': modPathOK, checked by CheckPathWithoutVersion — a hypothesis
here) -/
theorem cacheDirName_injective (U : Uni) (ok ok' sv sv' : Bool) (p p' v v' d : Str)
    (hp : 64 ∉ p) (hp' : 64 ∉ p')
    (h : cacheDirName U ok sv p v = some d) (h' : cacheDirName U ok' sv' p' v' = some d) :
    p = p' ∧ v = v' := by
  obtain ⟨ep, ev, e1, e2, rfl⟩ := cacheDirName_some h
  obtain ⟨ep', ev', e1', e2', heq⟩ := cacheDirName_some h'
  obtain ⟨rfl, rfl⟩ := append_sep_inj 64 ep ep' ev ev' (escape_no_at _ _ e1 hp)
    (escape_no_at _ _ e1' hp') heq
  exact ⟨escape_injective p p' _ e1 e1', escape_injective v v' _ e2 e2'⟩

end CueVerif.Modzip
