import CueVerif.Proofs.ModzipColl
import CueVerif.Proofs.ModzipUnzip
/-!
Extraction of an intact archive into a fresh target (C15, the positive half): `unzip` succeeds
and the regular files strictly beneath the target are exactly the archive's file entries with
exactly their data.

Ingredients: `MkdirAll` succeeds when no file is in the way; an `Honest` entry is copied
completely; the names CheckZip accepts are pairwise incomparable as element lists (no duplicate,
none a directory of another: `checkZip_collisionFree`), so no destination is occupied when its
entry is reached.  The loop invariant is `Adds` (ModzipUnzip) against the file system after MkdirAll
of the target: every node beneath the target lies on the way of an entry extracted before.
-/
namespace CueVerif.Modzip

/-! ### the file-system map: keys that occur are bound -/

theorem FS.get_of_mem (fs : FS) : ∀ e ∈ fs, fs.get e.1 ≠ none := by
  induction fs with
  | nil => intro e he; cases he
  | cons x xs ih =>
    intro e he
    obtain ⟨q0, n⟩ := x
    rw [FS.get_cons]
    split
    · simp
    · next hne =>
      rcases List.mem_cons.mp he with rfl | he
      · exact absurd rfl hne
      · exact ih e he

theorem dirNonEmpty_fresh (fs : FS) (dir : Path) (hfresh : FreshTarget fs dir) :
    dirNonEmpty fs dir = false := by
  refine Bool.eq_false_iff.mpr fun hd => ?_
  unfold dirNonEmpty at hd
  obtain ⟨e, he, hp⟩ := List.any_eq_true.mp hd
  simp only [Bool.and_eq_true, beq_iff_eq, List.isPrefixOf_iff_prefix] at hp
  obtain ⟨hlen, t, ht⟩ := hp
  obtain ⟨n, hg⟩ := Option.ne_none_iff_exists'.mp (FS.get_of_mem fs e he)
  refine hfresh.1 e.1 n hg ⟨t, ?_, ht.symm⟩
  rintro rfl
  rw [← ht] at hlen
  simp at hlen

/-! ### MkdirAll succeeds when no file is in the way -/

theorem mkdirAllAux_ok (fs : FS) (pre : Path) (cs : List Str)
    (hfile : ∀ a b, cs = a ++ b → a ≠ [] → ∀ c, fs.get (pre ++ a) ≠ some (.file c)) :
    (mkdirAllAux fs pre cs).2 = true ∧
    ∀ a b, cs = a ++ b → a ≠ [] → (mkdirAllAux fs pre cs).1.get (pre ++ a) = some .dir := by
  induction cs generalizing fs pre with
  | nil =>
    refine ⟨rfl, ?_⟩
    intro a b h hne
    exact absurd (List.append_eq_nil_iff.mp h.symm).1 hne
  | cons c cs ih =>
    -- the tail of the walk, from any file system that has a directory at pre ++ [c]
    have tail : ∀ fs' : FS, fs'.get (pre ++ [c]) = some .dir →
        (∀ a b, cs = a ++ b → a ≠ [] → ∀ d, fs'.get ((pre ++ [c]) ++ a) ≠ some (.file d)) →
        (mkdirAllAux fs' (pre ++ [c]) cs).2 = true ∧
        ∀ a b, c :: cs = a ++ b → a ≠ [] →
          (mkdirAllAux fs' (pre ++ [c]) cs).1.get (pre ++ a) = some .dir := by
      intro fs' hdir hf
      obtain ⟨i1, i2⟩ := ih fs' (pre ++ [c]) hf
      refine ⟨i1, ?_⟩
      intro a b h hne
      cases a with
      | nil => exact absurd rfl hne
      | cons x a' =>
        simp only [List.cons_append, List.cons.injEq] at h
        obtain ⟨rfl, h⟩ := h
        by_cases ha' : a' = []
        · subst ha'
          exact (mkdirAllAux_adds fs' (pre ++ [c]) cs).1 _ _ hdir
        · have := i2 a' b h ha'
          simpa using this
    unfold mkdirAllAux
    simp only
    split
    · next hdir =>
      apply tail fs hdir
      intro a b h hne d
      have := hfile (c :: a) b (by rw [h]; rfl) (by simp) d
      simpa using this
    · next d hf =>
      exact absurd hf (hfile [c] cs rfl (by simp) d)
    · next hnone =>
      apply tail (fs.set (pre ++ [c]) .dir) (by rw [FS.get_set, if_pos rfl])
      intro a b h hne d
      rw [FS.get_set]
      split
      · simp
      · have := hfile (c :: a) b (by rw [h]; rfl) (by simp) d
        simpa using this

theorem mkdirAll_ok (fs : FS) (p : Path)
    (hfile : ∀ a b, p = a ++ b → a ≠ [] → ∀ c, fs.get a ≠ some (.file c)) :
    (mkdirAll fs p).2 = true ∧
    ∀ a b, p = a ++ b → a ≠ [] → (mkdirAll fs p).1.get a = some .dir := by
  have := mkdirAllAux_ok fs [] p (by simpa using hfile)
  simpa [mkdirAll] using this

/-! ### the copy step of an intact entry -/

theorem copyEntry_honest (e : ZEnt) (hh : Honest e) (h0 : 0 ≤ toInt64 e.declared) :
    copyEntry e = (e.data, true) := by
  obtain ⟨h64, -, hs, hw, hlen⟩ := hh
  have h64' : e.declared < 18446744073709551616 := h64
  obtain ⟨-, hto⟩ := toInt64_of_nonneg h64' h0
  have htake : List.take (toInt64 e.declared + 1).toNat e.data = e.data := by
    apply List.take_of_length_le
    rw [hto, hlen]
    omega
  unfold copyEntry
  simp only [hw, htake, hs, Bool.and_false, Bool.not_false, Bool.true_and]
  rw [hto, hlen]
  simp only [Prod.mk.injEq, decide_eq_true_eq, true_and]
  omega

/-! ### names: element lists of accepted names are pairwise incomparable -/

/-- neither element list is a prefix of the other -/
def Incomp (a b : List Str) : Prop := ¬ a <+: b ∧ ¬ b <+: a

theorem Incomp.symm {a b : List Str} (h : Incomp a b) : Incomp b a := ⟨h.2, h.1⟩

theorem isAncestor_of_prefix (U : Uni) (a b : Str) (ha : checkFilePath U a = none)
    (hb : checkFilePath U b = none) (hp : splitOn 47 a <+: splitOn 47 b) (hne : a ≠ b) :
    IsAncestor a b := by
  obtain ⟨r, hr⟩ := hp
  have ha0 := (checkFilePath_none ha).1
  have hgb := checkFilePath_elems U b hb
  have hr0 : r ≠ [] := by
    rintro rfl
    apply hne
    rw [← joinSlash_splitOn a, ← joinSlash_splitOn b, ← hr, List.append_nil]
  have hgr : GoodElems r := (hr ▸ hgb).right
  refine ⟨ha0, joinSlash r, joinSlash_ne_nil r hr0 hgr, ?_⟩
  have := joinSlash_append (splitOn 47 a) r (splitOn_ne_nil 47 a) hr0
  rw [hr, joinSlash_splitOn, joinSlash_splitOn] at this
  exact this

theorem incomp_of_collisionFree (U : Uni) (names : List Str) (hcf : CollisionFree U names)
    (hok : ∀ a ∈ names, checkFilePath U a = none) :
    (names.map (splitOn 47)).Pairwise Incomp := by
  rw [List.pairwise_map]
  refine List.Pairwise.imp_of_mem ?_ hcf.1
  intro a b ha hb hab
  have hne : a ≠ b := fun h => hab (by rw [h])
  constructor
  · intro hp
    exact hcf.2 a ha b hb a (isAncestor_of_prefix U a b (hok a ha) (hok b hb) hp hne) rfl
  · intro hp
    exact hcf.2 b hb a ha b (isAncestor_of_prefix U b a (hok b hb) (hok a ha) hp (Ne.symm hne)) rfl

/-! ### what CheckZip establishes for the entries the loop does not skip -/

/-- an entry that the extraction loop handles without any error -/
structure GoodEnt (dir : Path) (e : ZEnt) : Prop where
  join : fjoin dir e.name = dir ++ splitOn 47 e.name
  openOk : e.openErr = false
  copy : copyEntry e = (e.data, true)

/-- the element lists of the entries that are not skipped, in order -/
def relNames (z : List ZEnt) : List (List Str) :=
  (z.filter (fun e => !skipEntry e)).map (fun e => splitOn 47 e.name)

theorem checkZip_goodEnt (U : Uni) (zipSize : Nat) (z : List ZEnt) (dir : Path)
    (hck : (checkZip U zipSize z).isErr = false)
    (hh : ∀ e ∈ z, skipEntry e = false → Honest e) :
    ∀ e ∈ z, skipEntry e = false → GoodEnt dir e := by
  intro e he hskip
  have h1 := checkZip_entries_safe U zipSize z hck dir e he hskip
  have hnn := ((checkZip_ok_int64 U zipSize z hck).2.1 e he).nonneg (skipEntry_false_isDir hskip)
  have hhe := hh e he hskip
  exact ⟨h1, hhe.2.1, copyEntry_honest e hhe hnn⟩

theorem checkZip_relNames (U : Uni) (zipSize : Nat) (z : List ZEnt)
    (hck : (checkZip U zipSize z).isErr = false) : (relNames z).Pairwise Incomp := by
  obtain ⟨-, hall, -, -, hval⟩ := checkZip_ok_int64 U zipSize z hck
  have hcf := checkZip_collisionFree U zipSize z
  rw [hval] at hcf
  -- file entries pass CheckFilePath under their own name
  have hpath : ∀ e ∈ z, isDirName e.name = false → checkFilePath U e.name = none := by
    intro e he hd
    have := (hall e he).path
    unfold entName at this
    rw [hd] at this
    simpa using this
  -- the non-directory entries are exactly the ones the loop does not skip
  have hfilter : z.filter (fun e => !isDirName e.name) = z.filter (fun e => !skipEntry e) := by
    apply List.filter_congr
    intro e he
    show (!isDirName e.name) = !(e.name.isEmpty || isDirName e.name)
    cases hd : isDirName e.name with
    | true => rw [Bool.or_true]
    | false =>
      rw [Bool.or_false, List.isEmpty_eq_false_iff.mpr (checkFilePath_none (hpath e he hd)).1]
  have hok : ∀ a ∈ fileNames z, checkFilePath U a = none := by
    intro a ha
    unfold fileNames at ha
    obtain ⟨e, he, rfl⟩ := List.mem_map.mp ha
    obtain ⟨he1, he2⟩ := List.mem_filter.mp he
    exact hpath e he1 (by simpa using he2)
  have := incomp_of_collisionFree U (fileNames z) hcf hok
  unfold fileNames at this
  rw [hfilter, List.map_map] at this
  exact this

/-! ### the loop invariant -/

/-- what the extraction of an entry with element list `s` may add -/
def PathAdds (dir : Path) (s : List Str) (q : Path) (n : Node) : Prop :=
  DirOnWay (dir ++ s).dropLast q n ∨ (q = dir ++ s ∧ ∃ c, n = .file c)

/-- the target after MkdirAll: nothing beneath it, directories at and above it -/
structure Base (dir : Path) (fs0 : FS) : Prop where
  beneath : ∀ r, r ≠ [] → fs0.get (dir ++ r) = none
  above : ∀ a b, dir = a ++ b → a ≠ [] → fs0.get a = some .dir

theorem nil_of_append_eq_prefix {dir r a b' : Path} (h : dir ++ r = a) (hb' : dir = a ++ b') :
    r = [] := by
  have hl := congrArg List.length hb'
  have hl3 := congrArg List.length h
  simp only [List.length_append] at hl hl3
  exact List.eq_nil_of_length_eq_zero (by omega)

theorem FreshTarget.beneath {fs : FS} {dir : Path} (h : FreshTarget fs dir) {r : Path}
    (hr : r ≠ []) : fs.get (dir ++ r) = none :=
  Option.eq_none_iff_forall_ne_some.mpr fun n hg => h.1 _ n hg ⟨r, hr, rfl⟩

theorem unzipOne_eq (fs fs1 : FS) (dir : Path) (e : ZEnt)
    (hm : mkdirAll fs (fjoin dir e.name).dropLast = (fs1, true))
    (hn : fs1.get (fjoin dir e.name) = none) (ho : e.openErr = false) :
    unzipOne fs dir e =
      (((fs1.set (fjoin dir e.name) (.file [])).set (fjoin dir e.name) (.file (copyEntry e).1)),
        (copyEntry e).2) := by
  unfold unzipOne
  simp only [hm, hn, ho, Bool.false_eq_true, if_false]

theorem base_of_fresh (fs : FS) (dir : Path) (hfresh : FreshTarget fs dir) :
    (mkdirAll fs dir).2 = true ∧ Base dir (mkdirAll fs dir).1 := by
  obtain ⟨hok, hdirs⟩ := mkdirAll_ok fs dir fun a b h _ c => hfresh.2 a c ⟨b, h⟩
  refine ⟨hok, fun r hr => Option.eq_none_iff_forall_ne_some.mpr fun n hget => ?_, hdirs⟩
  obtain ⟨-, a, b, h1, -, h3⟩ := (mkdirAll_adds fs dir).2 _ n (hfresh.beneath hr) hget
  exact hr (nil_of_append_eq_prefix h3 h1)

theorem unzipOne_step (dir : Path) (fs0 fs : FS) (S : List (List Str)) (e : ZEnt)
    (hb : Base dir fs0) (hinv : Adds (fun q n => ∃ s ∈ S, PathAdds dir s q n) fs0 fs)
    (hg : GoodEnt dir e) (hinc : ∀ s ∈ S, Incomp s (splitOn 47 e.name)) :
    (unzipOne fs dir e).2 = true ∧
    (unzipOne fs dir e).1.get (dir ++ splitOn 47 e.name) = some (.file e.data) ∧
    Adds (fun q n => ∃ s ∈ splitOn 47 e.name :: S, PathAdds dir s q n) fs0 (unzipOne fs dir e).1 := by
  generalize hes : splitOn 47 e.name = es at hinc ⊢
  have hes0 : es ≠ [] := by rw [← hes]; exact splitOn_ne_nil 47 e.name
  have hdst : fjoin dir e.name = dir ++ es := by rw [hg.join, hes]
  have hparent : (dir ++ es).dropLast = dir ++ es.dropLast := List.dropLast_append_of_ne_nil hes0
  -- MkdirAll of the parent succeeds: no file on the way
  have hfile : ∀ a b, dir ++ es.dropLast = a ++ b → a ≠ [] → ∀ c, fs.get a ≠ some (.file c) := by
    intro a b h ha c hc
    -- a node of `fs` was there after MkdirAll of the target or lies on the way of an earlier entry
    rcases hinv.cases hc with h0 | ⟨s, hs, ⟨hn, -⟩ | ⟨rfl, -⟩⟩
    · rcases prefix_cases dir es.dropLast a b h with ⟨b', hb'⟩ | ⟨c', hc0, rfl, -⟩
      · rw [hb.above a b' hb' ha] at h0; cases h0
      · rw [hb.beneath c' hc0] at h0; cases h0
    · cases hn
    · rw [List.append_assoc] at h
      exact (hinc s hs).1 (List.IsPrefix.trans ⟨b, (List.append_cancel_left h).symm⟩
        (List.dropLast_prefix es))
  obtain ⟨hmk, -⟩ := mkdirAll_ok fs (dir ++ es.dropLast) hfile
  have hm1 := mkdirAll_adds fs (dir ++ es.dropLast)
  generalize hfs1 : (mkdirAll fs (dir ++ es.dropLast)).1 = fs1 at hm1
  have hmeq : mkdirAll fs (fjoin dir e.name).dropLast = (fs1, true) := by
    rw [hdst, hparent, ← hfs1, ← hmk]
  -- the destination is free
  have onway : ∀ (t : Path) (m : Node), DirOnWay t (dir ++ es) m → dir ++ es <+: t := by
    rintro t m ⟨-, a, b, h1, -, rfl⟩
    exact ⟨b, h1.symm⟩
  have hfree : fs1.get (dir ++ es) = none := by
    refine Decidable.by_contra fun hget => ?_
    obtain ⟨n, hn⟩ := Option.ne_none_iff_exists'.mp hget
    cases hold : fs.get (dir ++ es) with
    | none =>
      have h1 := ((List.prefix_append_right_inj dir).mp (onway _ n (hm1.2 _ n hold hn))).length_le
      have h2 : 0 < es.length := List.length_pos_iff.mpr hes0
      rw [List.length_dropLast] at h1
      omega
    | some m =>
      rcases hinv.cases hold with h0 | ⟨s, hs, hp | ⟨heq, -⟩⟩
      · rw [hb.beneath es hes0] at h0; cases h0
      · exact (hinc s hs).2 ((List.prefix_append_right_inj dir).mp
          ((onway _ m hp).trans (List.dropLast_prefix _)))
      · exact (hinc s hs).2 (List.append_cancel_left heq ▸ List.prefix_refl _)
  rw [← hdst] at hfree
  rw [unzipOne_eq fs fs1 dir e hmeq hfree hg.openOk, hg.copy, hdst]
  refine ⟨rfl, by rw [FS.get_set_set, if_pos rfl], ?_⟩
  refine ((hinv.mono fun q n ⟨s, hs, h⟩ => ⟨s, List.mem_cons_of_mem _ hs, h⟩).trans
    (hm1.mono fun q n h => ⟨es, List.mem_cons_self, Or.inl (hparent ▸ h)⟩)).trans
    (Adds.of_get (FS.get_set_set fs1 _ · _ _) (hdst ▸ hfree)
      ⟨es, List.mem_cons_self, Or.inr ⟨rfl, _, rfl⟩⟩)

/-! ### the loop -/

theorem relNames_cons_skip {e : ZEnt} (es : List ZEnt) (h : skipEntry e = true) :
    relNames (e :: es) = relNames es := by
  unfold relNames
  rw [List.filter_cons_of_neg (by simp [h])]

theorem relNames_cons_keep {e : ZEnt} (es : List ZEnt) (h : skipEntry e = false) :
    relNames (e :: es) = splitOn 47 e.name :: relNames es := by
  unfold relNames
  rw [List.filter_cons_of_pos (by simp [h]), List.map_cons]

theorem unzipEntries_honest (dir : Path) (fs0 : FS) (hb : Base dir fs0) (rest : List ZEnt) :
    ∀ (fs : FS) (S : List (List Str)), Adds (fun q n => ∃ s ∈ S, PathAdds dir s q n) fs0 fs →
      (∀ e ∈ rest, skipEntry e = false → GoodEnt dir e) →
      (∀ s ∈ S, ∀ r ∈ relNames rest, Incomp s r) →
      (relNames rest).Pairwise Incomp →
      (unzipEntries fs dir rest).2 = true ∧
      (∀ e ∈ rest, skipEntry e = false →
        (unzipEntries fs dir rest).1.get (dir ++ splitOn 47 e.name) = some (.file e.data)) := by
  induction rest with
  | nil => intro fs S _ _ _ _; exact ⟨rfl, fun e he => by cases he⟩
  | cons e es ih =>
    intro fs S hinv hgood hinc hpw
    have hgood' : ∀ e' ∈ es, skipEntry e' = false → GoodEnt dir e' :=
      fun e' he' => hgood e' (List.mem_cons_of_mem _ he')
    cases hskip : skipEntry e with
    | true =>
      rw [relNames_cons_skip es hskip] at hinc hpw
      rw [unzipEntries, if_pos hskip]
      obtain ⟨i1, i3⟩ := ih fs S hinv hgood' hinc hpw
      refine ⟨i1, fun e' he' hs' => ?_⟩
      rcases List.mem_cons.mp he' with rfl | he'
      · rw [hskip] at hs'; cases hs'
      · exact i3 e' he' hs'
    | false =>
      rw [relNames_cons_keep es hskip] at hinc hpw
      obtain ⟨hhead, hpw'⟩ := List.pairwise_cons.mp hpw
      obtain ⟨hok, hfile, hinv'⟩ := unzipOne_step dir fs0 fs S e hb hinv
        (hgood e List.mem_cons_self hskip) (fun s hs => hinc s hs _ List.mem_cons_self)
      rw [unzipEntries, if_neg (by simp [hskip])]
      generalize unzipOne fs dir e = res at hok hfile hinv'
      obtain ⟨fs2, b⟩ := res
      subst hok
      obtain ⟨i1, i3⟩ := ih fs2 _ hinv' hgood' (by
        intro s hs r hr
        rcases List.mem_cons.mp hs with rfl | hs
        · exact hhead r hr
        · exact hinc s hs r (List.mem_cons_of_mem _ hr)) hpw'
      refine ⟨i1, fun e' he' hs' => ?_⟩
      rcases List.mem_cons.mp he' with rfl | he'
      · exact (unzipEntries_adds dir es fs2).1 _ _ hfile
      · exact i3 e' he' hs'

/-! ### Unzip of an intact archive into a fresh target -/

theorem unzip_honest (U : Uni) (fs : FS) (dir : Path) (zipSize : Nat) (z : List ZEnt)
    (hck : (checkZip U zipSize z).isErr = false)
    (hh : ∀ e ∈ z, skipEntry e = false → Honest e)
    (hfresh : FreshTarget fs dir) :
    (unzip U fs dir zipSize z).2 = true ∧
    ∀ rel c, rel ≠ [] →
      ((unzip U fs dir zipSize z).1.get (dir ++ rel) = some (.file c) ↔
        ∃ e ∈ z, skipEntry e = false ∧ rel = splitOn 47 e.name ∧ c = e.data) := by
  obtain ⟨hmk, hb⟩ := base_of_fresh fs dir hfresh
  generalize hm : mkdirAll fs dir = res at hmk hb
  obtain ⟨fs0, b⟩ := res
  subst hmk
  obtain ⟨hok, hall⟩ := unzipEntries_honest dir fs0 hb z fs0 [] (Adds.refl _ fs0)
    (checkZip_goodEnt U zipSize z dir hck hh) (fun s hs => by cases hs)
    (checkZip_relNames U zipSize z hck)
  have heq : unzip U fs dir zipSize z = unzipEntries fs0 dir z := by
    unfold unzip
    rw [dirNonEmpty_fresh fs dir hfresh, hck, hm]
    simp
  have hsucc : (unzip U fs dir zipSize z).2 = true := by rw [heq]; exact hok
  refine ⟨hsucc, ?_⟩
  intro rel c hrel
  constructor
  · intro hc
    obtain ⟨e, he, hskip, hq, -, -, hcf⟩ :=
      unzip_files U fs dir zipSize z _ c (hfresh.beneath hrel) hc
    exact ⟨e, he, hskip, List.append_cancel_left hq, (hcf.2.2 hsucc).1⟩
  · rintro ⟨e, he, hskip, rfl, rfl⟩
    rw [heq]
    exact hall e he hskip

end CueVerif.Modzip
