import CueVerif.Model.ModzipJoin
import CueVerif.Proofs.ModzipPath
/-!
C15, confinement at byte level: `filepath.Join(dir, name)` for an accepted name is literally
`dir + "/" + name`.
-/
namespace CueVerif.Modzip

theorem fpJoin_accepted (U : Uni) (ds : List Str) (hds : ds ≠ [])
    (hd : ∀ e ∈ ds, e ≠ [] ∧ e ≠ sDot ∧ e ≠ sDotDot ∧ 47 ∉ e)
    (p : Str) (hp : checkFilePath U p = none) :
    fpJoin (47 :: joinSlash ds) p = (47 :: joinSlash ds) ++ 47 :: p ∧
    splitOn 47 (fpJoin (47 :: joinSlash ds) p) = [] :: fjoin ds p := by
  have hsafe := checkFilePath_safe U p hp
  obtain ⟨es, hes, rfl, hg⟩ := checkFilePath_good U p hp
  have hall : GoodElems (ds ++ es) := fun e he => (List.mem_append.mp he).elim (hd e) (hg e)
  have hne : ds ++ es ≠ [] := by simp [hds]
  have hcat : (47 :: joinSlash ds) ++ 47 :: joinSlash es = 47 :: joinSlash (ds ++ es) := by
    rw [joinSlash_append ds es hds hes]; rfl
  have hj : fpJoin (47 :: joinSlash ds) (joinSlash es) = 47 :: joinSlash (ds ++ es) := by
    have e2 : (joinSlash es).isEmpty = false := by simpa using joinSlash_ne_nil es hes hg
    unfold fpJoin
    rw [show (47 :: joinSlash ds).isEmpty = false from rfl, e2]
    simp only [Bool.false_eq_true, if_false]
    rw [hcat, pathClean_rooted (ds ++ es) hne hall]
  refine ⟨by rw [hj, hcat], ?_⟩
  rw [hj, splitOn_cons_sep, splitOn_joinSlash (ds ++ es) hne (fun e he => (hall e he).2.2.2),
    (fjoin_of_safe ds (joinSlash es) hsafe).1, splitOn_joinSlash es hes (fun e he => (hg e he).2.2.2)]

end CueVerif.Modzip
