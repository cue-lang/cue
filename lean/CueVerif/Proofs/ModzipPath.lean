/-
Byte strings and slash-separated names for C15: UTF-8 decoding, `splitOn` / `joinSlash`, Go's
`path.Split` / `Clean` / `Dir` on names made of good elements (as element lists, and as `GoodName`
for the loops that walk a name up from its end), and what `module.CheckFilePath`
guarantees for a name it accepts: every element obeys the Windows rules (`WinSafeElem`), so the
name is a `SafeName`, is its own `path.Clean`, and joining it to a directory stays strictly
beneath it.  Core Lean only.
-/
import CueVerif.Spec.Modzip
namespace CueVerif.Modzip

/-! ### UTF-8 decoding -/

theorem isCont_ge {b : Nat} (h : isCont b = true) : 128 ≤ b := by
  simp only [isCont, Bool.and_eq_true, decide_eq_true_eq] at h
  exact h.1

theorem decodeRune_ascii {b0 : Nat} (rest : Str) (h : b0 < 128) :
    decodeRune (b0 :: rest) = some (b0, rest) := if_pos h

theorem decodeRune_multibyte {b0 : Nat} {rest : Str} {r : Nat} {s' : Str} (hb : 128 ≤ b0)
    (h : decodeRune (b0 :: rest) = some (r, s')) :
    128 ≤ r ∧ ∃ pre, rest = pre ++ s' ∧ ∀ b ∈ pre, 128 ≤ b := by
  dsimp only [decodeRune] at h
  rw [if_neg (Nat.not_lt.mpr hb)] at h
  by_cases c2 : 194 ≤ b0 ∧ b0 ≤ 223
  · rw [if_pos c2] at h
    match rest with
    | [] => cases h
    | b1 :: t =>
      dsimp only at h
      rw [Option.ite_none_right_eq_some, Option.some.injEq, Prod.mk.injEq] at h
      obtain ⟨hc, rfl, rfl⟩ := h
      exact ⟨by omega, [b1], rfl, by simpa using isCont_ge hc⟩
  rw [if_neg c2] at h
  by_cases c3 : 224 ≤ b0 ∧ b0 ≤ 239
  · rw [if_pos c3] at h
    match rest with
    | [] | [_] => cases h
    | b1 :: b2 :: t =>
      dsimp only at h
      rw [Option.ite_none_right_eq_some, Option.some.injEq, Prod.mk.injEq] at h
      obtain ⟨⟨h1, -, h2⟩, rfl, rfl⟩ := h
      have := isCont_ge h2
      have : 128 ≤ b1 ∧ (b0 = 224 → 160 ≤ b1) := by split at h1 <;> omega
      refine ⟨by omega, [b1, b2], rfl, ?_⟩
      intro b hb
      simp only [List.mem_cons, List.not_mem_nil, or_false] at hb
      omega
  rw [if_neg c3] at h
  by_cases c4 : 240 ≤ b0 ∧ b0 ≤ 244
  · rw [if_pos c4] at h
    match rest with
    | [] | [_] | [_, _] => cases h
    | b1 :: b2 :: b3 :: t =>
      dsimp only at h
      rw [Option.ite_none_right_eq_some, Option.some.injEq, Prod.mk.injEq] at h
      obtain ⟨⟨h1, -, h2, h3⟩, rfl, rfl⟩ := h
      have := isCont_ge h2
      have := isCont_ge h3
      have : 128 ≤ b1 ∧ (b0 = 240 → 144 ≤ b1) := by split at h1 <;> omega
      refine ⟨by omega, [b1, b2, b3], rfl, ?_⟩
      intro b hb
      simp only [List.mem_cons, List.not_mem_nil, or_false] at hb
      omega
  rw [if_neg c4] at h
  cases h

theorem runes_cons_ascii (b : Nat) (s : Str) (hb : b < 128) : runes (b :: s) = b :: runes s := by
  simp only [runes, List.length_cons, runesAux, decodeRune_ascii s hb, List.map_cons]

theorem mem_runesAux_of_ascii (f : Nat) (s : Str) (hf : s.length ≤ f) (b : Nat) (hb : b ∈ s)
    (hlt : b < 128) : b ∈ (runesAux f s).map (·.1) := by
  induction f generalizing s with
  | zero =>
    have : s = [] := List.length_eq_zero_iff.mp (by omega)
    subst this
    cases hb
  | succ f ih =>
    cases s with
    | nil => cases hb
    | cons b0 rest =>
      simp only [List.length_cons] at hf
      simp only [runesAux]
      by_cases h0 : b0 < 128
      · rw [decodeRune_ascii rest h0]
        simp only [List.map_cons, List.mem_cons] at hb ⊢
        exact hb.imp_right (ih rest (by omega))
      · split
        · next r s' hd =>
          obtain ⟨-, pre, rfl, hpre⟩ := decodeRune_multibyte (by omega) hd
          simp only [List.length_append] at hf
          simp only [List.mem_cons, List.mem_append] at hb
          rcases hb with rfl | hb | hb
          · omega
          · have := hpre b hb; omega
          · exact List.mem_cons_of_mem _ (ih s' (by omega) hb)
        · rcases List.mem_cons.mp hb with rfl | hb
          · omega
          · exact List.mem_cons_of_mem _ (ih rest (by omega) hb)

theorem mem_runes_of_ascii (s : Str) (b : Nat) (hb : b ∈ s) (hlt : b < 128) : b ∈ runes s :=
  mem_runesAux_of_ascii s.length s (Nat.le_refl _) b hb hlt

/-! ### `splitOn` and `joinSlash` -/

/-- an element that `checkFilePath` accepts, as far as the path functions care -/
def GoodElem (e : Str) : Prop := e ≠ [] ∧ e ≠ sDot ∧ e ≠ sDotDot ∧ 47 ∉ e

def GoodElems (es : List Str) : Prop := ∀ e ∈ es, GoodElem e

theorem GoodElems.tail {e : Str} {es : List Str} (h : GoodElems (e :: es)) : GoodElems es :=
  fun x hx => h x (List.mem_cons_of_mem _ hx)

theorem GoodElems.right {xs ys : List Str} (h : GoodElems (xs ++ ys)) : GoodElems ys :=
  fun x hx => h x (List.mem_append_right _ hx)

theorem splitOn_ne_nil (sep : Nat) (s : Str) : splitOn sep s ≠ [] := by
  cases s with
  | nil => simp [splitOn]
  | cons c cs =>
    unfold splitOn
    split
    · simp
    · split <;> simp

theorem splitOn_cons_sep (s : Str) : splitOn 47 (47 :: s) = [] :: splitOn 47 s := by
  simp [splitOn]

theorem splitOn_cons_of_ne (c : Nat) (cs h : Str) (t : List Str) (hc : c ≠ 47)
    (heq : splitOn 47 cs = h :: t) : splitOn 47 (c :: cs) = (c :: h) :: t := by
  unfold splitOn
  rw [if_neg hc, heq]

theorem joinSlash_consb (c : Nat) (h : Str) (t : List Str) :
    joinSlash ((c :: h) :: t) = c :: joinSlash (h :: t) := by
  cases t <;> simp [joinSlash]

theorem joinSlash_cons_of_ne_nil (e : Str) (es : List Str) (h : es ≠ []) :
    joinSlash (e :: es) = e ++ 47 :: joinSlash es := by
  cases es with
  | nil => exact absurd rfl h
  | cons a as => rfl

theorem joinSlash_append (xs ys : List Str) (hx : xs ≠ []) (hy : ys ≠ []) :
    joinSlash (xs ++ ys) = joinSlash xs ++ 47 :: joinSlash ys := by
  induction xs with
  | nil => exact absurd rfl hx
  | cons x xs ih =>
    cases xs with
    | nil => exact joinSlash_cons_of_ne_nil x ys hy
    | cons x' xs' =>
      rw [List.cons_append, joinSlash_cons_of_ne_nil x _ (by simp), ih (by simp),
        joinSlash_cons_of_ne_nil x (x' :: xs') (by simp), List.append_assoc]
      rfl

theorem joinSlash_concat (es : List Str) (e : Str) (hne : es ≠ []) :
    joinSlash (es ++ [e]) = joinSlash es ++ 47 :: e :=
  joinSlash_append es [e] hne (List.cons_ne_nil _ _)

theorem joinSlash_splitOn (p : Str) : joinSlash (splitOn 47 p) = p := by
  induction p with
  | nil => rfl
  | cons c cs ih =>
    by_cases hc : c = 47
    · rw [hc, splitOn_cons_sep, joinSlash_cons_of_ne_nil _ _ (splitOn_ne_nil _ _), ih]
      rfl
    · cases heq : splitOn 47 cs with
      | nil => exact absurd heq (splitOn_ne_nil _ _)
      | cons h t =>
        rw [splitOn_cons_of_ne c cs h t hc heq, joinSlash_consb, ← heq, ih]

theorem splitOn_self (e : Str) (h : 47 ∉ e) : splitOn 47 e = [e] := by
  induction e with
  | nil => rfl
  | cons c cs ih =>
    simp only [List.mem_cons, not_or] at h
    exact splitOn_cons_of_ne c cs cs [] (fun hc => h.1 hc.symm) (ih h.2)

theorem splitOn_append_sep (e rest : Str) (h : 47 ∉ e) :
    splitOn 47 (e ++ 47 :: rest) = e :: splitOn 47 rest := by
  induction e with
  | nil => exact splitOn_cons_sep rest
  | cons c cs ih =>
    simp only [List.mem_cons, not_or] at h
    exact splitOn_cons_of_ne c _ cs _ (fun hc => h.1 hc.symm) (ih h.2)

theorem splitOn_joinSlash (es : List Str) (hne : es ≠ []) (h : ∀ e ∈ es, 47 ∉ e) :
    splitOn 47 (joinSlash es) = es := by
  induction es with
  | nil => exact absurd rfl hne
  | cons e es ih =>
    cases es with
    | nil => exact splitOn_self e (h e List.mem_cons_self)
    | cons a as =>
      rw [joinSlash_cons_of_ne_nil _ _ (by simp), splitOn_append_sep _ _ (h e List.mem_cons_self),
        ih (by simp) (fun x hx => h x (List.mem_cons_of_mem _ hx))]

theorem mem_joinSlash {b : Nat} (es : List Str) (hb : b ∈ joinSlash es) :
    b = 47 ∨ ∃ e ∈ es, b ∈ e := by
  induction es with
  | nil => cases hb
  | cons e es ih =>
    cases es with
    | nil => exact Or.inr ⟨e, List.mem_cons_self, hb⟩
    | cons e' es =>
      rw [joinSlash_cons_of_ne_nil _ _ (by simp)] at hb
      simp only [List.mem_append, List.mem_cons] at hb
      rcases hb with hb | hb | hb
      · exact Or.inr ⟨e, List.mem_cons_self, hb⟩
      · exact Or.inl hb
      · exact (ih hb).imp_right fun ⟨x, hx, hbx⟩ => ⟨x, List.mem_cons_of_mem _ hx, hbx⟩

theorem joinSlash_ne_nil (es : List Str) (hne : es ≠ []) (h : GoodElems es) :
    joinSlash es ≠ [] := by
  cases es with
  | nil => exact absurd rfl hne
  | cons a as =>
    cases a with
    | nil => exact absurd rfl (h [] List.mem_cons_self).1
    | cons c cs =>
      rw [joinSlash_consb]
      exact List.cons_ne_nil _ _

theorem joinSlash_head (es : List Str) (hne : es ≠ []) (h : GoodElems es) :
    (joinSlash es).head? ≠ some 47 := by
  cases es with
  | nil => exact absurd rfl hne
  | cons a as =>
    obtain ⟨h1, -, -, h4⟩ := h a List.mem_cons_self
    cases a with
    | nil => exact absurd rfl h1
    | cons c cs =>
      rw [joinSlash_consb]
      simp only [List.head?_cons, ne_eq, Option.some.injEq]
      rintro rfl
      exact h4 List.mem_cons_self

/-! ### `takeWhile` / `dropWhile` up to a slash: `strings.Cut`, `path.Split`, `TrimRight` -/

theorem ne_sep_of_not_mem {x : Nat} {e : Str} (h : x ∉ e) : ∀ a ∈ e, (a != x) = true :=
  fun _ ha => bne_iff_ne.mpr fun hax => h (hax ▸ ha)

theorem cutAt_append {x : Nat} (a s : Str) (h : x ∉ a) :
    cutAt x (a ++ s) = (a ++ (cutAt x s).1, (cutAt x s).2) := by
  have h1 := ne_sep_of_not_mem h
  unfold cutAt
  rw [List.takeWhile_append_of_pos h1, List.dropWhile_append_of_pos h1]

theorem cutAt_single {x : Nat} (a : Str) (h : x ∉ a) : cutAt x a = (a, []) := by
  have := cutAt_append a [] h
  rwa [show cutAt x [] = ([], []) from rfl, List.append_nil] at this

theorem cutAt_concat {x : Nat} (a r : Str) (h : x ∉ a) : cutAt x (a ++ x :: r) = (a, r) := by
  rw [cutAt_append a _ h, show cutAt x (x :: r) = ([], r) by simp [cutAt], List.append_nil]

/-- `strings.Cut`: the string is the part before the separator alone, or the part before, the
separator, the part after -/
theorem cutAt_eq (x : Nat) (p : Str) :
    p = (cutAt x p).1 ∨ p = (cutAt x p).1 ++ x :: (cutAt x p).2 := by
  have h0 := (List.takeWhile_append_dropWhile (p := (· != x)) (l := p)).symm
  have h1 := List.head?_dropWhile_not (· != x) p
  unfold cutAt
  cases h : p.dropWhile (· != x) with
  | nil => left; rwa [h, List.append_nil] at h0
  | cons c r =>
    right
    rw [h] at h0 h1
    have hc : c = x := by simpa using h1
    rwa [hc] at h0

theorem not_mem_cutAt_fst (x : Nat) (p : Str) : x ∉ (cutAt x p).1 :=
  fun h => by simpa using List.all_eq_true.mp (List.all_takeWhile (p := (· != x)) (l := p)) x h

/-- appending "/elem" does not change the first element -/
theorem cutAt_fst_snoc (q e : Str) : (cutAt 47 (q ++ 47 :: e)).1 = (cutAt 47 q).1 := by
  unfold cutAt
  induction q with
  | nil => simp
  | cons c q ih =>
    dsimp only at ih ⊢
    rw [List.cons_append, List.takeWhile_cons, List.takeWhile_cons, ih]

/-- `path.Split`: dir ++ file is the path, file has no slash, dir is empty or ends in a slash -/
theorem pathSplit_spec (p : Str) :
    (pathSplit p).1 ++ (pathSplit p).2 = p ∧ 47 ∉ (pathSplit p).2 ∧
    ((pathSplit p).1 = [] ∨ (pathSplit p).1.getLast? = some 47) := by
  unfold pathSplit
  refine ⟨?_, ?_, ?_⟩
  · rw [← List.reverse_append, List.takeWhile_append_dropWhile, List.reverse_reverse]
  · intro h
    have := List.all_eq_true.mp List.all_takeWhile 47 (List.mem_reverse.mp h)
    simp at this
  · dsimp only
    rw [List.getLast?_reverse, List.reverse_eq_nil_iff]
    have := List.head?_dropWhile_not (· != 47) p.reverse
    cases hd : List.dropWhile (· != 47) p.reverse with
    | nil => exact Or.inl rfl
    | cons x xs =>
      rw [hd] at this
      right
      simpa using this

theorem pathSplit_append (q e : Str) (h : 47 ∉ e) :
    pathSplit (q ++ e) = ((pathSplit q).1, (pathSplit q).2 ++ e) := by
  have h1 : ∀ a ∈ e.reverse, (a != 47) = true :=
    fun a ha => ne_sep_of_not_mem h a (List.mem_reverse.mp ha)
  unfold pathSplit
  simp only [List.reverse_append]
  rw [List.takeWhile_append_of_pos h1, List.dropWhile_append_of_pos h1]
  simp

theorem pathSplit_single (e : Str) (h : 47 ∉ e) : pathSplit e = ([], e) :=
  pathSplit_append [] e h

theorem pathSplit_concat (q e : Str) (h : 47 ∉ e) :
    pathSplit (q ++ 47 :: e) = (q ++ [47], e) := by
  have : pathSplit (q ++ [47]) = (q ++ [47], []) := by simp [pathSplit]
  rw [List.append_cons, pathSplit_append _ e h, this]
  rfl

theorem trimRightSlash_nil : trimRightSlash [] = [] := rfl

theorem trimRightSlash_snoc (q : Str) (h : q.getLast? ≠ some 47) :
    trimRightSlash (q ++ [47]) = q := by
  unfold trimRightSlash
  rw [List.reverse_append, List.reverse_singleton, List.singleton_append,
    List.dropWhile_cons_of_pos (by simp)]
  rw [← List.head?_reverse] at h
  cases hq : q.reverse with
  | nil => simpa using hq
  | cons c cs =>
    rw [hq] at h
    rw [List.dropWhile_cons_of_neg (by simpa using h), ← hq, List.reverse_reverse]

/-! ### `path.Clean` / `path.Dir` / `filepath.Join` on good names -/

/-- the two tests by which `path.Clean` and `filepath.Join` single out an element -/
theorem GoodElem.tests {e : Str} (h : GoodElem e) :
    (e.isEmpty || e == sDot) = false ∧ (e == sDotDot) = false := by
  obtain ⟨h1, h2, h3, -⟩ := h
  simp [h1, h2, h3]

theorem cleanElems_good (rooted : Bool) (es rest st : List Str) (h : GoodElems es) :
    cleanElems rooted (es ++ rest) st = cleanElems rooted rest (es.reverse ++ st) := by
  induction es generalizing st with
  | nil => rfl
  | cons e es ih =>
    obtain ⟨e1, e2⟩ := (h e List.mem_cons_self).tests
    rw [List.cons_append, cleanElems.eq_def]
    simp only [e1, e2, Bool.false_eq_true, if_false]
    rw [ih _ h.tail]
    simp

theorem joinElems_good (st es : List Str) (h : GoodElems es) :
    joinElems st es = es.reverse ++ st := by
  induction es generalizing st with
  | nil => rfl
  | cons e es ih =>
    obtain ⟨e1, e2⟩ := (h e List.mem_cons_self).tests
    simp only [joinElems, e1, e2, Bool.false_eq_true, if_false]
    rw [ih _ h.tail]
    simp

theorem pathClean_good (es : List Str) (hne : es ≠ []) (h : GoodElems es) :
    pathClean (joinSlash es) = joinSlash es := by
  have e1 : (joinSlash es).isEmpty = false := by simpa using joinSlash_ne_nil es hne h
  have e2 : ((joinSlash es).head? == some 47) = false := by simpa using joinSlash_head es hne h
  have := cleanElems_good false es [] [] h
  rw [List.append_nil] at this
  simp only [pathClean, e1, e2, splitOn_joinSlash es hne (fun e he => (h e he).2.2.2), this,
    cleanElems, List.append_nil, List.reverse_reverse, Bool.false_eq_true, if_false]

theorem pathClean_dirSlash (es : List Str) (hne : es ≠ []) (h : GoodElems es) :
    pathClean (joinSlash es ++ [47]) = joinSlash es := by
  have hsplit : splitOn 47 (joinSlash es ++ [47]) = es ++ [[]] := by
    rw [← joinSlash_concat es [] hne]
    apply splitOn_joinSlash _ (by simp)
    intro e he
    rcases List.mem_append.mp he with he | he
    · exact (h e he).2.2.2
    · rw [List.mem_singleton.mp he]; exact List.not_mem_nil
  have hne' := joinSlash_ne_nil es hne h
  have e1 : (joinSlash es ++ [47]).isEmpty = false := by simp
  have e2 : ((joinSlash es ++ [47]).head? == some 47) = false := by
    have h2 := joinSlash_head es hne h
    cases hq : joinSlash es with
    | nil => exact absurd hq hne'
    | cons c cs => rw [hq] at h2; simpa using h2
  have e3 : (joinSlash es).isEmpty = false := by simpa using hne'
  simp only [pathClean, e1, e2, hsplit, cleanElems_good false es [[]] [] h, List.append_nil]
  simp [cleanElems, e3]

theorem pathClean_rooted (es : List Str) (hne : es ≠ []) (h : GoodElems es) :
    pathClean (47 :: joinSlash es) = 47 :: joinSlash es := by
  have : cleanElems true ([] :: es) [] = es := by
    have := cleanElems_good true es [] [] h
    rw [List.append_nil] at this
    simp [cleanElems, this]
  simp only [pathClean, List.isEmpty_cons, Bool.false_eq_true, if_false, List.head?_cons,
    beq_self_eq_true, if_true, splitOn_cons_sep,
    splitOn_joinSlash es hne (fun e he => (h e he).2.2.2), this]

theorem pathDir_single (e : Str) (h : 47 ∉ e) : pathDir e = sDot := by
  unfold pathDir
  rw [pathSplit_single e h]
  rfl

/-! ### good names, seen from the end -/

/-- A name made of good elements, built the way `path.Dir`, `path.Split` and the loops over them
(`collisionChecker.check`, `splitCUEMod`) take it apart: a last element after a shorter name.
Induction on it replaces induction on the fuel of those loops, which is the length of the
name. -/
inductive GoodName : Str → Prop
  | single {e : Str} : GoodElem e → GoodName e
  | snoc {q e : Str} : GoodName q → GoodElem e → GoodName (q ++ 47 :: e)

theorem GoodName.append {x y : Str} (hx : GoodName x) (hy : GoodName y) :
    GoodName (x ++ 47 :: y) := by
  induction hy with
  | single he => exact .snoc hx he
  | snoc _ he ih =>
    rw [← List.cons_append, ← List.append_assoc]
    exact .snoc ih he

theorem GoodName.of_elems {es : List Str} (hne : es ≠ []) (hg : GoodElems es) :
    GoodName (joinSlash es) := by
  induction es with
  | nil => exact absurd rfl hne
  | cons e es ih =>
    cases es with
    | nil => exact .single (hg e List.mem_cons_self)
    | cons a as => exact (GoodName.single (hg e List.mem_cons_self)).append (ih (by simp) hg.tail)

theorem GoodName.elems {p : Str} (h : GoodName p) :
    ∃ es, es ≠ [] ∧ p = joinSlash es ∧ GoodElems es := by
  induction h with
  | single he => exact ⟨[_], by simp, rfl, by simpa [GoodElems] using he⟩
  | snoc _ he ih =>
    obtain ⟨es, hne, rfl, hg⟩ := ih
    refine ⟨es ++ [_], by simp, (joinSlash_concat es _ hne).symm, ?_⟩
    intro x hx
    rcases List.mem_append.mp hx with hx | hx
    · exact hg x hx
    · rwa [List.mem_singleton.mp hx]

theorem GoodName.ne_nil {p : Str} (h : GoodName p) : p ≠ [] := by
  cases h with
  | single he => exact he.1
  | snoc _ _ => simp

theorem GoodElem.getLast_append {e : Str} (h : GoodElem e) (q : Str) :
    (q ++ e).getLast? ≠ some 47 := by
  intro hq
  rw [List.getLast?_append] at hq
  cases hl : e.getLast? with
  | none => exact h.1 (List.getLast?_eq_none_iff.mp hl)
  | some x =>
    rw [hl] at hq
    simp only [Option.some_or, Option.some.injEq] at hq
    subst hq
    exact h.2.2.2 (List.mem_of_getLast? hl)

theorem GoodName.getLast {p : Str} (h : GoodName p) : p.getLast? ≠ some 47 := by
  cases h with
  | single he => exact he.getLast_append []
  | snoc _ he =>
    rw [List.append_cons]
    exact he.getLast_append _

theorem GoodName.ne_sDot {p : Str} (h : GoodName p) : p ≠ sDot := by
  cases h with
  | single he => exact he.2.1
  | snoc hq _ =>
    intro h0
    have hl := congrArg List.length h0
    have := List.length_pos_iff.mpr hq.ne_nil
    simp only [List.length_append, List.length_cons, sDot, List.length_nil] at hl
    omega

theorem pathDir_snoc {q e : Str} (hq : GoodName q) (he : 47 ∉ e) : pathDir (q ++ 47 :: e) = q := by
  obtain ⟨es, hne, rfl, hg⟩ := hq.elems
  unfold pathDir
  rw [pathSplit_concat _ _ he]
  exact pathClean_dirSlash es hne hg

theorem no_ancestor_single (d e : Str) (h : 47 ∉ e) : ¬ IsAncestor d e := by
  rintro ⟨-, r, -, hr⟩
  apply h
  rw [hr]
  simp

theorem ancestor_snoc {d q e : Str} (hq : q.getLast? ≠ some 47) (he : 47 ∉ e)
    (ha : IsAncestor d (q ++ 47 :: e)) : d = q ∨ IsAncestor d q := by
  obtain ⟨hd, r, hr, heq⟩ := ha
  rcases List.append_eq_append_iff.mp heq with ⟨a', h1, h2⟩ | ⟨c', h1, h2⟩
  · cases a' with
    | nil => left; simpa using h1
    | cons x a'' =>
      exfalso
      simp only [List.cons_append, List.cons.injEq] at h2
      apply he
      rw [h2.2]
      simp
  · cases c' with
    | nil => left; simpa using h1.symm
    | cons x c'' =>
      simp only [List.cons_append, List.cons.injEq] at h2
      obtain ⟨rfl, h2⟩ := h2
      right
      refine ⟨hd, c'', ?_, h1⟩
      rintro rfl
      apply hq
      rw [h1]
      simp

/-! ### what `checkFilePath` guarantees -/

theorem checkElems_none {U : Uni} {es : List Str} (h : checkElems U es = none) :
    ∀ e ∈ es, checkElem U e = none := by
  induction es with
  | nil => simp
  | cons e es ih =>
    unfold checkElems at h
    split at h
    · cases h
    · rename_i he
      intro x hx
      rcases List.mem_cons.mp hx with rfl | hx
      · exact he
      · exact ih h x hx

theorem ite_some_eq_none {α : Type} {c : Prop} [Decidable c] {a : α} {b : Option α} :
    (if c then some a else b) = none ↔ ¬ c ∧ b = none := by
  split <;> simp [*]

theorem checkFilePath_none {U : Uni} {p : Str} (h : checkFilePath U p = none) :
    p ≠ [] ∧ p.getLast? ≠ some 47 ∧ checkElems U (splitOn 47 p) = none := by
  simp only [checkFilePath, ite_some_eq_none] at h
  obtain ⟨-, hemp, -, hlast, h⟩ := h
  exact ⟨by simpa using hemp, by simpa using hlast, h⟩

theorem fileNameOK_notForbidden (il : Nat → Bool) (b : Nat) (h : fileNameOK il b = true)
    (hlt : b < 128) : winForbidden b = false := by
  have : ∀ k, k < 128 → fileNameOK (fun _ => false) k = true → winForbidden k = false := by
    decide +kernel
  apply this b hlt
  simpa [fileNameOK, hlt] using h

theorem checkElem_winSafe {U : Uni} {e : Str} (h : checkElem U e = none) : WinSafeElem U e := by
  simp only [checkElem, ite_some_eq_none] at h
  obtain ⟨hemp, hdots, hlast, hall, hbad, -⟩ := h
  refine ⟨by simpa using hemp, ?_, by simpa using hlast, ?_, ?_⟩
  · intro hd
    apply hdots
    unfold isDotsOnly
    exact List.all_eq_true.mpr (fun b hb => by simp [hd b hb])
  · intro b hb
    by_cases hlt : b < 128
    · have hall' : (runes e).all (fileNameOK U.isLetter) = true := by simpa using hall
      exact fileNameOK_notForbidden _ b
        (List.all_eq_true.mp hall' b (mem_runes_of_ascii e b hb hlt)) hlt
    · unfold winForbidden
      have : ¬ b < 32 := by omega
      simp [this]
      omega
  · intro bad hb
    exact Bool.eq_false_iff.mpr fun hq => hbad (List.any_eq_true.mpr ⟨bad, hb, hq⟩)

theorem winForbidden_false {b : Nat} (h : winForbidden b = false) :
    b ≠ 47 ∧ b ≠ 92 ∧ b ≠ 58 ∧ b ≠ 0 := by
  refine ⟨?_, ?_, ?_, ?_⟩ <;> rintro rfl <;> cases h

theorem WinSafeElem.good {U : Uni} {e : Str} (h : WinSafeElem U e) : GoodElem e := by
  obtain ⟨h1, h2, -, h4, -⟩ := h
  refine ⟨h1, ?_, ?_, fun h47 => (winForbidden_false (h4 47 h47)).1 rfl⟩
  · rintro rfl; exact h2 (by decide)
  · rintro rfl; exact h2 (by decide)

theorem checkFilePath_winSafe (U : Uni) (p : Str) (h : checkFilePath U p = none) :
    ∀ e ∈ splitOn 47 p, WinSafeElem U e :=
  fun e he => checkElem_winSafe (checkElems_none (checkFilePath_none h).2.2 e he)

theorem checkFilePath_elems (U : Uni) (p : Str) (h : checkFilePath U p = none) :
    GoodElems (splitOn 47 p) :=
  fun e he => (checkFilePath_winSafe U p h e he).good

theorem checkFilePath_good (U : Uni) (p : Str) (h : checkFilePath U p = none) :
    ∃ es, es ≠ [] ∧ p = joinSlash es ∧ GoodElems es :=
  ⟨splitOn 47 p, splitOn_ne_nil _ _, (joinSlash_splitOn p).symm, checkFilePath_elems U p h⟩

theorem checkFilePath_goodName (U : Uni) (p : Str) (h : checkFilePath U p = none) : GoodName p := by
  have := GoodName.of_elems (splitOn_ne_nil 47 p) (checkFilePath_elems U p h)
  rwa [joinSlash_splitOn] at this

theorem checkFilePath_safe (U : Uni) (p : Str) (h : checkFilePath U p = none) : SafeName p := by
  refine ⟨splitOn 47 p, splitOn_ne_nil _ _, (joinSlash_splitOn p).symm,
    checkFilePath_elems U p h, ?_⟩
  intro b hb
  rw [← joinSlash_splitOn p] at hb
  rcases mem_joinSlash _ hb with rfl | ⟨e, he, hbe⟩
  · omega
  · exact (winForbidden_false ((checkFilePath_winSafe U p h e he).2.2.2.1 b hbe)).2

theorem fjoin_of_safe (dir : Path) (p : Str) (h : SafeName p) :
    fjoin dir p = dir ++ splitOn 47 p ∧ StrictUnder dir (fjoin dir p) := by
  obtain ⟨es, hne, rfl, hes, -⟩ := h
  have hsplit : splitOn 47 (joinSlash es) = es :=
    splitOn_joinSlash es hne (fun e he => (hes e he).2.2.2)
  have hj : fjoin dir (joinSlash es) = dir ++ es := by
    unfold fjoin
    rw [hsplit, joinElems_good _ _ hes]
    simp
  rw [hsplit]
  exact ⟨hj, es, hne, hj⟩

theorem checkFilePath_clean (U : Uni) (p : Str) (h : checkFilePath U p = none) :
    pathClean p = p ∧ isAbs p = false ∧ p.getLast? ≠ some 47 := by
  refine ⟨?_, ?_, (checkFilePath_none h).2.1⟩
  all_goals obtain ⟨es, hne, rfl, hg⟩ := checkFilePath_good U p h
  · exact pathClean_good es hne hg
  · simpa [isAbs] using joinSlash_head es hne hg

end CueVerif.Modzip
