import CueVerif.Proofs.ModzipCreate
/-!
C15, GROUNDWORK towards "the verdict of checkFiles does not depend on the order of a list
without duplicate paths" (see notes/C15.md, "Not done: permutation invariance").  Nothing in
Props/C15.lean depends on this file.  Proved here:
  * the set of nested-module directories (`haveCUEMod`) and hence `inSubmodule` are invariant
    under permutation of the list;
  * `ccCheck` depends on the collision map only through `ccLookup` (maps that agree on every
    lookup give the same verdict and again agreeing maps) — the congruence needed for the swap
    lemma of two collision checks;
  * the size budget: two admissions commute.
-/
namespace CueVerif.Modzip

theorem haveCUEMod_perm (U : Uni) {l l' : List FEnt} (h : l.Perm l') :
    (haveCUEMod U l).Perm (haveCUEMod U l') := by
  unfold haveCUEMod
  exact h.filterMap _

/-- `inSubmodule` (the only use of the first loop of checkFiles) is the same for a list and
any permutation of it -/
theorem inSubmodule_perm (U : Uni) {l l' : List FEnt} (h : l.Perm l') (p : Str) :
    inSubmodule (haveCUEMod U l) p = inSubmodule (haveCUEMod U l') p := by
  rw [Bool.eq_iff_iff, inSubmodule_iff, inSubmodule_iff]
  simp only [(haveCUEMod_perm U h).mem_iff]

/-- two collision maps that answer every lookup alike -/
def CCEq (a b : CC) : Prop := ∀ k, ccLookup a k = ccLookup b k

theorem CCEq.cons {a b : CC} (h : CCEq a b) (e : List Nat × Str × Bool) : CCEq (e :: a) (e :: b) := by
  intro k
  obtain ⟨k', v⟩ := e
  simp only [ccLookup]
  split
  · rfl
  · exact h k

/-- the collision check sees the map only through lookups -/
theorem ccCheck_congr (U : Uni) (fuel : Nat) (a b : CC) (p : Str) (d : Bool) (h : CCEq a b) :
    (ccCheck U fuel a p d).2 = (ccCheck U fuel b p d).2 ∧
    CCEq (ccCheck U fuel a p d).1 (ccCheck U fuel b p d).1 := by
  induction fuel generalizing a b p d with
  | zero => exact ⟨rfl, h⟩
  | succ fuel ih =>
    rw [ccCheck_succ, ccCheck_succ, h (foldKey U p)]
    cases hl : ccLookup b (foldKey U p) with
    | none =>
      dsimp only
      by_cases hp : pathDir p ≠ sDot
      · rw [if_pos hp, if_pos hp]
        exact ih _ _ _ _ (h.cons _)
      · rw [if_neg hp, if_neg hp]
        exact ⟨rfl, h.cons _⟩
    | some v =>
      obtain ⟨op, oDir⟩ := v
      dsimp only
      by_cases h1 : p ≠ op
      · rw [if_pos h1, if_pos h1]; exact ⟨rfl, h⟩
      · rw [if_neg h1, if_neg h1]
        by_cases h2 : d ≠ oDir
        · rw [if_pos h2, if_pos h2]; exact ⟨rfl, h⟩
        · rw [if_neg h2, if_neg h2]
          by_cases h3 : (!d) = true
          · rw [if_pos h3, if_pos h3]; exact ⟨rfl, h⟩
          · rw [if_neg h3, if_neg h3]
            dsimp only
            by_cases hp : pathDir p ≠ sDot
            · rw [if_pos hp, if_pos hp]
              exact ih _ _ _ _ h
            · rw [if_neg hp, if_neg hp]
              exact ⟨rfl, h⟩

/-- the size budget: admitting two files commutes (the budget only decreases, so a file that
does not fit after the other one makes the other order fail as well) -/
theorem budget_commute (m x y : Int) :
    ((0 ≤ x ∧ x ≤ m) ∧ (0 ≤ y ∧ y ≤ m - x)) ↔ ((0 ≤ y ∧ y ≤ m) ∧ (0 ≤ x ∧ x ≤ m - y)) := by
  constructor <;> (rintro ⟨⟨a, b⟩, c, d⟩; exact ⟨⟨c, by omega⟩, a, by omega⟩)

end CueVerif.Modzip
