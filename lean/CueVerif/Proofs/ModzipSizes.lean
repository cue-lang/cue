import CueVerif.Proofs.ModzipStep
/-!
Size / validity accounting of `checkZip` and `checkFiles` (C15).

Both functions are a `List.foldl` of a step function from the initial state `{}`.  Two separate
arguments: the report only grows (`Checked.le`); and a final report without error was without
error after every step, so every step passed every rule and booked its size (walked back from the
end of the list for CheckZip, carried forward as the invariant `CFInv` for checkFiles).

`checkZip_ok` needs the extra hypothesis that the declared sizes are 64-bit values
(`ZEnt.declared` is an unbounded `Nat` in the model and `toInt64` of `2^64` is `0`); the
version without that hypothesis, phrased with `toInt64`, is `checkZip_ok_int64`.
-/
namespace CueVerif.Modzip

/-! ### toInt64 -/

theorem toInt64_of_nonneg {n : Nat} (h : n < 18446744073709551616) (h0 : 0 ≤ toInt64 n) :
    n < 9223372036854775808 ∧ toInt64 n = (n : Int) := by
  unfold toInt64 at *
  split at h0
  · rename_i h1; simp [h1]
  · omega

theorem toInt64_of_lt {n : Nat} (h : n < 9223372036854775808) : toInt64 n = (n : Int) := by
  unfold toInt64; simp [h]

/-! ### the report only grows -/

/-- `b` continues `a`: `invalid` and `valid` are only appended to and `sizeError` is sticky -/
def Checked.le (a b : Checked) : Prop :=
  a.invalid <+: b.invalid ∧ a.valid <+: b.valid ∧ (a.sizeError = true → b.sizeError = true)

theorem Checked.le_refl (a : Checked) : a.le a := ⟨List.prefix_refl _, List.prefix_refl _, id⟩

theorem Checked.le_trans {a b c : Checked} (h1 : a.le b) (h2 : b.le c) : a.le c :=
  ⟨h1.1.trans h2.1, h1.2.1.trans h2.2.1, fun h => h2.2.2 (h1.2.2 h)⟩

theorem CZState.addError_le (st : CZState) (n : Str) (w : Why) : st.cf.le (st.addError n w).cf :=
  ⟨List.prefix_append _ _, List.prefix_refl _, id⟩

theorem czSize_le (st : CZState) (sz : Int) : st.cf.le (czSize st sz).cf := by
  obtain ⟨a, b, -, -, -, c⟩ := czSize_frame st sz
  exact ⟨by rw [b]; exact List.prefix_refl _, by rw [a]; exact List.prefix_refl _, c⟩

theorem czStep_le (U : Uni) (st : CZState) (e : ZEnt) : st.cf.le (czStep U st e).cf := by
  have ho := czStep_outcome U st e
  generalize czStep U st e = s at ho
  cases ho with
  | nameErr cc' w hm hnp => exact CZState.addError_le _ _ _
  | dir cc' b hp hd => exact Checked.le_refl _
  | limit cc' b w hp hd hover =>
    exact Checked.le_trans (czSize_le (czNamed st cc' b) _) (CZState.addError_le _ _ _)
  | valid cc' b hp hd hcm hli =>
    exact Checked.le_trans (czSize_le (czNamed st cc' b) _)
      ⟨List.prefix_refl _, List.prefix_append _ _, id⟩

theorem czFold_le (U : Uni) (z : List ZEnt) (st : CZState) :
    st.cf.le (z.foldl (czStep U) st).cf := by
  induction z generalizing st with
  | nil => exact Checked.le_refl _
  | cons e es ih => exact Checked.le_trans (czStep_le U st e) (ih _)

theorem czFold_invalid_prefix (U : Uni) (z : List ZEnt) (st : CZState) :
    st.cf.invalid <+: (z.foldl (czStep U) st).cf.invalid :=
  (czFold_le U z st).1

theorem czFold_valid_prefix (U : Uni) (z : List ZEnt) (st : CZState) :
    st.cf.valid <+: (z.foldl (czStep U) st).cf.valid :=
  (czFold_le U z st).2.1

theorem czFold_sizeError_mono (U : Uni) (z : List ZEnt) (st : CZState)
    (h : st.cf.sizeError = true) : (z.foldl (czStep U) st).cf.sizeError = true :=
  (czFold_le U z st).2.2 h

/-! ### CheckZip: the whole loop -/

/-- sum of `int64(declared)` over the file (non-directory) entries -/
def declared64 : List ZEnt → Int
  | [] => 0
  | e :: es => (if isDirName e.name then 0 else toInt64 e.declared) + declared64 es

/-- names of the file (non-directory) entries, in order -/
def fileNames (z : List ZEnt) : List Str := (z.filter (fun e => !isDirName e.name)).map (·.name)

/-- per-entry facts established by a CheckZip run without error -/
structure CZEntOk (U : Uni) (e : ZEnt) : Prop where
  path : checkFilePath U (entName e) = none
  clean : pathClean (entName e) = entName e
  notLocal : entName e ≠ sLocalModule
  rule : ∃ b, cueModZipRule U (entName e) = (none, b)
  nonneg : isDirName e.name = false → 0 ≤ toInt64 e.declared
  cueMod : isDirName e.name = false → e.name = sCueModModule →
    toInt64 e.declared ≤ (maxCUEMod : Int)
  license : isDirName e.name = false → e.name = sLICENSE →
    toInt64 e.declared ≤ (maxLICENSE : Int)

theorem fileNames_cons (e : ZEnt) (es : List ZEnt) :
    fileNames (e :: es) = (if isDirName e.name then [] else [e.name]) ++ fileNames es := by
  cases hd : isDirName e.name <;> simp [fileNames, hd]

theorem CZAccept.entOk {U : Uni} {st : CZState} {e : ZEnt} {cc' : CC} {b : Bool}
    (h : CZAccept U st e cc' b) : CZEntOk U e :=
  ⟨h.path, h.clean, h.notLocal, ⟨b, h.rule⟩, fun hf => (h.fits hf).1, fun hf => (h.fits hf).2.2.1,
    fun hf => (h.fits hf).2.2.2⟩

theorem czFold_ok (U : Uni) (z : List ZEnt) (st : CZState)
    (h : (z.foldl (czStep U) st).ok) :
    st.ok ∧ (∀ e ∈ z, CZEntOk U e) ∧
    (z.foldl (czStep U) st).size = st.size + declared64 z ∧
    (st.size ≤ (maxZipFile : Int) → (z.foldl (czStep U) st).size ≤ (maxZipFile : Int)) ∧
    (z.foldl (czStep U) st).cf.valid = st.cf.valid ++ fileNames z := by
  induction z generalizing st with
  | nil => exact ⟨h, by simp, by simp [declared64], fun h => h, by simp [fileNames]⟩
  | cons e es ih =>
    rw [List.foldl_cons] at h ⊢
    obtain ⟨hok1, hall, hsize, hle, hvalid⟩ := ih _ h
    obtain ⟨hprev, cc', b, ha⟩ := (czStep_ok_iff U st e).mp hok1
    rw [czStep_accept ha] at hsize hle hvalid ⊢
    refine ⟨hprev, List.forall_mem_cons.mpr ⟨ha.entOk, hall⟩, by rw [hsize]; exact Int.add_assoc _ _ _,
      fun h0 => hle ?_, by rw [hvalid, fileNames_cons]; exact List.append_assoc _ _ _⟩
    show st.size + _ ≤ _
    cases hd : isDirName e.name
    · exact (ha.fits hd).2.1
    · exact (Int.add_zero _).symm ▸ h0

theorem declared64_eq_total (z : List ZEnt)
    (h : ∀ e ∈ z, isDirName e.name = false → toInt64 e.declared = (e.declared : Int)) :
    declared64 z = (declaredTotal z : Int) := by
  induction z with
  | nil => rfl
  | cons e es ih =>
    have ih' := ih (fun e' he' => h e' (List.mem_cons_of_mem _ he'))
    cases hd : isDirName e.name
    · simp only [declared64, declaredTotal, hd, Bool.false_eq_true, if_false, ih',
        h e List.mem_cons_self hd]
      omega
    · simp only [declared64, declaredTotal, hd, if_true, ih']
      omega

theorem checkZip_noErr (U : Uni) (zipSize : Nat) (z : List ZEnt)
    (h : (checkZip U zipSize z).isErr = false) :
    zipSize ≤ maxZipFile ∧ (checkZipState U z).ok ∧ (checkZipState U z).modFile = true ∧
    (checkZip U zipSize z).valid = (checkZipState U z).cf.valid := by
  unfold checkZip at h ⊢
  by_cases hz : zipSize > maxZipFile
  · simp [hz, Checked.isErr] at h
  · rw [if_neg hz] at h ⊢
    simp only [Checked.isErr, Bool.or_eq_false_iff, List.isEmpty_iff,
      Bool.not_eq_eq_eq_not, Bool.not_false] at h
    exact ⟨by omega, ⟨h.1.2, h.1.1⟩, h.2, rfl⟩

/-- The general form (no assumption on `declared`): everything is phrased with `int64(declared)`,
which is what CheckZip looks at. -/
theorem checkZip_ok_int64 (U : Uni) (zipSize : Nat) (z : List ZEnt)
    (h : (checkZip U zipSize z).isErr = false) :
    zipSize ≤ maxZipFile ∧
    (∀ e ∈ z, CZEntOk U e) ∧
    declared64 z ≤ (maxZipFile : Int) ∧
    (∀ e ∈ z, e.name ≠ sLocalModule) ∧
    (checkZip U zipSize z).valid = fileNames z := by
  obtain ⟨hz, hok, -, hval⟩ := checkZip_noErr U zipSize z h
  obtain ⟨-, hall, hsize, hle, hvalid⟩ := czFold_ok U z {} hok
  have hle' := hle (by show (0 : Int) ≤ _; omega)
  rw [hsize] at hle'
  refine ⟨hz, hall, by simpa using hle', ?_, ?_⟩
  · intro e he
    cases hd : isDirName e.name
    · have := (hall e he).notLocal
      rwa [entName_of_file hd] at this
    · intro hn; rw [hn] at hd; revert hd; decide
  · rw [hval]
    show (z.foldl (czStep U) {}).cf.valid = _
    rw [hvalid]; rfl

theorem checkZip_ok_lt (U : Uni) (zipSize : Nat) (z : List ZEnt)
    (h64 : ∀ e ∈ z, isDirName e.name = false → e.declared < 2 ^ 64)
    (h : (checkZip U zipSize z).isErr = false) :
    ∀ e ∈ z, pathClean (entName e) = entName e ∧
      (isDirName e.name = false → e.declared < 2 ^ 63 ∧ toInt64 e.declared = e.declared) := by
  obtain ⟨-, hall, -⟩ := checkZip_ok_int64 U zipSize z h
  intro e he
  exact ⟨(hall e he).clean, fun hd => toInt64_of_nonneg (h64 e he hd) ((hall e he).nonneg hd)⟩

theorem checkZip_ok (U : Uni) (zipSize : Nat) (z : List ZEnt)
    (h64 : ∀ e ∈ z, isDirName e.name = false → e.declared < 2 ^ 64)
    (h : (checkZip U zipSize z).isErr = false) :
    zipSize ≤ maxZipFile ∧
    (∀ e ∈ z, checkFilePath U (if isDirName e.name then e.name.dropLast else e.name) = none) ∧
    declaredTotal z ≤ maxZipFile ∧
    (∀ e ∈ z, isDirName e.name = false → e.name = sCueModModule → e.declared ≤ maxCUEMod) ∧
    (∀ e ∈ z, isDirName e.name = false → e.name = sLICENSE → e.declared ≤ maxLICENSE) ∧
    (∀ e ∈ z, e.name ≠ sLocalModule) ∧
    (checkZip U zipSize z).valid = (z.filter (fun e => !isDirName e.name)).map (·.name) := by
  obtain ⟨hz, hall, hle, hloc, hval⟩ := checkZip_ok_int64 U zipSize z h
  have hint : ∀ e ∈ z, isDirName e.name = false → toInt64 e.declared = (e.declared : Int) :=
    fun e he hd => ((checkZip_ok_lt U zipSize z h64 h e he).2 hd).2
  have hnat : ∀ e ∈ z, isDirName e.name = false → ∀ m : Nat, toInt64 e.declared ≤ (m : Int) →
      e.declared ≤ m := fun e he hd m hm => by rw [hint e he hd] at hm; omega
  rw [declared64_eq_total z hint] at hle
  exact ⟨hz, fun e he => (hall e he).path, by omega,
    fun e he hd hn => hnat e he hd _ ((hall e he).cueMod hd hn),
    fun e he hd hn => hnat e he hd _ ((hall e he).license hd hn), hloc, hval⟩

/-! ### checkFiles: the report only grows -/

theorem CFState.addError_le (st : CFState) (p : Str) (o : Bool) (w : Why) :
    st.cf.le (st.addError p o w).cf := by
  obtain ⟨a, -, -, b, -, -, c⟩ := CFState.addError_frame st p o w
  exact ⟨c, by rw [a]; exact List.prefix_refl _, by rw [b]; exact id⟩

theorem cfStep_le (U : Uni) (hv : List Str) (st : CFState) (f : FEnt) :
    st.cf.le (cfStep U hv st f).cf := by
  have ho := cfStep_outcome U hv st f
  generalize cfStep U hv st f = s at ho
  cases ho with
  | skip hk => exact Checked.le_refl _
  | nameErr cc' o w hm hnp => exact CFState.addError_le { st with cc := cc' } _ _ _
  | limit cc' w hp hover =>
    obtain ⟨a, -, -, i, -, -, e⟩ := cfSize_frame { st with cc := cc' } f
    exact Checked.le_trans ⟨i ▸ List.prefix_refl _, a ▸ List.prefix_refl _, e⟩
      (CFState.addError_le _ _ _ _)
  | valid cc' hp hcm hli =>
    obtain ⟨a, -, -, i, -, -, e⟩ := cfSize_frame { st with cc := cc' } f
    exact ⟨i ▸ List.prefix_refl _, a ▸ List.prefix_append _ _, e⟩

theorem cfFold_le (U : Uni) (hv : List Str) (l : List FEnt) (st : CFState) :
    st.cf.le (l.foldl (cfStep U hv) st).cf := by
  induction l generalizing st with
  | nil => exact Checked.le_refl _
  | cons f fs ih => exact Checked.le_trans (cfStep_le U hv st f) (ih _)

theorem cfFold_invalid_prefix (U : Uni) (hv : List Str) (l : List FEnt) (st : CFState) :
    st.cf.invalid <+: (l.foldl (cfStep U hv) st).cf.invalid :=
  (cfFold_le U hv l st).1

theorem cfFold_sizeError_mono (U : Uni) (hv : List Str) (l : List FEnt) (st : CFState)
    (h : st.cf.sizeError = true) : (l.foldl (cfStep U hv) st).cf.sizeError = true :=
  (cfFold_le U hv l st).2.2 h

/-! ### checkFiles: the invariant -/

/-- per-entry facts about an entry accepted as valid by checkFiles -/
structure CFEntOk (U : Uni) (f : FEnt) : Prop where
  regular : f.kind = .regular
  path : checkFilePath U f.path = none
  clean : f.path = pathClean f.path
  notAbs : isAbs f.path = false
  notLocal : f.path ≠ sLocalModule
  notVendored : isVendoredPackage f.path = false
  cueMod : f.path = sCueModModule → f.size ≤ (maxCUEMod : Int)
  license : f.path = sLICENSE → f.size ≤ (maxLICENSE : Int)

/-- the invariant of the main loop of checkFiles (`M` = "has been offered to the loop") -/
structure CFInv (U : Uni) (M : FEnt → Prop) (st : CFState) : Prop where
  valid_eq : st.cf.valid = st.validEnts.map (·.path)
  ents : ∀ f ∈ st.validEnts, M f ∧ CFEntOk U f
  found : st.found = true → sCueModModule ∈ st.cf.valid
  sizes : st.cf.sizeError = false →
    (∀ f ∈ st.validEnts, 0 ≤ f.size) ∧ 0 ≤ st.maxSize ∧
    st.maxSize + (st.validEnts.map (·.size)).foldl (· + ·) 0 ≤ (maxZipFile : Int)

theorem CFInv.init (U : Uni) (M : FEnt → Prop) : CFInv U M {} :=
  ⟨rfl, fun _ hf => (List.not_mem_nil hf).elim, fun h => Bool.noConfusion h, fun _ =>
    ⟨fun _ hf => (List.not_mem_nil hf).elim, Int.natCast_nonneg maxZipFile,
      Int.le_refl (maxZipFile : Int)⟩⟩

theorem CFInv.frame {U : Uni} {M : FEnt → Prop} {st st' : CFState} (hinv : CFInv U M st)
    (hv : st'.cf.valid = st.cf.valid) (he : st'.validEnts = st.validEnts)
    (hf : st'.found = true → st.found = true)
    (hs : st'.cf.sizeError = false →
      st.cf.sizeError = false ∧ (0 ≤ st.maxSize → 0 ≤ st'.maxSize) ∧ st'.maxSize ≤ st.maxSize) :
    CFInv U M st' := by
  refine ⟨by rw [hv, he]; exact hinv.valid_eq, by rw [he]; exact hinv.ents,
    by rw [hv]; exact fun h => hinv.found (hf h), ?_⟩
  intro h
  obtain ⟨h1, h2, h3⟩ := hs h
  obtain ⟨g1, g2, g3⟩ := hinv.sizes h1
  rw [he]
  exact ⟨g1, h2 g2, by omega⟩

theorem CFInv.addError {U : Uni} {M : FEnt → Prop} {st : CFState} (p : Str) (o : Bool) (w : Why)
    (hinv : CFInv U M st) : CFInv U M (st.addError p o w) := by
  obtain ⟨a, b, c, d, e, -, -⟩ := CFState.addError_frame st p o w
  exact hinv.frame a b (by rw [c]; exact id)
    (fun h => ⟨by rw [← d]; exact h, by rw [e]; exact id, by rw [e]; omega⟩)

theorem CFInv.setCC {U : Uni} {M : FEnt → Prop} {st : CFState} (cc' : CC)
    (hinv : CFInv U M st) : CFInv U M { st with cc := cc' } :=
  hinv.frame rfl rfl id (fun h => ⟨h, id, Int.le_refl _⟩)

theorem foldl_sizes_snoc (l : List FEnt) (f : FEnt) :
    ((l ++ [f]).map (·.size)).foldl (· + ·) 0 = (l.map (·.size)).foldl (· + ·) 0 + f.size := by
  simp [List.foldl_append]

theorem CFInv.booked {U : Uni} {M : FEnt → Prop} {st : CFState} (f : FEnt)
    (hinv : CFInv U M st) : CFInv U M (cfSize st f) := by
  obtain ⟨a, b, c, -, -, d, -⟩ := cfSize_frame st f
  refine hinv.frame a b (by rw [c]; exact id) fun h => ?_
  obtain ⟨k1, k2, k3, k4⟩ := d h
  rw [k4]
  exact ⟨k1, fun _ => by omega, by omega⟩

theorem cfStep_inv {U : Uni} {M : FEnt → Prop} (hv : List Str) {st : CFState} {f : FEnt}
    (hinv : CFInv U M st) (hM : M f) : CFInv U M (cfStep U hv st f) := by
  have ho := cfStep_outcome U hv st f
  generalize cfStep U hv st f = s at ho
  cases ho with
  | skip hk => exact hinv
  | nameErr cc' o w hm hnp => exact (hinv.setCC cc').addError _ _ _
  | limit cc' w hp hover => exact (CFInv.booked f (hinv.setCC cc')).addError _ _ _
  | valid cc' hp hcm hli =>
    have hinv' := hinv.setCC cc'
    obtain ⟨a2, b2, c2, -, -, d2, -⟩ := cfSize_frame { st with cc := cc' } f
    generalize cfSize { st with cc := cc' } f = S at a2 b2 c2 d2
    refine ⟨?_, ?_, ?_, ?_⟩ <;> dsimp only
    · rw [a2, b2, hinv'.valid_eq]; simp
    · rw [b2]
      intro g hg
      rcases List.mem_append.mp hg with hg | hg
      · exact hinv'.ents g hg
      · rw [List.mem_singleton.mp hg]
        exact ⟨hM, hp.regular, hp.path, hp.clean, hp.notAbs, hp.notLocal, hp.notVendored, hcm, hli⟩
    · rw [a2, c2]
      intro hfd
      rcases Bool.or_eq_true_iff.mp hfd with h | h
      · exact List.mem_append_left _ (hinv'.found h)
      · rw [of_decide_eq_true h]; simp
    · rw [b2, foldl_sizes_snoc]
      intro hse
      obtain ⟨s1, s2, s3, s4⟩ := d2 hse
      obtain ⟨g1, g2, g3⟩ := hinv'.sizes s1
      rw [s4]
      refine ⟨?_, by omega, by omega⟩
      intro g hg
      rcases List.mem_append.mp hg with hg | hg
      · exact g1 g hg
      · rw [List.mem_singleton.mp hg]; exact s2

theorem cfFold_inv {U : Uni} {M : FEnt → Prop} (hv : List Str) (l : List FEnt) {st : CFState}
    (hinv : CFInv U M st) (hM : ∀ f ∈ l, M f) : CFInv U M (l.foldl (cfStep U hv) st) := by
  induction l generalizing st with
  | nil => exact hinv
  | cons f fs ih =>
    exact ih (cfStep_inv hv hinv (hM f List.mem_cons_self))
      (fun g hg => hM g (List.mem_cons_of_mem _ hg))

theorem checkFilesState_inv (U : Uni) (files : List FEnt) :
    CFInv U (· ∈ files) (checkFilesState U files) :=
  cfFold_inv _ files (CFInv.init U _) (fun _ h => h)

theorem checkFiles_noErr (U : Uni) (files : List FEnt) :
    (checkFiles U files).1.isErr = false ↔
      (checkFilesState U files).cf.sizeError = false ∧
      (checkFilesState U files).cf.invalid = [] ∧ (checkFilesState U files).found = true := by
  show Checked.isErr { (checkFilesState U files).cf with
    noMod := !(checkFilesState U files).found } = false ↔ _
  simp [Checked.isErr, and_assoc]

theorem checkFiles_ok (U : Uni) (files : List FEnt)
    (h : (checkFiles U files).1.isErr = false) :
    let r := checkFiles U files
    r.1.valid = r.2.map (·.path) ∧
    (∀ f ∈ r.2, f ∈ files ∧ f.kind = .regular ∧ 0 ≤ f.size ∧ checkFilePath U f.path = none) ∧
    ((r.2.map (·.size)).foldl (· + ·) 0 ≤ (maxZipFile : Int)) ∧
    sCueModModule ∈ r.1.valid ∧
    (∀ f ∈ r.2, f.path = sCueModModule → f.size ≤ maxCUEMod) ∧
    (∀ f ∈ r.2, f.path = sLICENSE → f.size ≤ maxLICENSE) ∧
    (∀ f ∈ r.2, f.path ≠ sLocalModule ∧ isVendoredPackage f.path = false) := by
  intro r
  have hinv := checkFilesState_inv U files
  have hr1 : r.1.valid = (checkFilesState U files).cf.valid := rfl
  have hr2 : r.2 = (checkFilesState U files).validEnts := rfl
  obtain ⟨hse, -, hfound⟩ := (checkFiles_noErr U files).mp h
  obtain ⟨g1, g2, g3⟩ := hinv.sizes hse
  rw [hr1, hr2]
  refine ⟨hinv.valid_eq, ?_, by omega, hinv.found hfound, ?_, ?_, ?_⟩
  · intro f hf
    have := hinv.ents f hf
    exact ⟨this.1, this.2.regular, g1 f hf, this.2.path⟩
  · intro f hf; exact (hinv.ents f hf).2.cueMod
  · intro f hf; exact (hinv.ents f hf).2.license
  · intro f hf; exact ⟨(hinv.ents f hf).2.notLocal, (hinv.ents f hf).2.notVendored⟩

theorem checkFiles_valid_clean (U : Uni) (files : List FEnt) :
    ∀ f ∈ (checkFiles U files).2, f.path = pathClean f.path ∧ isAbs f.path = false := by
  intro f hf
  have := ((checkFilesState_inv U files).ents f hf).2
  exact ⟨this.clean, this.notAbs⟩

end CueVerif.Modzip
