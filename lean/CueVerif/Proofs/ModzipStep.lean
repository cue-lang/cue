import CueVerif.Spec.Modzip
/-!
One iteration of the loops of CheckZip (`czStep`) and checkFiles (`cfStep`).  Each step function is
unfolded once, into a relation that lists what an iteration can do (`CZOutcome`, `CFOutcome`); the
error cases carry their reason, so both directions are case analyses over the relation: what every
iteration does to the report and the collision map (ModzipSizes, ModzipColl), and what it does when it
takes the entry without recording an error (`CZAccept` / `CFAccept`, with the state afterwards as an
explicit record).
-/
namespace CueVerif.Modzip

/-! ### the collision map only grows -/

/-- entries are never removed or overwritten -/
def CCMono (cc cc' : CC) : Prop := ∀ k v, ccLookup cc k = some v → ccLookup cc' k = some v

theorem CCMono.refl (cc : CC) : CCMono cc cc := fun _ _ h => h

theorem CCMono.trans {a b c : CC} (h1 : CCMono a b) (h2 : CCMono b c) : CCMono a c :=
  fun k v h => h2 k v (h1 k v h)

theorem ccLookup_cons_self (cc : CC) (k : List Nat) (v : Str × Bool) :
    ccLookup ((k, v) :: cc) k = some v := by
  simp [ccLookup]

theorem ccMono_cons (cc : CC) (k : List Nat) (v : Str × Bool) (h : ccLookup cc k = none) :
    CCMono cc ((k, v) :: cc) := by
  intro k' v' h'
  simp only [ccLookup]
  split
  · rename_i hk
    subst hk
    rw [h] at h'
    cases h'
  · exact h'

theorem ccCheck_succ (U : Uni) (fuel : Nat) (cc : CC) (p : Str) (isDir : Bool) :
    ccCheck U (fuel + 1) cc p isDir =
      (match (match ccLookup cc (foldKey U p) with
          | some (op, oDir) =>
            if p ≠ op then (cc, some Why.collCase)
            else if isDir ≠ oDir then (cc, some Why.collFileDir)
            else if !isDir then (cc, some Why.collDup)
            else (cc, none)
          | none => ((foldKey U p, p, isDir) :: cc, none) : CC × Option Why) with
      | (cc', some e) => (cc', some e)
      | (cc', none) =>
        if pathDir p ≠ sDot then ccCheck U fuel cc' (pathDir p) true else (cc', none)) := rfl

/-- one round of `ccCheck`: a collision is reported and the map is unchanged, or `p` is registered
(or, for a directory, found registered) and the check goes on to the parent directory -/
theorem ccCheck_succ_cases (U : Uni) (fuel : Nat) (cc : CC) (p : Str) (isDir : Bool) :
    (∃ w, ccCheck U (fuel + 1) cc p isDir = (cc, some w)) ∨
    ∃ cc1, CCMono cc cc1 ∧ ccLookup cc1 (foldKey U p) = some (p, isDir) ∧
      (isDir = false → ccLookup cc (foldKey U p) = none) ∧
      ccCheck U (fuel + 1) cc p isDir =
        if pathDir p ≠ sDot then ccCheck U fuel cc1 (pathDir p) true else (cc1, none) := by
  rw [ccCheck_succ]
  cases hl : ccLookup cc (foldKey U p) with
  | none => exact Or.inr ⟨_, ccMono_cons cc _ _ hl, ccLookup_cons_self _ _ _, fun _ => rfl, rfl⟩
  | some v =>
    obtain ⟨op, oDir⟩ := v
    dsimp only
    by_cases h1 : p ≠ op
    · rw [if_pos h1]; exact Or.inl ⟨_, rfl⟩
    rw [if_neg h1]
    by_cases h2 : isDir ≠ oDir
    · rw [if_pos h2]; exact Or.inl ⟨_, rfl⟩
    rw [if_neg h2]
    by_cases h3 : (!isDir) = true
    · rw [if_pos h3]; exact Or.inl ⟨_, rfl⟩
    rw [if_neg h3]
    obtain rfl := Decidable.not_not.mp h1
    obtain rfl := Decidable.not_not.mp h2
    exact Or.inr ⟨cc, CCMono.refl cc, hl, fun hf => absurd (by rw [hf]; rfl) h3, rfl⟩

theorem ccCheck_mono (U : Uni) (fuel : Nat) (cc : CC) (p : Str) (isDir : Bool) :
    CCMono cc (ccCheck U fuel cc p isDir).1 := by
  induction fuel generalizing cc p isDir with
  | zero => exact CCMono.refl cc
  | succ fuel ih =>
    rcases ccCheck_succ_cases U fuel cc p isDir with ⟨w, h⟩ | ⟨cc1, hm, -, -, h⟩ <;> rw [h]
    · exact CCMono.refl cc
    · split
      · exact hm.trans (ih _ _ _)
      · exact hm

theorem ccCheckTop_mono {U : Uni} {cc cc' : CC} {p : Str} {isDir : Bool} {w : Option Why}
    (h : ccCheckTop U cc p isDir = (cc', w)) : CCMono cc cc' := by
  have := ccCheck_mono U (p.length + 1) cc p isDir
  unfold ccCheckTop at h
  rw [h] at this
  exact this

/-! ### CheckZip -/

/-- the entry name with the trailing slash of a directory entry removed -/
def entName (e : ZEnt) : Str := if isDirName e.name then e.name.dropLast else e.name

theorem entName_of_file {e : ZEnt} (h : isDirName e.name = false) : entName e = e.name := by
  unfold entName; rw [h]; rfl

/-- the size accounting of a `czStep` -/
def czSize (st : CZState) (sz : Int) : CZState :=
  if 0 ≤ sz ∧ (maxZipFile : Int) - st.size ≥ sz then { st with size := st.size + sz }
  else { st with cf := { st.cf with sizeError := true } }

theorem czSize_frame (st : CZState) (sz : Int) :
    (czSize st sz).cf.valid = st.cf.valid ∧
    (czSize st sz).cf.invalid = st.cf.invalid ∧
    (czSize st sz).modFile = st.modFile ∧ (czSize st sz).cc = st.cc ∧
    ((czSize st sz).cf.sizeError = false →
      st.cf.sizeError = false ∧ 0 ≤ sz ∧ st.size + sz ≤ (maxZipFile : Int) ∧
      (czSize st sz).size = st.size + sz) ∧
    (st.cf.sizeError = true → (czSize st sz).cf.sizeError = true) := by
  unfold czSize
  split
  · rename_i h; exact ⟨rfl, rfl, rfl, rfl, fun h' => ⟨h', h.1, by omega, rfl⟩, id⟩
  · exact ⟨rfl, rfl, rfl, rfl, fun h' => (by cases h'), fun _ => rfl⟩

/-- the report so far has no invalid entry and no size error -/
def CZState.ok (st : CZState) : Prop := st.cf.invalid = [] ∧ st.cf.sizeError = false

theorem CZState.addError_not_ok (st : CZState) (n : Str) (w : Why) : ¬ (st.addError n w).ok := by
  intro h; simp [CZState.addError, CZState.ok] at h

/-- what an entry has passed when `czStep` reaches the size accounting: `cc'` is the
collision map after its check, `isMod` whether it is the module file -/
structure CZPassed (U : Uni) (cc cc' : CC) (e : ZEnt) (isMod : Bool) : Prop where
  clean : pathClean (entName e) = entName e
  path : checkFilePath U (entName e) = none
  notLocal : entName e ≠ sLocalModule
  coll : ccCheckTop U cc (entName e) (isDirName e.name) = (cc', none)
  rule : cueModZipRule U (entName e) = (none, isMod)

/-- the state after the name rules: collision map updated, module file noted -/
def czNamed (st : CZState) (cc' : CC) (b : Bool) : CZState :=
  { st with cc := cc', modFile := st.modFile || b }

/-- everything one iteration of the loop of CheckZip can do -/
inductive CZOutcome (U : Uni) (st : CZState) (e : ZEnt) : CZState → Prop
  /-- a name rule or the collision check failed -/
  | nameErr (cc' : CC) (w : Why) (hm : CCMono st.cc cc')
      (hnp : ∀ cc'' b, ¬ CZPassed U st.cc cc'' e b) :
      CZOutcome U st e (({ st with cc := cc' } : CZState).addError e.name w)
  /-- a directory entry that passed -/
  | dir (cc' : CC) (b : Bool) (hp : CZPassed U st.cc cc' e b) (hd : isDirName e.name = true) :
      CZOutcome U st e (czNamed st cc' b)
  /-- a file that passed the name rules, was booked (or not) and is over MaxCUEMod / MaxLICENSE -/
  | limit (cc' : CC) (b : Bool) (w : Why) (hp : CZPassed U st.cc cc' e b)
      (hd : isDirName e.name = false)
      (hover : (e.name = sCueModModule ∧ toInt64 e.declared > (maxCUEMod : Int)) ∨
        (e.name = sLICENSE ∧ toInt64 e.declared > (maxLICENSE : Int))) :
      CZOutcome U st e ((czSize (czNamed st cc' b) (toInt64 e.declared)).addError e.name w)
  /-- a file that passed everything but, possibly, the total size -/
  | valid (cc' : CC) (b : Bool) (hp : CZPassed U st.cc cc' e b) (hd : isDirName e.name = false)
      (hcm : e.name = sCueModModule → toInt64 e.declared ≤ (maxCUEMod : Int))
      (hli : e.name = sLICENSE → toInt64 e.declared ≤ (maxLICENSE : Int)) :
      CZOutcome U st e
        { czSize (czNamed st cc' b) (toInt64 e.declared) with
          cf := { (czSize (czNamed st cc' b) (toInt64 e.declared)).cf with
            valid := (czSize (czNamed st cc' b) (toInt64 e.declared)).cf.valid ++ [e.name] } }

theorem czStep_outcome (U : Uni) (st : CZState) (e : ZEnt) : CZOutcome U st e (czStep U st e) := by
  unfold czStep
  dsimp only
  rw [show (e.name.getLast? == some 47) = isDirName e.name from rfl,
    show (if isDirName e.name = true then e.name.dropLast else e.name) = entName e from rfl]
  have rf := CCMono.refl st.cc
  by_cases h1 : pathClean (entName e) ≠ entName e
  · rw [if_pos h1]; exact .nameErr st.cc _ rf fun _ _ hp => h1 hp.clean
  rw [if_neg h1]
  cases h2 : checkFilePath U (entName e) with
  | some err => exact .nameErr st.cc _ rf fun _ _ hp =>
      nomatch hp.path.symm.trans h2
  | none =>
  dsimp only
  by_cases h3 : entName e = sLocalModule
  · rw [if_pos h3]; exact .nameErr st.cc _ rf fun _ _ hp => hp.notLocal h3
  rw [if_neg h3]
  rcases h4 : ccCheckTop U st.cc (entName e) (isDirName e.name) with ⟨cc', _ | w⟩
  · dsimp only
    rcases h5 : cueModZipRule U (entName e) with ⟨_ | w, b⟩
    · have hp : CZPassed U st.cc cc' e b := ⟨Decidable.not_not.mp h1, h2, h3, h4, h5⟩
      have hn : (if b = true then { ({ st with cc := cc' } : CZState) with modFile := true }
          else { st with cc := cc' }) = czNamed st cc' b := by
        cases b
        · exact congrArg (fun m => ({ st with cc := cc', modFile := m } : CZState)) (Bool.or_false _).symm
        · exact congrArg (fun m => ({ st with cc := cc', modFile := m } : CZState)) (Bool.or_true _).symm
      dsimp only
      rw [hn]
      by_cases hd : isDirName e.name = true
      · rw [if_pos hd]; exact .dir cc' b hp hd
      · have hf : isDirName e.name = false := Bool.eq_false_iff.mpr hd
        rw [if_neg hd, entName_of_file hf]
        split
        · rename_i hcm; exact .limit cc' b _ hp hf (Or.inl hcm)
        · rename_i hcm
          split
          · rename_i hli; exact .limit cc' b _ hp hf (Or.inr hli)
          · rename_i hli
            exact .valid cc' b hp hf (fun hn => Int.not_lt.mp fun hh => hcm ⟨hn, hh⟩)
              (fun hn => Int.not_lt.mp fun hh => hli ⟨hn, hh⟩)
    · exact .nameErr cc' _ (ccCheckTop_mono h4) fun _ _ hp => by
        have := h5.symm.trans hp.rule
        cases this
  · exact .nameErr cc' _ (ccCheckTop_mono h4) fun _ _ hp => by
      have := h4.symm.trans hp.coll
      cases this

theorem czPassed_unique {U : Uni} {cc c1 c2 : CC} {e : ZEnt} {b1 b2 : Bool}
    (h1 : CZPassed U cc c1 e b1) (h2 : CZPassed U cc c2 e b2) : c1 = c2 ∧ b1 = b2 :=
  ⟨(Prod.mk.inj (h1.coll.symm.trans h2.coll)).1, (Prod.mk.inj (h1.rule.symm.trans h2.rule)).2⟩

/-! ### CheckZip: an entry taken without error -/

/-- `czStep` takes the entry without recording any error: it passed every name rule, and if it is a
file its size is non-negative as an int64, fits the remaining budget and the limit of its name -/
structure CZAccept (U : Uni) (st : CZState) (e : ZEnt) (cc' : CC) (b : Bool) : Prop
    extends CZPassed U st.cc cc' e b where
  fits : isDirName e.name = false →
    0 ≤ toInt64 e.declared ∧ st.size + toInt64 e.declared ≤ (maxZipFile : Int) ∧
    (e.name = sCueModModule → toInt64 e.declared ≤ (maxCUEMod : Int)) ∧
    (e.name = sLICENSE → toInt64 e.declared ≤ (maxLICENSE : Int))

/-- the state after an accepted entry; size and valid list in the shape of `declared64` / `fileNames` -/
def czAccepted (st : CZState) (e : ZEnt) (cc' : CC) (b : Bool) : CZState :=
  { cc := cc', modFile := st.modFile || b,
    size := st.size + (if isDirName e.name then 0 else toInt64 e.declared),
    cf := { st.cf with valid := st.cf.valid ++ (if isDirName e.name then [] else [e.name]) } }

theorem czStep_accept {U : Uni} {st : CZState} {e : ZEnt} {cc' : CC} {b : Bool}
    (h : CZAccept U st e cc' b) : czStep U st e = czAccepted st e cc' b := by
  have ho := czStep_outcome U st e
  generalize czStep U st e = s at ho
  unfold czAccepted
  cases ho with
  | nameErr c2 w hm hnp => exact absurd h.toCZPassed (hnp _ _)
  | dir c2 b2 hp hd =>
    obtain ⟨rfl, rfl⟩ := czPassed_unique hp h.toCZPassed
    rw [hd, if_pos rfl, if_pos rfl, Int.add_zero, List.append_nil]
    rfl
  | limit c2 b2 w hp hd hover =>
    obtain ⟨-, -, f2, f3⟩ := h.fits hd
    rcases hover with ⟨a, c⟩ | ⟨a, c⟩
    · exact absurd c (Int.not_lt.mpr (f2 a))
    · exact absurd c (Int.not_lt.mpr (f3 a))
  | valid c2 b2 hp hd hcm hli =>
    obtain ⟨rfl, rfl⟩ := czPassed_unique hp h.toCZPassed
    obtain ⟨f0, f1, -, -⟩ := h.fits hd
    have hs : czSize (czNamed st c2 b2) (toInt64 e.declared) =
        { czNamed st c2 b2 with size := st.size + toInt64 e.declared } :=
      if_pos ⟨f0, by show _ - st.size ≥ _; omega⟩
    rw [hs, hd, if_neg Bool.false_ne_true, if_neg Bool.false_ne_true]
    rfl

theorem czStep_ok_iff (U : Uni) (st : CZState) (e : ZEnt) :
    (czStep U st e).ok ↔ st.ok ∧ ∃ cc' b, CZAccept U st e cc' b := by
  constructor
  · intro h
    have ho := czStep_outcome U st e
    generalize czStep U st e = s at ho h
    cases ho with
    | nameErr cc' w hm hnp => exact absurd h (CZState.addError_not_ok _ _ _)
    | dir cc' b hp hd => exact ⟨h, cc', b, hp, fun hf => absurd (hd.symm.trans hf) (by decide)⟩
    | limit cc' b w hp hd hover => exact absurd h (CZState.addError_not_ok _ _ _)
    | valid cc' b hp hd hcm hli =>
      obtain ⟨-, hi, -, -, hsz, -⟩ := czSize_frame (czNamed st cc' b) (toInt64 e.declared)
      obtain ⟨s1, s2, s3, -⟩ := hsz h.2
      exact ⟨⟨hi ▸ h.1, s1⟩, cc', b, hp, fun _ => ⟨s2, s3, hcm, hli⟩⟩
  · rintro ⟨hok, cc', b, ha⟩
    rw [czStep_accept ha]
    exact hok

/-! ### checkFiles -/

/-- the size accounting of a `cfStep` -/
def cfSize (st : CFState) (f : FEnt) : CFState :=
  if 0 ≤ f.size ∧ f.size ≤ st.maxSize then { st with maxSize := st.maxSize - f.size }
  else { st with cf := { st.cf with sizeError := true } }

theorem CFState.addError_frame (st : CFState) (p : Str) (o : Bool) (w : Why) :
    (st.addError p o w).cf.valid = st.cf.valid ∧
    (st.addError p o w).validEnts = st.validEnts ∧
    (st.addError p o w).found = st.found ∧
    (st.addError p o w).cf.sizeError = st.cf.sizeError ∧
    (st.addError p o w).maxSize = st.maxSize ∧
    (st.addError p o w).cc = st.cc ∧
    st.cf.invalid <+: (st.addError p o w).cf.invalid := by
  unfold CFState.addError
  by_cases h : st.errPaths.contains p = true
  · rw [if_pos h]; exact ⟨rfl, rfl, rfl, rfl, rfl, rfl, List.prefix_refl _⟩
  · rw [if_neg h]
    cases o
    · exact ⟨rfl, rfl, rfl, rfl, rfl, rfl, List.prefix_append _ _⟩
    · exact ⟨rfl, rfl, rfl, rfl, rfl, rfl, List.prefix_refl _⟩

theorem cfSize_frame (st : CFState) (f : FEnt) :
    (cfSize st f).cf.valid = st.cf.valid ∧
    (cfSize st f).validEnts = st.validEnts ∧
    (cfSize st f).found = st.found ∧
    (cfSize st f).cf.invalid = st.cf.invalid ∧
    (cfSize st f).cc = st.cc ∧
    ((cfSize st f).cf.sizeError = false →
      st.cf.sizeError = false ∧ 0 ≤ f.size ∧ f.size ≤ st.maxSize ∧
      (cfSize st f).maxSize = st.maxSize - f.size) ∧
    (st.cf.sizeError = true → (cfSize st f).cf.sizeError = true) := by
  unfold cfSize
  split
  · rename_i h; simp [h]
  · simp

/-- what an entry has passed when `cfStep` reaches the size accounting; `cc'` is the
collision map after its check -/
structure CFPassed (U : Uni) (hv : List Str) (cc cc' : CC) (f : FEnt) : Prop where
  regular : f.kind = .regular
  path : checkFilePath U f.path = none
  clean : f.path = pathClean f.path
  notAbs : isAbs f.path = false
  notLocal : f.path ≠ sLocalModule
  notVendored : isVendoredPackage f.path = false
  notSub : inSubmodule hv f.path = false
  notHg : f.path ≠ sHgArchival
  topRule : cueModTopRule U f.path = none
  coll : ccCheckTop U cc f.path false = (cc', none)

/-- everything one iteration of the main loop of checkFiles can do -/
inductive CFOutcome (U : Uni) (hv : List Str) (st : CFState) (f : FEnt) : CFState → Prop
  /-- a directory: nothing happens -/
  | skip (hk : f.kind = .dir) : CFOutcome U hv st f st
  /-- a name rule, the collision check or the file kind: reported as invalid or omitted, or not at
  all when the path was reported before -/
  | nameErr (cc' : CC) (o : Bool) (w : Why) (hm : CCMono st.cc cc')
      (hnp : ∀ cc'', ¬ CFPassed U hv st.cc cc'' f) :
      CFOutcome U hv st f (({ st with cc := cc' } : CFState).addError f.path o w)
  /-- passed, booked (or not), over MaxCUEMod / MaxLICENSE -/
  | limit (cc' : CC) (w : Why) (hp : CFPassed U hv st.cc cc' f)
      (hover : (f.path = sCueModModule ∧ f.size > (maxCUEMod : Int)) ∨
        (f.path = sLICENSE ∧ f.size > (maxLICENSE : Int))) :
      CFOutcome U hv st f ((cfSize { st with cc := cc' } f).addError f.path false w)
  /-- passed everything but, possibly, the total size: listed as valid -/
  | valid (cc' : CC) (hp : CFPassed U hv st.cc cc' f)
      (hcm : f.path = sCueModModule → f.size ≤ (maxCUEMod : Int))
      (hli : f.path = sLICENSE → f.size ≤ (maxLICENSE : Int)) :
      CFOutcome U hv st f
        { cfSize { st with cc := cc' } f with
          found := (cfSize { st with cc := cc' } f).found || decide (f.path = sCueModModule),
          cf := { (cfSize { st with cc := cc' } f).cf with
            valid := (cfSize { st with cc := cc' } f).cf.valid ++ [f.path] },
          validEnts := (cfSize { st with cc := cc' } f).validEnts ++ [f] }

theorem cfStep_outcome (U : Uni) (hv : List Str) (st : CFState) (f : FEnt) :
    CFOutcome U hv st f (cfStep U hv st f) := by
  unfold cfStep
  dsimp only
  have rf := CCMono.refl st.cc
  by_cases h1 : f.kind = .lstatErr
  · rw [if_pos h1]; exact .nameErr st.cc _ _ rf fun _ hp => by rw [hp.regular] at h1; cases h1
  rw [if_neg h1]
  by_cases h2 : f.kind = .dir
  · rw [if_pos h2]; exact .skip h2
  rw [if_neg h2]
  by_cases h3 : f.path ≠ pathClean f.path
  · rw [if_pos h3]; exact .nameErr st.cc _ _ rf fun _ hp => h3 hp.clean
  rw [if_neg h3]
  by_cases h4 : isAbs f.path = true
  · rw [if_pos h4]; exact .nameErr st.cc _ _ rf fun _ hp => by rw [hp.notAbs] at h4; cases h4
  rw [if_neg h4]
  by_cases h5 : isVendoredPackage f.path = true
  · rw [if_pos h5]; exact .nameErr st.cc _ _ rf fun _ hp => by rw [hp.notVendored] at h5; cases h5
  rw [if_neg h5]
  by_cases h6 : inSubmodule hv f.path = true
  · rw [if_pos h6]; exact .nameErr st.cc _ _ rf fun _ hp => by rw [hp.notSub] at h6; cases h6
  rw [if_neg h6]
  by_cases h7 : f.path = sHgArchival
  · rw [if_pos h7]; exact .nameErr st.cc _ _ rf fun _ hp => hp.notHg h7
  rw [if_neg h7]
  by_cases h8 : f.path = sLocalModule
  · rw [if_pos h8]; exact .nameErr st.cc _ _ rf fun _ hp => hp.notLocal h8
  rw [if_neg h8]
  cases h9 : checkFilePath U f.path with
  | some e => exact .nameErr st.cc _ _ rf fun _ hp => nomatch hp.path.symm.trans h9
  | none =>
  dsimp only
  cases h10 : cueModTopRule U f.path with
  | some w => exact .nameErr st.cc _ _ rf fun _ hp => nomatch hp.topRule.symm.trans h10
  | none =>
  dsimp only
  rcases h11 : ccCheckTop U st.cc f.path false with ⟨cc', _ | w⟩
  · dsimp only
    have hm := ccCheckTop_mono h11
    by_cases h12 : f.kind = .symlink
    · rw [if_pos h12]; exact .nameErr cc' _ _ hm fun _ hp => by rw [hp.regular] at h12; cases h12
    rw [if_neg h12]
    by_cases h13 : f.kind ≠ .regular
    · rw [if_pos h13]; exact .nameErr cc' _ _ hm fun _ hp => h13 hp.regular
    rw [if_neg h13]
    have hp : CFPassed U hv st.cc cc' f := ⟨Decidable.not_not.mp h13, h9, Decidable.not_not.mp h3,
      by simpa using h4, h8, by simpa using h5, by simpa using h6, h7, h10, h11⟩
    rw [show (if 0 ≤ f.size ∧ f.size ≤ ({ st with cc := cc' } : CFState).maxSize then
        { ({ st with cc := cc' } : CFState) with maxSize := ({ st with cc := cc' } : CFState).maxSize - f.size }
      else { ({ st with cc := cc' } : CFState) with
        cf := { ({ st with cc := cc' } : CFState).cf with sizeError := true } }) =
      cfSize { st with cc := cc' } f from rfl]
    split
    · rename_i hcm; exact .limit cc' _ hp (Or.inl hcm)
    · rename_i hcm
      have hcm' : f.path = sCueModModule → f.size ≤ (maxCUEMod : Int) :=
        fun hn => Int.not_lt.mp fun hh => hcm ⟨hn, hh⟩
      by_cases hmod : f.path = sCueModModule
      · have hl : ¬ (f.path = sLICENSE ∧ f.size > (maxLICENSE : Int)) :=
          fun h => absurd (hmod.symm.trans h.1) (by decide)
        have := CFOutcome.valid cc' hp hcm' (fun hn => absurd (hmod.symm.trans hn) (by decide))
        rw [decide_eq_true hmod, Bool.or_true] at this
        rw [if_pos hmod, if_neg hl]
        exact this
      · rw [if_neg hmod]
        split
        · rename_i hli; exact .limit cc' _ hp (Or.inr hli)
        · rename_i hli
          have := CFOutcome.valid cc' hp hcm' (fun hn => Int.not_lt.mp fun hh => hli ⟨hn, hh⟩)
          rw [decide_eq_false hmod, Bool.or_false] at this
          exact this
  · exact .nameErr cc' _ _ (ccCheckTop_mono h11) fun _ hp => nomatch h11.symm.trans hp.coll

theorem cfPassed_unique {U : Uni} {hv : List Str} {cc c1 c2 : CC} {f : FEnt}
    (h1 : CFPassed U hv cc c1 f) (h2 : CFPassed U hv cc c2 f) : c1 = c2 :=
  (Prod.mk.inj (h1.coll.symm.trans h2.coll)).1

/-! ### checkFiles: an entry listed as valid with its size booked -/

/-- `cfStep` lists the entry as valid and books its size without error -/
structure CFAccept (U : Uni) (hv : List Str) (st : CFState) (f : FEnt) (cc' : CC) : Prop
    extends CFPassed U hv st.cc cc' f where
  nonneg : 0 ≤ f.size
  fit : f.size ≤ st.maxSize
  cueMod : f.path = sCueModModule → f.size ≤ (maxCUEMod : Int)
  license : f.path = sLICENSE → f.size ≤ (maxLICENSE : Int)

/-- the state after an accepted entry -/
def cfAccepted (st : CFState) (f : FEnt) (cc' : CC) : CFState :=
  { st with cc := cc', maxSize := st.maxSize - f.size,
            found := st.found || decide (f.path = sCueModModule),
            cf := { st.cf with valid := st.cf.valid ++ [f.path] }, validEnts := st.validEnts ++ [f] }

theorem cfStep_accept {U : Uni} {hv : List Str} {st : CFState} {f : FEnt} {cc' : CC}
    (h : CFAccept U hv st f cc') : cfStep U hv st f = cfAccepted st f cc' := by
  have ho := cfStep_outcome U hv st f
  generalize cfStep U hv st f = s at ho
  cases ho with
  | skip hk => exact absurd (h.regular.symm.trans hk) (by decide)
  | nameErr c2 o w hm hnp => exact absurd h.toCFPassed (hnp _)
  | limit c2 w hp hover =>
    rcases hover with ⟨a, c⟩ | ⟨a, c⟩
    · exact absurd c (Int.not_lt.mpr (h.cueMod a))
    · exact absurd c (Int.not_lt.mpr (h.license a))
  | valid c2 hp hcm hli =>
    obtain rfl := cfPassed_unique hp h.toCFPassed
    have hs : cfSize { st with cc := c2 } f = { st with cc := c2, maxSize := st.maxSize - f.size } :=
      if_pos ⟨h.nonneg, h.fit⟩
    rw [hs]
    rfl

end CueVerif.Modzip
