import CueVerif.Proofs.ModzipExtract
/-!
C15, the byte budget of an extraction as ONE statement: whatever Unzip returns, the regular
files it brought into being hold, in total, at most MaxZipFile bytes (plus one byte per file
without the container contract: the LimitedReader bound), and the two special files stay
within MaxCUEMod / MaxLICENSE — for every archive, including forged declared sizes.
-/
namespace CueVerif.Modzip

theorem declaredTotal_erase (z : List ZEnt) (e : ZEnt) (he : e ∈ z)
    (hd : isDirName e.name = false) :
    declaredTotal z = e.declared + declaredTotal (z.erase e) := by
  induction z with
  | nil => cases he
  | cons x xs ih =>
    by_cases hx : x = e
    · subst hx
      simp [declaredTotal, hd]
    · have hmem : e ∈ xs := (List.mem_cons.mp he).resolve_left fun h => hx h.symm
      have hb : ¬ (x == e) = true := by simpa using hx
      rw [List.erase_cons_tail hb]
      simp only [declaredTotal]
      rw [ih hmem]
      omega

/-- distinct paths, each charged to an entry of the archive that determines it: the sum of the
charges is bounded by the sum of the declared sizes (plus `k` per path) -/
theorem sum_le_declaredTotal (key : ZEnt → Path) (len : Path → Nat) (k : Nat) :
    ∀ (qs : List Path) (z : List ZEnt), qs.Nodup →
    (∀ q ∈ qs, len q = 0 ∨
      ∃ e ∈ z, isDirName e.name = false ∧ key e = q ∧ len q ≤ e.declared + k) →
    (qs.map len).sum ≤ declaredTotal z + k * qs.length := by
  intro qs
  induction qs with
  | nil => intro z _ _; simp
  | cons q qs ih =>
    intro z hnd h
    obtain ⟨hq, hnd'⟩ := List.nodup_cons.mp hnd
    simp only [List.map_cons, List.sum_cons, List.length_cons, Nat.mul_succ]
    rcases h q List.mem_cons_self with h0 | ⟨e, he, hd, hk, hl⟩
    · have := ih z hnd' (fun q' hq' => h q' (List.mem_cons_of_mem _ hq'))
      omega
    · have := ih (z.erase e) hnd' (fun q' hq' => by
        rcases h q' (List.mem_cons_of_mem _ hq') with h0 | ⟨e', he', hd', hk', hl'⟩
        · exact Or.inl h0
        · refine Or.inr ⟨e', ?_, hd', hk', hl'⟩
          have hne : e' ≠ e := by
            intro heq
            subst heq
            rw [hk] at hk'
            subst hk'
            exact hq hq'
          exact (List.mem_erase_of_ne hne).mpr he')
      rw [declaredTotal_erase z e he hd]
      omega

theorem fileLen_of_none (fs : FS) (q : Path) (h : fs.get q = none) : fs.fileLen q = 0 := by
  unfold FS.fileLen; rw [h]

theorem fileLen_cases (fs : FS) (q : Path) :
    fs.fileLen q = 0 ∨ ∃ c, fs.get q = some (.file c) ∧ fs.fileLen q = c.length := by
  unfold FS.fileLen
  split
  · next c h => exact Or.inr ⟨c, h, rfl⟩
  · exact Or.inl rfl

theorem unzip_file_bound (U : Uni) (fs : FS) (dir : Path) (zipSize : Nat) (z : List ZEnt)
    (h64 : ∀ e ∈ z, e.declared < 2 ^ 64) (q : Path) (c : List Nat) (hq : fs.get q = none)
    (hc : (unzip U fs dir zipSize z).1.get q = some (.file c)) :
    ∃ e ∈ z, isDirName e.name = false ∧ q = dir ++ splitOn 47 e.name ∧
      c.length ≤ e.declared + 1 ∧
      ((unzip U fs dir zipSize z).2 = true ∨ (∀ e ∈ z, e.data.length ≤ e.declared) →
        c.length ≤ e.declared) := by
  obtain ⟨e, he, hskip, hqe, -, -, h1, h2, h3⟩ := unzip_sizes U fs dir zipSize z h64 q c hq hc
  refine ⟨e, he, skipEntry_false_isDir hskip, hqe, h1, fun hor => ?_⟩
  rcases hor with hs | hcn
  · exact (h3 hs).2
  · exact h2 (hcn e he)

theorem unzip_total (U : Uni) (fs : FS) (dir : Path) (zipSize : Nat) (z : List ZEnt)
    (h64 : ∀ e ∈ z, e.declared < 2 ^ 64) (qs : List Path) (hnd : qs.Nodup)
    (hnew : ∀ q ∈ qs, fs.get q = none) :
    (unzip U fs dir zipSize z).1.bytesAt qs ≤ maxZipFile + qs.length ∧
    ((unzip U fs dir zipSize z).2 = true ∨ (∀ e ∈ z, e.data.length ≤ e.declared) →
      (unzip U fs dir zipSize z).1.bytesAt qs ≤ maxZipFile) := by
  unfold FS.bytesAt
  cases herr : (checkZip U zipSize z).isErr with
  | true =>
    rw [unzip_rejected U fs dir zipSize z herr]
    have := sum_le_declaredTotal (fun _ => []) fs.fileLen 0 qs [] hnd
      (fun q hq => Or.inl (fileLen_of_none fs q (hnew q hq)))
    simp only [declaredTotal, Nat.zero_mul, Nat.add_zero, Nat.le_zero_eq] at this
    rw [this]
    exact ⟨Nat.zero_le _, fun _ => Nat.zero_le _⟩
  | false =>
    have htot : declaredTotal z ≤ maxZipFile :=
      (checkZip_ok U zipSize z (fun e he _ => h64 e he) herr).2.2.1
    -- every path is charged to the entry that `unzip_file_bound` names, `k` bytes above its size
    have charge : ∀ k : Nat,
        (∀ (c : List Nat) (e : ZEnt), c.length ≤ e.declared + 1 →
          ((unzip U fs dir zipSize z).2 = true ∨ (∀ e ∈ z, e.data.length ≤ e.declared) →
            c.length ≤ e.declared) → c.length ≤ e.declared + k) →
        (qs.map (unzip U fs dir zipSize z).1.fileLen).sum ≤ declaredTotal z + k * qs.length := by
      intro k hk
      apply sum_le_declaredTotal (fun e => dir ++ splitOn 47 e.name) _ k qs z hnd
      intro q hq
      refine (fileLen_cases _ q).imp_right fun ⟨c, hg, hl⟩ => ?_
      obtain ⟨e, he, hd, hqe, h1, h2⟩ := unzip_file_bound U fs dir zipSize z h64 q c (hnew q hq) hg
      exact ⟨e, he, hd, hqe.symm, hl ▸ hk c e h1 h2⟩
    constructor
    · have := charge 1 (fun _ _ h1 _ => h1)
      omega
    · intro hor
      have := charge 0 (fun _ _ _ h2 => h2 hor)
      omega

theorem unzip_special (U : Uni) (fs : FS) (dir : Path) (zipSize : Nat) (z : List ZEnt)
    (h64 : ∀ e ∈ z, e.declared < 2 ^ 64) (name : Str) (lim : Nat)
    (hlim : (checkZip U zipSize z).isErr = false →
      ∀ e ∈ z, isDirName e.name = false → e.name = name → e.declared ≤ lim)
    (c : List Nat) (hq : fs.get (dir ++ splitOn 47 name) = none)
    (hc : (unzip U fs dir zipSize z).1.get (dir ++ splitOn 47 name) = some (.file c)) :
    c.length ≤ lim + 1 ∧
    ((unzip U fs dir zipSize z).2 = true ∨ (∀ e ∈ z, e.data.length ≤ e.declared) →
      c.length ≤ lim) := by
  cases herr : (checkZip U zipSize z).isErr with
  | true =>
    rw [unzip_rejected U fs dir zipSize z herr] at hc
    rw [hq] at hc; cases hc
  | false =>
    obtain ⟨e, he, hd, hqe, h1, h2⟩ := unzip_file_bound U fs dir zipSize z h64 _ c hq hc
    have hn : e.name = name := by
      rw [← joinSlash_splitOn e.name, ← List.append_cancel_left hqe, joinSlash_splitOn]
    have := hlim herr e he hd hn
    exact ⟨by omega, fun hor => by have := h2 hor; omega⟩

end CueVerif.Modzip
