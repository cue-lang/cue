import CueVerif.Proofs.ModzipPath
import CueVerif.Proofs.ModzipSizes
/-!
Proofs about the extraction model: every effect of `unzip` on the abstract file system is
confined to the target directory, whatever the archive contains and wherever it stops; the
bytes written for an entry are a prefix of what its reader delivers, at most declared+1
(declared under the container contract) and exactly the entry's data on success.

Each layer (MkdirAll, one entry, the loop, Unzip) is described once by `Adds P fs fs'`: nothing
that existed changes and every new node satisfies `P`.
-/
namespace CueVerif.Modzip

/-! ### the file-system map -/

theorem FS.get_cons (fs : FS) (q0 q : Path) (n : Node) :
    FS.get ((q0, n) :: fs) q = if q0 = q then some n else FS.get fs q := rfl

theorem FS.get_set (fs : FS) (q0 q : Path) (n : Node) :
    (fs.set q0 n).get q = if q0 = q then some n else fs.get q := rfl

theorem FS.get_set_set (fs : FS) (q0 q : Path) (a b : Node) :
    ((fs.set q0 a).set q0 b).get q = if q0 = q then some b else fs.get q := by
  rw [FS.get_set, FS.get_set]
  split <;> rfl

/-- `fs'` extends `fs`: whatever existed is untouched -/
def Extends (fs fs' : FS) : Prop := ∀ q n, fs.get q = some n → fs'.get q = some n

/-- `fs'` extends `fs`, and every node it adds satisfies `P` -/
def Adds (P : Path → Node → Prop) (fs fs' : FS) : Prop :=
  Extends fs fs' ∧ ∀ q n, fs.get q = none → fs'.get q = some n → P q n

theorem Adds.refl (P : Path → Node → Prop) (fs : FS) : Adds P fs fs :=
  ⟨fun _ _ h => h, fun q n h h' => by rw [h] at h'; cases h'⟩

theorem Adds.trans {P : Path → Node → Prop} {a b c : FS} (h1 : Adds P a b) (h2 : Adds P b c) :
    Adds P a c := by
  refine ⟨fun q n h => h2.1 q n (h1.1 q n h), fun q n ha hc => ?_⟩
  cases hb : b.get q with
  | none => exact h2.2 q n hb hc
  | some m =>
    rw [h2.1 q m hb] at hc
    cases hc
    exact h1.2 q n ha hb

theorem Adds.mono {P Q : Path → Node → Prop} {a b : FS} (h : Adds P a b)
    (hPQ : ∀ q n, P q n → Q q n) : Adds Q a b :=
  ⟨h.1, fun q n ha hb => hPQ q n (h.2 q n ha hb)⟩

/-- a node of the later file system was there before or is one of the added ones -/
theorem Adds.cases {P : Path → Node → Prop} {a b : FS} (h : Adds P a b) {q : Path} {n : Node}
    (hq : b.get q = some n) : a.get q = some n ∨ P q n := by
  cases h0 : a.get q with
  | none => exact Or.inr (h.2 q n h0 hq)
  | some m => rw [h.1 q m h0] at hq; exact Or.inl hq

/-- a node written at an absent path; `get` is all that is known of the new map, so that a
node written twice (create, then fill) is covered -/
theorem Adds.of_get {P : Path → Node → Prop} {fs fs' : FS} {q0 : Path} {n : Node}
    (hget : ∀ q, fs'.get q = if q0 = q then some n else fs.get q)
    (h : fs.get q0 = none) (hp : P q0 n) : Adds P fs fs' := by
  refine ⟨fun q m hq => ?_, fun q m hq hm => ?_⟩
  · rw [hget]
    split
    · next heq => subst heq; rw [h] at hq; cases hq
    · exact hq
  · rw [hget] at hm
    split at hm
    · next heq => subst heq; cases hm; exact hp
    · rw [hq] at hm; cases hm

/-- where new nodes may appear -/
def Allowed (dir : Path) (q : Path) (n : Node) : Prop :=
  StrictUnder dir q ∨ (AtOrAbove dir q ∧ n = .dir)

theorem confined_of (dir : Path) (fs fs' : FS) (h : Adds (Allowed dir) fs fs') :
    Confined dir fs fs' := by
  intro q
  cases hq : fs.get q with
  | some n => left; rw [h.1 q n hq]
  | none =>
    cases h' : fs'.get q with
    | none => left; rfl
    | some n =>
      right
      refine ⟨rfl, ?_⟩
      rcases h.2 q n hq h' with hs | ⟨ha, hd⟩
      · left; exact hs
      · right; exact ⟨ha, by rw [hd]⟩

theorem prefix_cases (dir r a b : Path) (h : dir ++ r = a ++ b) :
    (∃ b', dir = a ++ b') ∨ ∃ c', c' ≠ [] ∧ a = dir ++ c' ∧ c' <+: r := by
  rcases List.append_eq_append_iff.mp h with ⟨a', h1, h2⟩ | ⟨c', h1, h2⟩
  · by_cases ha' : a' = []
    · subst ha'
      exact Or.inl ⟨[], by simpa using h1.symm⟩
    · exact Or.inr ⟨a', ha', h1, ⟨b, h2.symm⟩⟩
  · exact Or.inl ⟨c', h1⟩

theorem prefix_allowed (dir r a b : Path) (h : a ++ b = dir ++ r) :
    Allowed dir a .dir := by
  rcases prefix_cases dir r a b h.symm with hb' | ⟨c', hc, ha, -⟩
  · exact Or.inr ⟨hb', rfl⟩
  · exact Or.inl ⟨c', hc, ha⟩

/-! ### MkdirAll -/

/-- a directory at a non-empty prefix of `p` -/
def DirOnWay (p : Path) (q : Path) (n : Node) : Prop :=
  n = .dir ∧ ∃ a b, p = a ++ b ∧ a ≠ [] ∧ q = a

theorem mkdirAllAux_adds (fs : FS) (pre : Path) (cs : List Str) :
    Adds (fun q n => n = .dir ∧ ∃ a b, cs = a ++ b ∧ a ≠ [] ∧ q = pre ++ a) fs
      (mkdirAllAux fs pre cs).1 := by
  induction cs generalizing fs pre with
  | nil => exact Adds.refl _ fs
  | cons c cs ih =>
    have lift : ∀ q n, (n = Node.dir ∧ ∃ a b, cs = a ++ b ∧ a ≠ [] ∧ q = (pre ++ [c]) ++ a) →
        n = Node.dir ∧ ∃ a b, c :: cs = a ++ b ∧ a ≠ [] ∧ q = pre ++ a := by
      rintro q n ⟨hn, a, b, h1, -, h3⟩
      exact ⟨hn, c :: a, b, by rw [h1]; rfl, by simp, by simpa using h3⟩
    unfold mkdirAllAux
    simp only
    split
    · exact (ih fs _).mono lift
    · exact Adds.refl _ fs
    · next hnone =>
      exact (Adds.of_get (FS.get_set fs _ · _) hnone ⟨rfl, [c], cs, rfl, by simp, rfl⟩).trans
        ((ih _ _).mono lift)

theorem mkdirAll_adds (fs : FS) (p : Path) : Adds (DirOnWay p) fs (mkdirAll fs p).1 :=
  (mkdirAllAux_adds fs [] p).mono fun _ _ ⟨hn, a, b, h1, h2, h3⟩ => ⟨hn, a, b, h1, h2, h3⟩

/-! ### the copy step -/

/-- what can be said about the bytes `c` that reached the file of entry `e`
(`ok` = the entry completed without error) -/
def CopyFacts (e : ZEnt) (c : List Nat) (ok : Bool) : Prop :=
  c <+: e.data ∧ c.length ≤ (toInt64 e.declared + 1).toNat ∧
  (ok = true → c = e.data ∧ (c.length : Int) ≤ toInt64 e.declared)

theorem copyFacts_nil (e : ZEnt) : CopyFacts e [] false :=
  ⟨List.nil_prefix, Nat.zero_le _, by intro h; cases h⟩

/-- the whole limited read arrived; the final `lr.N <= 0` test alone bounds it by `declared` -/
theorem copyFacts_take (e : ZEnt) (c : Bool) :
    CopyFacts e (e.data.take (toInt64 e.declared + 1).toNat) (c && decide
      (toInt64 e.declared + 1 - ((e.data.take (toInt64 e.declared + 1).toNat).length : Int) > 0)) := by
  refine ⟨List.take_prefix _ _, ?_, fun h => ?_⟩
  · rw [List.length_take]; exact Nat.min_le_left _ _
  · have h2 := of_decide_eq_true (Bool.and_eq_true_iff.mp h).2
    rw [List.length_take] at h2
    have hlt : e.data.length < (toInt64 e.declared + 1).toNat := by omega
    refine ⟨List.take_of_length_le (Nat.le_of_lt hlt), ?_⟩
    rw [List.length_take]
    omega

theorem copyEntry_facts (e : ZEnt) : CopyFacts e (copyEntry e).1 (copyEntry e).2 := by
  unfold copyEntry
  simp only
  split
  · next k =>
    split
    · -- the write failed after k bytes
      refine ⟨?_, ?_, by intro h; cases h⟩
      · exact (List.take_prefix _ _).trans (List.take_prefix _ _)
      · rw [List.length_take, List.length_take]; omega
    · exact copyFacts_take e _
  · exact copyFacts_take e _

/-! ### one entry, the loop, Unzip -/

/-- what the extraction of entry `e` may add: directories on the way to its destination, and the
destination itself as a regular file whose bytes obey `CopyFacts` -/
def EntryAdds (dir : Path) (e : ZEnt) (ok : Bool) (q : Path) (n : Node) : Prop :=
  DirOnWay (fjoin dir e.name).dropLast q n ∨
  (q = fjoin dir e.name ∧ ∃ c, n = .file c ∧ CopyFacts e c ok)

theorem EntryAdds.weaken {dir : Path} {e : ZEnt} {q : Path} {n : Node} (b : Bool)
    (h : EntryAdds dir e true q n) : EntryAdds dir e b q n :=
  h.imp_right fun ⟨hq, c, hn, h1, h2, h3⟩ => ⟨hq, c, hn, h1, h2, fun _ => h3 rfl⟩

theorem unzipOne_adds (fs : FS) (dir : Path) (e : ZEnt) :
    Adds (EntryAdds dir e (unzipOne fs dir e).2) fs (unzipOne fs dir e).1 := by
  have hm := mkdirAll_adds fs (fjoin dir e.name).dropLast
  unfold unzipOne
  simp only
  split
  · next fs1 h => rw [h] at hm; exact hm.mono fun _ _ => Or.inl
  · next fs1 h =>
    rw [h] at hm
    split
    · exact hm.mono fun _ _ => Or.inl
    · next hnone =>
      split
      · exact (hm.mono fun _ _ => Or.inl).trans
          (Adds.of_get (FS.get_set fs1 _ · _) hnone (Or.inr ⟨rfl, [], rfl, copyFacts_nil e⟩))
      · exact (hm.mono fun _ _ => Or.inl).trans
          (Adds.of_get (FS.get_set_set fs1 _ · _ _) hnone
            (Or.inr ⟨rfl, _, rfl, copyEntry_facts e⟩))

theorem unzipEntries_adds (dir : Path) (es : List ZEnt) (fs : FS) :
    Adds (fun q n => ∃ e ∈ es, skipEntry e = false ∧
        EntryAdds dir e (unzipEntries fs dir es).2 q n) fs (unzipEntries fs dir es).1 := by
  induction es generalizing fs with
  | nil => exact Adds.refl _ fs
  | cons e es ih =>
    unfold unzipEntries
    split
    · exact (ih fs).mono fun q n ⟨e', he', h⟩ => ⟨e', List.mem_cons_of_mem _ he', h⟩
    · next hskip =>
      have hone := unzipOne_adds fs dir e
      split
      · next fs1 h =>
        rw [h] at hone
        exact hone.mono fun q n h => ⟨e, List.mem_cons_self, by simpa using hskip, h⟩
      · next fs1 h =>
        rw [h] at hone
        exact (hone.mono fun q n h =>
            ⟨e, List.mem_cons_self, by simpa using hskip, h.weaken _⟩).trans
          ((ih fs1).mono fun q n ⟨e', he', h⟩ => ⟨e', List.mem_cons_of_mem _ he', h⟩)

theorem unzip_adds (U : Uni) (fs : FS) (dir : Path) (zipSize : Nat) (z : List ZEnt) :
    Adds (fun q n => (AtOrAbove dir q ∧ n = .dir) ∨ ∃ e ∈ z, skipEntry e = false ∧
        EntryAdds dir e (unzip U fs dir zipSize z).2 q n) fs (unzip U fs dir zipSize z).1 := by
  have hm : ∀ ok, Adds (fun q n => (AtOrAbove dir q ∧ n = .dir) ∨ ∃ e ∈ z, skipEntry e = false ∧
      EntryAdds dir e ok q n) fs (mkdirAll fs dir).1 := fun _ =>
    (mkdirAll_adds fs dir).mono fun q n ⟨hn, a, b, hab, _, hq⟩ => Or.inl ⟨⟨b, hq ▸ hab⟩, hn⟩
  unfold unzip
  split
  · exact Adds.refl _ fs
  · split
    · exact Adds.refl _ fs
    · split
      · next fs1 h => have := hm false; rwa [h] at this
      · next fs1 h =>
        have := hm (unzipEntries fs1 dir z).2
        rw [h] at this
        exact this.trans ((unzipEntries_adds dir z fs1).mono fun _ _ => Or.inr)

/-! ### confinement and sizes -/

theorem skipEntry_false_isDir {e : ZEnt} (h : skipEntry e = false) : isDirName e.name = false := by
  unfold skipEntry at h
  simp only [Bool.or_eq_false_iff] at h
  exact h.2

theorem checkZip_entries_safe (U : Uni) (zipSize : Nat) (z : List ZEnt)
    (h : (checkZip U zipSize z).isErr = false) (dir : Path) :
    ∀ e ∈ z, skipEntry e = false → fjoin dir e.name = dir ++ splitOn 47 e.name := by
  intro e he hskip
  have hok := ((checkZip_ok_int64 U zipSize z h).2.1 e he).path
  rw [entName_of_file (skipEntry_false_isDir hskip)] at hok
  exact (fjoin_of_safe dir e.name (checkFilePath_safe U e.name hok)).1

theorem unzip_rejected (U : Uni) (fs : FS) (dir : Path) (zipSize : Nat) (z : List ZEnt)
    (h : (checkZip U zipSize z).isErr = true) : unzip U fs dir zipSize z = (fs, false) := by
  unfold unzip
  rw [if_pos h]
  split <;> rfl

theorem unzip_confined (U : Uni) (fs : FS) (dir : Path) (zipSize : Nat) (z : List ZEnt) :
    Confined dir fs (unzip U fs dir zipSize z).1 := by
  cases herr : (checkZip U zipSize z).isErr with
  | true => rw [unzip_rejected U fs dir zipSize z herr]; exact confined_of dir fs fs (Adds.refl _ fs)
  | false =>
    refine confined_of dir fs _ ((unzip_adds U fs dir zipSize z).mono ?_)
    rintro q n (h | ⟨e, he, hskip, h⟩)
    · exact Or.inr h
    · have hj := checkZip_entries_safe U zipSize z herr dir e he hskip
      have hne := splitOn_ne_nil 47 e.name
      rcases h with ⟨rfl, a, b, hab, -, rfl⟩ | ⟨rfl, -⟩
      · rw [hj, List.dropLast_append_of_ne_nil hne] at hab
        exact prefix_allowed dir _ q b hab.symm
      · exact Or.inl ⟨_, hne, hj⟩

theorem unzip_files (U : Uni) (fs : FS) (dir : Path) (zipSize : Nat) (z : List ZEnt) :
    ∀ q c, fs.get q = none → (unzip U fs dir zipSize z).1.get q = some (.file c) →
      ∃ e ∈ z, skipEntry e = false ∧ q = dir ++ splitOn 47 e.name ∧ splitOn 47 e.name ≠ [] ∧
        0 ≤ toInt64 e.declared ∧
        CopyFacts e c (unzip U fs dir zipSize z).2 := by
  intro q c hq hc
  cases herr : (checkZip U zipSize z).isErr with
  | true => rw [unzip_rejected U fs dir zipSize z herr, hq] at hc; cases hc
  | false =>
    rcases (unzip_adds U fs dir zipSize z).2 q _ hq hc with ⟨-, h⟩ | ⟨e, he, hskip, h⟩
    · cases h
    · rcases h with ⟨h, -⟩ | ⟨rfl, c', hc', hcf⟩
      · cases h
      · cases hc'
        have hj := checkZip_entries_safe U zipSize z herr dir e he hskip
        have hne := splitOn_ne_nil 47 e.name
        exact ⟨e, he, hskip, hj, hne,
          ((checkZip_ok_int64 U zipSize z herr).2.1 e he).nonneg (skipEntry_false_isDir hskip), hcf⟩

theorem unzip_sizes (U : Uni) (fs : FS) (dir : Path) (zipSize : Nat) (z : List ZEnt)
    (h64 : ∀ e ∈ z, e.declared < 2 ^ 64) :
    ∀ q c, fs.get q = none → (unzip U fs dir zipSize z).1.get q = some (.file c) →
      ∃ e ∈ z, skipEntry e = false ∧ q = dir ++ splitOn 47 e.name ∧ splitOn 47 e.name ≠ [] ∧
        c <+: e.data ∧ c.length ≤ e.declared + 1 ∧
        (e.data.length ≤ e.declared → c.length ≤ e.declared) ∧
        ((unzip U fs dir zipSize z).2 = true → c = e.data ∧ c.length ≤ e.declared) := by
  intro q c hq hc
  obtain ⟨e, he, hskip, hqe, hne, hnn, hpre, hlen, hok⟩ := unzip_files U fs dir zipSize z q c hq hc
  have h64' : e.declared < 18446744073709551616 := h64 e he
  obtain ⟨-, heq⟩ := toInt64_of_nonneg h64' hnn
  refine ⟨e, he, hskip, hqe, hne, hpre, ?_, ?_, ?_⟩
  · rw [heq] at hlen; omega
  · intro hd; have := hpre.length_le; omega
  · intro ht
    obtain ⟨h1, h2⟩ := hok ht
    rw [heq] at h2
    exact ⟨h1, by omega⟩

end CueVerif.Modzip
