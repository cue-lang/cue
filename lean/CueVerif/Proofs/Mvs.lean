import CueVerif.Spec.Mvs
import CueVerif.Spec.MvsOps
/-!
Proofs about the concurrent MVS traversal model: `Inv` holds in every state of every run,
and at terminal states `added` is exactly the reachable set and `sel` is the per-path
maximum of the reachable versions — independently of the schedule.

`take` and `require` permute `todo ++ fetched ++ required`, so `nodup_work`/`added_cases` follow
from `List.Perm`; `Marked` mentions only `required`, so its clauses change under `require` alone.
-/
namespace CueVerif.Mvs

theorem le_bump (sel : Nat → Nat) (d : Node) (p : Nat) : sel p ≤ bump sel d p := by
  unfold bump
  split
  · split <;> omega
  · omega

theorem bump_self_ge (sel : Nat → Nat) (p v : Nat) : v ≤ bump sel (p, v) p := by
  unfold bump
  simp only [if_true]
  split <;> omega

theorem bump_cases (sel : Nat → Nat) (d : Node) (p : Nat) :
    bump sel d p = sel p ∨ (p, bump sel d p) = d := by
  unfold bump
  split
  · rename_i h
    split
    · right; subst h; rfl
    · left; rfl
  · left; rfl

theorem bumpAll_cons (sel : Nat → Nat) (d : Node) (ds : List Node) :
    bumpAll sel (d :: ds) = bumpAll (bump sel d) ds := rfl

theorem le_bumpAll (sel : Nat → Nat) (ds : List Node) (p : Nat) : sel p ≤ bumpAll sel ds p := by
  induction ds generalizing sel with
  | nil => exact Nat.le_refl _
  | cons d ds ih =>
    rw [bumpAll_cons]
    exact Nat.le_trans (le_bump sel d p) (ih (bump sel d))

theorem mem_le_bumpAll (sel : Nat → Nat) (ds : List Node) (p v : Nat) (h : (p, v) ∈ ds) :
    v ≤ bumpAll sel ds p := by
  induction ds generalizing sel with
  | nil => cases h
  | cons d ds ih =>
    rw [bumpAll_cons]
    rcases List.mem_cons.mp h with h | h
    · subst h
      exact Nat.le_trans (bump_self_ge sel p v) (le_bumpAll _ ds p)
    · exact ih _ h

theorem bumpAll_cases (sel : Nat → Nat) (ds : List Node) (p : Nat) :
    bumpAll sel ds p = sel p ∨ (p, bumpAll sel ds p) ∈ ds := by
  induction ds generalizing sel with
  | nil => left; rfl
  | cons d ds ih =>
    rw [bumpAll_cons]
    rcases ih (bump sel d) with h | h
    · rcases bump_cases sel d p with h' | h'
      · left; rw [h, h']
      · right; rw [h, h']; exact List.mem_cons_self
    · right; exact List.mem_cons_of_mem _ h

theorem nodup_eraseDups_aux : ∀ (n : Nat) (l : List Node), l.length ≤ n → l.eraseDups.Nodup
  | _, [], _ => by simp
  | 0, _ :: _, h => by simp at h
  | n + 1, a :: as, h => by
    rw [List.eraseDups_cons, List.nodup_cons]
    refine ⟨?_, nodup_eraseDups_aux n _ ?_⟩
    · simp [List.mem_eraseDups, List.mem_filter]
    · have := List.length_filter_le (fun b => !b == a) as
      simp only [List.length_cons] at h
      omega

theorem nodup_eraseDups (l : List Node) : l.eraseDups.Nodup :=
  nodup_eraseDups_aux l.length l (Nat.le_refl _)

theorem Marked.cons_iff {g : Graph} {roots : List Node} {s t : St} {m : Node}
    (hr : t.required = m :: s.required) (n : Node) :
    Marked g roots t n ↔ Marked g roots s n ∨ n ∈ g m := by
  simp only [Marked, hr, List.mem_cons, exists_eq_or_imp, or_assoc, or_comm (a := n ∈ g m)]

/-- Stated for the least change of state: `Marked` and `sel` of any state with the same
`required` and `sel` are the same terms. -/
theorem sel_require {g : Graph} {roots : List Node} {s : St} (m : Node)
    (ub : ∀ p v, Marked g roots s (p, v) → v ≤ s.sel p)
    (att : ∀ p, s.sel p = 0 ∨ Marked g roots s (p, s.sel p)) :
    let t : St := { s with required := m :: s.required, sel := bumpAll s.sel (g m) }
    (∀ p v, Marked g roots t (p, v) → v ≤ t.sel p) ∧
      ∀ p, t.sel p = 0 ∨ Marked g roots t (p, t.sel p) := by
  refine ⟨fun p v hm => ?_, fun p => ?_⟩
  · rcases (Marked.cons_iff rfl _).mp hm with h | h
    · exact Nat.le_trans (ub p v h) (le_bumpAll _ _ _)
    · exact mem_le_bumpAll _ _ _ _ h
  · show bumpAll s.sel (g m) p = 0 ∨ Marked g roots _ (p, bumpAll s.sel (g m) p)
    rcases bumpAll_cases s.sel (g m) p with hb | hb
    · rw [hb]
      exact (att p).imp_right fun h => (Marked.cons_iff rfl _).mpr (Or.inl h)
    · exact Or.inr ((Marked.cons_iff rfl _).mpr (Or.inr hb))

theorem reach_closed {g : Graph} {X : Node → Prop} (hcl : ∀ n, X n → ∀ k ∈ g n, X k)
    {roots : List Node} (hr : ∀ r ∈ roots, X r) : ∀ n, Reach g roots n → X n := by
  intro n hn
  induction hn with
  | root h => exact hr _ h
  | dep _ hmn ih => exact hcl _ ih _ hmn

theorem isSel_of_required {g : Graph} {roots : List Node} {s : St}
    (hreq : ∀ n, n ∈ s.required → Reach g roots n)
    (hall : ∀ n, Reach g roots n → n ∈ s.required)
    (ub : ∀ p v, Marked g roots s (p, v) → v ≤ s.sel p)
    (att : ∀ p, s.sel p = 0 ∨ Marked g roots s (p, s.sel p)) : IsSel g roots s.sel := by
  have hm : ∀ n, Marked g roots s n ↔ Reach g roots n := fun n =>
    ⟨fun h => h.elim Reach.root fun ⟨m, hm, hn⟩ => Reach.dep (hreq m hm) hn,
     fun h => by
      cases h with
      | root h => exact Or.inl h
      | dep hm hn => exact Or.inr ⟨_, hall _ hm, hn⟩⟩
  exact fun p => ⟨fun v hv => ub p v ((hm _).mpr hv), (att p).imp_right (hm _).mp⟩

theorem isSel_le_of_reach_sub (g g' : Graph) (roots roots' : List Node) (s t : Nat → Nat)
    (hs : IsSel g roots s) (ht : IsSel g' roots' t)
    (h : ∀ n, Reach g roots n → Reach g' roots' n) : ∀ p, s p ≤ t p := by
  intro p
  rcases (hs p).2 with h0 | h0
  · omega
  · exact (ht p).1 _ (h _ h0)

theorem isSel_unique (g : Graph) (roots : List Node) (s t : Nat → Nat)
    (hs : IsSel g roots s) (ht : IsSel g roots t) : ∀ p, s p = t p := fun p =>
  Nat.le_antisymm (isSel_le_of_reach_sub g g roots roots s t hs ht (fun _ h => h) p)
    (isSel_le_of_reach_sub g g roots roots t s ht hs (fun _ h => h) p)

theorem inv_init (g : Graph) (roots : List Node) : Inv g roots (init roots) where
  nodup_required := List.nodup_nil
  nodup_work := by
    simp only [init, List.append_nil]
    exact nodup_eraseDups roots
  added_cases := by
    intro n
    simp [init]
  added_reach := fun n hn => Reach.root (List.mem_eraseDups.mp hn)
  added_marked := fun n hn => Or.inl (List.mem_eraseDups.mp hn)
  roots_added := fun n hn => List.mem_eraseDups.mpr hn
  adding_ok := by
    intro e he
    cases he
  closed := by
    intro m hm
    cases hm
  sel_ub := by
    intro p v hm
    rcases hm with hm | ⟨m, hm, _⟩
    · exact mem_le_bumpAll _ roots p v hm
    · cases hm
  sel_att := fun p => (bumpAll_cases (fun _ => 0) roots p).imp_right Or.inl

/-! ### preservation, one lemma per constructor -/

theorem mem_work (s : St) (n : Node) :
    n ∈ s.todo ++ s.fetched ++ s.required ↔ n ∈ s.todo ∨ n ∈ s.fetched ∨ n ∈ s.required := by
  rw [List.mem_append, List.mem_append, or_assoc]

theorem work_perm {s : St} {t f r : List Node}
    (hp : (t ++ f ++ r).Perm (s.todo ++ s.fetched ++ s.required))
    (h2 : (s.todo ++ s.fetched ++ s.required).Nodup)
    (h3 : ∀ n, n ∈ s.added ↔ n ∈ s.todo ∨ n ∈ s.fetched ∨ n ∈ s.required) :
    (t ++ f ++ r).Nodup ∧ ∀ n, n ∈ s.added ↔ n ∈ t ∨ n ∈ f ∨ n ∈ r :=
  ⟨hp.nodup_iff.mpr h2, fun n => by
    rw [h3, ← mem_work, ← hp.mem_iff, List.mem_append, List.mem_append, or_assoc]⟩

theorem inv_take (g : Graph) (roots : List Node) (s : St) (m : Node) (h : m ∈ s.todo)
    (hi : Inv g roots s) :
    Inv g roots { s with todo := s.todo.erase m, fetched := m :: s.fetched } := by
  have hp : (s.todo.erase m ++ m :: s.fetched ++ s.required).Perm
      (s.todo ++ s.fetched ++ s.required) :=
    (List.perm_middle.trans ((List.perm_cons_erase h).append_right _).symm).append_right _
  obtain ⟨n2, n3⟩ := work_perm hp hi.nodup_work hi.added_cases
  exact { hi with nodup_work := n2, added_cases := n3 }

theorem inv_require (g : Graph) (roots : List Node) (s : St) (m : Node) (h : m ∈ s.fetched)
    (hi : Inv g roots s) :
    Inv g roots { s with fetched := s.fetched.erase m, required := m :: s.required,
                         sel := bumpAll s.sel (g m), adding := (m, g m) :: s.adding } := by
  have hp : (s.todo ++ s.fetched.erase m ++ m :: s.required).Perm
      (s.todo ++ s.fetched ++ s.required) :=
    List.perm_middle.trans
      ((((List.perm_cons_erase h).append_left _).trans List.perm_middle).append_right _).symm
  obtain ⟨n2, n3⟩ := work_perm hp hi.nodup_work hi.added_cases
  have hmr : m ∉ s.required := fun hr =>
    (List.nodup_append.mp hi.nodup_work).2.2 m (List.mem_append_right _ h) m hr rfl
  obtain ⟨n9, n10⟩ := sel_require m hi.sel_ub hi.sel_att
  -- `added` stays: only what is known of it through `required`, `adding` and `sel` moves on
  exact { hi with
    nodup_required := List.nodup_cons.mpr ⟨hmr, hi.nodup_required⟩
    nodup_work := n2
    added_cases := n3
    added_marked := fun n hn => (Marked.cons_iff rfl n).mpr (Or.inl (hi.added_marked n hn))
    adding_ok := List.forall_mem_cons.mpr ⟨⟨List.mem_cons_self, [], rfl⟩,
      fun e he => ⟨List.mem_cons_of_mem _ (hi.adding_ok e he).1, (hi.adding_ok e he).2⟩⟩
    closed := List.forall_mem_cons.mpr ⟨fun n hn => Or.inr ⟨_, List.mem_cons_self, hn⟩,
      fun m' hm' n hn => (hi.closed m' hm' n hn).imp_right
        fun ⟨e, he, hne⟩ => ⟨e, List.mem_cons_of_mem _ he, hne⟩⟩
    sel_ub := n9
    sel_att := n10 }

theorem entry_facts {g : Graph} {roots : List Node} {s : St} (hi : Inv g roots s)
    {m r : Node} {rs : List Node} (h : (m, r :: rs) ∈ s.adding) :
    m ∈ s.required ∧ r ∈ g m ∧ Reach g roots r ∧ Marked g roots s r ∧
      ∃ pre, g m = pre ++ rs := by
  obtain ⟨hm, pre, hpre⟩ := hi.adding_ok _ h
  have hm : m ∈ s.required := hm
  have hpre : g m = pre ++ r :: rs := hpre
  have hr : r ∈ g m := by rw [hpre]; simp
  have hma : m ∈ s.added := (hi.added_cases m).mpr (Or.inr (Or.inr hm))
  refine ⟨hm, hr, Reach.dep (hi.added_reach m hma) hr, Or.inr ⟨m, hm, hr⟩, pre ++ [r], ?_⟩
  rw [hpre]; simp

theorem adding_ok_advance {g : Graph} {roots : List Node} {s : St} (hi : Inv g roots s)
    {m r : Node} {rs : List Node} (h : (m, r :: rs) ∈ s.adding) :
    ∀ e ∈ (m, rs) :: s.adding.erase (m, r :: rs), e.1 ∈ s.required ∧ ∃ pre, g e.1 = pre ++ e.2 := by
  obtain ⟨hm, _, _, _, hpre⟩ := entry_facts hi h
  exact List.forall_mem_cons.mpr ⟨⟨hm, hpre⟩, fun e he => hi.adding_ok e (List.mem_of_mem_erase he)⟩

theorem closed_advance {g : Graph} {roots : List Node} {s : St} (hi : Inv g roots s)
    {m r : Node} {rs : List Node} (added' : List Node)
    (hsub : ∀ n, n ∈ s.added → n ∈ added') (hr : r ∈ added') :
    ∀ m' ∈ s.required, ∀ n ∈ g m',
      n ∈ added' ∨ ∃ e ∈ (m, rs) :: s.adding.erase (m, r :: rs), n ∈ e.2 := by
  intro m' hm' n hn
  rcases hi.closed m' hm' n hn with h | ⟨e, he, hne⟩
  · exact Or.inl (hsub n h)
  · by_cases hee : e = (m, r :: rs)
    · subst hee
      rcases List.mem_cons.mp hne with rfl | hne
      · exact Or.inl hr
      · exact Or.inr ⟨(m, rs), List.mem_cons_self, hne⟩
    · exact Or.inr ⟨e, List.mem_cons_of_mem _ ((List.mem_erase_of_ne hee).mpr he), hne⟩

theorem inv_addNew (g : Graph) (roots : List Node) (s : St) (m r : Node) (rs : List Node)
    (h : (m, r :: rs) ∈ s.adding) (hn : r ∉ s.added) (hi : Inv g roots s) :
    Inv g roots { s with adding := (m, rs) :: s.adding.erase (m, r :: rs),
                         added := r :: s.added, todo := r :: s.todo } := by
  obtain ⟨_, _, hreach, hmark, _⟩ := entry_facts hi h
  exact { hi with
    nodup_work := List.nodup_cons.mpr
      ⟨fun hw => hn ((hi.added_cases r).mpr ((mem_work s r).mp hw)), hi.nodup_work⟩
    added_cases := fun n => by
      show n ∈ r :: s.added ↔ n ∈ r :: s.todo ∨ n ∈ s.fetched ∨ n ∈ s.required
      rw [List.mem_cons, List.mem_cons, hi.added_cases n, or_assoc]
    added_reach := List.forall_mem_cons.mpr ⟨hreach, hi.added_reach⟩
    added_marked := List.forall_mem_cons.mpr ⟨hmark, hi.added_marked⟩
    roots_added := fun n hn' => List.mem_cons_of_mem _ (hi.roots_added n hn')
    adding_ok := adding_ok_advance hi h
    closed := closed_advance (m := m) (r := r) (rs := rs) hi (r :: s.added)
      (fun _ hn => List.mem_cons_of_mem _ hn) List.mem_cons_self }

theorem inv_addOld (g : Graph) (roots : List Node) (s : St) (m r : Node) (rs : List Node)
    (h : (m, r :: rs) ∈ s.adding) (hn : r ∈ s.added) (hi : Inv g roots s) :
    Inv g roots { s with adding := (m, rs) :: s.adding.erase (m, r :: rs) } :=
  { hi with
    adding_ok := adding_ok_advance hi h
    closed := closed_advance (m := m) (r := r) (rs := rs) hi s.added (fun _ hn => hn) hn }

theorem inv_finish (g : Graph) (roots : List Node) (s : St) (m : Node)
    (_h : (m, []) ∈ s.adding) (hi : Inv g roots s) :
    Inv g roots { s with adding := s.adding.erase (m, []) } := by
  refine { hi with
    adding_ok := fun e he => hi.adding_ok e (List.mem_of_mem_erase he)
    closed := fun m' hm' n hn => (hi.closed m' hm' n hn).imp_right fun ⟨e, he, hne⟩ => ?_ }
  -- the entry that goes owes nothing
  have hee : e ≠ (m, []) := by
    rintro rfl
    cases hne
  exact ⟨e, (List.mem_erase_of_ne hee).mpr he, hne⟩

theorem inv_step (g : Graph) (roots : List Node) (s t : St) (hs : Step g s t)
    (hi : Inv g roots s) : Inv g roots t := by
  cases hs with
  | take m h => exact inv_take g roots s m h hi
  | require m h => exact inv_require g roots s m h hi
  | addNew m r rs h hn => exact inv_addNew g roots s m r rs h hn hi
  | addOld m r rs h hn => exact inv_addOld g roots s m r rs h hn hi
  | finish m h => exact inv_finish g roots s m h hi

theorem run_inv (g : Graph) (roots : List Node) (s : St) (h : Run g roots s) : Inv g roots s := by
  induction h with
  | init => exact inv_init g roots
  | step _ hstep ih => exact inv_step g roots _ _ hstep ih

/-! ### states with no runner in flight

`FifoInv` is `Inv` for states whose `fetched` and `adding` are empty: the terminal states of the
concurrent system (`Inv.toFifo`) and every state of the one-runner schedule `runFifo`
(Proofs/MvsFifo.lean).  `fifo_done` is the closure argument for both. -/

structure FifoInv (g : Graph) (roots : List Node) (s : St) : Prop where
  added_iff : ∀ n, n ∈ s.added ↔ n ∈ s.todo ∨ n ∈ s.required
  added_reach : ∀ n ∈ s.added, Reach g roots n
  closed : ∀ m ∈ s.required, ∀ n ∈ g m, n ∈ s.added
  roots_added : ∀ n ∈ roots, n ∈ s.added
  sel_ub : ∀ p v, Marked g roots s (p, v) → v ≤ s.sel p
  sel_att : ∀ p, s.sel p = 0 ∨ Marked g roots s (p, s.sel p)

theorem Inv.toFifo {g : Graph} {roots : List Node} {s : St} (hi : Inv g roots s)
    (hf : s.fetched = []) (ha : s.adding = []) : FifoInv g roots s where
  added_iff := fun n => by rw [hi.added_cases, hf]; simp
  added_reach := hi.added_reach
  -- nobody owes an `Add` any more
  closed := fun m hm n hn => (hi.closed m hm n hn).resolve_right fun ⟨e, he, _⟩ => by
    rw [ha] at he; cases he
  roots_added := hi.roots_added
  sel_ub := hi.sel_ub
  sel_att := hi.sel_att

/-- with nothing left to do, exactly the reachable nodes have been visited and the maxima selected -/
theorem fifo_done (g : Graph) (roots : List Node) (s : St) (hi : FifoInv g roots s)
    (ht : s.todo = []) : (∀ n, n ∈ s.added ↔ Reach g roots n) ∧ IsSel g roots s.sel := by
  have hadd : ∀ n, n ∈ s.added ↔ n ∈ s.required := by
    intro n; rw [hi.added_iff, ht]; simp
  have hall : ∀ n, Reach g roots n → n ∈ s.added :=
    reach_closed (fun m hm => hi.closed m ((hadd m).mp hm)) hi.roots_added
  exact ⟨fun n => ⟨hi.added_reach n, hall n⟩,
    isSel_of_required (fun n hn => hi.added_reach n ((hadd n).mpr hn))
      (fun n hn => (hadd n).mp (hall n hn)) hi.sel_ub hi.sel_att⟩

theorem terminal_added (g : Graph) (roots : List Node) (s : St) (h : Run g roots s)
    (ht : Terminal s) : ∀ n, n ∈ s.added ↔ Reach g roots n :=
  (fifo_done g roots s ((run_inv g roots s h).toFifo ht.2.1 ht.2.2) ht.1).1

theorem terminal_isSel (g : Graph) (roots : List Node) (s : St) (h : Run g roots s)
    (ht : Terminal s) : IsSel g roots s.sel :=
  (fifo_done g roots s ((run_inv g roots s h).toFifo ht.2.1 ht.2.2) ht.1).2

theorem schedule_indep (g : Graph) (roots : List Node) (s t : St) (hs : Run g roots s)
    (ht : Run g roots t) (hs' : Terminal s) (ht' : Terminal t) : ∀ p, s.sel p = t.sel p :=
  isSel_unique g roots _ _ (terminal_isSel g roots s hs hs') (terminal_isSel g roots t ht ht')

theorem reach_congr (g g' : Graph) (roots roots' : List Node)
    (hg : ∀ m n, n ∈ g m ↔ n ∈ g' m) (hr : ∀ n, n ∈ roots ↔ n ∈ roots') :
    ∀ n, Reach g roots n ↔ Reach g' roots' n := fun n =>
  ⟨reach_closed (fun _ hn _ hk => Reach.dep hn ((hg _ _).mp hk)) (fun _ h => Reach.root ((hr _).mp h)) n,
   reach_closed (fun _ hn _ hk => Reach.dep hn ((hg _ _).mpr hk)) (fun _ h => Reach.root ((hr _).mpr h)) n⟩

theorem isSel_congr (g g' : Graph) (roots : List Node) (sel : Nat → Nat)
    (h : ∀ m n, n ∈ g m ↔ n ∈ g' m) : IsSel g roots sel ↔ IsSel g' roots sel := by
  simp only [IsSel, reach_congr g g' roots roots h fun _ => Iff.rfl]

end CueVerif.Mvs
