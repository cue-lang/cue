import CueVerif.Spec.MvsOps
import CueVerif.Proofs.MvsOps
/-!
The two depth-first closures of `Req` (`walk`: postorder with `reqCache`; `mark`: the `have`
set), specified for every run that does not run out of fuel.  `walk` is specified by induction
on the fuel; `mark` computes the cache of `walk` (`walk_cache`), so its specification is read
off that of `walk`.
-/
namespace CueVerif.Mvs

/-- reachability from one node of a requirement list of `m` is reachability from `m` -/
theorem reach_of_child (g : Graph) (m r n : Node) (hr : r ∈ g m) (h : Reach g [r] n) :
    Reach g [m] n :=
  reach_of_reach g [m] (Reach.dep (Reach.root List.mem_cons_self) hr) h

/-- what one (possibly nested) run of `walk` over the roots `roots` did: `new` is what it
appended to `postorder` -/
structure WalkOut (g : Graph) (roots : List Node) (s s' : DfsSt) (new : List Node) : Prop where
  post_eq : s'.post = s.post ++ new
  cache_iff : ∀ n, n ∈ s'.cache ↔ n ∈ s.cache ∨ n ∈ new
  fresh : ∀ n ∈ new, n ∉ s.cache
  nodup : new.Nodup
  reach : ∀ n ∈ new, ∃ r ∈ roots, Reach g [r] n
  closed : ∀ n ∈ new, ∀ k ∈ g n, k ∈ s'.cache
  roots_in : ∀ r ∈ roots, r ∈ s'.cache

theorem WalkOut.nil {g : Graph} {roots : List Node} {s : DfsSt} (hr : ∀ r ∈ roots, r ∈ s.cache) :
    WalkOut g roots s s [] where
  post_eq := by simp
  cache_iff := by simp
  fresh := by simp
  nodup := List.nodup_nil
  reach := by simp
  closed := by simp
  roots_in := hr

theorem WalkOut.comp {g : Graph} {m : Node} {ms : List Node} {s s1 s2 : DfsSt}
    {n1 n2 : List Node} (h1 : WalkOut g [m] s s1 n1) (h2 : WalkOut g ms s1 s2 n2) :
    WalkOut g (m :: ms) s s2 (n1 ++ n2) where
  post_eq := by rw [h2.post_eq, h1.post_eq, List.append_assoc]
  cache_iff := by
    intro n
    rw [h2.cache_iff, h1.cache_iff, List.mem_append, or_assoc]
  fresh := List.forall_mem_append.mpr
    ⟨h1.fresh, fun n hn hc => h2.fresh n hn ((h1.cache_iff n).mpr (Or.inl hc))⟩
  nodup := by
    rw [List.nodup_append]
    refine ⟨h1.nodup, h2.nodup, ?_⟩
    intro a ha b hb hab
    subst hab
    exact h2.fresh a hb ((h1.cache_iff a).mpr (Or.inr ha))
  reach := by
    refine List.forall_mem_append.mpr ⟨fun n hn => ?_, fun n hn => ?_⟩
    · obtain ⟨r, hr, hre⟩ := h1.reach n hn
      exact ⟨r, List.mem_cons.mpr (Or.inl (List.mem_singleton.mp hr)), hre⟩
    · obtain ⟨r, hr, hre⟩ := h2.reach n hn
      exact ⟨r, List.mem_cons_of_mem _ hr, hre⟩
  closed := List.forall_mem_append.mpr
    ⟨fun n hn k hk => (h2.cache_iff k).mpr (Or.inl (h1.closed n hn k hk)), h2.closed⟩
  roots_in := List.forall_mem_cons.mpr
    ⟨(h2.cache_iff m).mpr (Or.inl (h1.roots_in m List.mem_cons_self)), h2.roots_in⟩

/-- the specification of one call of `walk` -/
def WalkSpec (g : Graph) (f : Nat) : Prop :=
  ∀ m s s', walk g f m s = some s' →
    ∃ new, WalkOut g [m] s s' new ∧ (m ∈ s.cache → s' = s) ∧
      (m ∉ s.cache → ∃ t, new = t ++ [m])

theorem walkList_spec (g : Graph) (f : Nat) (ih : WalkSpec g f) :
    ∀ (ms : List Node) (s s' : DfsSt),
      foldOpt (fun s m1 => walk g f m1 s) s ms = some s' → ∃ new, WalkOut g ms s s' new := by
  intro ms
  induction ms with
  | nil =>
    intro s s' h
    cases h
    exact ⟨[], WalkOut.nil (by simp)⟩
  | cons m ms ihl =>
    intro s s' h
    obtain ⟨s1, hw, h⟩ := foldOpt_cons_some h
    obtain ⟨n1, h1, _, _⟩ := ih m s s1 hw
    obtain ⟨n2, h2⟩ := ihl s1 s' h
    exact ⟨n1 ++ n2, WalkOut.comp h1 h2⟩

theorem walk_spec (g : Graph) : ∀ f, WalkSpec g f := by
  intro f
  induction f with
  | zero =>
    intro m s s' h
    simp [walk] at h
  | succ f ih =>
    intro m s s' h
    unfold walk at h
    by_cases hc : s.cache.contains m = true
    · rw [if_pos hc] at h
      have hm : m ∈ s.cache := by simpa using hc
      cases h
      exact ⟨[], WalkOut.nil (List.forall_mem_singleton.mpr hm), fun _ => rfl,
        fun hn => absurd hm hn⟩
    · rw [if_neg hc] at h
      have hm : m ∉ s.cache := by simpa using hc
      split at h
      · cases h
      next s2 hl =>
        cases h
        obtain ⟨n1, h1⟩ := walkList_spec g f ih (g m) _ s2 hl
        refine ⟨n1 ++ [m], ?_, fun hin => absurd hin hm, fun _ => ⟨n1, rfl⟩⟩
        have hmn1 : m ∉ n1 := fun hin => h1.fresh m hin List.mem_cons_self
        refine ⟨?_, ?_, ?_, ?_, ?_, ?_, ?_⟩
        · show s2.post ++ [m] = s.post ++ (n1 ++ [m])
          rw [h1.post_eq, List.append_assoc]
        · intro n
          show n ∈ s2.cache ↔ _
          rw [h1.cache_iff n, List.mem_cons, List.mem_append, List.mem_singleton,
            or_comm (a := n = m), or_right_comm, or_assoc]
        · rw [List.forall_mem_append, List.forall_mem_singleton]
          exact ⟨fun n hn hcn => h1.fresh n hn (List.mem_cons_of_mem _ hcn), hm⟩
        · refine List.nodup_append.mpr ⟨h1.nodup, by simp, fun a ha b hb hab => ?_⟩
          rw [← hab, List.mem_singleton] at hb
          exact hmn1 (hb ▸ ha)
        · rw [List.forall_mem_append, List.forall_mem_singleton]
          refine ⟨fun n hn => ?_, m, List.mem_cons_self, Reach.root List.mem_cons_self⟩
          obtain ⟨r, hr, hre⟩ := h1.reach n hn
          exact ⟨m, List.mem_cons_self, reach_of_child g m r n hr hre⟩
        · rw [List.forall_mem_append, List.forall_mem_singleton]
          exact ⟨h1.closed, h1.roots_in⟩
        · exact List.forall_mem_singleton.mpr ((h1.cache_iff m).mpr (Or.inl List.mem_cons_self))

/-! ### `mark` -/

/-- what a run of `mark` over the roots did to the `have` set -/
structure MarkOut (g : Graph) (roots : List Node) (hv hv' : List Node) : Prop where
  mono : ∀ n ∈ hv, n ∈ hv'
  roots_in : ∀ r ∈ roots, r ∈ hv'
  reach : ∀ n ∈ hv', n ∈ hv ∨ ∃ r ∈ roots, Reach g [r] n
  closed : ∀ n ∈ hv', n ∉ hv → ∀ k ∈ g n, k ∈ hv'

/-- `mark` is `walk` with the postorder forgotten: the same recursion on the cache alone -/
theorem walk_cache (g : Graph) : ∀ (f : Nat) (m : Node) (s : DfsSt),
    (walk g f m s).map (·.cache) = mark g f m s.cache
  | 0, _, _ => rfl
  | f + 1, m, s => by
    unfold walk mark
    split
    · rfl
    · rw [← foldOpt_map (·.cache) (fun s a => walk_cache g f a s) (g m) { s with cache := m :: s.cache }]
      cases foldOpt (fun s m1 => walk g f m1 s) { s with cache := m :: s.cache } (g m) <;> rfl

theorem WalkOut.toMark {g : Graph} {roots : List Node} {s s' : DfsSt} {new : List Node}
    (h : WalkOut g roots s s' new) : MarkOut g roots s.cache s'.cache where
  mono := fun n hn => (h.cache_iff n).mpr (Or.inl hn)
  roots_in := h.roots_in
  reach := fun n hn => ((h.cache_iff n).mp hn).imp_right (h.reach n)
  closed := fun n hn hnn => h.closed n (((h.cache_iff n).mp hn).resolve_left hnn)

theorem mark_spec (g : Graph) (f : Nat) (m : Node) (hv hv' : List Node)
    (h : mark g f m hv = some hv') : MarkOut g [m] hv hv' := by
  rw [← walk_cache g f m ⟨hv, []⟩] at h
  obtain ⟨s', hw, rfl⟩ := Option.map_eq_some_iff.mp h
  obtain ⟨new, hw, _⟩ := walk_spec g f m _ s' hw
  exact hw.toMark

theorem MarkOut.closed_all {g : Graph} {roots hv hv' : List Node} (h : MarkOut g roots hv hv')
    (hcl : ∀ n ∈ hv, ∀ k ∈ g n, k ∈ hv) : ∀ n ∈ hv', ∀ k ∈ g n, k ∈ hv' := by
  intro n hn k hk
  by_cases hin : n ∈ hv
  · exact h.mono k (hcl n hin k hk)
  · exact h.closed n hn hin k hk

theorem closed_reach (g : Graph) (hv : List Node) (hcl : ∀ n ∈ hv, ∀ k ∈ g n, k ∈ hv)
    (r : Node) (hr : r ∈ hv) : ∀ n, Reach g [r] n → n ∈ hv :=
  reach_closed (X := (· ∈ hv)) hcl fun _ h => List.mem_singleton.mp h ▸ hr

end CueVerif.Mvs
