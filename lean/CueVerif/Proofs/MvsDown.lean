import CueVerif.Proofs.MvsReq
/-!
`Downgrade`: the `add` / `exclude` closures keep a set of "good" module versions (added, not
excluded) that is closed under requirements and within the `max` map; the downgraded list
consists of good versions; hence both recomputed build lists stay within `max`.
-/
namespace CueVerif.Mvs

theorem mem_rdepsOf (rd : List (Node × Node)) (r m : Node) :
    m ∈ rdepsOf rd r ↔ (r, m) ∈ rd := by
  unfold rdepsOf
  simp only [List.mem_map, List.mem_filter, beq_iff_eq]
  constructor
  · rintro ⟨⟨_, _⟩, ⟨he, rfl⟩, rfl⟩
    exact he
  · exact fun h => ⟨(r, m), ⟨h, rfl⟩, rfl⟩

/-- the invariant of `add`/`exclude`; `G` = the module versions whose `add` call is in progress -/
structure DInv (g : Graph) (maxv : Nat → Option Nat) (G : List Node) (s : DgSt) : Prop where
  excl_closed : ∀ e ∈ s.rdeps, e.1 ∈ s.excluded → e.2 ∈ s.excluded
  complete : ∀ m ∈ s.added, m ∉ G →
    m ∈ s.excluded ∨ ∀ r ∈ g m, r ∈ s.added ∧ (r, m) ∈ s.rdeps
  ok : ∀ m ∈ s.added, m ∉ s.excluded → ∀ v, maxv m.1 = some v → m.2 ≤ v
  rdeps_edge : ∀ e ∈ s.rdeps, e.1 ∈ g e.2

/-- a set of settled versions: good, not in progress, closed under requirements -/
structure Settled (g : Graph) (G : List Node) (X : Node → Prop) (s : DgSt) : Prop where
  closed : ∀ m, X m → ∀ r ∈ g m, X r
  added : ∀ m, X m → m ∈ s.added
  not_gray : ∀ m, X m → m ∉ G
  good : ∀ m, X m → m ∉ s.excluded

structure DStep (s s' : DgSt) : Prop where
  added : ∀ n ∈ s.added, n ∈ s'.added
  excluded : ∀ n ∈ s.excluded, n ∈ s'.excluded
  rdeps : ∀ e ∈ s.rdeps, e ∈ s'.rdeps

theorem DStep.refl (s : DgSt) : DStep s s := ⟨fun _ h => h, fun _ h => h, fun _ h => h⟩

theorem DStep.trans {a b c : DgSt} (h1 : DStep a b) (h2 : DStep b c) : DStep a c :=
  ⟨fun n h => h2.added n (h1.added n h), fun n h => h2.excluded n (h1.excluded n h),
   fun e h => h2.rdeps e (h1.rdeps e h)⟩

/-- what every operation guarantees -/
structure DOut (g : Graph) (maxv : Nat → Option Nat) (G : List Node) (s s' : DgSt) : Prop where
  inv : DInv g maxv G s'
  step : DStep s s'
  settled : ∀ X, Settled g G X s → Settled g G X s'

theorem doExclude_spec (g : Graph) (maxv : Nat → Option Nat) (G : List Node) (fuel : Nat)
    (m : Node) (s s' : DgSt) (hi : DInv g maxv G s) (h : doExclude fuel m s = some s') :
    DInv g maxv G s' ∧ DStep s s' ∧ m ∈ s'.excluded ∧ s'.added = s.added ∧
      s'.rdeps = s.rdeps ∧ (∀ X, ¬ X m → Settled g G X s → Settled g G X s') := by
  unfold doExclude at h
  obtain ⟨ex, hmk, rfl⟩ := Option.map_eq_some_iff.mp h
  have hm := mark_spec (rdepsOf s.rdeps) fuel m s.excluded ex hmk
  have hcl0 : ∀ n ∈ s.excluded, ∀ k ∈ rdepsOf s.rdeps n, k ∈ s.excluded :=
    fun n hn k hk => hi.excl_closed (n, k) ((mem_rdepsOf _ _ _).mp hk) hn
  have hcl := hm.closed_all hcl0
  refine ⟨⟨?_, ?_, ?_, hi.rdeps_edge⟩, ⟨fun _ h => h, hm.mono, fun _ h => h⟩,
    hm.roots_in m List.mem_cons_self, rfl, rfl, ?_⟩
  · intro e he hex
    exact hcl e.1 hex e.2 ((mem_rdepsOf _ _ _).mpr he)
  · intro m' hm' hg
    exact (hi.complete m' hm' hg).imp_left (hm.mono m')
  · intro m' hm' hne v hv
    exact hi.ok m' hm' (fun h => hne (hm.mono m' h)) v hv
  · intro X hX hs
    refine ⟨hs.closed, hs.added, hs.not_gray, ?_⟩
    intro n hn hnex
    rcases hm.reach n hnex with h0 | ⟨r, hr, hre⟩
    · exact hs.good n hn h0
    · -- back along the rdeps chain from `n` to `m`: `X` is closed under requirements
      rw [List.mem_singleton] at hr
      subst hr
      exact hX (reach_closed (X := fun k => X k → X r)
        (fun a ih b hab hb =>
          ih (hs.closed b hb a (hi.rdeps_edge (a, b) ((mem_rdepsOf _ _ _).mp hab))))
        (List.forall_mem_singleton.mpr id) n hre hn)

theorem doExclude_added (fuel : Nat) (m : Node) (s : DgSt) (a : List Node) :
    doExclude fuel m { s with added := a } =
      (doExclude fuel m s).map fun t => { t with added := a } := by
  unfold doExclude
  cases mark (rdepsOf s.rdeps) fuel m s.excluded <;> rfl

/-- leaving the "in progress" state of `m` -/
theorem DInv.pop {g : Graph} {maxv : Nat → Option Nat} {G : List Node} {m : Node} {s : DgSt}
    (hi : DInv g maxv (m :: G) s)
    (hm : m ∈ s.excluded ∨ ∀ r ∈ g m, r ∈ s.added ∧ (r, m) ∈ s.rdeps) : DInv g maxv G s :=
  { hi with
    complete := fun m' hm' hg => by
      by_cases he : m' = m
      · subst he; exact hm
      · exact hi.complete m' hm' fun hin => (List.mem_cons.mp hin).elim he hg }

/-- `m` joins `added`, either already excluded or in progress and within `max` -/
theorem DInv.cons_added {g : Graph} {maxv : Nat → Option Nat} {G G' : List Node} {m : Node}
    {s : DgSt} (hi : DInv g maxv G s) (hG : ∀ n ∈ G, n ∈ G')
    (hm : m ∈ s.excluded ∨ m ∈ G' ∧ ∀ v, maxv m.1 = some v → m.2 ≤ v) :
    DInv g maxv G' { s with added := m :: s.added } :=
  { hi with
    complete := List.forall_mem_cons.mpr
      ⟨fun hg => Or.inl (hm.resolve_right fun h => hg h.1),
       fun m' hm' hg => (hi.complete m' hm' fun h => hg (hG _ h)).imp_right fun h1 r hr =>
        ⟨List.mem_cons_of_mem _ (h1 r hr).1, (h1 r hr).2⟩⟩
    ok := List.forall_mem_cons.mpr ⟨fun hne => (hm.resolve_left hne).2, hi.ok⟩ }

/-- the requirement `r` of `m`, not excluded, is entered in `rdeps` -/
theorem DInv.snoc_rdeps {g : Graph} {maxv : Nat → Option Nat} {G : List Node} {r m : Node}
    {s : DgSt} (hi : DInv g maxv G s) (hrg : r ∈ g m) (hrne : r ∉ s.excluded) :
    DInv g maxv G { s with rdeps := s.rdeps ++ [(r, m)] } :=
  { hi with
    excl_closed := List.forall_mem_append.mpr
      ⟨hi.excl_closed, List.forall_mem_singleton.mpr fun hex => absurd hex hrne⟩
    complete := fun m' hm' hgm => (hi.complete m' hm' hgm).imp_right fun h r' hr' =>
      ⟨(h r' hr').1, List.mem_append_left _ (h r' hr').2⟩
    rdeps_edge := List.forall_mem_append.mpr ⟨hi.rdeps_edge, List.forall_mem_singleton.mpr hrg⟩ }

theorem Settled.pop {g : Graph} {G : List Node} {m : Node} {X : Node → Prop} {s : DgSt}
    (h : Settled g (m :: G) X s) : Settled g G X s :=
  { h with not_gray := fun n hn hg => h.not_gray n hn (List.mem_cons_of_mem _ hg) }

def AddSpec (g : Graph) (maxv : Nat → Option Nat) (fx f : Nat) : Prop :=
  ∀ G m s s', DInv g maxv G s → add g maxv fx f m s = some s' →
    DOut g maxv G s s' ∧ m ∈ s'.added

theorem addLoop_spec (g : Graph) (maxv : Nat → Option Nat) (fx : Nat) (G : List Node) (m : Node)
    (rec : Node → DgSt → Option DgSt)
    (hrec : ∀ r s s', DInv g maxv (m :: G) s → rec r s = some s' →
      DOut g maxv (m :: G) s s' ∧ r ∈ s'.added) :
    ∀ (rs pre : List Node) (s s' : DgSt), g m = pre ++ rs → DInv g maxv (m :: G) s →
      m ∈ s.added → (∀ r ∈ pre, r ∈ s.added ∧ (r, m) ∈ s.rdeps) →
      addLoop rec fx m rs s = some s' →
      DInv g maxv G s' ∧ DStep s s' ∧
        (∀ X, ¬ X m → Settled g (m :: G) X s → Settled g G X s') := by
  intro rs
  induction rs with
  | nil =>
    intro pre s s' hg hi hm hpre h
    cases h
    rw [List.append_nil] at hg
    refine ⟨hi.pop (Or.inr ?_), DStep.refl s, fun X _ hs => hs.pop⟩
    rw [hg]; exact hpre
  | cons r rs ih =>
    intro pre s s' hg hi hm hpre h
    unfold addLoop at h
    split at h
    · cases h
    next s1 hr =>
      obtain ⟨ho1, hr1⟩ := hrec r s s1 hi hr
      by_cases hex : s1.excluded.contains r = true
      · rw [if_pos hex] at h
        obtain ⟨hi2, hst2, hm2, _, _, hset2⟩ :=
          doExclude_spec g maxv (m :: G) fx m s1 s' ho1.inv h
        refine ⟨hi2.pop (Or.inl hm2), ho1.step.trans hst2, ?_⟩
        intro X hX hs
        exact (hset2 X hX (ho1.settled X hs)).pop
      · rw [if_neg hex] at h
        have hi2 := ho1.inv.snoc_rdeps (r := r) (m := m) (by rw [hg]; simp) (by simpa using hex)
        have hst2 : DStep s1 { s1 with rdeps := s1.rdeps ++ [(r, m)] } :=
          ⟨fun _ h => h, fun _ h => h, fun _ h => List.mem_append_left _ h⟩
        obtain ⟨hi3, hst3, hset3⟩ := ih (pre ++ [r]) _ s' (by rw [hg]; simp) hi2
          (ho1.step.added m hm) (List.forall_mem_append.mpr
            ⟨fun r' hr' => ⟨ho1.step.added r' (hpre r' hr').1,
                List.mem_append_left _ (ho1.step.rdeps _ (hpre r' hr').2)⟩,
              List.forall_mem_singleton.mpr ⟨hr1, List.mem_append_right _ List.mem_cons_self⟩⟩) h
        refine ⟨hi3, (ho1.step.trans hst2).trans hst3, ?_⟩
        intro X hX hs
        have h1 := ho1.settled X hs
        exact hset3 X hX ⟨h1.closed, h1.added, h1.not_gray, h1.good⟩

theorem add_spec (g : Graph) (maxv : Nat → Option Nat) (fx : Nat) :
    ∀ f, AddSpec g maxv fx f := by
  intro f
  induction f with
  | zero =>
    intro G m s s' _ h
    simp [add] at h
  | succ f ih =>
    intro G m s s' hi h
    unfold add at h
    by_cases hc : s.added.contains m = true
    · rw [if_pos hc] at h
      have hm : m ∈ s.added := by simpa using hc
      cases h
      exact ⟨⟨hi, DStep.refl s, fun _ h => h⟩, hm⟩
    · rw [if_neg hc] at h
      have hm : m ∉ s.added := by simpa using hc
      simp only at h
      have hX : ∀ X, Settled g G X s → ¬ X m := fun X hs hx => hm (hs.added m hx)
      have hst0 : DStep s { s with added := m :: s.added } :=
        ⟨fun _ h => List.mem_cons_of_mem _ h, fun _ h => h, fun _ h => h⟩
      -- the two branches
      have brX : ∀ s', doExclude fx m { s with added := m :: s.added } = some s' →
          DOut g maxv G s s' ∧ m ∈ s'.added := by
        intro s' h
        rw [doExclude_added] at h
        obtain ⟨t, hd, rfl⟩ := Option.map_eq_some_iff.mp h
        obtain ⟨hi2, hst2, hm2, hadd2, _, hset2⟩ := doExclude_spec g maxv G fx m s t hi hd
        have hi3 := hi2.cons_added (m := m) (fun _ h => h) (Or.inl hm2)
        rw [hadd2] at hi3
        refine ⟨⟨hi3, ⟨fun n hn => List.mem_cons_of_mem _ hn, hst2.excluded, hst2.rdeps⟩,
          fun X hs => ?_⟩, List.mem_cons_self⟩
        have h1 := hset2 X (hX X hs) hs
        exact { h1 with added := fun n hn => List.mem_cons_of_mem _ (hs.added n hn) }
      have brL : (∀ v, maxv m.1 = some v → m.2 ≤ v) → ∀ s',
          addLoop (add g maxv fx f) fx m (g m) { s with added := m :: s.added } = some s' →
          DOut g maxv G s s' ∧ m ∈ s'.added := by
        intro hok s' h
        have hi0 : DInv g maxv (m :: G) { s with added := m :: s.added } :=
          hi.cons_added (fun _ => List.mem_cons_of_mem _) (Or.inr ⟨List.mem_cons_self, hok⟩)
        obtain ⟨hi3, hst3, hset3⟩ := addLoop_spec g maxv fx G m (add g maxv fx f)
          (fun r s s' hi h => ih (m :: G) r s s' hi h) (g m) [] _ s' (by simp) hi0
          List.mem_cons_self (by simp) h
        refine ⟨⟨hi3, hst0.trans hst3, ?_⟩, hst3.added m List.mem_cons_self⟩
        intro X hs
        exact hset3 X (hX X hs) { hs with
          added := fun n hn => List.mem_cons_of_mem _ (hs.added n hn)
          not_gray := fun n hn hg =>
            (List.mem_cons.mp hg).elim (fun h => hX X hs (h ▸ hn)) (hs.not_gray n hn) }
      cases hmv : maxv m.1 with
      | none =>
        simp only [hmv, Bool.false_eq_true, if_false] at h
        exact brL (fun v hv => by rw [hmv] at hv; cases hv) s' h
      | some v =>
        by_cases hlt : v < m.2
        · simp only [hmv, hlt, decide_true, if_true] at h
          exact brX s' h
        · simp only [hmv, hlt, decide_false, Bool.false_eq_true, if_false] at h
          refine brL (fun w hw => ?_) s' h
          rw [hmv] at hw
          simp only [Option.some.injEq] at hw
          omega

/-! ### the top-level loops -/

abbrev Good (s : DgSt) (n : Node) : Prop := n ∈ s.added ∧ n ∉ s.excluded

theorem good_settled (g : Graph) (maxv : Nat → Option Nat) (s : DgSt) (hi : DInv g maxv [] s) :
    Settled g [] (Good s) s := by
  refine ⟨?_, fun _ h => h.1, fun _ _ h => (by cases h), fun _ h => h.2⟩
  intro m hm r hr
  rcases hi.complete m hm.1 (by simp) with h | h
  · exact absurd h hm.2
  · refine ⟨(h r hr).1, fun hex => hm.2 ?_⟩
    exact hi.excl_closed (r, m) (h r hr).2 hex

theorem good_mono (g : Graph) (maxv : Nat → Option Nat) (s s' : DgSt) (hi : DInv g maxv [] s)
    (ho : DOut g maxv [] s s') : ∀ n, Good s n → Good s' n := by
  intro n hn
  have := ho.settled (Good s) (good_settled g maxv s hi)
  exact ⟨this.added n hn, this.good n hn⟩

theorem dgPrev_spec (g : Graph) (maxv : Nat → Option Nat) (avail : List Node) (fuel : Nat) :
    ∀ (k : Nat) (r : Node) (s s' : DgSt) (res : Option Node), DInv g maxv [] s → r ∈ s.added →
      dgPrev g maxv avail fuel k r s = some (res, s') →
      DInv g maxv [] s' ∧ (∀ n, Good s n → Good s' n) ∧ (∀ r', res = some r' → Good s' r') := by
  intro k
  induction k with
  | zero => intro r s s' res _ _ h; simp [dgPrev] at h
  | succ k ih =>
    intro r s s' res hi hr h
    unfold dgPrev at h
    by_cases hex : (!s.excluded.contains r) = true
    · rw [if_pos hex] at h
      cases h
      refine ⟨hi, fun _ h => h, fun r' hr' => ?_⟩
      cases hr'
      exact ⟨hr, by simpa using hex⟩
    · rw [if_neg hex] at h
      split at h
      · cases h
        exact ⟨hi, fun _ h => h, fun r' hr' => nomatch hr'⟩
      · split at h
        · cases h
        next s1 hadd =>
          obtain ⟨ho, hp⟩ := add_spec g maxv fuel fuel [] _ s s1 hi hadd
          obtain ⟨h1, h2, h3⟩ := ih _ s1 s' res ho.inv hp h
          exact ⟨h1, fun n hn => h2 n (good_mono g maxv s s1 hi ho n hn), h3⟩

theorem dgList_spec (g : Graph) (maxv : Nat → Option Nat) (avail : List Node) (fuel : Nat)
    (target : Node) :
    ∀ (rs : List Node) (s : DgSt) (acc out : List Node), DInv g maxv [] s →
      (∀ r ∈ acc, r = target ∨ Good s r) →
      dgList g maxv avail fuel rs s acc = some out →
      ∃ s', DInv g maxv [] s' ∧ ∀ r ∈ out, r = target ∨ Good s' r := by
  intro rs
  induction rs with
  | nil =>
    intro s acc out hi hacc h
    cases h
    exact ⟨s, hi, hacc⟩
  | cons r rs ih =>
    intro s acc out hi hacc h
    unfold dgList at h
    split at h
    · cases h
    next s1 ha =>
      obtain ⟨ho, hr1⟩ := add_spec g maxv fuel fuel [] r s s1 hi ha
      -- what holds after `dgPrev`, whichever of its results `ro`
      have key : ∀ ro s2, dgPrev g maxv avail fuel fuel r s1 = some (ro, s2) →
          DInv g maxv [] s2 ∧ (∀ x ∈ acc, x = target ∨ Good s2 x) ∧
            ∀ r', ro = some r' → Good s2 r' := by
        intro ro s2 hp
        obtain ⟨hi2, hmono2, hres⟩ := dgPrev_spec g maxv avail fuel fuel r s1 s2 ro ho.inv hr1 hp
        exact ⟨hi2, fun x hx => (hacc x hx).imp_right fun h0 =>
          hmono2 x (good_mono g maxv s s1 hi ho x h0), hres⟩
      split at h
      · cases h
      · next s2 hp =>
        obtain ⟨hi2, hacc2, _⟩ := key _ s2 hp
        exact ih s2 acc out hi2 hacc2 h
      · next r' s2 hp =>
        obtain ⟨hi2, hacc2, hres⟩ := key _ s2 hp
        exact ih s2 (acc ++ [r']) out hi2
          (List.forall_mem_append.mpr ⟨hacc2, List.forall_mem_singleton.mpr (Or.inr (hres r' rfl))⟩) h

/-! ### the `max` map -/

def dgStep (mx : Nat → Option Nat) (d : Node) : Nat → Option Nat :=
  match mx d.1 with
  | some v => if d.2 < v then (fun p => if p = d.1 then some d.2 else mx p) else mx
  | none => fun p => if p = d.1 then some d.2 else mx p

theorem dgStep_le (mx : Nat → Option Nat) (d : Node) (p v : Nat) (h : mx p = some v) :
    ∃ v', dgStep mx d p = some v' ∧ v' ≤ v := by
  unfold dgStep
  cases hd : mx d.1 with
  | none =>
    simp only
    by_cases hp : p = d.1
    · subst hp; rw [h] at hd; cases hd
    · exact ⟨v, by simp [hp, h], Nat.le_refl _⟩
  | some w =>
    simp only
    by_cases hlt : d.2 < w
    · rw [if_pos hlt]
      by_cases hp : p = d.1
      · subst hp
        rw [h] at hd
        simp only [Option.some.injEq] at hd
        exact ⟨d.2, by simp, by omega⟩
      · exact ⟨v, by simp [hp, h], Nat.le_refl _⟩
    · rw [if_neg hlt]
      exact ⟨v, h, Nat.le_refl _⟩

theorem dgStep_self (mx : Nat → Option Nat) (d : Node) :
    ∃ v', dgStep mx d d.1 = some v' ∧ v' ≤ d.2 := by
  unfold dgStep
  cases hd : mx d.1 with
  | none => exact ⟨d.2, by simp, Nat.le_refl _⟩
  | some w =>
    simp only
    by_cases hlt : d.2 < w
    · rw [if_pos hlt]; exact ⟨d.2, by simp, Nat.le_refl _⟩
    · rw [if_neg hlt]; exact ⟨w, hd, by omega⟩

theorem dgFold_le : ∀ (ds : List Node) (mx : Nat → Option Nat) (p v : Nat), mx p = some v →
    ∃ v', ds.foldl dgStep mx p = some v' ∧ v' ≤ v
  | [], mx, p, v, h => ⟨v, h, Nat.le_refl _⟩
  | d :: ds, mx, p, v, h => by
    obtain ⟨v1, h1, hle1⟩ := dgStep_le mx d p v h
    obtain ⟨v2, h2, hle2⟩ := dgFold_le ds (dgStep mx d) p v1 h1
    exact ⟨v2, h2, by omega⟩

theorem dgFold_self : ∀ (ds : List Node) (mx : Nat → Option Nat) (d : Node), d ∈ ds →
    ∃ v', ds.foldl dgStep mx d.1 = some v' ∧ v' ≤ d.2
  | [], _, _, h => by cases h
  | e :: ds, mx, d, h => by
    rcases List.mem_cons.mp h with h | h
    · subst h
      obtain ⟨v1, h1, hle1⟩ := dgStep_self mx d
      obtain ⟨v2, h2, hle2⟩ := dgFold_le ds (dgStep mx d) d.1 v1 h1
      exact ⟨v2, h2, by omega⟩
    · exact dgFold_self ds (dgStep mx e) d h

theorem dgMax_eq (list downs : List Node) :
    dgMax list downs =
      downs.foldl dgStep (fun p => (list.find? fun n => n.1 == p).map (·.2)) := rfl

/-! ### Downgrade -/

/-- the second requirement list that `Downgrade` builds takes its versions from `actual` -/
theorem mem_refit (list actual : List Node) :
    ∀ r ∈ list.filterMap (fun m => (actual.find? fun a => a.1 == m.1).map fun a => (m.1, a.2)),
      r ∈ actual := by
  intro r hr
  obtain ⟨m, _, hm⟩ := List.mem_filterMap.mp hr
  obtain ⟨a, hf, rfl⟩ := Option.map_eq_some_iff.mp hm
  have ha1 : a.1 = m.1 := by simpa using List.find?_some hf
  exact ha1 ▸ (List.mem_of_find?_eq_some hf : (a.1, a.2) ∈ actual)

/-- **`Downgrade` stays within the requested versions and never upgrades.**  The result is the
build list of the target with a replaced requirement list `l`; every path named in `downs`
is selected at most at the requested version (or not at all), and no path of the original
build list is selected above its original version. -/
theorem downgrade_bound (g : Graph) (avail : List Node) (fuel : Nat) (target : Node)
    (downs out : List Node) (ht0 : target.2 ≠ 0) (hnone : ∀ p, g (p, 0) = [])
    (h : downgrade g avail fuel target downs = some out) :
    ∃ (s0 t : Nat → Nat) (l : List Node),
      IsSel g [target] s0 ∧ IsSel (override g target l) [target] t ∧ IsBuildList t out ∧
      (∀ d ∈ downs, d.1 ≠ target.1 → t d.1 ≤ d.2) ∧
      (∀ p, p ≠ target.1 → s0 p ≠ 0 → t p ≤ s0 p) := by
  unfold downgrade at h
  simp only at h
  split at h
  · cases h
  next full hb =>
    split at h
    · cases h
    next dl hd =>
      split at h
      · cases h
      next actual ha =>
        -- the original build list
        obtain ⟨s0, hs0, hbl0, hhead0⟩ := buildList_spec g fuel target full ht0 hnone hb
        -- the good set after the List loop
        obtain ⟨sf, hif, hdl⟩ := dgList_spec g (dgMax full.tail downs) avail fuel target
          full.tail _ [target] dl ⟨by simp, by simp, by simp, by simp⟩
          (List.forall_mem_singleton.mpr (Or.inl rfl)) hd
        have hset := good_settled g _ sf hif
        -- the first recomputed build list
        obtain ⟨s1, hs1, hbl1, _⟩ :=
          buildList_spec _ fuel target actual ht0 (override_none g target dl ht0 hnone) ha
        have hreach1 := reach_override_closed g target dl (Good sf) (fun m _ => hset.closed m) hdl
        have hact : ∀ a ∈ actual, a = target ∨ Good sf a := fun a ha' =>
          hreach1 a (hs1.reach ((hbl1 a).mp ha'))
        -- the second one
        obtain ⟨t, hst, hblt, _⟩ :=
          buildList_spec _ fuel target out ht0 (override_none g target _ ht0 hnone) h
        have hreach2 := reach_override_closed g target _ (Good sf) (fun m _ => hset.closed m)
          fun r hr => hact r (mem_refit full.tail actual r hr)
        -- every selected version other than the target's is good, hence within `max`
        have hbound : ∀ p v, p ≠ target.1 → dgMax full.tail downs p = some v → t p ≤ v := by
          intro p v hp hv
          rcases (hst p).2 with h0 | h0
          · omega
          · rcases hreach2 _ h0 with h1 | h1
            · exact absurd (congrArg Prod.fst h1) hp
            · exact hif.ok _ h1.1 h1.2 v hv
        rw [dgMax_eq] at hbound
        refine ⟨s0, t, _, hs0, hst, hblt, ?_, ?_⟩
        · intro d hd' hne
          obtain ⟨v, hv, hle⟩ := dgFold_self downs _ d hd'
          exact Nat.le_trans (hbound d.1 v hne hv) hle
        · intro p hp h0
          -- (p, s0 p) is in the tail of the original build list
          have hin : (p, s0 p) ∈ full := (hbl0 (p, s0 p)).mpr ⟨h0, rfl⟩
          have hint : (p, s0 p) ∈ full.tail := by
            cases full with
            | nil => cases hin
            | cons x xs =>
              simp only [List.head?_cons, Option.some.injEq] at hhead0
              exact (List.mem_cons.mp hin).resolve_left fun h1 =>
                hp (congrArg Prod.fst (h1.trans hhead0))
          -- so the first `max` map has its version there
          have hinit : ∃ v, (full.tail.find? fun n => n.1 == p).map (·.2) = some v ∧ v ≤ s0 p := by
            cases hf : full.tail.find? (fun n => n.1 == p) with
            | none =>
              have := List.find?_eq_none.mp hf (p, s0 p) hint
              simp at this
            | some n =>
              have hn1 : n.1 = p := by simpa using List.find?_some hf
              have hn2 : n ∈ full := List.mem_of_mem_tail (List.mem_of_find?_eq_some hf)
              exact ⟨n.2, rfl, by rw [((hbl0 n).mp hn2).2, hn1]; exact Nat.le_refl _⟩
          obtain ⟨v, hv, hle⟩ := hinit
          obtain ⟨v', hv', hle'⟩ := dgFold_le downs
            (fun q => (full.tail.find? fun n => n.1 == q).map (·.2)) p v hv
          exact Nat.le_trans (hbound p v' hp hv') (Nat.le_trans hle' hle)

end CueVerif.Mvs
