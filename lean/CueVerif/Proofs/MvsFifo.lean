import CueVerif.Proofs.MvsOps
/-!
The executable schedule the driver uses (`runFifo`, `buildListUp`, `buildList`) computes the
selection `IsSel`: so the driver's answers for `mvs`, `build`, `upgrade`, `upgradeall` (and
the build lists inside `req`) are the specified build lists, not just "some run".
-/
namespace CueVerif.Mvs

theorem fifoInv_init (g : Graph) (roots : List Node) : FifoInv g roots (init roots) :=
  (inv_init g roots).toFifo rfl rfl

theorem fifoInv_step (g : Graph) (roots : List Node) (s : St) (m : Node) (rest : List Node)
    (ht : s.todo = m :: rest) (hi : FifoInv g roots s) :
    FifoInv g roots
      { s with todo := rest ++ ((g m).eraseDups.filter fun r => !(s.added.contains r)),
               added := s.added ++ ((g m).eraseDups.filter fun r => !(s.added.contains r)),
               required := m :: s.required, sel := bumpAll s.sel (g m) } := by
  have hnew : ∀ n, n ∈ ((g m).eraseDups.filter fun r => !(s.added.contains r)) ↔
      n ∈ g m ∧ n ∉ s.added := by
    intro n
    simp [List.mem_filter, List.mem_eraseDups]
  have hm_added : m ∈ s.added := (hi.added_iff m).mpr (Or.inl (by rw [ht]; exact List.mem_cons_self))
  obtain ⟨n5, n6⟩ := sel_require m hi.sel_ub hi.sel_att
  refine ⟨?_, ?_, ?_, fun n hn => List.mem_append_left _ (hi.roots_added n hn), n5, n6⟩
  · intro n
    show n ∈ s.added ++ _ ↔ n ∈ rest ++ _ ∨ n ∈ m :: s.required
    rw [List.mem_append, List.mem_append, hi.added_iff n, ht, List.mem_cons, List.mem_cons]
    exact (or_congr_left or_right_comm).trans (or_assoc.trans or_comm)
  · intro n hn
    rcases List.mem_append.mp hn with hn | hn
    · exact hi.added_reach n hn
    · exact Reach.dep (hi.added_reach m hm_added) ((hnew n).mp hn).1
  · intro m' hm' n hn
    show n ∈ s.added ++ _
    rcases List.mem_cons.mp hm' with rfl | h
    · by_cases hin : n ∈ s.added
      · exact List.mem_append_left _ hin
      · exact List.mem_append_right _ ((hnew n).mpr ⟨hn, hin⟩)
    · exact List.mem_append_left _ (hi.closed m' h n hn)

theorem fifoInv_run (g : Graph) (roots : List Node) :
    ∀ (fuel : Nat) (s : St), FifoInv g roots s → FifoInv g roots (runFifo g fuel s) := by
  intro fuel
  induction fuel with
  | zero => intro s hi; exact hi
  | succ fuel ih =>
    intro s hi
    unfold runFifo
    split
    · exact hi
    · rename_i m rest ht
      exact ih _ (fifoInv_step g roots s m rest ht hi)

theorem graphBuildList_single {sel : Nat → Nat} {entries : List Node} (t : Node)
    (ht : sel t.1 ≠ 0) (he : IsBuildList sel entries) :
    IsBuildList sel (graphBuildList [t] sel entries) ∧
      (graphBuildList [t] sel entries).head? = some (t.1, sel t.1) := by
  have hrp : rootPart sel [t] [] = [(t.1, sel t.1)] := by simp [rootPart, ht]
  unfold graphBuildList
  rw [hrp]
  refine ⟨fun n => ?_, rfl⟩
  simp only [List.mem_append, List.mem_singleton, mem_sortByPath, List.mem_filter, he n]
  constructor
  · rintro (rfl | ⟨h, _⟩)
    · exact ⟨ht, rfl⟩
    · exact h
  · intro h
    by_cases hp : n.1 = t.1
    · exact Or.inl (Prod.ext hp (h.2.trans (congrArg sel hp)))
    · exact Or.inr ⟨h, by simp [Ne.symm hp]⟩

/-- `buildListUp` returns the build list of the graph it is given: there is a selection
`sel` (the unique one) of which the result is the build list, target first -/
theorem buildListUp_spec (g : Graph) (fuel : Nat) (target : Node) (list : List Node)
    (ht0 : target.2 ≠ 0) (h : buildListUp g fuel target = some list) :
    ∃ sel, IsSel g [target] sel ∧ IsBuildList sel list ∧ list.head? = some (target.1, sel target.1) := by
  unfold buildListUp at h
  simp only at h
  split at h
  · rename_i hte
    obtain ⟨hadd, hsel⟩ := fifo_done g [target] _
      (fifoInv_run g [target] fuel _ (fifoInv_init g [target])) (by simpa using hte)
    simp only [Option.some.injEq] at h
    subst h
    have hroot := (hsel target.1).1 target.2 (Reach.root List.mem_cons_self)
    refine ⟨_, hsel, graphBuildList_single target (by omega) fun n => ?_⟩
    simp only [List.mem_map, List.mem_filter, List.mem_eraseDups, bne_iff_ne]
    constructor
    · rintro ⟨p, ⟨_, hp⟩, rfl⟩
      exact ⟨hp, rfl⟩
    · intro hn
      exact ⟨n.1, ⟨⟨n, (hadd n).mpr (hsel.reach hn), rfl⟩, hn.2 ▸ hn.1⟩, Prod.ext rfl hn.2.symm⟩
  · cases h

theorem upGraph_id (g : Graph) (hnone : ∀ p, g (p, 0) = []) : upGraph g (fun m => m) = g := by
  funext m
  unfold upGraph
  simp only [ne_eq, not_true_eq_false, if_false]
  split
  · exact (nil_of_none hnone ‹_›).symm
  · rfl

theorem buildList_spec (g : Graph) (fuel : Nat) (target : Node) (list : List Node)
    (ht0 : target.2 ≠ 0) (hnone : ∀ p, g (p, 0) = []) (h : buildList g fuel target = some list) :
    ∃ sel, IsSel g [target] sel ∧ IsBuildList sel list ∧
      list.head? = some (target.1, sel target.1) := by
  unfold buildList at h
  rw [upGraph_id g hnone] at h
  exact buildListUp_spec g fuel target list ht0 h

end CueVerif.Mvs
