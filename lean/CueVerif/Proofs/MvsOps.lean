import CueVerif.Spec.MvsOps
import CueVerif.Proofs.Mvs
/-!
Upgrade / UpgradeAll: `buildList` with an upgrade callback is `buildList` on the graph
`upGraph g up`, which has every edge of `g`; hence nothing reachable is lost and no selected
version is lowered, and the requested versions are reachable.
-/
namespace CueVerif.Mvs

theorem reach_mono (g g' : Graph) (roots : List Node) (h : ∀ m n, n ∈ g m → n ∈ g' m) :
    ∀ n, Reach g roots n → Reach g' roots n :=
  reach_closed (fun _ hn _ hk => Reach.dep hn (h _ _ hk)) fun _ => Reach.root

theorem reach_trans (g : Graph) (roots roots' : List Node)
    (h : ∀ r ∈ roots', Reach g roots r) : ∀ n, Reach g roots' n → Reach g roots n :=
  reach_closed (fun _ hn _ hk => Reach.dep hn hk) h

theorem reach_of_reach (g : Graph) (roots : List Node) {r n : Node} (hr : Reach g roots r)
    (h : Reach g [r] n) : Reach g roots n :=
  reach_trans g roots [r] (fun _ hx => List.mem_singleton.mp hx ▸ hr) n h

theorem foldOpt_cons_some {σ α : Type} {f : σ → α → Option σ} {s s' : σ} {a : α} {as : List α}
    (h : foldOpt f s (a :: as) = some s') : ∃ s1, f s a = some s1 ∧ foldOpt f s1 as = some s' := by
  unfold foldOpt at h
  split at h
  · cases h
  · next s1 h1 => exact ⟨s1, h1, h⟩

/-- two early-exit folds that commute with a projection `π` of the state compute projected results -/
theorem foldOpt_map {σ τ α : Type} {f : σ → α → Option σ} {f' : τ → α → Option τ} (π : σ → τ)
    (h : ∀ s a, (f s a).map π = f' (π s) a) :
    ∀ (as : List α) (s : σ), (foldOpt f s as).map π = foldOpt f' (π s) as
  | [], _ => rfl
  | a :: as, s => by
    unfold foldOpt
    rw [← h s a]
    cases f s a with
    | none => rfl
    | some s1 => exact foldOpt_map π h as s1

/-- a node at the selected version of its path (not "none") is reachable: so are the members
of a build list -/
theorem IsSel.reach {g : Graph} {roots : List Node} {sel : Nat → Nat} (hsel : IsSel g roots sel)
    {n : Node} (h : n.2 ≠ 0 ∧ n.2 = sel n.1) : Reach g roots n := by
  rcases (hsel n.1).2 with h0 | h0
  · exact absurd (h.2.trans h0) h.1
  · rw [← h.2] at h0; exact h0

theorem nil_of_none {g : Graph} (hnone : ∀ p, g (p, 0) = []) {m : Node} (h : m.2 = 0) :
    g m = [] := by
  rw [show m = (m.1, 0) by rw [← h], hnone]

theorem mem_upGraph_of_ne (g : Graph) (up : Node → Node) {m n : Node} (hm : m.2 ≠ 0)
    (h : n ∈ g m) : n ∈ upGraph g up m := by
  unfold upGraph
  simp only [hm, if_false]
  split
  · exact List.mem_cons_of_mem _ h
  · exact h

theorem mem_upGraph (g : Graph) (up : Node → Node) (hnone : ∀ p, g (p, 0) = [])
    (m n : Node) (h : n ∈ g m) : n ∈ upGraph g up m :=
  mem_upGraph_of_ne g up (fun h0 => by rw [nil_of_none hnone h0] at h; cases h) h

theorem up_mem_upGraph (g : Graph) (up : Node → Node) (m : Node) (h : up m ≠ m) :
    up m ∈ upGraph g up m := by
  unfold upGraph
  simp only [h, ne_eq, not_false_eq_true, if_true]
  exact List.mem_cons_self

theorem reach_up (g : Graph) (up : Node → Node) (roots : List Node) (m : Node)
    (h : Reach (upGraph g up) roots m) : Reach (upGraph g up) roots (up m) := by
  by_cases hu : up m = m
  · rw [hu]; exact h
  · exact Reach.dep h (up_mem_upGraph g up m hu)

/-- `buildList` with any upgrade callback never lowers a selected version -/
theorem up_never_lowers (g : Graph) (up : Node → Node) (roots : List Node) (s t : Nat → Nat)
    (hnone : ∀ p, g (p, 0) = [])
    (hs : IsSel g roots s) (ht : IsSel (upGraph g up) roots t) : ∀ p, s p ≤ t p :=
  isSel_le_of_reach_sub g _ roots roots s t hs ht
    (reach_mono g _ roots (mem_upGraph g up hnone))

theorem mem_override_upgradeList (g : Graph) (target : Node) (ups : List Node) (m n : Node)
    (h : n ∈ g m) : n ∈ override g target (upgradeList g target ups) m := by
  unfold override
  split
  · rename_i hm
    subst hm
    unfold upgradeList
    exact List.mem_append_left _ h
  · exact h

theorem override_none (g : Graph) (target : Node) (l : List Node) (ht : target.2 ≠ 0)
    (hnone : ∀ p, g (p, 0) = []) : ∀ p, override g target l (p, 0) = [] := by
  intro p
  unfold override
  split
  · rename_i h
    exfalso; apply ht; rw [← h]
  · exact hnone p

theorem override_congr (g : Graph) (main : Node) (l l' : List Node) (h : ∀ n, n ∈ l ↔ n ∈ l') :
    ∀ m n, n ∈ override g main l m ↔ n ∈ override g main l' m := by
  intro m n
  unfold override
  split
  · exact h n
  · exact Iff.rfl

/-- `Upgrade` never lowers a selected version -/
theorem upgrade_never_lowers (g : Graph) (target : Node) (ups : List Node) (s t : Nat → Nat)
    (ht0 : target.2 ≠ 0) (hnone : ∀ p, g (p, 0) = [])
    (hs : IsSel g [target] s) (ht : IsSel (upgradeGraph g target ups) [target] t) :
    ∀ p, s p ≤ t p := by
  refine isSel_le_of_reach_sub g _ [target] [target] s t hs ht ?_
  intro n hn
  have h1 := reach_mono g _ [target] (mem_override_upgradeList g target ups) n hn
  exact reach_mono _ _ [target]
    (mem_upGraph _ (upgradeFn ups) (override_none g target _ ht0 hnone)) n h1

theorem upgradeTo_ge (ups : List Node) (u : Node) (h : u ∈ ups) :
    ∃ v, upgradeTo ups u.1 = some v ∧ u.2 ≤ v := by
  induction ups with
  | nil => cases h
  | cons a as ih =>
    rcases List.mem_cons.mp h with h | h
    · subst h
      unfold upgradeTo
      cases hq : upgradeTo as u.1 with
      | none => exact ⟨u.2, by simp, Nat.le_refl _⟩
      | some v =>
        simp only [if_true]
        by_cases hv : v < u.2
        · exact ⟨u.2, by simp [hv], Nat.le_refl _⟩
        · exact ⟨v, by simp [hv], by omega⟩
    · obtain ⟨v, hv, hle⟩ := ih h
      unfold upgradeTo
      rw [hv]
      by_cases ha : a.1 = u.1
      · simp only [ha, if_true]
        by_cases hlt : v < a.2
        · exact ⟨a.2, by simp [hlt], by omega⟩
        · exact ⟨v, by simp [hlt], hle⟩
      · exact ⟨v, by simp [ha], hle⟩

theorem upgradeList_has_path (g : Graph) (target : Node) (ups : List Node) (u : Node)
    (h : u ∈ ups) : ∃ x, (u.1, x) ∈ upgradeList g target ups := by
  unfold upgradeList
  by_cases hin : (g target).any (fun m => m.1 == u.1) = true
  · obtain ⟨m, hm, hp⟩ := List.any_eq_true.mp hin
    refine ⟨m.2, List.mem_append_left _ ?_⟩
    have : m.1 = u.1 := by simpa using hp
    rw [← this]; exact hm
  · refine ⟨0, List.mem_append_right _ ?_⟩
    refine List.mem_map.mpr ⟨u, List.mem_filter.mpr ⟨h, ?_⟩, rfl⟩
    simp only [Bool.not_eq_true] at hin
    simp [hin]

/-- `Upgrade` selects at least every requested version -/
theorem upgrade_selects_requested (g : Graph) (target : Node) (ups : List Node) (t : Nat → Nat)
    (ht0 : target.2 ≠ 0) (ht : IsSel (upgradeGraph g target ups) [target] t)
    (u : Node) (hu : u ∈ ups) : u.2 ≤ t u.1 := by
  obtain ⟨x, hx⟩ := upgradeList_has_path g target ups u hu
  obtain ⟨v, hv, hle⟩ := upgradeTo_ge ups u hu
  have h1 : (u.1, x) ∈ upgradeGraph g target ups target :=
    mem_upGraph_of_ne _ _ ht0 (by unfold override; simp only [if_true]; exact hx)
  have h2 : Reach (upgradeGraph g target ups) [target] (u.1, x) :=
    Reach.dep (Reach.root List.mem_cons_self) h1
  have h3 := reach_up (override g target (upgradeList g target ups)) (upgradeFn ups) [target] _ h2
  have h4 : upgradeFn ups (u.1, x) = (u.1, v) := by
    unfold upgradeFn
    simp only [hv]
  rw [h4] at h3
  exact Nat.le_trans hle ((ht u.1).1 v h3)

/-- `UpgradeAll`: every module met by the traversal is selected at least at the version
`reqs.Upgrade` names for it -/
theorem upgradeAll_selects_latest (g : Graph) (target : Node) (latest : Node → Node)
    (t : Nat → Nat) (ht : IsSel (upgradeAllGraph g target latest) [target] t)
    (m : Node) (hm : Reach (upgradeAllGraph g target latest) [target] m)
    (hp : m.1 ≠ target.1) : (latest m).2 ≤ t (latest m).1 := by
  have h := reach_up g (upgradeAllFn target latest) [target] m hm
  have h2 : upgradeAllFn target latest m = latest m := by
    unfold upgradeAllFn; simp [hp]
  rw [h2] at h
  exact (ht (latest m).1).1 _ h

theorem mem_insertByPath (x n : Node) (l : List Node) :
    n ∈ insertByPath x l ↔ n = x ∨ n ∈ l := by
  induction l with
  | nil => simp [insertByPath]
  | cons y ys ih =>
    unfold insertByPath
    split
    · simp
    · rw [List.mem_cons, ih, List.mem_cons, or_left_comm]

/-- the final `slices.SortFunc` of `Req` only permutes -/
theorem mem_sortByPath (n : Node) (l : List Node) : n ∈ sortByPath l ↔ n ∈ l := by
  induction l with
  | nil => simp [sortByPath]
  | cons x xs ih =>
    show n ∈ insertByPath x (sortByPath xs) ↔ _
    rw [mem_insertByPath, ih, List.mem_cons]

end CueVerif.Mvs
