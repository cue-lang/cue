import CueVerif.Proofs.MvsOps
import CueVerif.Proofs.Lib
/-!
`Graph.BuildList`'s result does not depend on the iteration order of the `selected` map:
sorting by path two lists that hold the same entries, with pairwise distinct paths, gives the
same list.
-/
namespace CueVerif.Mvs

/-- strictly increasing paths -/
abbrev StrictByPath (l : List Node) : Prop := l.Pairwise fun a b => a.1 < b.1

theorem insertByPath_strict (x : Node) (l : List Node) (hl : StrictByPath l)
    (hx : ∀ y ∈ l, y.1 ≠ x.1) : StrictByPath (insertByPath x l) := by
  induction l with
  | nil => simp [insertByPath, StrictByPath]
  | cons y ys ih =>
    have hl' := List.pairwise_cons.mp hl
    unfold insertByPath
    split
    · rename_i hle
      have hne := hx y List.mem_cons_self
      have hlt : x.1 < y.1 := by omega
      refine List.pairwise_cons.mpr ⟨?_, hl⟩
      intro z hz
      rcases List.mem_cons.mp hz with e | e
      · subst e; exact hlt
      · have := hl'.1 z e
        omega
    · rename_i hle
      refine List.pairwise_cons.mpr ⟨?_, ih hl'.2 fun z hz => hx z (List.mem_cons_of_mem _ hz)⟩
      intro z hz
      rcases (mem_insertByPath x z ys).mp hz with e | e
      · subst e; omega
      · exact hl'.1 z e

theorem sortByPath_strict (l : List Node) (hp : l.Pairwise fun a b => a.1 ≠ b.1) :
    StrictByPath (sortByPath l) := by
  induction l with
  | nil => simp [sortByPath, StrictByPath]
  | cons x xs ih =>
    have hp' := List.pairwise_cons.mp hp
    show StrictByPath (insertByPath x (sortByPath xs))
    refine insertByPath_strict x _ (ih hp'.2) ?_
    intro y hy
    have := hp'.1 y ((mem_sortByPath y xs).mp hy)
    exact fun e => this e.symm

/-- sorting by path is insensitive to the order of the input -/
theorem sortByPath_order_indep (l1 l2 : List Node)
    (h1 : l1.Pairwise fun a b => a.1 ≠ b.1) (h2 : l2.Pairwise fun a b => a.1 ≠ b.1)
    (h : ∀ n, n ∈ l1 ↔ n ∈ l2) : sortByPath l1 = sortByPath l2 := by
  refine pairwise_ext (fun _ _ => Nat.lt_asymm) (sortByPath_strict l1 h1) (sortByPath_strict l2 h2) ?_
  intro n
  rw [mem_sortByPath, mem_sortByPath, h]

/-- **`Graph.BuildList` is a function of the graph alone**: two iteration orders of the
`selected` map (same entries, one per path) give the same list. -/
theorem graphBuildList_order_indep (roots : List Node) (sel : Nat → Nat) (e1 e2 : List Node)
    (h1 : e1.Pairwise fun a b => a.1 ≠ b.1) (h2 : e2.Pairwise fun a b => a.1 ≠ b.1)
    (h : ∀ n, n ∈ e1 ↔ n ∈ e2) :
    graphBuildList roots sel e1 = graphBuildList roots sel e2 := by
  unfold graphBuildList
  congr 1
  refine sortByPath_order_indep _ _ (h1.filter _) (h2.filter _) ?_
  intro n
  simp only [List.mem_filter, h]

/-- the part of `graphBuildList` after the roots is strictly sorted by path -/
theorem graphBuildList_sorted (roots : List Node) (e : List Node)
    (h : e.Pairwise fun a b => a.1 ≠ b.1) :
    StrictByPath (sortByPath (e.filter fun x => !(roots.any fun r => r.1 == x.1))) :=
  sortByPath_strict _ (h.filter _)

end CueVerif.Mvs
