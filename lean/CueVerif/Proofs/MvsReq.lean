import CueVerif.Proofs.MvsDfs
import CueVerif.Proofs.MvsFifo
/-!
`Req` (Algorithm R of https://research.swtch.com/vgo-mvs, as written in mvs.go):
for every run that does not run out of fuel the returned list is sufficient (its build list
is the original one), contains `base`, and no element outside `base` can be dropped.

Key facts about the postorder: it is a concatenation of depth-first trees, each ending in
its root, a build-list element; the prefix up to a root is closed under requirements.  So in
the reverse postorder loop only tree roots can be appended to `min`, and a root appended later
(an earlier tree) cannot reach a root appended earlier.

`req_spec` at the end puts `BuildList` (Proofs/MvsFifo.lean), Algorithm R and the final sort together.
-/
namespace CueVerif.Mvs

theorem nodup_split_unique {α : Type} (x : α) :
    ∀ (a a' b b' : List α), (a ++ x :: b).Nodup → a ++ x :: b = a' ++ x :: b' → a = a' ∧ b = b'
  | [], [], _, _, _, h => ⟨rfl, (List.cons.inj h).2⟩
  | [], _ :: a', _, _, hn, h => by
    obtain ⟨rfl, rfl⟩ := List.cons.inj h
    exact absurd (List.mem_append_right a' List.mem_cons_self) (List.nodup_cons.mp hn).1
  | _ :: a, [], _, _, hn, h => by
    obtain ⟨rfl, -⟩ := List.cons.inj h
    exact absurd (List.mem_append_right a List.mem_cons_self) (List.nodup_cons.mp hn).1
  | _ :: a, _ :: a', b, b', hn, h => by
    obtain ⟨rfl, ht⟩ := List.cons.inj h
    obtain ⟨rfl, hb⟩ := nodup_split_unique x a a' b b' (List.nodup_cons.mp hn).2 ht
    exact ⟨rfl, hb⟩

/-! ### phase 1: the postorder -/

structure TopInv (gc : Graph) (main : Node) (list : List Node) (s : DfsSt) : Prop where
  cache_iff : ∀ n, n ∈ s.cache ↔ n = main ∨ n ∈ s.post
  nodup : s.post.Nodup
  main_notin : main ∉ s.post
  closed : ∀ n ∈ s.post, ∀ k ∈ gc n, k = main ∨ k ∈ s.post
  cover : ∀ x ∈ s.post, ∃ pre rr suf, s.post = pre ++ rr :: suf ∧ rr ∈ list ∧
    (x ∈ pre ∨ x = rr) ∧ Reach gc [rr] x ∧
    (∀ n ∈ pre ++ [rr], ∀ k ∈ gc n, k = main ∨ k ∈ pre ++ [rr])

theorem topInv_init (gc : Graph) (main : Node) (list : List Node) :
    TopInv gc main list { cache := [main], post := [] } where
  cache_iff := by simp
  nodup := List.nodup_nil
  main_notin := by simp
  closed := by simp
  cover := by simp

/-- a node of the postorder is reached from a build-list root that comes after it, or it is
the root of its depth-first tree, and then the postorder up to it is closed under requirements -/
theorem TopInv.root_or_below {gc : Graph} {main : Node} {list : List Node} {d : DfsSt}
    (hd : TopInv gc main list d) {a b : List Node} {m : Node} (hp : d.post = a ++ m :: b) :
    (∃ rr ∈ b, rr ∈ list ∧ Reach gc [rr] m) ∨
      ∀ n ∈ a ++ [m], ∀ k ∈ gc n, k = main ∨ k ∈ a ++ [m] := by
  obtain ⟨pre, rr, suf, hsplit, hrr, hxin, hreach, hcl⟩ := hd.cover m (by rw [hp]; simp)
  rcases hxin with hin | rfl
  · left
    obtain ⟨p1, p2, rfl⟩ := List.append_of_mem hin
    have e1 : d.post = p1 ++ m :: (p2 ++ rr :: suf) := by rw [hsplit]; simp
    have := nodup_split_unique m p1 a (p2 ++ rr :: suf) b (e1 ▸ hd.nodup) (e1.symm.trans hp)
    exact ⟨rr, by rw [← this.2]; simp, hrr, hreach⟩
  · right
    have := nodup_split_unique m pre a suf b (hsplit ▸ hd.nodup) (hsplit.symm.trans hp)
    rw [← this.1]
    exact hcl

theorem top_step (gc : Graph) (main : Node) (list : List Node) (f : Nat) (m : Node)
    (s s' : DfsSt) (hi : TopInv gc main list s) (hm : m ∈ list)
    (h : walk gc f m s = some s') :
    TopInv gc main list s' ∧ m ∈ s'.cache ∧ (∀ n ∈ s.post, n ∈ s'.post) := by
  obtain ⟨new, hw, hin, hnot⟩ := walk_spec gc f m s s' h
  by_cases hc : m ∈ s.cache
  · have := hin hc
    subst this
    exact ⟨hi, hc, fun _ h => h⟩
  · obtain ⟨t, ht⟩ := hnot hc
    have hpost : s'.post = s.post ++ new := hw.post_eq
    have hmem : ∀ n, n ∈ s'.post ↔ n ∈ s.post ∨ n ∈ new := by
      intro n; rw [hpost, List.mem_append]
    have hcache : ∀ n, n ∈ s'.cache ↔ n = main ∨ n ∈ s'.post := by
      intro n
      rw [hw.cache_iff, hi.cache_iff, hmem, or_assoc]
    have hmaincache : main ∈ s.cache := (hi.cache_iff main).mpr (Or.inl rfl)
    have hclosed : ∀ n ∈ s'.post, ∀ k ∈ gc n, k = main ∨ k ∈ s'.post := by
      intro n hn k hk
      rcases (hmem n).mp hn with hn | hn
      · exact (hi.closed n hn k hk).imp_right fun h => (hmem k).mpr (Or.inl h)
      · exact (hcache k).mp (hw.closed n hn k hk)
    refine ⟨⟨hcache, ?_, ?_, hclosed, ?_⟩, hw.roots_in m List.mem_cons_self,
      fun n hn => (hmem n).mpr (Or.inl hn)⟩
    · rw [hpost, List.nodup_append]
      exact ⟨hi.nodup, hw.nodup, fun a ha b hb hab =>
        hw.fresh b hb ((hi.cache_iff b).mpr (Or.inr (hab ▸ ha)))⟩
    · intro hmain
      exact ((hmem main).mp hmain).elim hi.main_notin fun h => hw.fresh main h hmaincache
    · intro x hx
      rcases (hmem x).mp hx with hx | hx
      · obtain ⟨pre, rr, suf, hsplit, hrr, hxin, hreach, hcl⟩ := hi.cover x hx
        refine ⟨pre, rr, suf ++ new, ?_, hrr, hxin, hreach, hcl⟩
        rw [hpost, hsplit]
        simp
      · have hsp : s'.post = (s.post ++ t) ++ m :: [] := by
          rw [hpost, ht, List.append_assoc]
        refine ⟨s.post ++ t, m, [], hsp, hm, ?_, ?_, ?_⟩
        · rw [ht, List.mem_append, List.mem_singleton] at hx
          exact hx.imp_left (List.mem_append_right _)
        · obtain ⟨r, hr, hre⟩ := hw.reach x hx
          exact List.mem_singleton.mp hr ▸ hre
        · rw [← hsp]
          exact hclosed

theorem top_fold (gc : Graph) (main : Node) (list : List Node) (f : Nat) :
    ∀ (ms : List Node) (s s' : DfsSt), (∀ m ∈ ms, m ∈ list) → TopInv gc main list s →
      foldOpt (fun s m => walk gc f m s) s ms = some s' →
      TopInv gc main list s' ∧ (∀ m ∈ ms, m = main ∨ m ∈ s'.post) ∧
        (∀ n ∈ s.post, n ∈ s'.post) := by
  intro ms
  induction ms with
  | nil =>
    intro s s' _ hi h
    cases h
    exact ⟨hi, by simp, fun _ h => h⟩
  | cons m ms ih =>
    intro s s' hsub hi h
    obtain ⟨s1, hw, h⟩ := foldOpt_cons_some h
    obtain ⟨hi1, hm1, hmono1⟩ := top_step gc main list f m s s1 hi (hsub m List.mem_cons_self) hw
    obtain ⟨hi2, hms, hmono2⟩ := ih s1 s' (fun x hx => hsub x (List.mem_cons_of_mem _ hx)) hi1 h
    exact ⟨hi2, List.forall_mem_cons.mpr ⟨((hi1.cache_iff m).mp hm1).imp_right (hmono2 m), hms⟩,
      fun n hn => hmono2 n (hmono1 n hn)⟩

/-! ### phase 2: `have` and `min` -/

/-- `have` is exactly what the elements of `min` reach in the cut graph -/
structure HvInv (gc : Graph) (s : ReqSt) : Prop where
  closed : ∀ n ∈ s.hv, ∀ k ∈ gc n, k ∈ s.hv
  gen : ∀ n ∈ s.hv, ∃ r ∈ s.min, Reach gc [r] n
  min_in : ∀ r ∈ s.min, r ∈ s.hv

theorem hv_step (gc : Graph) (f : Nat) (m : Node) (s : ReqSt) (hv' : List Node)
    (hi : HvInv gc s) (h : mark gc f m s.hv = some hv') :
    HvInv gc { hv := hv', min := s.min ++ [m] } ∧ (∀ n ∈ s.hv, n ∈ hv') ∧ m ∈ hv' := by
  have hm := mark_spec gc f m s.hv hv' h
  refine ⟨⟨hm.closed_all hi.closed, ?_, ?_⟩, hm.mono, hm.roots_in m List.mem_cons_self⟩
  · intro n hn
    rcases hm.reach n hn with h | ⟨r, hr, hre⟩
    · obtain ⟨r, hr, hre⟩ := hi.gen n h
      exact ⟨r, List.mem_append_left _ hr, hre⟩
    · exact ⟨r, List.mem_append_right _ hr, hre⟩
  · exact List.forall_mem_append.mpr ⟨fun r hr => hm.mono r (hi.min_in r hr), hm.roots_in⟩

theorem reqBase_spec (gc : Graph) (f : Nat) (sel : Nat → Nat) (base : List Nat) :
    ∀ (ps hb : List Nat) (s s' : ReqSt), (∀ p ∈ ps, p ∈ base) → HvInv gc s →
      (∀ r ∈ s.min, r.1 ∈ base ∧ r.2 = sel r.1) → (∀ p ∈ hb, (p, sel p) ∈ s.min) →
      reqBase gc f sel ps hb s = some s' →
      HvInv gc s' ∧ (∀ r ∈ s'.min, r.1 ∈ base ∧ r.2 = sel r.1) ∧
        (∀ p ∈ ps, (p, sel p) ∈ s'.min) ∧ (∀ r ∈ s.min, r ∈ s'.min) := by
  intro ps
  induction ps with
  | nil =>
    intro hb s s' _ hi hmin _ h
    cases h
    exact ⟨hi, hmin, by simp, fun _ h => h⟩
  | cons p ps ih =>
    intro hb s s' hsub hi hmin hhb h
    obtain ⟨hp, hsub⟩ := List.forall_mem_cons.mp hsub
    unfold reqBase at h
    by_cases hc : hb.contains p = true
    · rw [if_pos hc] at h
      obtain ⟨h1, h2, h3, h4⟩ := ih hb s s' hsub hi hmin hhb h
      exact ⟨h1, h2, List.forall_mem_cons.mpr ⟨h4 _ (hhb p (by simpa using hc)), h3⟩, h4⟩
    · rw [if_neg hc] at h
      split at h
      · cases h
      next hv' hmk =>
      obtain ⟨hi', _, _⟩ := hv_step gc f (p, sel p) s hv' hi hmk
      have hlast : (p, sel p) ∈ s.min ++ [(p, sel p)] := List.mem_append_right _ List.mem_cons_self
      obtain ⟨h1, h2, h3, h4⟩ := ih (p :: hb) _ s' hsub hi'
        (List.forall_mem_append.mpr ⟨hmin, List.forall_mem_singleton.mpr ⟨hp, rfl⟩⟩)
        (List.forall_mem_cons.mpr ⟨hlast, fun q hq => List.mem_append_left _ (hhb q hq)⟩) h
      exact ⟨h1, h2, List.forall_mem_cons.mpr ⟨h4 _ hlast, h3⟩,
        fun r hr => h4 r (List.mem_append_left _ hr)⟩

/-- the invariant of the reverse-postorder loop; `done` is the processed suffix of postorder -/
structure LoopInv (gc : Graph) (sel : Nat → Nat) (base : List Nat) (done : List Node)
    (s : ReqSt) : Prop where
  hv : HvInv gc s
  sel_done : ∀ x ∈ done, x.2 ≠ 0 → sel x.1 = x.2 → x ∈ s.hv
  min_sel : ∀ r ∈ s.min, r.2 = sel r.1
  added_done : ∀ r ∈ s.min, r.1 ∉ base → r ∈ done ∧ r.2 ≠ 0
  indep : ∀ r ∈ s.min, r.1 ∉ base → ∀ r' ∈ s.min, r' ≠ r → ¬ Reach gc [r'] r

theorem cut_main (g : Graph) (main : Node) : cut g main main = [] := by
  simp [cut]

theorem reqLoop_spec (g : Graph) (main : Node) (list : List Node) (f : Nat) (sel : Nat → Nat)
    (base : List Nat) (d : DfsSt) (hd : TopInv (cut g main) main list d)
    (hls : ∀ n ∈ list, n.2 ≠ 0 ∧ sel n.1 = n.2) :
    ∀ (ms done : List Node) (s s' : ReqSt), d.post = ms.reverse ++ done →
      LoopInv (cut g main) sel base done s →
      reqLoop (cut g main) f sel ms s = some s' →
      LoopInv (cut g main) sel base d.post s' ∧ ∀ r ∈ s.min, r ∈ s'.min := by
  intro ms
  induction ms with
  | nil =>
    intro done s s' hp hi h
    cases h
    simp only [List.reverse_nil, List.nil_append] at hp
    rw [hp]; exact ⟨hi, fun _ h => h⟩
  | cons m ms ih =>
    intro done s s' hp hi h
    have hp' : d.post = ms.reverse ++ (m :: done) := by
      rw [hp, List.reverse_cons, List.append_assoc]; rfl
    -- the state is unchanged: `m` joins the processed suffix
    have skip : (m.2 ≠ 0 → sel m.1 = m.2 → m ∈ s.hv) →
        LoopInv (cut g main) sel base (m :: done) s := fun hm =>
      { hi with
        sel_done := List.forall_mem_cons.mpr ⟨hm, hi.sel_done⟩
        added_done := fun r hr hb => (hi.added_done r hr hb).imp_left (List.mem_cons_of_mem _) }
    unfold reqLoop at h
    by_cases hold : m.2 = 0 ∨ sel m.1 ≠ m.2
    · rw [if_pos hold] at h
      exact ih (m :: done) s s' hp' (skip fun h0 hs => hold.elim (absurd · h0) (absurd hs)) h
    · rw [if_neg hold] at h
      obtain ⟨hm0, hmsel⟩ := not_or.mp hold
      replace hmsel : sel m.1 = m.2 := Decidable.not_not.mp hmsel
      by_cases hc : s.hv.contains m = true
      · rw [if_pos hc] at h
        exact ih (m :: done) s s' hp' (skip fun _ _ => by simpa using hc) h
      · rw [if_neg hc] at h
        have hmnot : m ∉ s.hv := by simpa using hc
        split at h
        · cases h
        next hv' hmk =>
          obtain ⟨hi', hmono, hmin'⟩ := hv_step (cut g main) f m s hv' hi.hv hmk
          refine (ih (m :: done) _ s' hp' ?_ h).imp id
            fun hm r hr => hm r (List.mem_append_left _ hr)
          -- `m` is the root of its depth-first tree: no root already processed reaches it
          have hcl := (hd.root_or_below hp').resolve_left fun ⟨rr, hrd, hrr, hreach⟩ =>
            hmnot (closed_reach _ s.hv hi.hv.closed rr
              (hi.sel_done rr hrd (hls rr hrr).1 (hls rr hrr).2) m hreach)
          -- so everything `m` reaches is `main` or in its prefix
          have hreachm : ∀ n, Reach (cut g main) [m] n → n ∈ main :: (ms.reverse ++ [m]) := by
            refine closed_reach _ (main :: (ms.reverse ++ [m])) ?_ m (by simp)
            refine List.forall_mem_cons.mpr
              ⟨fun k hk => ?_, fun n hn k hk => List.mem_cons.mpr (hcl n hn k hk)⟩
            rw [cut_main] at hk
            cases hk
          have hnodup : (ms.reverse ++ m :: done).Nodup := hp' ▸ hd.nodup
          refine ⟨hi', List.forall_mem_cons.mpr
              ⟨fun _ _ => hmin', fun x hx h0 hs => hmono x (hi.sel_done x hx h0 hs)⟩,
            List.forall_mem_append.mpr ⟨hi.min_sel, List.forall_mem_singleton.mpr hmsel.symm⟩,
            List.forall_mem_append.mpr
              ⟨fun r hr hb => (hi.added_done r hr hb).imp_left (List.mem_cons_of_mem _),
                List.forall_mem_singleton.mpr fun _ => ⟨List.mem_cons_self, hm0⟩⟩, ?_⟩
          intro r hr hb r' hr' hne hre
          rw [List.mem_append, List.mem_singleton] at hr hr'
          rcases hr with hr | rfl
          · rcases hr' with hr' | rfl
            · exact hi.indep r hr hb r' hr' hne hre
            · -- a later root cannot reach an earlier one
              have hrdone : r ∈ done := (hi.added_done r hr hb).1
              have hrpost : r ∈ d.post := by rw [hp]; exact List.mem_append_right _ hrdone
              rcases List.mem_cons.mp (hreachm r hre) with h | h
              · subst h; exact hd.main_notin hrpost
              · rcases List.mem_append.mp h with h | h
                · exact (List.nodup_append.mp hnodup).2.2 r h r (List.mem_cons_of_mem _ hrdone) rfl
                · exact hne (List.mem_singleton.mp h).symm
          · rcases hr' with hr' | rfl
            · exact hmnot (closed_reach _ s.hv hi.hv.closed r' (hi.hv.min_in r' hr') r hre)
            · exact hne rfl

/-! ### the three phases together -/

/-- everything `Req` guarantees about `min` (before the final sort, which permutes it) -/
structure ReqOut (g : Graph) (main : Node) (base : List Nat) (sel : Nat → Nat)
    (list min : List Node) : Prop where
  /-- the paths of `base` are listed -/
  base_in : ∀ p ∈ base, (p, sel p) ∈ min
  /-- only selected versions are listed -/
  min_sel : ∀ r ∈ min, r.2 = sel r.1
  /-- a listed module outside `base` is a real version met by the traversal -/
  min_real : ∀ r ∈ min, r.1 ∉ base → r.2 ≠ 0 ∧ r ≠ main ∧ ∃ rr ∈ list, Reach (cut g main) [rr] r
  /-- every build-list entry is implied by a listed module -/
  covers : ∀ n ∈ list, n = main ∨ ∃ r ∈ min, Reach (cut g main) [r] n
  /-- no listed module outside `base` is implied by another listed module -/
  indep : ∀ r ∈ min, r.1 ∉ base → ∀ r' ∈ min, r' ≠ r → ¬ Reach (cut g main) [r'] r

theorem reqCore_out (g : Graph) (fuel : Nat) (main : Node) (base : List Nat)
    (list min : List Node)
    (hls : ∀ n ∈ list, n.2 ≠ 0 ∧ listVersion list n.1 = n.2)
    (h : reqCore g fuel main base list = some min) :
    ReqOut g main base (listVersion list) list min := by
  unfold reqCore at h
  simp only at h
  split at h
  · cases h
  next d h1 =>
    split at h
    · cases h
    next s0 h2 =>
      split at h
      · cases h
      next s1 h3 =>
        cases h
        obtain ⟨hd, hlistpost, _⟩ := top_fold (cut g main) main list fuel list _ d
          (fun _ h => h) (topInv_init _ main list) h1
        obtain ⟨hb1, hb2, hb3, _⟩ := reqBase_spec (cut g main) fuel (listVersion list) base
          base [] _ s0 (fun _ h => h) ⟨by simp, by simp, by simp⟩ (by simp) (by simp) h2
        have hl0 : LoopInv (cut g main) (listVersion list) base [] s0 :=
          ⟨hb1, by simp, fun r hr => (hb2 r hr).2,
            fun r hr hb => absurd (hb2 r hr).1 hb, fun r hr hb => absurd (hb2 r hr).1 hb⟩
        obtain ⟨hl, hmono⟩ := reqLoop_spec g main list fuel (listVersion list) base d hd hls
          d.post.reverse [] s0 s1 (by simp) hl0 h3
        refine ⟨?_, hl.min_sel, ?_, ?_, hl.indep⟩
        · exact fun p hp => hmono _ (hb3 p hp)
        · intro r hr hb
          obtain ⟨hrd, hr0⟩ := hl.added_done r hr hb
          obtain ⟨pre, rr, suf, _, hrr, _, hreach, _⟩ := hd.cover r hrd
          exact ⟨hr0, fun hmain => hd.main_notin (hmain ▸ hrd), rr, hrr, hreach⟩
        · intro n hn
          exact (hlistpost n hn).imp_right fun h =>
            hl.hv.gen n (hl.sel_done n h (hls n hn).1 (hls n hn).2)

/-! ### from `ReqOut` to build lists -/

theorem listVersion_eq (sel : Nat → Nat) (list : List Node) (h : IsBuildList sel list) :
    ∀ p, listVersion list p = sel p := by
  intro p
  unfold listVersion
  split
  · next n hf =>
    have hp : n.1 = p := by simpa using List.find?_some hf
    exact hp ▸ ((h n).mp (List.mem_of_find?_eq_some hf)).2
  · next hf =>
    by_cases h0 : sel p = 0
    · exact h0.symm
    · have := List.find?_eq_none.mp hf (p, sel p) ((h (p, sel p)).mpr ⟨h0, rfl⟩)
      simp at this

/-- `reqCore_out` for a build list `list` of a selection `sel`: `listVersion list` is `sel` -/
theorem reqCore_out_sel (g : Graph) (fuel : Nat) (main : Node) (base : List Nat)
    (sel : Nat → Nat) (list min : List Node) (hbl : IsBuildList sel list)
    (h : reqCore g fuel main base list = some min) : ReqOut g main base sel list min := by
  have hlv : listVersion list = sel := funext (listVersion_eq sel list hbl)
  refine hlv ▸ reqCore_out g fuel main base list min (fun n hn => ?_) h
  rw [hlv]
  exact ⟨((hbl n).mp hn).1, ((hbl n).mp hn).2.symm⟩

theorem mem_cut {g : Graph} {main m n : Node} : n ∈ cut g main m ↔ m ≠ main ∧ n ∈ g m := by
  unfold cut
  split <;> simp [*]

theorem cut_sub_override (g : Graph) (main : Node) (l : List Node) :
    ∀ m n, n ∈ cut g main m → n ∈ override g main l m := by
  intro m n h
  unfold override
  rw [if_neg (mem_cut.mp h).1]
  exact (mem_cut.mp h).2

theorem cut_sub (g : Graph) (main : Node) : ∀ m n, n ∈ cut g main m → n ∈ g m :=
  fun _ _ h => (mem_cut.mp h).2

/-- reachability in a graph whose main module requires `l ⊆ {main} ∪ X`, where `X` is closed
under the requirements of every module but `main` -/
theorem reach_override_closed (g : Graph) (main : Node) (l : List Node) (X : Node → Prop)
    (hcl : ∀ m, m ≠ main → X m → ∀ r ∈ g m, X r) (hl : ∀ r ∈ l, r = main ∨ X r) :
    ∀ n, Reach (override g main l) [main] n → n = main ∨ X n := by
  refine reach_closed (X := fun n => n = main ∨ X n) (fun m hm k hk => ?_)
    fun r hr => Or.inl (List.mem_singleton.mp hr)
  unfold override at hk
  split at hk
  · exact hl k hk
  · next hne => exact Or.inr (hcl m hne (hm.resolve_left hne) k hk)

/-- reachability in a graph whose main module requires `l`: the main module, or something a
member of `l` reaches without passing through the main module -/
theorem reach_override (g : Graph) (main : Node) (l : List Node) :
    ∀ n, Reach (override g main l) [main] n →
      n = main ∨ ∃ r ∈ l, Reach (cut g main) [r] n :=
  reach_override_closed g main l _
    (fun _ hne ⟨r, hr, hre⟩ _ hk => ⟨r, hr, Reach.dep hre (mem_cut.mpr ⟨hne, hk⟩)⟩)
    fun r hr => Or.inr ⟨r, hr, Reach.root List.mem_cons_self⟩

theorem reach_of_override (g : Graph) (main : Node) (l : List Node) (r n : Node) (hr : r ∈ l)
    (h : Reach (cut g main) [r] n) : Reach (override g main l) [main] n := by
  have h1 : Reach (override g main l) [r] n :=
    reach_mono _ _ [r] (cut_sub_override g main l) n h
  refine reach_of_reach _ [main] (Reach.dep (Reach.root List.mem_cons_self) ?_) h1
  simpa [override] using hr

/-- **Req is sufficient**: replacing the main module's requirements by `min` leaves the
selection (hence the build list) unchanged. -/
theorem req_sufficient (g : Graph) (fuel : Nat) (main : Node) (base : List Nat)
    (sel : Nat → Nat) (list min : List Node)
    (hsel : IsSel g [main] sel) (hbl : IsBuildList sel list)
    (hbase : ∀ p ∈ base, sel p ≠ 0)
    (h : reqCore g fuel main base list = some min) :
    IsSel (override g main min) [main] sel := by
  have ho := reqCore_out_sel g fuel main base sel list min hbl h
  -- members of the build list are reachable in g
  have hlist_reach : ∀ n ∈ list, Reach g [main] n := fun n hn => hsel.reach ((hbl n).mp hn)
  have hmin_reach : ∀ r ∈ min, Reach g [main] r := by
    intro r hr
    by_cases hb : r.1 ∈ base
    · have h1 := ho.min_sel r hr
      exact hsel.reach ⟨h1 ▸ hbase _ hb, h1⟩
    · obtain ⟨_, _, rr, hrr, hre⟩ := ho.min_real r hr hb
      exact reach_of_reach g [main] (hlist_reach rr hrr) (reach_mono _ _ [rr] (cut_sub g main) r hre)
  have hsub : ∀ n, Reach (override g main min) [main] n → Reach g [main] n := by
    intro n hn
    rcases reach_override g main min n hn with h | ⟨r, hr, hre⟩
    · subst h; exact Reach.root List.mem_cons_self
    · exact reach_of_reach g [main] (hmin_reach r hr) (reach_mono _ _ [r] (cut_sub g main) n hre)
  intro p
  refine ⟨fun v hv => (hsel p).1 v (hsub _ hv), ?_⟩
  by_cases h0 : sel p = 0
  · exact Or.inl h0
  · right
    have hin : (p, sel p) ∈ list := (hbl (p, sel p)).mpr ⟨h0, rfl⟩
    rcases ho.covers _ hin with h | ⟨r, hr, hre⟩
    · rw [h]; exact Reach.root List.mem_cons_self
    · exact reach_of_override g main min r _ hr hre

/-- **Req is minimal**: a listed module whose path is not in `base` is not reachable any more
once it is dropped from the list … -/
theorem req_minimal_reach (g : Graph) (fuel : Nat) (main : Node) (base : List Nat)
    (sel : Nat → Nat) (list min : List Node) (hbl : IsBuildList sel list)
    (h : reqCore g fuel main base list = some min) (r : Node) (hr : r ∈ min)
    (hb : r.1 ∉ base) :
    ¬ Reach (override g main (min.filter fun x => x != r)) [main] r := by
  have ho := reqCore_out_sel g fuel main base sel list min hbl h
  intro hre
  rcases reach_override g main _ r hre with h | ⟨r', hr', hre'⟩
  · exact (ho.min_real r hr hb).2.1 h
  · have hm := List.mem_filter.mp hr'
    have hne : r' ≠ r := by simpa using hm.2
    exact ho.indep r hr hb r' hm.1 hne hre'

/-- … hence the build list changes: the selection is no longer `sel`. -/
theorem req_minimal (g : Graph) (fuel : Nat) (main : Node) (base : List Nat)
    (sel : Nat → Nat) (list min : List Node) (hbl : IsBuildList sel list)
    (h : reqCore g fuel main base list = some min) (r : Node) (hr : r ∈ min)
    (hb : r.1 ∉ base) :
    ¬ IsSel (override g main (min.filter fun x => x != r)) [main] sel := by
  have ho := reqCore_out_sel g fuel main base sel list min hbl h
  intro his
  have h1 := ho.min_sel r hr
  rcases (his r.1).2 with h0 | h0
  · exact (ho.min_real r hr hb).1 (h1.trans h0)
  · rw [← h1] at h0
    exact req_minimal_reach g fuel main base sel list min hbl h r hr hb h0

/-- `base` is honoured and only selected versions are listed -/
theorem req_base (g : Graph) (fuel : Nat) (main : Node) (base : List Nat)
    (sel : Nat → Nat) (list min : List Node) (hbl : IsBuildList sel list)
    (h : reqCore g fuel main base list = some min) :
    (∀ p ∈ base, (p, sel p) ∈ min) ∧ (∀ r ∈ min, r.2 = sel r.1) := by
  have ho := reqCore_out_sel g fuel main base sel list min hbl h
  exact ⟨ho.base_in, ho.min_sel⟩

/-- **`Req`, end to end** (BuildList, Algorithm R, final sort): the result `out` lists the
selected version of every path of `base`; the graph in which the main module requires exactly
`out` has the same build list; and dropping any element whose path is not in `base` changes
the build list. -/
theorem req_spec (g : Graph) (fuel : Nat) (main : Node) (base : List Nat) (out : List Node)
    (hm0 : main.2 ≠ 0) (hnone : ∀ p, g (p, 0) = [])
    (h : req g fuel main base = some out) :
    ∃ sel, IsSel g [main] sel ∧
      (∀ p ∈ base, (p, sel p) ∈ out) ∧
      ((∀ p ∈ base, sel p ≠ 0) → IsSel (override g main out) [main] sel) ∧
      (∀ r ∈ out, r.1 ∉ base →
        ¬ IsSel (override g main (out.filter fun x => x != r)) [main] sel) := by
  unfold req at h
  split at h
  · cases h
  · rename_i list hb
    obtain ⟨min, hc, rfl⟩ := Option.map_eq_some_iff.mp h
    obtain ⟨sel, hsel, hbl, _⟩ := buildList_spec g fuel main list hm0 hnone hb
    refine ⟨sel, hsel, ?_, ?_, ?_⟩
    · intro p hp
      exact (mem_sortByPath _ _).mpr ((req_base g fuel main base sel list min hbl hc).1 p hp)
    · intro hbase
      have := req_sufficient g fuel main base sel list min hsel hbl hbase hc
      exact (isSel_congr _ _ [main] sel
        (override_congr g main min (sortByPath min) fun n => (mem_sortByPath n min).symm)).mp this
    · intro r hr hbr
      have hr' : r ∈ min := (mem_sortByPath r min).mp hr
      have := req_minimal g fuel main base sel list min hbl hc r hr' hbr
      intro his
      apply this
      refine (isSel_congr _ _ [main] sel (override_congr g main _ _ ?_)).mp his
      intro n
      simp only [List.mem_filter, mem_sortByPath]

end CueVerif.Mvs
