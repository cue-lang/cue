/-
Proofs for the "number spellings agree" part of C09: the scanner's number automaton
(`scannerAccepts`) and `literal.ParseNum` (`parseNum`) accept the same unsigned spellings
with the same int/float kind, EXCEPT for spellings beginning with "0_", which
`literal.ParseNum` may accept ("0_1.5") and the scanner never lexes as one number.
Core Lean only.
-/
import CueVerif.Model.NumLit
namespace CueVerif.NumLit

/-- the scanner stopped at the end of input without reporting an error -/
def accS (res : Kind × Str × Bool) : Option Kind :=
  if res.2.1.isEmpty && !res.2.2 then some res.1 else none

/-- what `ParseNum` does with the result of `(*NumInfo).scanNumber` -/
def accL (res : Option (Bool × Str × Bool)) : Option Kind :=
  match res with
  | none => none
  | some (isFloat, fin, e) =>
    if e then none else if fin.length > 1 then none else some (kindOf isFloat)

theorem kindOf_beq (tok : Kind) : kindOf (tok == .float) = tok := by
  cases tok <;> rfl

theorem accL_none : accL none = none := rfl

@[simp] theorem int_beq_float : (Kind.int == Kind.float) = false := rfl

theorem sMant_eq (base last : Nat) (s : Str) :
    sMant base last s = ((lMant base last s).1, (lMant base last s).2.2) := by
  induction s generalizing last with
  | nil => rfl
  | cons c cs ih =>
    unfold sMant lMant
    split
    · simp only [ih c]
    · rfl

theorem lMant_underscore (base : Nat) (s : Str) :
    (lMant base 95 s).2.1 = false → (lMant base 95 s).2.2 = true := by
  induction s with
  | nil => simp [lMant]
  | cons c cs ih =>
    unfold lMant
    split
    · intro hh
      simp only [Bool.or_eq_false_iff, bne_eq_false_iff_eq] at hh
      obtain ⟨h1, rfl⟩ := hh
      simp [ih h1]
    · simp

theorem lMant_stop (base last c : Nat) (t : Str) (hc : ¬ digitVal c < base) :
    lMant base last (c :: t) = (c :: t, false, last == 95) := by
  unfold lMant
  simp [hc]

theorem lMant_len (base : Nat) : ∀ (s : Str) (last : Nat), (lMant base last s).1.length ≤ s.length
  | [], _ => Nat.le_refl _
  | c :: cs, _ => by
    unfold lMant
    split
    · exact Nat.le_succ_of_le (lMant_len base cs c)
    · exact Nat.le_refl _

/-- a run that saw a digit began with one, and consumed it -/
theorem lMant_digit {base last : Nat} {s : Str} (h : (lMant base last s).2.1 = true) :
    ∃ d t, s = d :: t ∧ digitVal d < base ∧ (lMant base last s).1.length ≤ t.length := by
  cases s with
  | nil => cases h
  | cons c cs =>
    by_cases hc : digitVal c < base
    · refine ⟨c, cs, rfl, hc, ?_⟩
      unfold lMant
      rw [if_pos hc]
      exact lMant_len base cs c
    · rw [lMant_stop base last c cs hc] at h
      cases h

/-- a run that saw no digit and reported no error consumed nothing: a run of underscores alone
ends in one, which is an error -/
theorem lMant_idle {base last : Nat} {s : Str} (hh : (lMant base last s).2.1 = false)
    (he : (lMant base last s).2.2 = false) : (lMant base last s).1 = s := by
  cases s with
  | nil => rfl
  | cons c cs =>
    by_cases hc : digitVal c < base
    · exfalso
      unfold lMant at hh he
      rw [if_pos hc] at hh he
      simp only [Bool.or_eq_false_iff, bne_eq_false_iff_eq] at hh he
      obtain ⟨h1, rfl⟩ := hh
      rw [lMant_underscore base cs h1] at he
      exact absurd he.1.1 (by decide)
    · rw [lMant_stop base last c cs hc]

/-- a NUL after the run was there before it (and recorded in `E`), or the run reported it -/
theorem lMant_nul {base : Nat} : ∀ {s : Str} {last : Nat} {E : Bool}, (nulErr s = true → E = true) →
    nulErr (lMant base last s).1 = true → (E || (lMant base last s).2.2) = true
  | [], _, _, _, hn => nomatch hn
  | c :: cs, last, E, hinv, hn => by
    by_cases hc : digitVal c < base
    · unfold lMant at hn ⊢
      rw [if_pos hc] at hn ⊢
      have := lMant_nul (base := base) (last := c) (E := nulErr cs) id hn
      simp only [Bool.or_eq_true] at this ⊢
      rcases this with h | h
      · exact .inr (.inr h)
      · exact .inr (.inl (.inl h))
    · rw [lMant_stop base last c cs hc] at hn ⊢
      rw [hinv hn]
      rfl

/-! ### stage by stage agreement

`hinv : nulErr cur = true → err = true` is the invariant "the NUL error has been recorded
for the current character" (both `next` functions report NUL when the character is read). -/

@[simp] theorem chL_nil : chL [] = 0 := rfl
@[simp] theorem chL_cons (c : Nat) (t : Str) : chL (c :: t) = c := rfl
@[simp] theorem lNext_nil : lNext [] = ([], false) := rfl
@[simp] theorem lNext_cons (c : Nat) (t : Str) : lNext (c :: t) = (t, nulErr t) := rfl
@[simp] theorem nulErr_nil : nulErr [] = false := rfl
@[simp] theorem nulErr_zero (t : Str) : nulErr (0 :: t) = true := rfl

theorem nulErr_cons_ne {c : Nat} {t : Str} (hc : c ≠ 0) : nulErr (c :: t) = false := by
  cases c with
  | zero => exact absurd rfl hc
  | succ n => rfl

/-- what the fall-through arm of a `match cur with | x :: _ => …` on the scanner side knows, in the
form the literal side tests it -/
theorem chL_ne {x : Nat} {cur : Str} (hx : x ≠ 0) (h : ∀ t, cur = x :: t → False) :
    (chL cur == x) = false := by
  cases cur with
  | nil => simpa using hx.symm
  | cons c t => simpa using fun e => h t (by rw [e])

theorem exit_agree (tok : Kind) (r : Str) (E : Bool) (hinv : nulErr r = true → E = true) :
    accS (tok, r, E) = accL (lExit (tok == .float) r E) := by
  cases r with
  | nil => cases E <;> simp [accS, accL, lExit, kindOf_beq]
  | cons c t =>
    by_cases hc : c = 0
    · subst hc
      have : E = true := hinv rfl
      subst this
      simp [accS, accL, lExit]
    · simp [accS, accL, lExit, hc]

theorem mul_tail_agree (cur2 : Str) (E : Bool) (hinv : nulErr cur2 = true → E = true) :
    accS (Kind.int, cur2, E) =
      accL (if chL cur2 != 0 then none else some (false, cur2, E)) := by
  simpa [lExit] using exit_agree .int cur2 E hinv

theorem sign_agree (cs : Str) : sSign cs = lSign cs := by
  unfold sSign lSign
  split
  · simp
  · simp
  · rename_i h1 h2
    simp [chL_ne (by decide) h1, chL_ne (by decide) h2]

theorem lSign_inv (cs : Str) (hn : nulErr (lSign cs).1 = true) :
    nulErr cs = true ∨ (lSign cs).2 = true := by
  revert hn
  unfold lSign
  split
  · cases cs with
    | nil => simp
    | cons d t => exact .inr
  · exact .inl

/-- The scanner has no `hasDigit` result; it raises an error `x` of its own in the one case where a
run without digit and without error would otherwise be accepted: when it ends at the end of input. -/
theorem mant_exit_agree (tok : Kind) (r : Str) (h e E x : Bool) (hx : h = true → x = false)
    (hx' : h = false → e = false → x = true ∨ r ≠ [])
    (hinv : nulErr r = true → (E || e) = true) :
    accS (tok, r, E || e || x) = accL (if !h then none else lExit (tok == .float) r (E || e)) := by
  cases h with
  | false =>
    simp only [Bool.not_false, ↓reduceIte, accL_none]
    cases e with
    | true => simp [accS]
    | false =>
      rcases hx' rfl rfl with rfl | hr
      · simp [accS]
      · cases r with
        | nil => exact absurd rfl hr
        | cons d t => simp [accS]
  | true =>
    simp only [hx rfl, Bool.or_false, Bool.not_true, Bool.false_eq_true, ↓reduceIte]
    exact exit_agree tok r _ hinv

theorem expDigits_agree (cur : Str) (err : Bool) (hinv : nulErr cur = true → err = true) :
    accS (sExpDigits cur err) = accL (lExpDigits cur err) := by
  unfold sExpDigits lExpDigits
  rw [sMant_eq]
  have h3 := @lMant_idle 10 0 cur
  have h5 := @lMant_digit 10 0 cur
  have hnul := lMant_nul (base := 10) (last := 0) hinv
  generalize lMant 10 0 cur = M at *
  obtain ⟨r, h, e⟩ := M
  simp only at h3 h5 hnul ⊢
  rw [Bool.or_right_comm]
  refine mant_exit_agree .float r h e err _ (fun hh => ?_) (fun hh he => ?_) hnul
  · obtain ⟨d, t, rfl, hd, -⟩ := h5 hh
    simpa using hd
  · rw [h3 hh he]
    cases cur with
    | nil => exact .inl rfl
    | cons d t => exact .inr (List.cons_ne_nil d t)

theorem exponent_agree (tok : Kind) (cur : Str) (err : Bool)
    (hinv : nulErr cur = true → err = true) :
    accS (sExponent tok cur err) = accL (lExponent (tok == .float) cur err) := by
  cases cur with
  | nil =>
    simpa [sExponent, lExponent, isMul] using exit_agree tok [] err hinv
  | cons c cs =>
    unfold sExponent lExponent
    simp only [chL_cons]
    rcases Bool.eq_false_or_eq_true (isMul c) with hm | hm
    · simp only [hm, ↓reduceIte, lNext_cons]
      split
      next cs' =>
        simp only [chL_cons, BEq.rfl, ↓reduceIte, lNext_cons, nulErr_cons_ne (show 105 ≠ 0 by decide),
          Bool.or_false]
        exact mul_tail_agree cs' _ (by intro h; simp [h])
      next hne =>
        simp only [chL_ne (by decide) hne, Bool.false_eq_true, ↓reduceIte, Bool.or_false]
        exact mul_tail_agree cs _ (by intro h; simp [h])
    · simp only [hm, Bool.false_eq_true, ↓reduceIte]
      rcases Bool.eq_false_or_eq_true (c == 101 || c == 69) with he | he
      · simp only [he, ↓reduceIte, lNext_cons, sign_agree]
        apply expDigits_agree
        intro hn
        rcases lSign_inv cs hn with h | h <;> simp [h]
      · simp only [he, Bool.false_eq_true, ↓reduceIte]
        exact exit_agree tok (c :: cs) err hinv

theorem fraction_agree (tok : Kind) (cur : Str) (err : Bool)
    (hinv : nulErr cur = true → err = true) :
    accS (sFraction tok cur err) = accL (lFraction (tok == .float) cur err) := by
  unfold sFraction lFraction
  split
  · -- "..": the scanner leaves the range operator, the literal parser fails at `exit:`
    rename_i t
    have h1 : lMant 10 0 (46 :: t) = (46 :: t, false, false) :=
      lMant_stop 10 0 46 t (by decide)
    simp [h1, lExponent, isMul, lExit, accS, accL]
  · rename_i cs _
    simp only [chL_cons, BEq.rfl, ↓reduceIte, lNext_cons]
    rw [sMant_eq]
    simpa using exponent_agree .float _ _
      (lMant_nul (base := 10) (last := 0) (E := err || nulErr cs) (fun h => by simp [h]))
  · rename_i h1 h2
    simp only [chL_ne (by decide) h2, Bool.false_eq_true, ↓reduceIte]
    exact exponent_agree tok cur err hinv

theorem prefixed_agree (base x : Nat) (cs' : Str) (err : Bool) :
    accS (sPrefixed base (cs'.length + 2) cs' err) = accL (lPrefixed base (x :: cs') err) := by
  unfold sPrefixed lPrefixed
  simp only [lNext_cons]
  rw [sMant_eq]
  refine mant_exit_agree .int _ _ _ (err || nulErr cs') _ (fun hh => decide_eq_false ?_)
    (fun hh he => .inl (decide_eq_true (by dsimp only; rw [lMant_idle hh he]; omega))) (lMant_nul (fun h => by simp [h]))
  obtain ⟨d, t, rfl, -, hl⟩ := lMant_digit hh
  dsimp only [List.length_cons]
  omega

theorem sExponent_err (tok : Kind) (cur : Str) : accS (sExponent tok cur true) = none := by
  unfold sExponent
  split
  · simp [accS]
  · split
    · split <;> simp [accS]
    · split
      · simp [sExpDigits, accS]
      · simp [accS]

/-- the last three branches of `lZeroTail` are `exponent:` again -/
theorem lExponent_plain (c : Nat) (t : Str) (err : Bool) (he : (c == 101 || c == 69) = false) :
    lExponent false (c :: t) err =
      if c != 0 then (if isMul c then lExponent false (c :: t) err else none)
      else lExit false (c :: t) err := by
  cases hm : isMul c with
  | true =>
    have : c ≠ 0 := by rintro rfl; cases hm
    simp [this]
  | false => simp [lExponent, lExit, hm, he]

theorem zeroTail_agree (r : Str) (sd : Bool) (err : Bool)
    (hinv : nulErr r = true → err = true) :
    accS (sZeroTail r sd err) = accL (lZeroTail r sd err) := by
  unfold sZeroTail lZeroTail
  split
  · -- "..": the literal parser goes to `fraction:` and fails
    rename_i t
    have := fraction_agree .int (46 :: 46 :: t) err hinv
    simp only [sFraction, int_beq_float] at this
    simp only [chL_cons, BEq.rfl, Bool.or_true, ↓reduceIte]
    rw [← this]
    simp [accS]
  · cases r with
    | nil =>
      cases sd <;> cases err <;> simp [sExponent, lExit, accS, accL, kindOf]
    | cons c t =>
      dsimp only [chL_cons]
      rw [Bool.or_comm (c == 101 || c == 69) (c == 46), ← Bool.or_assoc]
      rcases Bool.eq_false_or_eq_true (c == 46 || c == 101 || c == 69) with hf | hf
      · simpa [hf] using fraction_agree .int (c :: t) err hinv
      · simp only [hf, Bool.false_eq_true, ↓reduceIte]
        cases sd with
        | true => simpa [accL_none] using sExponent_err _ _
        | false =>
          rw [Bool.or_assoc] at hf
          simp only [Bool.or_false, Bool.false_eq_true, ↓reduceIte]
          rw [← lExponent_plain c t err (Bool.or_eq_false_iff.mp hf).2]
          simpa using exponent_agree .int (c :: t) err hinv

/-! ### the two `scanNumber` functions -/

theorem isDec_iff {c : Nat} : isDec c = true ↔ 48 ≤ c ∧ c ≤ 57 := by
  simp [isDec]

theorem nulErr_dec {d : Nat} (t : Str) (hd : isDec d = true) : nulErr (d :: t) = false :=
  nulErr_cons_ne (by have := isDec_iff.mp hd; omega)

theorem digitVal_dec {c : Nat} (h : isDec c = true) : digitVal c < 10 := by
  have := isDec_iff.mp h
  unfold digitVal
  rw [if_pos this]
  omega

theorem digitVal_nondec {c : Nat} (h : isDec c = false) (h95 : c ≠ 95) : ¬ digitVal c < 10 := by
  have hd : ¬ (48 ≤ c ∧ c ≤ 57) := mt isDec_iff.mpr (Bool.eq_false_iff.mp h)
  unfold digitVal
  rw [if_neg hd, if_neg h95]
  split
  · omega
  · split <;> omega

theorem lMant_dec {c : Nat} (last : Nat) (cs : Str) (h : isDec c = true) :
    (lMant 10 last (c :: cs)).2.1 = true := by
  unfold lMant
  rw [if_pos (digitVal_dec h)]
  have := isDec_iff.mp h
  have hc : c ≠ 95 := by omega
  simp [hc]

theorem seen_agree (d : Nat) (ds : Str) (hd : isDec d = true) :
    accS (sScanNumber true (d :: ds)) = accL (lScanNumber true (d :: ds) false) := by
  unfold sScanNumber lScanNumber
  simp only [↓reduceIte]
  rw [sMant_eq]
  simp only [lMant_dec 0 ds hd, Bool.not_true, Bool.false_eq_true, ↓reduceIte]
  exact exponent_agree Kind.float _ _ (lMant_nul (s := d :: ds) (E := false) (by simp [nulErr_dec ds hd]))

theorem unseen_nonzero_agree (c : Nat) (cs : Str) (hc : isDec c = true) (h48 : c ≠ 48) :
    accS (sScanNumber false (c :: cs)) = accL (lScanNumber false (c :: cs) false) := by
  unfold sScanNumber lScanNumber
  have h48' : (c == 48) = false := by simpa using h48
  simp only [Bool.false_eq_true, ↓reduceIte, chL_cons, h48']
  split
  · exact absurd (List.cons.inj ‹_›).1 h48
  · rw [sMant_eq]
    simp only [lMant_dec 0 cs hc, Bool.not_true, Bool.false_eq_true, ↓reduceIte]
    exact fraction_agree Kind.int _ _ (lMant_nul (s := c :: cs) (E := false) (by simp [nulErr_dec cs hc]))

theorem unseen_zero_agree (cs : Str) (hz : zeroUnderscore (48 :: cs) = false) :
    accS (sScanNumber false (48 :: cs)) = accL (lScanNumber false (48 :: cs) false) := by
  cases cs with
  | nil =>
    simp [sScanNumber, lScanNumber, lMant, sZeroTail, lZeroTail, sExponent, lExit, accS, accL,
      kindOf]
  | cons d ds =>
    unfold sScanNumber
    simp only [Bool.false_eq_true, ↓reduceIte]
    split
    -- 0x, 0X, 0b, 0o
    next cs' h => cases h; simpa [lScanNumber, nulErr_cons_ne] using prefixed_agree 16 120 ds false
    next cs' h => cases h; simpa [lScanNumber, nulErr_cons_ne] using prefixed_agree 16 88 ds false
    next cs' h => cases h; simpa [lScanNumber, nulErr_cons_ne] using prefixed_agree 2 98 ds false
    next cs' h => cases h; simpa [lScanNumber, nulErr_cons_ne] using prefixed_agree 8 111 ds false
    -- the "0 or float" branch
    next h120 h88 h98 h111 =>
      have ne : ∀ x, (∀ cs', d :: ds = x :: cs' → False) → (d == x) = false :=
        fun x h => by simpa using fun e => h ds (by rw [e])
      have h95 : d ≠ 95 := by
        intro h; subst h; simp [zeroUnderscore] at hz
      unfold lScanNumber
      simp only [Bool.false_eq_true, ↓reduceIte, chL_cons, BEq.rfl, lNext_cons, ne _ h120, ne _ h88,
        ne _ h98, ne _ h111, Bool.or_self, Bool.false_or]
      cases hd : isDec d with
      | true =>
        simp only [↓reduceIte]
        rw [sMant_eq]
        simp only [lMant_dec 0 ds hd]
        exact zeroTail_agree _ _ _ (lMant_nul (fun h => by simp [h]))
      | false =>
        simp only [Bool.false_eq_true, ↓reduceIte, lMant_stop 10 0 d ds (digitVal_nondec hd h95)]
        exact zeroTail_agree _ _ _ (fun hn => by simp [hn])

/-! ### the top level: `Scan`'s dispatch and `ParseNum` -/

theorem accS_of_consumed (k : Kind) (r : Str) (e : Bool) (n : Nat) (hn : 0 < n) :
    (if (n - r.length == n) && !e then some k else none) = accS (k, r, e) := by
  cases r with
  | nil => simp [accS]
  | cons x t =>
    have : ¬ (n - (t.length + 1) = n) := by omega
    simp [accS, this]

theorem scannerAccepts_dec (c : Nat) (cs : Str) (hc : isDec c = true) :
    scannerAccepts (c :: cs) = accS (sScanNumber false (c :: cs)) := by
  unfold scannerAccepts scanNumber
  simp only [hc, ↓reduceIte]
  exact accS_of_consumed _ _ _ _ (by simp)

theorem scannerAccepts_dot (d : Nat) (ds : Str) (hd : isDec d = true) :
    scannerAccepts (46 :: d :: ds) = accS (sScanNumber true (d :: ds)) := by
  have h46 : isDec 46 = false := by decide
  unfold scannerAccepts scanNumber
  simp only [h46, Bool.false_eq_true, ↓reduceIte, BEq.rfl, hd, nulErr_dec ds hd, Bool.or_false]
  exact accS_of_consumed _ _ _ _ (by simp)

theorem parseNum_dec (c : Nat) (cs : Str) (hc : isDec c = true) :
    parseNum (c :: cs) = accL (lScanNumber false (c :: cs) false) := by
  have ne : ∀ k, k < 48 → (c == k) = false := fun k hk => by
    have := isDec_iff.mp hc
    simp only [beq_eq_false_iff_ne]
    omega
  unfold parseNum parseNumFrom
  simp only [ne 0 (by decide), ne 45 (by decide), ne 43 (by decide), ne 46 (by decide), chL_cons, Bool.or_self, Bool.false_eq_true, ↓reduceIte]
  rfl

theorem parseNum_dot (d : Nat) (ds : Str) (hd : isDec d = true) :
    parseNum (46 :: d :: ds) = accL (lScanNumber true (d :: ds) false) := by
  unfold parseNum parseNumFrom
  simp only [chL_cons, BEq.rfl, ↓reduceIte, lNext_cons, nulErr_dec ds hd]
  rfl

theorem scannerAccepts_not_start (s : Str) (h : startsNumber s = false) :
    scannerAccepts s = none := by
  unfold scannerAccepts scanNumber
  cases s with
  | nil => rfl
  | cons c rest =>
    simp only [startsNumber, Bool.or_eq_false_iff, Bool.and_eq_false_imp] at h
    simp only [h.1, Bool.false_eq_true, ↓reduceIte]
    by_cases h46 : (c == 46) = true
    · have h2 := h.2 h46
      simp only [h46, ↓reduceIte]
      cases rest with
      | nil => rfl
      | cons d ds =>
        simp only at h2
        simp [h2]
    · simp [h46]

theorem scannerAccepts_zeroUnderscore (s : Str) (h : zeroUnderscore s = true) :
    scannerAccepts s = none := by
  unfold zeroUnderscore at h
  split at h
  · rw [scannerAccepts_dec 48 _ (by decide)]
    simp [sScanNumber, isDec, sZeroTail, sExponent, isMul, accS]
  · cases h

/-- **Agreement.**  On every spelling on which `Scan` starts a number token, except the
spellings beginning with "0_", the scanner lexes the whole input as one error-free number
token of kind `k` iff `literal.ParseNum` accepts it with kind `k`. -/
theorem numbers_agree (s : Str) (h : startsNumber s = true) (hz : zeroUnderscore s = false) :
    scannerAccepts s = parseNum s := by
  cases s with
  | nil => cases h
  | cons c rest =>
    cases hc : isDec c with
    | true =>
      rw [scannerAccepts_dec c rest hc, parseNum_dec c rest hc]
      by_cases h48 : c = 48
      · subst h48; exact unseen_zero_agree rest hz
      · exact unseen_nonzero_agree c rest hc h48
    | false =>
      simp only [startsNumber, hc, Bool.false_or, Bool.and_eq_true, beq_iff_eq] at h
      obtain ⟨rfl, h2⟩ := h
      cases rest with
      | nil => cases h2
      | cons d ds =>
        simp only at h2
        rw [scannerAccepts_dot d ds h2, parseNum_dot d ds h2]
        exact seen_agree d ds h2

theorem scanner_sub_literal (s : Str) (k : Kind) :
    scannerAccepts s = some k → parseNum s = some k := by
  intro h
  cases hs : startsNumber s with
  | false => rw [scannerAccepts_not_start s hs] at h; cases h
  | true =>
    cases hz : zeroUnderscore s with
    | true => rw [scannerAccepts_zeroUnderscore s hz] at h; cases h
    | false => rw [← numbers_agree s hs hz]; exact h

/-- the full statement (no side condition) -/
def numbers_agree_stmt : Prop := ∀ s, scannerAccepts s = parseNum s

/-- FALSE: `literal.ParseNum` accepts "_1" (a leading '_' is treated as a digit separator);
the scanner lexes "_1" as an identifier.  Likewise "._5", "+1", "-1". -/
theorem numbers_agree_false : ¬ numbers_agree_stmt := by
  intro h
  exact absurd (h [95, 49]) (by decide)

/-- the statement restricted to the spellings on which `Scan` starts a number token -/
def numbers_agree_started_stmt : Prop :=
  ∀ s, startsNumber s = true → scannerAccepts s = parseNum s

/-- FALSE as well: `literal.ParseNum` accepts "0_1.5" as a float; the scanner lexes INT "0"
followed by the identifier "_1".  (num.go's "0 or float" branch runs `scanMantissa(10)`
unconditionally and jumps to `fraction:` before the "illegal integer number" check.) -/
theorem numbers_agree_started_false : ¬ numbers_agree_started_stmt := by
  intro h
  exact absurd (h [48, 95, 49, 46, 53] (by decide)) (by decide)

theorem literal_only (s : Str) (k : Kind) :
    parseNum s = some k → scannerAccepts s = none →
      startsNumber s = false ∨ zeroUnderscore s = true := by
  intro hp hsn
  cases hs : startsNumber s with
  | false => exact .inl rfl
  | true => exact .inr (Bool.of_not_eq_false fun hz => by
      rw [numbers_agree s hs hz, hp] at hsn
      cases hsn)

/-! ### tests (evaluation on samples; NOT the property) -/

-- "1.5e3", "0x_1f", ".5", "12Ki", "00.5" are accepted by both with the same kind
example : scannerAccepts [49, 46, 53, 101, 51] = some .float ∧
    parseNum [49, 46, 53, 101, 51] = some .float := by decide
example : scannerAccepts [48, 120, 95, 49, 102] = some .int ∧
    parseNum [48, 120, 95, 49, 102] = some .int := by decide
example : scannerAccepts [46, 53] = some .float ∧ parseNum [46, 53] = some .float := by decide
example : scannerAccepts [49, 50, 75, 105] = some .int ∧ parseNum [49, 50, 75, 105] = some .int := by
  decide
example : scannerAccepts [48, 48, 46, 53] = some .float ∧ parseNum [48, 48, 46, 53] = some .float := by
  decide
-- "09", "1__0", "0b2", "1..", "1e" are rejected by both
example : scannerAccepts [48, 57] = none ∧ parseNum [48, 57] = none := by decide
example : scannerAccepts [49, 95, 95, 48] = none ∧ parseNum [49, 95, 95, 48] = none := by decide
example : scannerAccepts [48, 98, 50] = none ∧ parseNum [48, 98, 50] = none := by decide
example : scannerAccepts [49, 46, 46] = none ∧ parseNum [49, 46, 46] = none := by decide
example : scannerAccepts [49, 101] = none ∧ parseNum [49, 101] = none := by decide
-- the hypotheses of `numbers_agree` are satisfiable by a non-trivial value ("0.5")
example : startsNumber [48, 46, 53] = true ∧ zeroUnderscore [48, 46, 53] = false ∧
    parseNum [48, 46, 53] = some .float := by decide
-- signed spellings are accepted by `ParseNum` only
example : parseNum [45, 49] = some .int ∧ scannerAccepts [45, 49] = none ∧
    parseNumUnsigned [45, 49] = none := by decide

theorem zero_lit_accepted : parseNum [48] = some .int ∧ scannerAccepts [48] = some .int := by
  decide

end CueVerif.NumLit
