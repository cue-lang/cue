/-
C06 helper lemmas: every spelling of the literal grammar denotes, in the model of
`compiler.parse`/`NumInfo.decimal`, exactly the value the spec assigns to it (`literal_value`,
`literal_litValue`); outside the exponent window it is an error (`literal_window_error`); whatever
is accepted has the spec's kind and value (`literal_sound`).
Core Lean (`Rat` is core).
The supporting lemmas are in `Proofs/NumValLitAux.lean` (the value reader) and
`Proofs/NumValLitAccept.lean` (the gate).
-/
import CueVerif.Proofs.NumValLitAux
import CueVerif.Proofs.NumValLitAccept
namespace CueVerif.Proofs.NumValLit
open CueVerif CueVerif.Arith CueVerif.NumVal CueVerif.Spec.Arith
open CueVerif.Proofs.NumValLitAux

theorem horner_digitsVal (base : Nat) (hb : base ≤ 16) (ds : List Nat) (h : wfDigits base ds = true) :
    horner base (ds.filter (· != 95)) = digitsVal base ds :=
  horner_ok base hb ds (wfDigits_ok base ds h)

/-- the value reader on a grammar spelling (all bases, separators, fraction, exponent,
multipliers), inside the region where the implementation is right -/
theorem literal_value (l : Lit) (hwf : l.wf = true) (hw : l.inWindow) (hi : l.siIntegral) :
    ∃ n, readValue l.kind l.spell = .ok n ∧ n.k = l.kind ∧ toRat n.d = l.denote := by
  cases l with
  | dec ds => exact (lit_dec ds hwf).1 hw
  | bin ds => exact ⟨_, readValue_prefixed _ 98 2 ds (by decide) hwf (by simp), rfl, toRat_natCast _⟩
  | oct ds => exact ⟨_, readValue_prefixed _ 111 8 ds (by decide) hwf (by simp), rfl, toRat_natCast _⟩
  | hex u ds =>
    cases u
    · exact ⟨_, readValue_prefixed _ 120 16 ds (by decide) hwf (by simp), rfl, toRat_natCast _⟩
    · exact ⟨_, readValue_prefixed _ 88 16 ds (by decide) hwf (by simp), rfl, toRat_natCast _⟩
  | si ip fp m => exact si_value ((lit_si ip fp m hwf).1 hw) hi
  | siDot fp m => exact si_value ((lit_siDot fp m hwf).1 hw) hi
  | fPoint ip fp ex => exact (lit_fPoint ip fp ex hwf).1 hw
  | fExp ip ex => exact (lit_fExp ip ex hwf).1 hw
  | fDot fp ex => exact (lit_fDot fp ex hwf).1 hw

/-- outside the exponent window of the decimal package the literal is an ERROR, never a wrong
value (the spec's implementation restriction allows the error) -/
theorem literal_window_error (l : Lit) (hwf : l.wf = true) (hw : ¬ l.inWindow) :
    readValue l.kind l.spell = .err := by
  cases l with
  | dec ds => exact (lit_dec ds hwf).2 hw
  | bin ds => exact absurd (show (Lit.bin ds).inWindow from inWin_empty) hw
  | oct ds => exact absurd (show (Lit.oct ds).inWindow from inWin_empty) hw
  | hex u ds => exact absurd (show (Lit.hex u ds).inWindow from inWin_empty) hw
  | si ip fp m => exact (lit_si ip fp m hwf).2 hw
  | siDot fp m => exact (lit_siDot fp m hwf).2 hw
  | fPoint ip fp ex => exact (lit_fPoint ip fp ex hwf).2 hw
  | fExp ip ex => exact (lit_fExp ip ex hwf).2 hw
  | fDot fp ex => exact (lit_fDot fp ex hwf).2 hw

/-- gate and value reader together: `compiler.parse` on a grammar spelling, inside the region
where the implementation is right -/
theorem literal_litValue (l : Lit) (hwf : l.wf = true) (hz : l.siLeadingZero = false)
    (hw : l.inWindow) (hi : l.siIntegral) :
    ∃ n, litValue l.spell = .ok n ∧ n.k = l.kind ∧ toRat n.d = l.denote := by
  have := literal_value l hwf hw hi
  unfold litValue
  rw [NumValLitAccept.literal_accepted l hwf hz]
  exact this

theorem literal_integral (l : Lit) (hwf : l.wf = true) (hw : l.inWindow)
    (n : Num) (h : readValue l.kind l.spell = .ok n) : l.siIntegral := by
  cases l with
  | si ip fp m =>
    obtain ⟨z, -, hz⟩ := ((lit_si ip fp m hwf).1 hw n).1 h
    exact ⟨z, hz⟩
  | siDot fp m =>
    obtain ⟨z, -, hz⟩ := ((lit_siDot fp m hwf).1 hw n).1 h
    exact ⟨z, hz⟩
  | _ => trivial

theorem literal_read_sound (l : Lit) (hwf : l.wf = true) (n : Num)
    (h : readValue l.kind l.spell = .ok n) : n.k = l.kind ∧ toRat n.d = l.denote := by
  by_cases hw : l.inWindow
  · have hi := literal_integral l hwf hw n h
    obtain ⟨n', h1, h2, h3⟩ := literal_value l hwf hw hi
    rw [h1] at h
    injection h with h
    subst h
    exact ⟨h2, h3⟩
  · rw [literal_window_error l hwf hw] at h
    cases h

/-- soundness of `compiler.parse` on the grammar's spellings: whenever a spelling is accepted its
kind and value are the spec's, unconditionally.  Rejections (`literal_false_trunc`, leading zeros,
the exponent window) are not wrong values. -/
theorem literal_sound (l : Lit) (hwf : l.wf = true) (n : Num)
    (h : litValue l.spell = .ok n) : n.k = l.kind ∧ toRat n.d = l.denote := by
  unfold litValue at h
  cases hk : NumLit.parseNumUnsigned l.spell with
  | none => rw [hk] at h; cases h
  | some k =>
    rw [hk] at h
    have hk' : readValue k l.spell = readValue l.kind l.spell := by
      cases hz : l.siLeadingZero with
      | false =>
        have := NumValLitAccept.literal_accepted l hwf hz
        rw [this] at hk
        injection hk with hk
        rw [hk]
      | true =>
        cases l with
        | si ip fp m => exact readValue_si_kind k ip fp m hwf
        | _ => simp [Lit.siLeadingZero] at hz
    have h' : readValue k l.spell = .ok n := h
    rw [hk'] at h'
    exact literal_read_sound l hwf n h'

/-- full statement: every grammar spelling is accepted and denotes the spec's value -/
def literal_stmt : Prop :=
  ∀ l : Lit, l.wf = true → ∃ n, litValue l.spell = .ok n ∧ n.k = l.kind ∧ toRat n.d = l.denote

/-- `1.3Ki` (spec: 1331) is rejected -/
theorem literal_false_trunc :
    litValue (Lit.si [49] (some [51]) ⟨.K, true⟩).spell = .err ∧
    (Lit.si [49] (some [51]) ⟨.K, true⟩).denote = 1331 := by
  refine ⟨by decide, ?_⟩
  have hm : mantissa [49] [51] * ((1024 : Nat) : Rat) = 6656 / 5 := by
    have a : digitsVal 10 [49] = 1 := by decide
    have b : digitsVal 10 [51] = 3 := by decide
    have c : nDigits [51] = 1 := by decide
    simp only [mantissa, a, b, c]
    simp
    grind
  show ((truncNonneg (mantissa [49] [51] * ((1024 : Nat) : Rat)) : Int) : Rat) = 1331
  rw [hm]
  have : (6656 / 5 : Rat).floor = 1331 := by
    apply floor_eq
    · simp; grind
    · simp; grind
  simp [truncNonneg, this]

/-- `1e100001` (outside the exponent window) is rejected -/
theorem literal_exponent_rejected :
    litValue (Lit.fExp [49] ⟨false, .none, [49, 48, 48, 48, 48, 49]⟩).spell = .err := by
  decide

/-- `0K` is accepted with value 0 -/
theorem literal_bare_zero_ok :
    litValue (Lit.si [48] none ⟨.K, false⟩).spell = .ok ⟨.int, ⟨0, 0⟩⟩ := by
  decide

/-- `12345678901234567890123456789012345678K` (a product of more than 34 digits) is exact -/
theorem literal_big_mantissa_ok :
    litValue (Lit.si [49,50,51,52,53,54,55,56,57,48,49,50,51,52,53,54,55,56,57,48,49,50,51,52,53,54,55,56,57,48,49,50,51,52,53,54,55,56] none ⟨.K, false⟩).spell
      = .ok ⟨.int, ⟨12345678901234567890123456789012345678000, 0⟩⟩ := by
  decide

theorem literal_false : ¬ literal_stmt := by
  intro h
  obtain ⟨n, hn, _, _⟩ := h (Lit.si [49] (some [51]) ⟨.K, true⟩) (by decide)
  rw [literal_false_trunc.1] at hn
  cases hn

end CueVerif.Proofs.NumValLit
