/-
C06, the value reader on grammar spellings.  A base-10 spelling is `ip [. fp] rest` with `rest`
empty, an exponent or a multiplier; each shape of `Lit` is read through one of the two layouts,
giving the value inside the exponent window and an error outside.  Core Lean only.
-/
import CueVerif.Model.NumVal
import CueVerif.Proofs.NumLit
import CueVerif.Proofs.ArithExact
namespace CueVerif.Proofs.NumValLitAux
open CueVerif CueVerif.Arith CueVerif.NumVal CueVerif.Spec.Arith CueVerif.Proofs.ArithExact
open CueVerif.NumLit (lMant nulErr digitVal chL lNext lExit lSign lExpDigits lExponent lFraction lPrefixed lZeroTail lScanNumber parseNum parseNumUnsigned accL kindOf isMul)

/-- a byte that is `_` or a digit of the base -/
def OkByte (base c : Nat) : Prop := c = 95 ∨ digitOf c < base

theorem digitVal_eq_digitOf (c : Nat) (h : digitOf c < 16) : NumLit.digitVal c = digitOf c := by
  unfold digitOf at h
  unfold NumLit.digitVal digitOf
  by_cases h1 : 48 ≤ c ∧ c ≤ 57
  · simp [h1]
  · by_cases h2 : 97 ≤ c ∧ c ≤ 102
    · have : c ≠ 95 := by omega
      simp [h1, h2, this]; omega
    · by_cases h3 : 65 ≤ c ∧ c ≤ 70
      · have : c ≠ 95 := by omega
        simp [h1, h2, h3, this]; omega
      · simp [h1, h2, h3] at h

theorem digitOf_lt10_iff (c : Nat) : digitOf c < 10 ↔ NumLit.isDec c = true := by
  unfold digitOf NumLit.isDec
  simp only [Bool.and_eq_true, decide_eq_true_eq]
  split
  · omega
  · split
    · omega
    · split <;> omega

theorem digitOf_95 : digitOf 95 = 16 := by decide

theorem wfTail_ok (base : Nat) : ∀ (ds : List Nat) (pu : Bool), wfTail base pu ds = true → ∀ c ∈ ds, OkByte base c := by
  intro ds
  induction ds with
  | nil => intro pu _; exact List.forall_mem_nil _
  | cons a as ih =>
    intro pu h
    unfold wfTail at h
    rw [List.forall_mem_cons]
    split at h
    · rename_i ha
      simp only [Bool.and_eq_true] at h
      exact ⟨.inl (by simpa using ha), ih _ h.2⟩
    · simp only [Bool.and_eq_true, isDigit, decide_eq_true_eq] at h
      exact ⟨.inr h.1, ih _ h.2⟩

theorem wfDigits_ok (base : Nat) (ds : List Nat) (h : wfDigits base ds = true) : ∀ c ∈ ds, OkByte base c := by
  unfold wfDigits at h
  split at h
  · cases h
  · simp only [Bool.and_eq_true, isDigit, decide_eq_true_eq] at h
    exact List.forall_mem_cons.2 ⟨.inr h.1, wfTail_ok base _ false h.2⟩

theorem foldl_horner (base : Nat) (hb : base ≤ 16) : ∀ (ds : List Nat) (acc : Nat), (∀ c ∈ ds, OkByte base c) →
    (ds.filter (· != 95)).foldl (fun acc c => acc * base + NumLit.digitVal c) acc
      = acc * base ^ nDigits ds + digitsVal base ds := by
  intro ds
  induction ds with
  | nil => intro acc _; simp [nDigits, digitsVal]
  | cons a as ih =>
    intro acc h
    obtain ⟨hA, has⟩ := List.forall_mem_cons.1 h
    by_cases ha : a = 95
    · subst ha
      simp [nDigits, digitsVal] at *
      simpa [nDigits] using ih acc has
    · have hd : digitOf a < base := hA.resolve_left ha
      have hf : (a :: as).filter (· != 95) = a :: as.filter (· != 95) := by
        simp [ha]
      have hn : nDigits (a :: as) = nDigits as + 1 := by
        simp [nDigits, hf]
      rw [hf, List.foldl_cons, ih _ has, hn, digitVal_eq_digitOf a (by omega)]
      have : digitsVal base (a :: as) = digitOf a * base ^ nDigits as + digitsVal base as := by
        simp [digitsVal, ha]
      rw [this, Nat.pow_succ]
      rw [Nat.add_mul, Nat.mul_assoc, Nat.mul_comm (base ^ nDigits as) base]
      omega

theorem horner_ok (base : Nat) (hb : base ≤ 16) (ds : List Nat) (h : ∀ c ∈ ds, OkByte base c) :
    horner base (ds.filter (· != 95)) = digitsVal base ds := by
  unfold horner
  rw [foldl_horner base hb ds 0 h]; simp

/-- the rest of the input ends a run of digits and separators, in `takeDigits` as in the literal
parser's mantissa loop (hence `c ≠ 0`: that loop reports a NUL) -/
def RStop (base : Nat) (r : List Nat) : Prop :=
  match r with
  | [] => True
  | c :: _ => ¬ digitVal c < base ∧ c ≠ 0

theorem rstop_nil (b : Nat) : RStop b [] := trivial

theorem rstop_mul (m : Multiplier) : RStop 10 m.spell := by
  obtain ⟨l, b⟩ := m
  cases l <;> cases b <;> exact ⟨by decide, by decide⟩

theorem rstop_exp (x : Exponent) : RStop 10 x.spell := by
  obtain ⟨u, s, ds⟩ := x
  cases u <;> simp [Exponent.spell, RStop, digitVal]

theorem rstop_dot (t : List Nat) : RStop 10 (46 :: t) := ⟨by decide, by decide⟩

theorem rstop_exSpell (ex : Option Exponent) : RStop 10 (exSpell ex) := by
  cases ex with
  | none => trivial
  | some x => exact rstop_exp x

theorem chL_mul (m : Multiplier) : isMul (chL m.spell) = true ∧ chL m.spell ≠ 46 := by
  obtain ⟨l, b⟩ := m
  cases l <;> cases b <;> exact ⟨by decide, by decide⟩

theorem chL_exp (x : Exponent) : (chL x.spell = 101 ∨ chL x.spell = 69) ∧ chL x.spell ≠ 46 := by
  obtain ⟨u, s, ds⟩ := x
  cases u <;> simp [Exponent.spell, chL]

theorem takeDigits_stop (r : List Nat) (h : RStop 10 r) : takeDigits r = ([], r) := by
  cases r with
  | nil => rfl
  | cons c t =>
    have h1 : NumLit.isDec c = false := by
      cases hd : NumLit.isDec c
      · rfl
      · exact absurd (NumLit.digitVal_dec hd) h.1
    have h2 : c ≠ 95 := by rintro rfl; exact h.1 (by decide)
    simp [takeDigits, h1, h2]

theorem takeDigits_append : ∀ (ds r : List Nat), (∀ c ∈ ds, OkByte 10 c) → RStop 10 r →
    takeDigits (ds ++ r) = (ds.filter (· != 95), r) := by
  intro ds
  induction ds with
  | nil => intro r _ hr; simpa using takeDigits_stop r hr
  | cons a as ih =>
    intro r h hr
    obtain ⟨ha, has⟩ := List.forall_mem_cons.1 h
    have := ih r has hr
    rcases ha with ha | ha
    · subst ha
      simp [takeDigits, this, NumLit.isDec]
    · have hd := (digitOf_lt10_iff a).1 ha
      have h95 : a ≠ 95 := by
        intro h; subst h; simp [NumLit.isDec] at hd
      simp [takeDigits, this, hd, h95]

theorem takeDigits_all (ds : List Nat) (h : ∀ c ∈ ds, OkByte 10 c) :
    takeDigits ds = (ds.filter (· != 95), []) := by
  simpa using takeDigits_append ds [] h trivial


theorem round_fits (p : Nat) (d : Dec) (h : Fits p d) :
    ∃ (q : Int) (k : Nat), (round p d).1 = ⟨q, d.exp + (k : Int)⟩ ∧ q * 10 ^ k = d.coeff := by
  obtain ⟨M, k, e, -, -, -, hf⟩ := round_form p d
  refine ⟨_, k, e, ?_⟩
  have hfl : (round p d).2 = false := by
    rcases Nat.eq_zero_or_pos p with rfl | hp
    · -- no digit at all: the coefficient is 0, and `round 0 ⟨0, _⟩` is computed
      obtain ⟨c, j, hc, hcj⟩ := h
      obtain ⟨_, e⟩ := d
      obtain rfl : c = 0 := by omega
      obtain rfl : _ = 0 := hcj.trans (Int.zero_mul _)
      rfl
    · exact round_snd_of_fits p hp d ⟨d, h, rfl⟩
  rw [show (10 : Int) ^ k = ((10 ^ k : Nat) : Int) by simp, sgnMul_mul, hf.1 hfl, sgnMul_natAbs]

theorem tenpow_ne (n : Nat) : (10 : Rat) ^ n ≠ 0 := by
  have := Rat.pow_pos (a := 10) (n := n) (by decide)
  grind

theorem toRat_int (z : Int) : toRat ⟨z, 0⟩ = (z : Rat) := by
  simp [toRat]

theorem toRat_mant (A B n : Nat) (E : Int) :
    toRat ⟨((A * 10 ^ n + B : Nat) : Int), E - (n : Int)⟩
      = ((A : Rat) + (B : Rat) / (10 : Rat) ^ n) * (10 : Rat) ^ E := by
  have h1 : (10 : Rat) ^ (E - (n : Int)) = (10 : Rat) ^ E * ((10 : Rat) ^ n)⁻¹ := by
    rw [Int.sub_eq_add_neg, Rat.zpow_add ten_ne, Rat.zpow_neg, Rat.zpow_natCast]
  have h2 := tenpow_ne n
  simp only [toRat, h1]
  rw [Rat.intCast_natCast]
  simp only [Rat.natCast_add, Rat.natCast_mul, Rat.natCast_pow, Rat.natCast_ofNat]
  grind

theorem si_iff (A B n M : Nat) (z : Int) :
    ((A : Rat) + (B : Rat) / (10 : Rat) ^ n) * (M : Rat) = (z : Rat) ↔
      ((A * 10 ^ n + B : Nat) : Int) * (M : Int) = z * 10 ^ n := by
  have h2 := tenpow_ne n
  rw [← Rat.intCast_inj]
  simp only [Rat.intCast_mul, Rat.intCast_natCast, Rat.natCast_add, Rat.natCast_mul, Rat.natCast_pow,
    Rat.natCast_ofNat, Rat.intCast_pow, Rat.intCast_ofNat]
  constructor <;> intro h <;> grind

theorem toIntegralExact_neg (c z : Int) (n : Nat) :
    toIntegralExact ⟨c, -(n : Int)⟩ = some z ↔ c = z * 10 ^ n := by
  have hp : (10 : Int) ^ n ≠ 0 := Int.pow_ne_zero (by decide)
  unfold toIntegralExact
  simp only []
  by_cases hn : n = 0
  · subst hn; simp
  · rw [if_neg (by omega), show (-(-(n : Int))).toNat = n by omega]
    constructor
    · intro h
      split at h
      · rename_i hd
        rw [← Option.some.inj h]
        exact (Int.ediv_mul_cancel (Int.dvd_of_emod_eq_zero (by simpa using hd))).symm
      · cases h
    · rintro rfl
      simp [Int.mul_emod_left, Int.mul_ediv_cancel _ hp]

theorem floor_int (q : Rat) (z : Int) (h : q = (z : Rat)) : ((truncNonneg q : Int) : Rat) = q := by
  subst h; simp [truncNonneg, Rat.floor_intCast]


theorem nDigits_append (xs ys : List Nat) : nDigits (xs ++ ys) = nDigits xs + nDigits ys := by
  simp [nDigits]

theorem digitsVal_append (b : Nat) (xs ys : List Nat) :
    digitsVal b (xs ++ ys) = digitsVal b xs * b ^ nDigits ys + digitsVal b ys := by
  induction xs with
  | nil => simp [digitsVal]
  | cons a as ih =>
    by_cases ha : a = 95
    · subst ha; simpa [digitsVal] using ih
    · simp only [List.cons_append, digitsVal, ha, beq_iff_eq, if_false, ih, nDigits_append,
        Nat.pow_add, Nat.add_mul, Nat.mul_assoc, Nat.add_assoc]

/-- what `Lit.inWindow` says, of written exponent `E`, `n` fraction digits and the coefficient -/
def InWin (E : Int) (n coeff : Nat) : Prop :=
  (-100000 : Int) ≤ E ∧ E ≤ 100000 ∧ (n : Int) ≤ 100000 ∧
    (-100000 : Int) ≤ E - (n : Int) + (Dec.numDigits coeff : Int) - 1 ∧
    E - (n : Int) + (Dec.numDigits coeff : Int) - 1 ≤ 100000

/-- the int32 test on a written exponent is implied by the window -/
theorem litExp_eq (coeff : Nat) (hasExp : Bool) (e : Int) (n : Nat) (E : Int)
    (hE : E = if hasExp then e else 0) :
    (InWin E n coeff → litExp coeff hasExp e n = some (E - (n : Int))) ∧
    (¬ InWin E n coeff → litExp coeff hasExp e n = none) := by
  unfold litExp maxExp InWin
  cases hasExp <;> simp only [Bool.false_eq_true, if_false, if_true] at hE <;> subst hE <;>
    simp only [Bool.false_and, Bool.true_and, Bool.false_eq_true, if_false, if_true,
      Bool.or_eq_true, decide_eq_true_eq]
  · constructor
    · intro h
      rw [if_neg (by omega), if_neg (by omega), Int.sub_eq_add_neg]
    · intro h
      split
      · rfl
      · split
        · rfl
        · omega
  · constructor
    · intro h
      rw [if_neg (by omega), if_neg (by omega), if_neg (by omega), Int.sub_eq_add_neg]
    · intro h
      split
      · rfl
      · split
        · rfl
        · split
          · rfl
          · omega

theorem horner_cat (ip fp : List Nat) (hip : ∀ c ∈ ip, OkByte 10 c) (hfp : ∀ c ∈ fp, OkByte 10 c) :
    horner 10 (ip.filter (· != 95) ++ fp.filter (· != 95)) = digitsVal 10 (ip ++ fp) := by
  rw [← List.filter_append]
  exact horner_ok 10 (by decide) _ (List.forall_mem_append.2 ⟨hip, hfp⟩)

def partsExp (p : Parts) : Int :=
  if p.hasExp then (if p.expNeg then -(horner 10 p.expDs : Int) else (horner 10 p.expDs : Int)) else 0

/-- `p` holds the digits of the mantissa `ip.fp` -/
structure Mant (p : Parts) (ip fp : List Nat) : Prop where
  int : ∀ c ∈ ip, OkByte 10 c
  frac : ∀ c ∈ fp, OkByte 10 c
  intDs : p.intDs = ip.filter (· != 95)
  fracDs : p.fracDs = fp.filter (· != 95)

theorem decValue_read (k : NumLit.Kind) {p : Parts} {ip fp : List Nat} (h : Mant p ip fp) :
    decValue k p =
      match litExp (digitsVal 10 (ip ++ fp)) p.hasExp
          (if p.expNeg then -(horner 10 p.expDs : Int) else (horner 10 p.expDs : Int)) (nDigits fp) with
      | none => .err
      | some x =>
        match p.mul with
        | none => .ok ⟨k, ⟨(digitsVal 10 (ip ++ fp) : Nat), x⟩⟩
        | some (i, bin) =>
          match toIntegralExact (Dec.mul ⟨(digitsVal 10 (ip ++ fp) : Nat), x⟩ ⟨mulValue i bin, 0⟩) with
          | some z => .ok ⟨.int, ⟨z, 0⟩⟩
          | none => .err := by
  have hc : horner 10 (p.intDs ++ p.fracDs) = digitsVal 10 (ip ++ fp) := by
    rw [h.intDs, h.fracDs]; exact horner_cat ip fp h.int h.frac
  have hl : p.fracDs.length = nDigits fp := by rw [h.fracDs]; rfl
  unfold decValue
  simp only [hc, hl]
  rfl

theorem decValue_plain (k : NumLit.Kind) {p : Parts} {ip fp : List Nat} (h : Mant p ip fp)
    (hm : p.mul = none)
    (hw : InWin (partsExp p) (nDigits fp) (digitsVal 10 (ip ++ fp))) :
    ∃ n, decValue k p = .ok n ∧ n.k = k ∧ toRat n.d = mantissa ip fp * (10 : Rat) ^ partsExp p := by
  refine ⟨⟨k, ⟨(digitsVal 10 (ip ++ fp) : Nat), partsExp p - (nDigits fp : Int)⟩⟩, ?_, rfl, ?_⟩
  · rw [decValue_read k h, (litExp_eq _ _ _ _ (partsExp p) rfl).1 hw, hm]
  · show toRat ⟨_, _⟩ = _
    rw [digitsVal_append, toRat_mant]; rfl

theorem decValue_out (k : NumLit.Kind) {p : Parts} {ip fp : List Nat} (h : Mant p ip fp)
    (hw : ¬ InWin (partsExp p) (nDigits fp) (digitsVal 10 (ip ++ fp))) :
    decValue k p = .err := by
  rw [decValue_read k h, (litExp_eq _ _ _ _ (partsExp p) rfl).2 hw]

theorem decValue_si (k : NumLit.Kind) {p : Parts} {ip fp : List Nat} (h : Mant p ip fp)
    (i : Nat) (bin : Bool) (hm : p.mul = some (i, bin)) (he : p.hasExp = false)
    (hw : InWin 0 (nDigits fp) (digitsVal 10 (ip ++ fp))) (n : Num) :
    decValue k p = .ok n ↔
      ∃ z : Int, n = ⟨.int, ⟨z, 0⟩⟩ ∧ mantissa ip fp * ((mulValue i bin : Nat) : Rat) = (z : Rat) := by
  rw [decValue_read k h, (litExp_eq _ _ _ _ 0 (by rw [he]; rfl)).1 hw, hm]
  simp only [Dec.mul, show (0 : Int) - (nDigits fp : Int) + 0 = -(nDigits fp : Int) by omega]
  have key := fun z => (toIntegralExact_neg _ z (nDigits fp)).trans
    ((digitsVal_append 10 ip fp ▸ si_iff _ _ _ (mulValue i bin) z).symm)
  constructor
  · intro h
    split at h
    · rename_i z hz
      exact ⟨z, (LitRes.ok.inj h).symm, (key z).1 hz⟩
    · cases h
  · rintro ⟨z, rfl, hz⟩
    rw [(key z).2 hz]

/-- the tail of `readParts`, after the mantissa -/
def tailParts (ip fp r2 : List Nat) : Parts :=
  match r2 with
  | [] => { intDs := ip, fracDs := fp }
  | c :: t =>
    if c == 101 || c == 69 then
      let (neg, t') :=
        match t with
        | 45 :: u => (true, u)
        | 43 :: u => (false, u)
        | _ => (false, t)
      { intDs := ip, fracDs := fp, hasExp := true, expNeg := neg, expDs := (takeDigits t').1 }
    else if NumLit.isMul c then
      { intDs := ip, fracDs := fp, mul := some (mulIndex c, t == [105]) }
    else { intDs := ip, fracDs := fp }

abbrev SafeByte (c : Nat) : Prop := c ≠ 120 ∧ c ≠ 88 ∧ c ≠ 98 ∧ c ≠ 111

/-- the second byte (if the first is `0`) is not a base prefix letter -/
def NoPrefix (s : List Nat) : Prop := ∀ c t, s = 48 :: c :: t → SafeByte c

abbrev HeadSafe (r : List Nat) : Prop := SafeByte (chL r)

theorem readValue_dec (k : NumLit.Kind) (s : List Nat) (h : NoPrefix s) :
    readValue k s = decValue k (readParts s) := by
  unfold readValue
  split
  case h_5 => rfl
  all_goals exact absurd (h _ _ rfl) (by decide)

theorem safe_of_ok {c : Nat} (h : OkByte 10 c) : SafeByte c := by
  rcases h with h | h
  · subst h; simp [SafeByte]
  · have := NumLit.isDec_iff.1 ((digitOf_lt10_iff c).1 h)
    simp only [SafeByte]; omega

theorem noPrefix_cat (ip r : List Nat) (hip : ∀ c ∈ ip, OkByte 10 c) (hr : HeadSafe r)
    (h0 : ip = [] → chL r ≠ 48) : NoPrefix (ip ++ r) := by
  intro c t h
  cases ip with
  | nil => rw [List.nil_append] at h; rw [h] at h0; exact absurd rfl (h0 rfl)
  | cons a as =>
    cases as with
    | nil =>
      simp at h
      have := hr
      rwa [h.2] at this
    | cons b bs =>
      simp at h
      exact safe_of_ok (hip c (by simp [h.2.1]))

theorem headSafe_nil : HeadSafe [] := by decide
theorem headSafe_dot (t : List Nat) : HeadSafe (46 :: t) := show SafeByte 46 by decide
theorem headSafe_mul (m : Multiplier) : HeadSafe m.spell := by
  obtain ⟨l, b⟩ := m
  cases l <;> cases b <;> decide
theorem headSafe_exp (x : Exponent) : HeadSafe x.spell := by
  obtain ⟨u, s, ds⟩ := x
  cases u
  · exact show SafeByte 101 by decide
  · exact show SafeByte 69 by decide

theorem readValue_frac (k : NumLit.Kind) (ip fp r2 : List Nat) (hip : ∀ c ∈ ip, OkByte 10 c)
    (hfp : ∀ c ∈ fp, OkByte 10 c) (hs : RStop 10 r2) :
    readValue k (ip ++ 46 :: (fp ++ r2)) =
      decValue k (tailParts (ip.filter (· != 95)) (fp.filter (· != 95)) r2) := by
  rw [readValue_dec _ _ (noPrefix_cat ip _ hip (headSafe_dot _)
    (fun _ => show (46 : Nat) ≠ 48 by decide))]
  unfold readParts tailParts
  rw [takeDigits_append ip _ hip (rstop_dot _)]
  simp only [takeDigits_append fp r2 hfp hs]
  cases r2 <;> rfl

theorem readValue_int (k : NumLit.Kind) (ip r2 : List Nat) (hip : ∀ c ∈ ip, OkByte 10 c)
    (hne : ip ≠ []) (hs : RStop 10 r2) (hr : HeadSafe r2) (hnd : chL r2 ≠ 46) :
    readValue k (ip ++ r2) = decValue k (tailParts (ip.filter (· != 95)) [] r2) := by
  rw [readValue_dec _ _ (noPrefix_cat ip _ hip hr (fun h => absurd h hne))]
  unfold readParts tailParts
  rw [takeDigits_append ip _ hip hs]
  cases r2 with
  | nil => rfl
  | cons c t =>
    have : c ≠ 46 := hnd
    simp [this]
    rfl

theorem tailParts_mul (ip fp : List Nat) (m : Multiplier) :
    tailParts ip fp m.spell = { intDs := ip, fracDs := fp, mul := some (m.letter.rank, m.iec) } := by
  obtain ⟨l, b⟩ := m
  cases l <;> cases b <;> rfl

theorem mulValue_eq (m : Multiplier) : mulValue m.letter.rank m.iec = m.value := by
  obtain ⟨l, b⟩ := m
  cases b <;> rfl

def Exponent.neg (x : Exponent) : Bool := match x.sign with | .minus => true | _ => false

theorem wf_head {ds : List Nat} (h : wfDigits 10 ds = true) :
    ∃ c cs, ds = c :: cs ∧ NumLit.isDec c = true := by
  cases ds with
  | nil => simp [wfDigits] at h
  | cons c cs =>
    simp only [wfDigits, Bool.and_eq_true, isDigit, decide_eq_true_eq] at h
    exact ⟨c, cs, rfl, (digitOf_lt10_iff c).1 h.1⟩

theorem tailParts_exp (ip fp : List Nat) (x : Exponent) (h : wfDigits 10 x.ds = true) :
    tailParts ip fp x.spell =
      { intDs := ip, fracDs := fp, hasExp := true, expNeg := Exponent.neg x,
        expDs := x.ds.filter (· != 95) } := by
  obtain ⟨u, s, ds⟩ := x
  have htd := takeDigits_all ds (wfDigits_ok 10 ds h)
  obtain ⟨c, cs, rfl, hc⟩ := wf_head h
  have hc' := NumLit.isDec_iff.1 hc
  have h45 : c ≠ 45 := by omega
  have h43 : c ≠ 43 := by omega
  cases u <;> cases s <;> simp [tailParts, Exponent.spell, Exponent.neg, htd, h45, h43]


theorem wf_ne_nil {b : Nat} {ds : List Nat} (h : wfDigits b ds = true) : ds ≠ [] := by
  intro e; subst e; simp [wfDigits] at h

theorem dec_wf (ds : List Nat) (h : (Lit.dec ds).wf = true) :
    wfDigits 10 ds = true ∧ ∀ a t, ds ≠ 48 :: a :: t := by
  simp only [Lit.wf, Bool.or_eq_true, beq_iff_eq] at h
  rcases h with h | h
  · subst h; exact ⟨by decide, by intro a t e; simp at e⟩
  · cases ds with
    | nil => simp at h
    | cons c cs =>
      simp only [Bool.and_eq_true, decide_eq_true_eq] at h
      refine ⟨?_, ?_⟩
      · simp only [wfDigits, Bool.and_eq_true, isDigit, decide_eq_true_eq]
        exact ⟨(digitOf_lt10_iff c).2 (NumLit.isDec_iff.2 ⟨by omega, by omega⟩), h.2⟩
      · intro a t e; simp at e; omega

theorem readValue_prefixed (k : NumLit.Kind) (x base : Nat) (ds : List Nat) (hb : base ≤ 16)
    (hds : wfDigits base ds = true)
    (hx : (x = 120 ∧ base = 16) ∨ (x = 88 ∧ base = 16) ∨ (x = 98 ∧ base = 2) ∨ (x = 111 ∧ base = 8)) :
    readValue k (48 :: x :: ds) = .ok ⟨.int, ⟨(digitsVal base ds : Nat), 0⟩⟩ := by
  rw [← horner_ok base hb ds (wfDigits_ok base ds hds)]
  rcases hx with ⟨rfl, rfl⟩ | ⟨rfl, rfl⟩ | ⟨rfl, rfl⟩ | ⟨rfl, rfl⟩ <;> rfl

theorem toRat_natCast (n : Nat) : toRat ⟨(n : Int), 0⟩ = (n : Rat) := by
  rw [toRat_int, Rat.intCast_natCast]

theorem optWf_ok (fp : Option (List Nat)) (h : optWf fp = true) : ∀ c ∈ optSpell fp, OkByte 10 c := by
  cases fp with
  | none => intro c hc; cases hc
  | some f => exact wfDigits_ok 10 f h

theorem partsExp_tail (ip fp : List Nat) (ex : Option Exponent) (hex : exWf ex = true) :
    partsExp (tailParts ip fp (exSpell ex)) = exVal ex ∧ (tailParts ip fp (exSpell ex)).intDs = ip ∧
      (tailParts ip fp (exSpell ex)).fracDs = fp ∧ (tailParts ip fp (exSpell ex)).mul = none := by
  cases ex with
  | none => exact ⟨rfl, rfl, rfl, rfl⟩
  | some x =>
    have hx : wfDigits 10 x.ds = true := hex
    rw [show exSpell (some x) = x.spell from rfl, tailParts_exp _ _ x hx]
    refine ⟨?_, rfl, rfl, rfl⟩
    show (if true = true then (if Exponent.neg x then _ else _) else _) = x.value
    rw [if_pos rfl, horner_ok 10 (by decide) _ (wfDigits_ok 10 _ hx)]
    obtain ⟨u, s, ds⟩ := x
    cases s <;> rfl

/-- the spec's kind and value inside the exponent window, an error outside -/
def ReadsRight (l : Lit) : Prop :=
  (l.inWindow → ∃ n, readValue l.kind l.spell = .ok n ∧ n.k = l.kind ∧ toRat n.d = l.denote) ∧
  (¬ l.inWindow → readValue l.kind l.spell = .err)

/-- for a multiplied literal with product `q`: accepted iff `q` is an integer -/
def SiReads (l : Lit) (q : Rat) : Prop :=
  (l.inWindow → ∀ n, readValue .int l.spell = .ok n ↔
    ∃ z : Int, n = ⟨.int, ⟨z, 0⟩⟩ ∧ q = (z : Rat)) ∧
  (¬ l.inWindow → readValue .int l.spell = .err)

theorem float_core (k : NumLit.Kind) (ip fp : List Nat) (ex : Option Exponent)
    (hip : ∀ c ∈ ip, OkByte 10 c) (hfp : ∀ c ∈ fp, OkByte 10 c) (hex : exWf ex = true)
    (s : List Nat)
    (hs : readValue k s = decValue k (tailParts (ip.filter (· != 95)) (fp.filter (· != 95)) (exSpell ex))) :
    (InWin (exVal ex) (nDigits fp) (digitsVal 10 (ip ++ fp)) →
      ∃ n, readValue k s = .ok n ∧ n.k = k ∧ toRat n.d = mantissa ip fp * (10 : Rat) ^ exVal ex) ∧
    (¬ InWin (exVal ex) (nDigits fp) (digitsVal 10 (ip ++ fp)) → readValue k s = .err) := by
  obtain ⟨hE, h1, h2, hm⟩ := partsExp_tail (ip.filter (· != 95)) (fp.filter (· != 95)) ex hex
  rw [hs, ← hE]
  exact ⟨decValue_plain k ⟨hip, hfp, h1, h2⟩ hm, decValue_out k ⟨hip, hfp, h1, h2⟩⟩

/-- the float layout without fraction and exponent -/
theorem lit_dec (ds : List Nat) (hwf : (Lit.dec ds).wf = true) : ReadsRight (Lit.dec ds) := by
  obtain ⟨hwd, hlz⟩ := dec_wf ds hwf
  have hok := wfDigits_ok 10 ds hwd
  have hp := readValue_int .int ds [] hok (wf_ne_nil hwd) trivial headSafe_nil (by decide)
  rw [List.append_nil] at hp
  have := float_core .int ds [] none hok (List.forall_mem_nil _) rfl ds hp
  rw [List.append_nil, show mantissa ds [] * (10 : Rat) ^ exVal none = ((digitsVal 10 ds : Nat) : Rat) by
    simp [mantissa, digitsVal, exVal, nDigits, Rat.div_def, Rat.add_zero]] at this
  exact this

theorem lit_fPoint (ip : List Nat) (fp : Option (List Nat)) (ex : Option Exponent)
    (hwf : (Lit.fPoint ip fp ex).wf = true) : ReadsRight (Lit.fPoint ip fp ex) := by
  simp only [Lit.wf, Bool.and_eq_true] at hwf
  have hip := wfDigits_ok 10 ip hwf.1.1
  have hfp := optWf_ok fp hwf.1.2
  have e : (Lit.fPoint ip fp ex).spell = ip ++ 46 :: (optSpell fp ++ exSpell ex) := by simp [Lit.spell]
  exact float_core .float ip (optSpell fp) ex hip hfp hwf.2 _
    (e ▸ readValue_frac _ ip _ _ hip hfp (rstop_exSpell ex))

theorem lit_fExp (ip : List Nat) (x : Exponent) (hwf : (Lit.fExp ip x).wf = true) :
    ReadsRight (Lit.fExp ip x) := by
  simp only [Lit.wf, Bool.and_eq_true] at hwf
  have hip := wfDigits_ok 10 ip hwf.1
  have := float_core .float ip [] (some x) hip (List.forall_mem_nil _) hwf.2 (ip ++ x.spell)
    (readValue_int _ ip _ hip (wf_ne_nil hwf.1) (rstop_exp x) (headSafe_exp x) (chL_exp x).2)
  rw [List.append_nil] at this
  exact this

theorem lit_fDot (fp : List Nat) (ex : Option Exponent) (hwf : (Lit.fDot fp ex).wf = true) :
    ReadsRight (Lit.fDot fp ex) := by
  simp only [Lit.wf, Bool.and_eq_true] at hwf
  have hfp := wfDigits_ok 10 fp hwf.1
  have e : (Lit.fDot fp ex).spell = [] ++ 46 :: (fp ++ exSpell ex) := by simp [Lit.spell]
  exact float_core .float [] fp ex (List.forall_mem_nil _) hfp hwf.2 _
    (e ▸ readValue_frac _ [] fp _ (List.forall_mem_nil _) hfp (rstop_exSpell ex))

theorem inWin_empty : InWin 0 0 (digitsVal 10 []) := by
  unfold InWin; decide

theorem parts_si (k : NumLit.Kind) (ip : List Nat) (fp : Option (List Nat)) (m : Multiplier)
    (hwf : (Lit.si ip fp m).wf = true) :
    readValue k (Lit.si ip fp m).spell = decValue k
      { intDs := ip.filter (· != 95), fracDs := (optSpell fp).filter (· != 95),
        mul := some (m.letter.rank, m.iec) } := by
  simp only [Lit.wf, Bool.and_eq_true] at hwf
  have hip := wfDigits_ok 10 ip hwf.1
  have hfp := optWf_ok fp hwf.2
  cases fp with
  | none =>
    have e : (Lit.si ip none m).spell = ip ++ m.spell := by simp [Lit.spell]
    rw [e, readValue_int _ ip _ hip (wf_ne_nil hwf.1) (rstop_mul m) (headSafe_mul m) (chL_mul m).2,
      tailParts_mul]
    rfl
  | some f =>
    have e : (Lit.si ip (some f) m).spell = ip ++ 46 :: (f ++ m.spell) := by simp [Lit.spell]
    rw [e, readValue_frac _ ip f _ hip hfp (rstop_mul m), tailParts_mul]
    rfl

/-- the multiplier layout: mantissa `ip.fp` and multiplier `m` read from the spelling of `l` -/
theorem si_core (ip fp : List Nat) (m : Multiplier) (hip : ∀ c ∈ ip, OkByte 10 c)
    (hfp : ∀ c ∈ fp, OkByte 10 c) (l : Lit)
    (hl : l.inWindow ↔ InWin 0 (nDigits fp) (digitsVal 10 (ip ++ fp)))
    (hs : readValue .int l.spell = decValue .int
      { intDs := ip.filter (· != 95), fracDs := fp.filter (· != 95),
        mul := some (m.letter.rank, m.iec) }) :
    SiReads l (mantissa ip fp * (m.value : Rat)) := by
  unfold SiReads
  rw [hs, ← mulValue_eq]
  exact ⟨fun hw => decValue_si .int ⟨hip, hfp, rfl, rfl⟩ _ _ rfl rfl (hl.1 hw),
    fun hw => decValue_out .int ⟨hip, hfp, rfl, rfl⟩ (mt hl.2 hw)⟩

theorem lit_si (ip : List Nat) (fp : Option (List Nat)) (m : Multiplier)
    (hwf : (Lit.si ip fp m).wf = true) :
    SiReads (Lit.si ip fp m) (mantissa ip (optSpell fp) * (m.value : Rat)) := by
  have hs := parts_si .int ip fp m hwf
  simp only [Lit.wf, Bool.and_eq_true] at hwf
  exact si_core ip (optSpell fp) m (wfDigits_ok 10 ip hwf.1) (optWf_ok fp hwf.2) _ Iff.rfl hs

theorem lit_siDot (fp : List Nat) (m : Multiplier) (hwf : (Lit.siDot fp m).wf = true) :
    SiReads (Lit.siDot fp m) (mantissa [] fp * (m.value : Rat)) := by
  have hfp := wfDigits_ok 10 fp hwf
  have e : (Lit.siDot fp m).spell = [] ++ 46 :: (fp ++ m.spell) := by simp [Lit.spell]
  refine si_core [] fp m (List.forall_mem_nil _) hfp _ Iff.rfl ?_
  rw [e, readValue_frac _ [] fp _ (List.forall_mem_nil _) hfp (rstop_mul m), tailParts_mul]

theorem si_value {s : List Nat} {q : Rat}
    (h : ∀ n, readValue .int s = .ok n ↔ ∃ z : Int, n = ⟨.int, ⟨z, 0⟩⟩ ∧ q = (z : Rat))
    (hi : ∃ z : Int, q = (z : Rat)) :
    ∃ n, readValue .int s = .ok n ∧ n.k = .int ∧ toRat n.d = ((truncNonneg q : Int) : Rat) := by
  obtain ⟨z, hz⟩ := hi
  refine ⟨_, (h _).2 ⟨z, rfl, hz⟩, rfl, ?_⟩
  rw [toRat_int, floor_int _ z hz, hz]

theorem readValue_si_kind (k : NumLit.Kind) (ip : List Nat) (fp : Option (List Nat)) (m : Multiplier)
    (hwf : (Lit.si ip fp m).wf = true) :
    readValue k (Lit.si ip fp m).spell = readValue .int (Lit.si ip fp m).spell := by
  rw [parts_si k ip fp m hwf, parts_si .int ip fp m hwf]
  rfl

theorem floor_eq (q : Rat) (z : Int) (h1 : (z : Rat) ≤ q) (h2 : q < ((z + 1 : Int) : Rat)) : q.floor = z := by
  have a := Rat.le_floor_iff.2 h1
  have b := Rat.floor_lt_iff.2 h2
  omega

end CueVerif.Proofs.NumValLitAux
