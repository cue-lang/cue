/-
C06 helper lemmas for Proofs/NumValPrint.lean (printing a number and reading the text back).
Every text `fmtG` produces is a spelling of the literal grammar (`Lit.dec`, `Lit.fPoint`,
`Lit.fExp`) whose digits are those of `digitsOf`, so reading it back is an instance of
`NumValLit.literal_litValue`; what is proved here is which literal it is, that its digits have the
printed value, and that it lies in the exponent window.  Core Lean only.
-/
import CueVerif.Proofs.NumValLit
namespace CueVerif.Proofs.NumValPrintAux
open CueVerif CueVerif.Arith CueVerif.NumVal CueVerif.Spec.Arith
open CueVerif.Proofs.NumValLitAux
open CueVerif.Proofs.NumValLitAccept (wfTail_of_allDec wfDigits_of_allDec)
open CueVerif.Proofs.ArithExact (numDigits_lt10 numDigits_ge10 numDigits_pos toRat_neg toRat_mul_pow)

/-! ### digits -/

theorem digitsAux_spec (n : Nat) :
    ∀ fuel acc, n < fuel → digitsAux fuel n acc = digitsOf n ++ acc := by
  induction n using Nat.strongRecOn with
  | _ n ih =>
    have key : ∀ fuel acc, n < fuel → digitsAux fuel n acc =
        (if n < 10 then [48 + n] else digitsOf (n / 10) ++ [48 + n % 10]) ++ acc := by
      intro fuel acc hf
      cases fuel with
      | zero => omega
      | succ f =>
        unfold digitsAux
        by_cases h : n < 10
        · simp [h]
        · have hlt : n / 10 < n := by omega
          simp only [h, ↓reduceIte]
          rw [ih (n / 10) hlt f _ (by omega)]
          simp
    intro fuel acc hf
    rw [key fuel acc hf]
    unfold digitsOf
    rw [key (n + 1) [] (by omega)]
    simp [digitsOf]

theorem digitsOf_lt {n : Nat} (h : n < 10) : digitsOf n = [48 + n] := by
  unfold digitsOf digitsAux
  simp [h]

theorem digitsOf_ge {n : Nat} (h : 10 ≤ n) : digitsOf n = digitsOf (n / 10) ++ [48 + n % 10] := by
  have h' : ¬ n < 10 := by omega
  conv => lhs; unfold digitsOf digitsAux
  simp only [h', ↓reduceIte]
  rw [digitsAux_spec (n / 10) n _ (by omega)]

theorem digitsOf_length (n : Nat) : (digitsOf n).length = Dec.numDigits n := by
  induction n using Nat.strongRecOn with
  | _ n ih =>
    by_cases h : n < 10
    · rw [digitsOf_lt h, numDigits_lt10 h]; rfl
    · rw [digitsOf_ge (by omega), numDigits_ge10 (by omega), List.length_append,
        ih (n / 10) (by omega)]
      simp [Nat.add_comm]

theorem digitsOf_allDec (n : Nat) : (digitsOf n).all NumLit.isDec = true := by
  induction n using Nat.strongRecOn with
  | _ n ih =>
    by_cases h : n < 10
    · rw [digitsOf_lt h]
      simp [NumLit.isDec]; omega
    · rw [digitsOf_ge (by omega), List.all_append, ih (n / 10) (by omega)]
      have := Nat.mod_lt n (show 0 < 10 by decide)
      simp [NumLit.isDec]; omega

theorem digitsOf_head (n : Nat) (hn : 0 < n) :
    ∃ c ds, digitsOf n = c :: ds ∧ 49 ≤ c ∧ c ≤ 57 := by
  induction n using Nat.strongRecOn with
  | _ n ih =>
    by_cases h : n < 10
    · exact ⟨48 + n, [], digitsOf_lt h, by omega, by omega⟩
    · obtain ⟨c, ds, hd, hc⟩ := ih (n / 10) (by omega) (by omega)
      exact ⟨c, ds ++ [48 + n % 10], by rw [digitsOf_ge (by omega), hd]; rfl, hc⟩

theorem digitsOf_zero : digitsOf 0 = [48] := rfl

theorem zeros_allDec (j : Nat) : (zeros j).all NumLit.isDec = true := by
  simp [zeros, List.all_replicate, NumLit.isDec]

theorem readValue_zero1 (k : NumLit.Kind) : readValue k [48] = decValue k (readParts [48]) := rfl

/-! ### printed digit strings are digit strings of the grammar -/

theorem filter_of_allDec {ds : List Nat} (h : ds.all NumLit.isDec = true) :
    ds.filter (· != 95) = ds := by
  rw [List.filter_eq_self]
  intro c hc
  have := NumLit.isDec_iff.1 (List.all_eq_true.1 h c hc)
  simp; omega

theorem ok_of_allDec {ds : List Nat} (h : ds.all NumLit.isDec = true) : ∀ c ∈ ds, OkByte 10 c :=
  fun c hc => Or.inr ((digitOf_lt10_iff c).2 (List.all_eq_true.1 h c hc))

theorem digitsVal_of_allDec {ds : List Nat} (h : ds.all NumLit.isDec = true) :
    digitsVal 10 ds = horner 10 ds := by
  rw [← horner_ok 10 (by decide) ds (ok_of_allDec h), filter_of_allDec h]

theorem nDigits_of_allDec {ds : List Nat} (h : ds.all NumLit.isDec = true) :
    nDigits ds = ds.length := by
  rw [nDigits, filter_of_allDec h]

theorem digitsVal_digit {d : Nat} (h : d < 10) : digitsVal 10 [48 + d] = d := by
  have : digitOf (48 + d) = d := by rw [digitOf, if_pos (by omega)]; omega
  simp [digitsVal, this, nDigits]; omega

theorem nDigits_digit {d : Nat} (h : d < 10) : nDigits [48 + d] = 1 := by
  have : (48 + d != 95) = true := by simp; omega
  simp [nDigits, List.filter, this]

theorem digitsVal_digitsOf (n : Nat) : digitsVal 10 (digitsOf n) = n := by
  induction n using Nat.strongRecOn with
  | _ n ih =>
    by_cases h : n < 10
    · rw [digitsOf_lt h, digitsVal_digit h]
    · rw [digitsOf_ge (by omega), digitsVal_append, ih (n / 10) (by omega),
        digitsVal_digit (Nat.mod_lt _ (by decide)), nDigits_digit (Nat.mod_lt _ (by decide))]
      omega

theorem horner_digitsOf (n : Nat) : horner 10 (digitsOf n) = n := by
  rw [← digitsVal_of_allDec (digitsOf_allDec n), digitsVal_digitsOf]

theorem digitsVal_zeros (j : Nat) (ds : List Nat) : digitsVal 10 (zeros j ++ ds) = digitsVal 10 ds := by
  induction j with
  | zero => rfl
  | succ j ih =>
    show digitsVal 10 (48 :: (zeros j ++ ds)) = _
    rw [digitsVal, if_neg (by decide), ih, show digitOf 48 = 0 by decide, Nat.zero_mul, Nat.zero_add]

theorem mantissa_scaled (ip fp : List Nat) (E : Int) :
    mantissa ip fp * (10 : Rat) ^ E =
      toRat ⟨(digitsVal 10 (ip ++ fp) : Nat), E - (nDigits fp : Int)⟩ := by
  rw [digitsVal_append, toRat_mant]; rfl

theorem allDec_append {a b : List Nat} (ha : a.all NumLit.isDec = true)
    (hb : b.all NumLit.isDec = true) : (a ++ b).all NumLit.isDec = true := by
  rw [List.all_append, ha, hb]; rfl

/-- `ip.fp[e±x]` printed from digits: a `float_lit` of the grammar, so `literal_litValue` reads it -/
theorem litValue_fPoint (ip fp : List Nat) (ex : Option Exponent) (m : Nat) (x : Int)
    (hip : ip.all NumLit.isDec = true) (hipne : 0 < ip.length) (hfp : fp.all NumLit.isDec = true)
    (hfpne : 0 < fp.length) (hex : exWf ex = true)
    (hv : digitsVal 10 (ip ++ fp) = m) (hx : exVal ex - (fp.length : Int) = x)
    (hw : InWin (exVal ex) fp.length m) :
    ∃ n, litValue (ip ++ 46 :: (fp ++ exSpell ex)) = .ok n ∧ n.k = .float ∧
      toRat n.d = toRat ⟨(m : Int), x⟩ := by
  have hn := nDigits_of_allDec hfp
  have hwf : (Lit.fPoint ip (some fp) ex).wf = true := by
    simp only [Lit.wf, optWf, wfDigits_of_allDec hip hipne, wfDigits_of_allDec hfp hfpne, hex,
      Bool.and_self]
  have hw' : (Lit.fPoint ip (some fp) ex).inWindow := by
    show InWin (exVal ex) (nDigits fp) (digitsVal 10 (ip ++ fp))
    rw [hv, hn]; exact hw
  obtain ⟨n, h1, h2, h3⟩ := NumValLit.literal_litValue _ hwf rfl hw' trivial
  refine ⟨n, ?_, h2, ?_⟩
  · rw [← h1]; simp [Lit.spell, optSpell]
  · rw [h3]
    show mantissa ip fp * _ = _
    rw [mantissa_scaled, hv, hn, hx]

/-- `ip.fp` without exponent, `n` fraction digits -/
theorem litValue_point (ip fp : List Nat) (m n : Nat)
    (hip : ip.all NumLit.isDec = true) (hipne : 0 < ip.length) (hfp : fp.all NumLit.isDec = true)
    (hlen : fp.length = n) (hn : 0 < n) (hv : digitsVal 10 (ip ++ fp) = m) (hw : InWin 0 n m) :
    ∃ r, litValue (ip ++ 46 :: fp) = .ok r ∧ r.k = .float ∧
      toRat r.d = toRat ⟨(m : Int), 0 - (n : Int)⟩ := by
  subst hlen
  have := litValue_fPoint ip fp none m _ hip hipne hfp hn rfl hv rfl hw
  rwa [show exSpell none = [] from rfl, List.append_nil] at this

/-- `ddde±x` -/
theorem litValue_fExp (ip : List Nat) (x : Exponent) (m : Nat)
    (hip : ip.all NumLit.isDec = true) (hipne : 0 < ip.length) (hx : wfDigits 10 x.ds = true)
    (hv : digitsVal 10 ip = m) (hw : InWin x.value 0 m) :
    ∃ n, litValue (ip ++ x.spell) = .ok n ∧ n.k = .float ∧ toRat n.d = toRat ⟨(m : Int), x.value⟩ := by
  have hwf : (Lit.fExp ip x).wf = true := by
    simp only [Lit.wf, wfDigits_of_allDec hip hipne, hx, Bool.and_self]
  have hw' : (Lit.fExp ip x).inWindow := by
    show InWin x.value 0 (digitsVal 10 ip)
    rw [hv]; exact hw
  obtain ⟨n, h1, h2, h3⟩ := NumValLit.literal_litValue _ hwf rfl hw' trivial
  refine ⟨n, h1, h2, ?_⟩
  rw [h3]
  show mantissa ip [] * _ = _
  rw [mantissa_scaled, List.append_nil, hv]
  exact congrArg (fun e => toRat ⟨(m : Int), e⟩) (Int.sub_zero _)

/-- plain digits: a `decimal_lit` -/
theorem lit_int (m : Nat) (hL : (Dec.numDigits m : Int) - 1 ≤ maxExp) :
    ∃ n, litValue (digitsOf m) = .ok n ∧ n.k = .int ∧ toRat n.d = toRat ⟨(m : Int), 0⟩ := by
  have hall := digitsOf_allDec m
  have hv := digitsVal_digitsOf m
  have hwf : (Lit.dec (digitsOf m)).wf = true := by
    by_cases hm : m = 0
    · subst hm; rfl
    · obtain ⟨c, ds, hd, hc⟩ := digitsOf_head m (by omega)
      rw [hd] at hall ⊢
      rw [List.all_cons, Bool.and_eq_true] at hall
      simp only [Lit.wf, decide_eq_true hc, wfTail_of_allDec hall.2, Bool.and_self, Bool.or_true]
  have hw : (Lit.dec (digitsOf m)).inWindow := by
    show InWin 0 0 (digitsVal 10 (digitsOf m))
    rw [hv]
    have := numDigits_pos m
    unfold maxExp at hL
    unfold InWin
    omega
  obtain ⟨n, h1, h2, h3⟩ := NumValLit.literal_litValue _ hwf rfl hw trivial
  refine ⟨n, h1, h2, ?_⟩
  rw [h3]
  show ((digitsVal 10 (digitsOf m) : Nat) : Rat) = _
  rw [hv, toRat_int, Rat.intCast_natCast]

theorem numDigits_mul10 (m : Nat) : Dec.numDigits (m * 10) ≤ 1 + Dec.numDigits m := by
  by_cases hm : m = 0
  · subst hm; decide
  · rw [numDigits_ge10 (by omega), Nat.mul_div_cancel m (by decide)]
    exact Nat.le_refl _

theorem digitsOf_length_pos (m : Nat) : 0 < (digitsOf m).length := by
  rw [digitsOf_length]; exact numDigits_pos m

/-- digits followed by `.0` -/
theorem lit_dot0 (m : Nat) (hL : (Dec.numDigits m : Int) ≤ maxExp) :
    ∃ n, litValue (digitsOf m ++ [46, 48]) = .ok n ∧ n.k = .float ∧
      toRat n.d = toRat ⟨(m : Int), 0⟩ := by
  have h1 := numDigits_pos (m * 10)
  have h2 := numDigits_mul10 m
  unfold maxExp at hL
  obtain ⟨n, e1, e2, e3⟩ := litValue_point (digitsOf m) [48] (m * 10) 1 (digitsOf_allDec m)
    (digitsOf_length_pos m) (by decide) rfl (by decide)
    (by rw [digitsVal_append, digitsVal_digitsOf]; rfl) (by unfold InWin; omega)
  refine ⟨n, e1, e2, ?_⟩
  rw [e3, Int.natCast_mul]
  exact toRat_mul_pow m 1 (-1)

/-! ### the two notations of `fmtG` -/

/-- the float arm of `PrintRegular` -/
def Window (m : Nat) (x : Int) : Prop :=
  -maxExp ≤ x + (Dec.numDigits m : Int) - 1 ∧ x + (Dec.numDigits m : Int) - 1 ≤ maxExp ∧
    -maxExp ≤ x ∧ (Dec.numDigits m : Int) ≤ maxExp

theorem all_of_sub {p : Nat → Bool} {a b : List Nat} (h : b.all p = true)
    (hs : a ⊆ b) : a.all p = true := by
  rw [List.all_eq_true] at h ⊢
  exact fun y hy => h y (hs hy)

theorem lit_fmtF_neg (m : Nat) (x : Int) (hx : x < 0) (hw : Window m x) :
    ∃ n, litValue (fmtF (digitsOf m) x) = .ok n ∧ n.k = .float ∧
      toRat n.d = toRat ⟨(m : Int), x⟩ := by
  obtain ⟨w1, w2, w3, w4⟩ := hw
  unfold maxExp at w1 w2 w3 w4
  have hlen := digitsOf_length m
  have hall := digitsOf_allDec m
  obtain ⟨n, rfl⟩ : ∃ n : Nat, x = 0 - (n : Int) := ⟨(-x).toNat, by omega⟩
  have hwin : InWin 0 n m := by unfold InWin; omega
  unfold fmtF
  rw [if_pos hx, show (-(0 - (n : Int))).toNat = n by omega]
  by_cases hle : (digitsOf m).length ≤ n
  · rw [if_pos hle]
    exact litValue_point [48] (zeros (n - (digitsOf m).length) ++ digitsOf m) m n (by decide) (by decide) (allDec_append (zeros_allDec _) hall)
      (by rw [List.length_append, zeros, List.length_replicate]; omega) (by omega)
      ((digitsVal_zeros (n - (digitsOf m).length + 1) _).trans (digitsVal_digitsOf m)) hwin
  · rw [if_neg hle, List.append_assoc]
    exact litValue_point ((digitsOf m).take ((digitsOf m).length - n))
      ((digitsOf m).drop ((digitsOf m).length - n)) m n
      (all_of_sub hall (List.take_subset _ _)) (by rw [List.length_take]; omega)
      (all_of_sub hall (List.drop_subset _ _)) (by rw [List.length_drop]; omega)
      (by omega) (by rw [List.take_append_drop, digitsVal_digitsOf]) hwin

/-- the exponent part `fmtE` writes -/
def printedExp (mk : Nat) (adj : Int) : Exponent :=
  ⟨mk == 69, if adj < 0 then .minus else .plus, digitsOf adj.natAbs⟩

theorem printedExp_spell (mk : Nat) (adj : Int) (hmk : mk = 101 ∨ mk = 69) :
    (printedExp mk adj).spell = [mk] ++ (if adj < 0 then [45] else [43]) ++ digitsOf adj.natAbs := by
  rcases hmk with rfl | rfl <;> by_cases h : adj < 0 <;> simp [printedExp, Exponent.spell, h]

theorem printedExp_value (mk : Nat) (adj : Int) : (printedExp mk adj).value = adj := by
  have hv := digitsVal_digitsOf adj.natAbs
  by_cases h : adj < 0 <;> simp [printedExp, Exponent.value, h, hv] <;> omega

theorem printedExp_wf (mk : Nat) (adj : Int) : wfDigits 10 (printedExp mk adj).ds = true :=
  wfDigits_of_allDec (digitsOf_allDec _) (digitsOf_length_pos _)

theorem lit_fmtE (mk m : Nat) (x : Int) (hmk : mk = 101 ∨ mk = 69) (hw : Window m x) :
    ∃ n, litValue (fmtE mk (digitsOf m) x) = .ok n ∧ n.k = .float ∧
      toRat n.d = toRat ⟨(m : Int), x⟩ := by
  obtain ⟨w1, w2, w3, w4⟩ := hw
  unfold maxExp at w1 w2 w3 w4
  have hlen := digitsOf_length m
  have hall := digitsOf_allDec m
  have hh := digitsVal_digitsOf m
  unfold fmtE
  simp only
  rw [hlen, List.append_assoc, List.append_assoc, ← List.append_assoc [mk], ← printedExp_spell mk _ hmk]
  have hval := printedExp_value mk (x + (Dec.numDigits m : Int) - 1)
  have hex := printedExp_wf mk (x + (Dec.numDigits m : Int) - 1)
  generalize printedExp mk (x + (Dec.numDigits m : Int) - 1) = ex at hval hex ⊢
  by_cases hm : m < 10
  · have hnd := numDigits_lt10 hm
    rw [digitsOf_lt hm] at hall hh ⊢
    rw [show x = ex.value by omega]
    exact litValue_fExp [48 + m] ex m hall (by simp) hex hh (by unfold InWin; omega)
  · obtain ⟨c, ds, hd, hc⟩ := digitsOf_head m (by omega)
    have hL : 2 ≤ Dec.numDigits m := by
      rw [numDigits_ge10 (by omega)]; have := numDigits_pos (m / 10); omega
    rw [hd] at hall hlen hh ⊢
    cases ds with
    | nil => simp at hlen; omega
    | cons d2 ds' =>
      rw [List.all_cons, Bool.and_eq_true] at hall
      rw [List.length_cons] at hlen
      exact litValue_fPoint [c] (d2 :: ds') (some ex) m x (by simp [hall.1]) (by simp) hall.2 (by simp)
        hex hh (by show ex.value - _ = x; omega)
        (by show InWin ex.value _ m; unfold InWin; omega)

theorem toRat_of_neg (c x : Int) (hc : c < 0) :
    toRat ⟨c, x⟩ = - toRat ⟨(c.natAbs : Int), x⟩ := by
  have : c = -(c.natAbs : Int) := by omega
  rw [← toRat_neg]
  simp only [Dec.neg]
  rw [← this]

theorem fmtF_zero (D : List Nat) : fmtF D 0 = D := by
  simp [fmtF, zeros]

/-! ### sign and float mark -/

theorem readBack_of_lit (s : List Nat) (n : Num) (h : litValue s = .ok n) :
    readBack s = .ok n := by
  unfold readBack
  split
  · rename_i t
    have : litValue (45 :: t) = .err := by simp [litValue, NumLit.parseNumUnsigned]
    rw [this] at h; cases h
  · exact h

theorem signed_back (c : Int) (B : List Nat) (n0 : Num) (h : litValue B = .ok n0) :
    readBack (if c < 0 then 45 :: B else B) = .ok (if c < 0 then negNum n0 else n0) := by
  by_cases hc : c < 0
  · simp [hc, readBack, h]
  · simp only [hc, ↓reduceIte]
    exact readBack_of_lit B n0 h

theorem signed_kind (c : Int) (n0 : Num) : (if c < 0 then negNum n0 else n0).k = n0.k := by
  by_cases hc : c < 0 <;> simp [hc, negNum]

theorem signed_toRat (c x : Int) (n0 : Num) (h : toRat n0.d = toRat ⟨(c.natAbs : Int), x⟩) :
    toRat (if c < 0 then negNum n0 else n0).d = toRat ⟨c, x⟩ := by
  by_cases hc : c < 0
  · simp only [hc, ↓reduceIte, negNum]
    rw [toRat_neg, h, toRat_of_neg c x hc]
  · simp only [hc, ↓reduceIte]
    rw [h]
    have : (c.natAbs : Int) = c := by omega
    rw [this]

theorem hasFloatMark_digits (D : List Nat) (h : D.all NumLit.isDec = true) :
    hasFloatMark D = false := by
  induction D with
  | nil => rfl
  | cons d t ih =>
    simp only [List.all_cons, Bool.and_eq_true] at h
    have hd := NumLit.isDec_iff.mp h.1
    have := ih h.2
    unfold hasFloatMark at this ⊢
    simp only [List.any_cons, this, Bool.or_false]
    simp; omega

theorem hasFloatMark_fmtF (D : List Nat) (x : Int) (hx : x < 0) :
    hasFloatMark (fmtF D x) = true := by
  unfold fmtF
  simp only [hx, ↓reduceIte]
  split <;> simp [hasFloatMark]

theorem hasFloatMark_fmtE (mk : Nat) (D : List Nat) (x : Int) (hmk : mk = 101 ∨ mk = 69) :
    hasFloatMark (fmtE mk D x) = true := by
  unfold fmtE
  rcases hmk with rfl | rfl <;> simp [hasFloatMark]

theorem ite_shape {α : Type} (b : Bool) (p : Prop) (hbp : b = true → p) (A B : α) :
    (p ∧ (if b = true then A else B) = A) ∨ (if b = true then A else B) = B := by
  cases b with
  | false => exact Or.inr rfl
  | true => exact Or.inl ⟨hbp rfl, rfl⟩

theorem fmtG_shape (e : Nat) (c x : Int) :
    ∃ B, fmtG e ⟨c, x⟩ = (if c < 0 then 45 :: B else B) ∧
      ((x ≤ 0 ∧ B = fmtF (digitsOf c.natAbs) x) ∨ B = fmtE e (digitsOf c.natAbs) x) := by
  refine ⟨_, rfl, ?_⟩
  exact ite_shape _ _ (fun hb => by
    simp only [Bool.and_eq_true, decide_eq_true_eq] at hb; exact hb.1) _ _

theorem fmtG_exp0 (e : Nat) (c : Int) :
    fmtG e ⟨c, 0⟩ = if c < 0 then 45 :: digitsOf c.natAbs else digitsOf c.natAbs := by
  have h6 : (-6 : Int) ≤ ((digitsOf c.natAbs).length : Int) - 1 := by omega
  simp [fmtG, fmtF_zero, h6]

/-- a float body: with the `.0` that `format.Node` appends when there is no float mark -/
theorem litValue_floatBody (mk m : Nat) (x : Int) (hmk : mk = 101 ∨ mk = 69) (hw : Window m x)
    (B : List Nat)
    (hB : (x ≤ 0 ∧ B = fmtF (digitsOf m) x) ∨ B = fmtE mk (digitsOf m) x) :
    ∃ n0, litValue (if hasFloatMark B then B else B ++ [46, 48]) = .ok n0 ∧ n0.k = .float ∧
      toRat n0.d = toRat ⟨(m : Int), x⟩ := by
  rcases hB with ⟨hx, rfl⟩ | rfl
  · by_cases h0 : x = 0
    · subst h0
      rw [fmtF_zero, hasFloatMark_digits _ (digitsOf_allDec m)]
      exact lit_dot0 m hw.2.2.2
    · have hx' : x < 0 := by omega
      rw [hasFloatMark_fmtF _ _ hx']
      exact lit_fmtF_neg m x hx' hw
  · rw [hasFloatMark_fmtE _ _ _ hmk]
    exact lit_fmtE mk m x hmk hw

/-- a body as `MarshalJSON` writes it (no `.0` appended) -/
theorem litValue_jsonBody (mk m : Nat) (x : Int) (hmk : mk = 101 ∨ mk = 69) (hw : Window m x)
    (B : List Nat)
    (hB : (x ≤ 0 ∧ B = fmtF (digitsOf m) x) ∨ B = fmtE mk (digitsOf m) x) :
    ∃ n0, litValue B = .ok n0 ∧ toRat n0.d = toRat ⟨(m : Int), x⟩ := by
  have drop : ∀ {s : List Nat} {k : NumLit.Kind},
      (∃ n, litValue s = .ok n ∧ n.k = k ∧ toRat n.d = toRat ⟨(m : Int), x⟩) →
      ∃ n, litValue s = .ok n ∧ toRat n.d = toRat ⟨(m : Int), x⟩ :=
    fun ⟨n, h1, _, h3⟩ => ⟨n, h1, h3⟩
  rcases hB with ⟨hx, rfl⟩ | rfl
  · by_cases h0 : x = 0
    · subst h0
      rw [fmtF_zero]
      exact drop (lit_int m (by have := hw.2.2.2; omega))
    · exact drop (lit_fmtF_neg m x (by omega) hw)
  · exact drop (lit_fmtE mk m x hmk hw)

theorem printNum_float (c x : Int) (B : List Nat)
    (hB : fmtG 101 ⟨c, x⟩ = (if c < 0 then 45 :: B else B)) :
    printNum ⟨.float, ⟨c, x⟩⟩ =
      (if c < 0 then 45 :: (if hasFloatMark B then B else B ++ [46, 48])
       else (if hasFloatMark B then B else B ++ [46, 48])) := by
  simp only [printNum]
  rw [hB]
  by_cases hc : c < 0
  · simp only [hc, ↓reduceIte]
    have : hasFloatMark (45 :: B) = hasFloatMark B := by simp [hasFloatMark]
    rw [this]
    split <;> rfl
  · simp only [hc, ↓reduceIte]

end CueVerif.Proofs.NumValPrintAux
