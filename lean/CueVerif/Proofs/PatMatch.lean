/-
C05 — `matchPatternValue` (Model/PatMatch.lean) decides exactly the scalar specification's
satisfaction relation (Spec/PatMatch.lean, i.e. C03's `sat`) for string labels.
-/
import CueVerif.Spec.PatMatch
import CueVerif.Model.Closed
import CueVerif.Proofs.Scalar
namespace CueVerif.PatMatch
open CueVerif CueVerif.Scalar

theorem and16 (k : Nat) : 2 ^ 4 &&& k = if k.testBit 4 then 2 ^ 4 else 0 := by
  apply Nat.eq_of_testBit_eq
  intro i
  rw [Nat.testBit_and, Nat.testBit_two_pow]
  by_cases h : 4 = i
  · subst h
    cases hk : k.testBit 4
    · simp
    · simp only [decide_true, Bool.true_and, if_true]; decide
  · cases hk : k.testBit 4 <;> simp [h, Nat.testBit_two_pow_of_ne h]

theorem hasStr_testBit (k : Nat) : (Kind.string &&& k != 0) = k.testBit 4 := by
  have h : Kind.string = 2 ^ 4 := rfl
  rw [h, and16]
  cases k.testBit 4 <;> simp

theorem hasStr_and (a b : Nat) :
    (Kind.string &&& (a &&& b) != 0) = ((Kind.string &&& a != 0) && (Kind.string &&& b != 0)) := by
  simp only [hasStr_testBit, Nat.testBit_and]

theorem hasStr_or (a b : Nat) :
    (Kind.string &&& (a ||| b) != 0) = ((Kind.string &&& a != 0) || (Kind.string &&& b != 0)) := by
  simp only [hasStr_testBit, Nat.testBit_or]

theorem and_absorb {k m : Bool} (h : m = true → k = true) : (k && m) = m := by
  cases m
  · exact Bool.and_false k
  · rw [h rfl]; rfl

theorem matchValue_kind (re : Bytes → Bytes → Bool) (p : PatV) (l : Bytes)
    (h : matchValue re p l = true) : (Kind.string &&& p.kind != 0) = true := by
  unfold matchValue at h
  exact (Bool.and_eq_true _ _ ▸ h).1

theorem validateStr_eq_binOpBool (re : Bytes → Bytes → Bool) (b : Bound) (l : Bytes) :
    validateStr re b l = binOpBool re b.op (.str l) b.val := by
  obtain ⟨op, val⟩ := b
  cases val with
  | str p => cases op <;> rfl
  | _ => rfl

/-- The kind pre-check for a string label is the specification's kind restriction
(`kind_has_admits`), and both tracks compute the comparison (`binOpBool_eq_holds`). -/
theorem matchValue_bound (re : Bytes → Bytes → Bool) (b : Bound) (l : Bytes) :
    matchValue re (.bound b) l = Scalar.sat re (.str l) (.bound b) := by
  show ((Kind.string &&& b.kind != 0) &&
      (if b.kind == Kind.string then validateStr re b l else binOpBool re b.op (.str l) b.val)) =
    (boundAdmits b (.str l) && boundHolds re b (.str l))
  rw [validateStr_eq_binOpBool, ite_self, hasStr_testBit, binOpBool_eq_holds]
  exact congrArg (· && _) (kind_has_admits b (.str l))

theorem matchValue_eq_sat (re : Bytes → Bytes → Bool) (p : PatV) (l : Bytes) :
    matchValue re p l = p.sat re (.str l) := by
  induction p with
  | bot => simp [matchValue, PatV.sat, PatV.kind, Kind.bottom]
  | top => simp [matchValue, PatV.sat, PatV.kind, Kind.top, Kind.string]
  | basic t =>
    cases t <;> simp [matchValue, PatV.sat, PatV.kind, BType.kind, Scalar.sat, Kind.has, Atom.kindBit,
      Kind.string, Kind.bool, Kind.int, Kind.float, Kind.number, Kind.bytes, Kind.top] <;> decide
  | bound b => simpa [PatV.sat] using matchValue_bound re b l
  | str s =>
    simp [matchValue, PatV.sat, PatV.kind, Scalar.sat, Atom.sameKind, Atom.eqv, Atom.kindBit, Kind.string]
    exact Bool.beq_comm
  | num z =>
    simp [matchValue, PatV.sat, PatV.kind, Scalar.sat, Atom.sameKind, Atom.kindBit, Kind.string, Kind.int]
  -- a match of a part passes the part's pre-check, so the pre-check of the whole is implied
  | conj a b iha ihb =>
    unfold matchValue
    simp only [PatV.kind, PatV.sat, hasStr_and, ← iha, ← ihb]
    refine and_absorb fun h => ?_
    rw [Bool.and_eq_true] at h ⊢
    exact ⟨matchValue_kind re a l h.1, matchValue_kind re b l h.2⟩
  | disj a b iha ihb =>
    unfold matchValue
    simp only [PatV.kind, PatV.sat, hasStr_or, ← iha, ← ihb]
    refine and_absorb fun h => ?_
    rw [Bool.or_eq_true] at h ⊢
    exact h.imp (matchValue_kind re a l) (matchValue_kind re b l)

theorem matchPattern_eq_admits (re : Bytes → Bytes → Bool) (p : PatV) (regular : Bool) (l : Bytes) :
    matchPattern re (some p) regular l = admitsLabel re p regular l := by
  simp [matchPattern, admitsLabel, matchValue_eq_sat]

end CueVerif.PatMatch

/-! ### the 4-pattern language of the closedness model is an instance -/
namespace CueVerif.PatMatch
open CueVerif CueVerif.Scalar

/-- the CUE pattern value a `Closed.Pat` stands for: `string`, `=~"^q"`, `=~"q$"`, `!="q"` -/
def ofPat : Closed.Pat → PatV
  | .any => .basic .string
  | .pre q => .bound ⟨.mat, .str (94 :: q)⟩
  | .suf q => .bound ⟨.mat, .str (q ++ [36])⟩
  | .ne q => .bound ⟨.ne, .str q⟩

/-- `Closed.Pat.matches` (what Model/Closed.lean and Spec/Closed.lean use for "matching
pattern") is `matchPattern` on the corresponding pattern value, for every regular-expression
matcher that reads `^q` / `q$` as anchored literal prefix / suffix -/
theorem matches_eq_matchPattern (re : Bytes → Bytes → Bool)
    (hpre : ∀ q s, re (94 :: q) s = q.isPrefixOf s) (hsuf : ∀ q s, re (q ++ [36]) s = q.isSuffixOf s)
    (p : Closed.Pat) (l : Closed.Label) :
    p.matches l = matchPattern re (some (ofPat p)) l.isReg l.name := by
  cases p <;>
    simp [Closed.Pat.matches, matchPattern, matchValue, ofPat, PatV.kind, BType.kind, Bound.kind, validateStr,
      Atom.kind, Atom.kindBit, Kind.string, hpre, hsuf, bne]

end CueVerif.PatMatch
