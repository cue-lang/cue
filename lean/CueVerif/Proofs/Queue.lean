import CueVerif.Model.Queue
/-!
Invariant of the par.Queue model: at most `maxActive` items run, a non-empty backlog means all
slots are busy, every added item is in exactly one of backlog / running / done, the idle
channel is closed only while nothing is active or queued, and it is never closed twice.
-/
namespace CueVerif.Queue

structure Inv (max : Nat) (s : St) : Prop where
  running_len : s.running.length = s.active
  bounded : s.active ≤ max
  backlog_full : s.backlog ≠ [] → s.active = max
  idle_closed : s.idle = some true → s.active = 0
  once : ∀ i, s.added.count i = s.backlog.count i + s.running.count i + s.done.count i
  no_panic : s.panic = false

theorem inv_init (max : Nat) : Inv max init where
  running_len := rfl
  bounded := Nat.zero_le _
  backlog_full := by intro h; exact absurd rfl h
  idle_closed := by intro h; cases h
  once := by intro i; simp [init]
  no_panic := rfl

theorem count_cons_add (b a : Nat) (l : List Nat) :
    (b :: l).count a = l.count a + (if b = a then 1 else 0) := by
  simp only [List.count_cons, beq_iff_eq]

theorem count_erase_add (i a : Nat) (l : List Nat) (h : i ∈ l) :
    l.count a = (l.erase i).count a + (if i = a then 1 else 0) := by
  simp only [List.count_erase, beq_iff_eq]
  split
  · subst i
    have : 0 < l.count a := List.count_pos_iff.mpr h
    omega
  · rfl

theorem inv_step (max : Nat) (s t : St) (hi : Inv max s) (hs : Step max s t) : Inv max t := by
  cases hs with
  | addQueue i h =>
    exact { hi with
      backlog_full := fun _ => h
      once := fun a => by
        simp only [List.count_append]
        have := hi.once a
        omega }
  | addStart i h =>
    have := hi.bounded
    exact { hi with
      running_len := by simp [hi.running_len]
      bounded := by simp only; omega
      backlog_full := fun hb => absurd (hi.backlog_full hb) h
      idle_closed := fun hc => by
        simp only at hc
        split at hc
        · cases hc
        · rename_i hne
          exact absurd (hi.idle_closed hc) hne
      once := fun a => by
        simp only [List.count_append, List.count_cons, List.count_nil]
        have := hi.once a
        omega }
  | finishLast i h hb =>
    have hpos : 0 < s.running.length := List.length_pos_of_mem h
    have hact : 0 < s.active := by have := hi.running_len; omega
    have := hi.bounded
    exact { hi with
      running_len := by
        simp only [List.length_erase_of_mem h]
        have := hi.running_len
        omega
      bounded := by simp only; omega
      backlog_full := fun hne => absurd hb hne
      idle_closed := fun hc => by
        simp only at hc
        split at hc
        · rename_i hz; exact hz.1
        · exact absurd (hi.idle_closed hc) (by omega)
      once := fun a => by
        show s.added.count a =
          s.backlog.count a + (s.running.erase i).count a + (i :: s.done).count a
        rw [count_cons_add i a s.done, hi.once a, count_erase_add i a s.running h]
        omega
      -- an already closed channel would mean `active = 0`, but `i` is running
      no_panic := by
        simp only [hi.no_panic, Bool.false_or, Bool.and_eq_false_iff]
        right
        cases hidle : s.idle with
        | none => rfl
        | some b =>
          cases b with
          | false => rfl
          | true => exact absurd (hi.idle_closed hidle) (by omega) }
  | finishNext i j rest h hb =>
    have hpos : 0 < s.running.length := List.length_pos_of_mem h
    exact { hi with
      running_len := by
        simp only [List.length_cons, List.length_erase_of_mem h]
        have := hi.running_len
        omega
      backlog_full := fun _ => hi.backlog_full (by rw [hb]; exact List.cons_ne_nil _ _)
      once := fun a => by
        have h5a := hi.once a
        rw [hb, count_cons_add j a rest, count_erase_add i a s.running h] at h5a
        show s.added.count a =
          rest.count a + (j :: s.running.erase i).count a + (i :: s.done).count a
        rw [count_cons_add j a _, count_cons_add i a s.done, h5a]
        omega }
  | idleCall =>
    exact { hi with
      idle_closed := fun hc => by
        simp only at hc
        split at hc
        · simpa using hc
        · exact hi.idle_closed hc }

theorem run_inv (max : Nat) (s : St) (h : Run max s) : Inv max s := by
  induction h with
  | init => exact inv_init max
  | step _ hs ih => exact inv_step max _ _ ih hs

theorem Inv.idle_closed_empty {max : Nat} {s : St} (i : Inv max s) (hm : 0 < max)
    (hc : s.idle = some true) : s.active = 0 ∧ s.backlog = [] ∧ s.running = [] := by
  have h0 := i.idle_closed hc
  refine ⟨h0, ?_, List.length_eq_zero_iff.mp (h0 ▸ i.running_len)⟩
  cases hb : s.backlog with
  | nil => rfl
  | cons x xs =>
    have := i.backlog_full (by rw [hb]; exact List.cons_ne_nil _ _)
    omega

/-- `apply` is a step of the model (so a replayed log is a run) -/
theorem apply_step (max : Nat) (s t : St) (e : Ev) (h : apply max s e = some t) :
    Step max s t := by
  cases e with
  | add i =>
    simp only [apply] at h
    split at h
    · rename_i hm
      simp only [Option.some.injEq] at h; subst h
      exact Step.addQueue s i hm
    · rename_i hm
      simp only [Option.some.injEq] at h; subst h
      exact Step.addStart s i hm
  | fin i =>
    simp only [apply] at h
    split at h
    · cases h
    · rename_i hc
      have hin : i ∈ s.running := by simpa using hc
      split at h
      · rename_i hb
        simp only [Option.some.injEq] at h; subst h
        exact Step.finishLast s i hin hb
      · rename_i j rest hb
        simp only [Option.some.injEq] at h; subst h
        exact Step.finishNext s i j rest hin hb
  | idle =>
    simp only [apply, Option.some.injEq] at h; subst h
    exact Step.idleCall s

end CueVerif.Queue
