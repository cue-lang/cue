/-
C09, quoting: what `unquoteLoop` reads back from each chunk `escapeLoop` emits, the induction along
the units of the source string behind every whole-body statement, and the plain single-line literal.
The reader's side is in Proofs/Unquote.lean.
-/
import CueVerif.Model.Quote
import CueVerif.Proofs.Utf8
import CueVerif.Proofs.Unquote
namespace CueVerif.Quote

/-- The whole contract on `strconv.IsPrint` / `strconv.IsGraphic` the proofs need: NUL, LF
and CR are neither printable nor graphic. -/
structure Env.Ok (E : Env) : Prop where
  p0 : E.isPrint 0 = false
  p10 : E.isPrint 10 = false
  p13 : E.isPrint 13 = false
  g0 : E.isGraphic 0 = false
  g10 : E.isGraphic 10 = false
  g13 : E.isGraphic 13 = false

/-- the forms the library exports: string-like (`"`, lossy) or bytes-like (`'`, exact) -/
def Form.WF (f : Form) : Prop :=
  (f.quote = 0x22 ∧ f.exact = false) ∨ (f.quote = 0x27 ∧ f.exact = true)

theorem Form.isPrint_not_ctl {E : Env} (hE : E.Ok) (f : Form) (r : Nat) (h : f.isPrint E r = true) :
    r ≠ 0 ∧ r ≠ 10 ∧ r ≠ 13 := by
  refine ⟨?_, ?_, ?_⟩ <;> intro hr <;> subst hr <;>
    simp [Form.isPrint, hE.p0, hE.p10, hE.p13, hE.g0, hE.g10, hE.g13] at h

theorem Form.WF.quote {f : Form} (hf : f.WF) : f.quote = 0x22 ∨ f.quote = 0x27 :=
  hf.imp And.left And.left

theorem Form.WF.quote_of_exact {f : Form} (hf : f.WF) (hx : f.exact = true) : f.quote = 0x27 := by
  rcases hf with g | g
  · rw [g.2] at hx; cases hx
  · exact g.1

/-! ### the chunks `quote` emits, read back by one iteration -/

theorem hexDigit_lt (d : Nat) (h : d < 16) : hexDigit d < 0x80 :=
  (hexDigit_bounds d h).2

theorem esc_body_uc (q : QuoteInfo) (exact : Bool) (r : Nat) (t : Bytes)
    (hx : exact = true → q.char = 0x27) (hr : r ≤ 0x10FFFF) :
    ∃ e t' mb, escapeBody exact r ++ t = e :: t' ∧
      unquoteEscape q e t' = .ok (.char r mb, t) ∧ (mb = false → r < 0x80) := by
  by_cases hs : r = 7 ∨ r = 8 ∨ r = 12 ∨ r = 10 ∨ r = 13 ∨ r = 9 ∨ r = 11
  · rcases hs with rfl | rfl | rfl | rfl | rfl | rfl | rfl <;>
      exact ⟨_, t, false, rfl, by simp [unquoteEscape], fun _ => by omega⟩
  simp only [not_or] at hs
  unfold escapeBody
  simp only [beq_iff_eq, hs, if_false]
  split
  · next h =>
    simp only [Bool.and_eq_true, decide_eq_true_eq] at h
    have hq := hx h.2
    have hv := hexVal_two r (by omega)
    have e1 : r % 256 / 16 = r / 16 % 16 := by omega
    refine ⟨_, _, false, rfl, ?_, by intro; omega⟩
    simp [unquoteEscape, e1, hv, hq]
  split
  · omega
  split
  · next h =>
    exact ⟨_, _, true, rfl, (unquoteEscape_u q _).trans
      (unicodeEscape_ok 4 _ t r rfl (hexVal_four r h) hr), fun h => nomatch h⟩
  · exact ⟨_, _, true, rfl, (unquoteEscape_U q _).trans
      (unicodeEscape_ok 8 _ t r rfl (hexVal_eight r (by omega)) hr), fun h => nomatch h⟩

theorem step_escape (q : QuoteInfo) (hq : q.char = 0x22 ∨ q.char = 0x27) (X tail : Bytes) (e : Nat)
    (t' : Bytes) (hX : X ++ tail = e :: t') (v : Nat) (mb : Bool)
    (hue : unquoteEscape q e t' = .ok (.char v mb, tail)) (hv : ¬ (0xD800 ≤ v ∧ v < 0xE000))
    (fuel : Nat) (buf : Bytes) (sn we : Bool) :
    unquoteLoop q (fuel + 1) (appendEscape q.numHash ++ X ++ tail) buf sn we
      = unquoteLoop q fuel tail (pushChar buf v mb) false false := by
  have hshape : appendEscape q.numHash ++ X ++ tail = 0x5C :: (hashes q.numHash ++ e :: t') := by
    simp only [appendEscape, List.cons_append, List.append_assoc, hX]
  rw [hshape, loop_step_char q _ _ (by decide) (by decide) v mb tail
    ((uc_backslash q hq e t').trans hue) hv]

/-- In a multi-line body the quote character is copied raw; `hraw` says that it is then read as
a plain character (more than the closing delimiter follows). -/
theorem step_rune {E : Env} (hE : E.Ok) (f : Form) (hf : f.WF) (q : QuoteInfo) (hqc : q.char = f.quote)
    (ml : Bool) (r : Nat) (orig : Bytes) (hu : GoodUnit r orig) (tail buf : Bytes)
    (hraw : ml = true → unquoteChar (q.char :: tail) q = .ok (.char q.char false, tail))
    (fuel : Nat) (sn we : Bool) :
    unquoteLoop q (fuel + 1) (appendEscapedRune E f ml q.numHash r ++ tail) buf sn we
      = unquoteLoop q fuel tail (buf ++ orig) false false := by
  have hq : q.char = 0x22 ∨ q.char = 0x27 := hqc ▸ hf.quote
  unfold appendEscapedRune
  split
  · -- quote or backslash: `\` + the character
    next h =>
    have hr : r = f.quote ∨ r = 0x5C := by
      simp only [Bool.or_eq_true, Bool.and_eq_true, beq_iff_eq] at h
      exact h.imp And.right id
    have hr80 : r < 0x80 := by rcases hr with h | h <;> rcases hf.quote with g | g <;> omega
    have hue : unquoteEscape q r tail = .ok (.char r false, tail) := by
      rcases hr with h | h
      · rcases hf with g | g <;> simp [unquoteEscape, h, hqc, g.1]
      · simp [unquoteEscape, h]
    rw [step_escape q hq [r] tail r tail rfl r false hue (by omega),
      pushChar_good hu buf false (fun _ => hr80)]
  · next hnq =>
    have hnq' : (ml = false → r ≠ f.quote) ∧ r ≠ 0x5C := by
      cases ml <;> simpa using hnq
    split
    · -- printed raw
      next hp =>
      have hctl := Form.isPrint_not_ctl hE f r hp
      rw [hu.encode]
      refine step_unit q hq hu hctl.1 hctl.2.1 hctl.2.2 tail ?_ fuel buf sn we
      rintro (h | h)
      · cases ml
        · exact absurd (h.trans hqc) (hnq'.1 rfl)
        · rw [h]; exact hraw rfl
      · exact absurd h hnq'.2
    · -- escaped
      obtain ⟨e, t', mb, hsh, hue, hmb⟩ := esc_body_uc q f.exact r tail
        (fun hx => hqc.trans (hf.quote_of_exact hx)) hu.le
      rw [step_escape q hq _ tail e t' hsh r mb hue hu.notSur, pushChar_good hu buf mb hmb]

theorem step_badbyte (q : QuoteInfo) (hq : q.char = 0x27) (b0 : Nat) (hb : b0 < 256)
    (tail buf : Bytes) (fuel : Nat) (sn we : Bool) :
    unquoteLoop q (fuel + 1)
      (appendEscape q.numHash ++ [0x78, hexDigit (b0 / 16 % 16), hexDigit (b0 % 16)] ++ tail) buf sn we
      = unquoteLoop q fuel tail (buf ++ [b0]) false false := by
  have hue : unquoteEscape q 0x78 (hexDigit (b0 / 16 % 16) :: hexDigit (b0 % 16) :: tail)
      = .ok (.char b0 false, tail) := by
    simp [unquoteEscape, hexVal_two b0 hb, hq]
  rw [step_escape q (.inr hq) _ tail _ _ rfl b0 false hue (by omega)]
  simp [pushChar, Nat.mod_eq_of_lt hb]

theorem IsBytes.tail {b : Nat} {s : Bytes} (h : IsBytes (b :: s)) : IsBytes s :=
  fun x hx => h x (List.mem_cons_of_mem _ hx)

theorem IsBytes.drop {s : Bytes} (h : IsBytes s) (n : Nat) : IsBytes (s.drop n) :=
  fun x hx => h x (List.mem_of_mem_drop hx)

theorem take_drop_unit (b0 : Nat) (rest : Bytes) (w : Nat) (hw : 1 ≤ w) :
    (b0 :: rest).take w ++ rest.drop (w - 1) = b0 :: rest := by
  obtain ⟨k, rfl⟩ : ∃ k, w = k + 1 := ⟨w - 1, by omega⟩
  simp [List.take_succ_cons]

/-- what the Go loops see at the head of a string: either a good unit together with the
bytes it occupies, or an invalid byte (width 1, RuneError) -/
theorem decodeFirst_cases (b0 : Nat) (rest : Bytes) :
    (1 ≤ (decodeFirst b0 rest).2) ∧
    ((GoodUnit (decodeFirst b0 rest).1 ((b0 :: rest).take (decodeFirst b0 rest).2) ∧
        ¬ (0x80 ≤ b0 ∧ (decodeFirst b0 rest).2 = 1)) ∨
     (0x80 ≤ b0 ∧ (decodeFirst b0 rest).2 = 1 ∧ (decodeFirst b0 rest).1 = 0xFFFD)) := by
  unfold decodeFirst
  split
  · next h => exact ⟨Nat.le_refl 1, .inl ⟨.inl ⟨h, rfl⟩, by omega⟩⟩
  · next h =>
    rcases decodeRune_cases b0 rest with ⟨h', _⟩ | ⟨h', e⟩ | ⟨r, t', h1, h2, h3, e⟩
    · omega
    · rw [e]; exact ⟨Nat.le_refl 1, .inr ⟨h', rfl, rfl⟩⟩
    · have hl := encodeRune_length r h1
      rw [e, decodeRune_encodeRune r t' h1 h2 h3]
      exact ⟨by omega, .inl ⟨.inr ⟨h1, h2, h3, List.take_left.symm⟩, by omega⟩⟩

theorem decodeFirst_ne10 (b0 : Nat) (rest : Bytes) (h : b0 ≠ 10) : (decodeFirst b0 rest).1 ≠ 10 := by
  unfold decodeFirst
  split
  · exact h
  · rcases decodeRune_cases b0 rest with ⟨_, e⟩ | ⟨_, e⟩ | ⟨r, t', h1, h2, h3, e⟩
    · rw [e]; exact h
    · rw [e]; decide
    · rw [e, decodeRune_encodeRune r t' h1 h2 h3]; exact fun h' => by omega

theorem decodeFirst_high (b0 : Nat) (rest : Bytes) (h : 0x80 ≤ b0) : 0x80 ≤ (decodeFirst b0 rest).1 := by
  unfold decodeFirst
  rw [if_neg (by omega)]
  rcases decodeRune_cases b0 rest with ⟨h', _⟩ | ⟨_, e⟩ | ⟨r, t', h1, h2, h3, e⟩
  · omega
  · rw [e]; decide
  · rw [e, decodeRune_encodeRune r t' h1 h2 h3]; exact h1

theorem appendEscapedRune_head (E : Env) (f : Form) (ml : Bool) (h r : Nat) :
    (∃ tl, appendEscapedRune E f ml h r = 0x5C :: tl) ∨ appendEscapedRune E f ml h r = encodeRune r := by
  unfold appendEscapedRune
  split
  · exact .inl ⟨_, rfl⟩
  split
  · exact .inr rfl
  · exact .inl ⟨_, rfl⟩

theorem appendEscapedRune_pos (E : Env) (f : Form) (ml : Bool) (h r : Nat) :
    1 ≤ (appendEscapedRune E f ml h r).length := by
  rcases appendEscapedRune_head E f ml h r with ⟨tl, e⟩ | e <;> rw [e]
  · simp
  · exact encodeRune_ne_nil r

/-! ### `escapeLoop`, one unit at a time -/

/-- the indentation `appendEscaped` emits after a line feed: only when another byte follows
and that byte is not a line feed -/
def nlIndent (f : Form) (rest : Bytes) : Bytes :=
  match rest with
  | [] => []
  | b1 :: _ => if b1 != 10 then tabs f.indent else []

theorem escapeLoop_cons_bad (E : Env) (f : Form) (ml : Bool) (h b0 : Nat) (rest : Bytes)
    (hbr : (f.exact && (decodeFirst b0 rest).2 == 1 && (decodeFirst b0 rest).1 == 0xFFFD) = true) :
    escapeLoop E f ml h (b0 :: rest) =
      appendEscape h ++ [0x78, hexDigit (b0 / 16 % 16), hexDigit (b0 % 16)] ++ escapeLoop E f ml h rest := by
  conv => lhs; unfold escapeLoop
  simp only [hbr, if_true]

theorem escapeLoop_nl (E : Env) (f : Form) (h : Nat) (rest : Bytes) :
    escapeLoop E f true h (10 :: rest) = 10 :: (nlIndent f rest ++ escapeLoop E f true h rest) := by
  conv => lhs; unfold escapeLoop
  have h1 : decodeFirst 10 rest = (10, 1) := by simp [decodeFirst]
  simp only [h1]
  cases rest <;> simp [nlIndent]

theorem escapeLoop_cons (E : Env) (f : Form) (ml : Bool) (h b0 : Nat) (rest : Bytes)
    (hbr : (f.exact && (decodeFirst b0 rest).2 == 1 && (decodeFirst b0 rest).1 == 0xFFFD) = false)
    (h10 : ml = true → (decodeFirst b0 rest).1 ≠ 10) :
    escapeLoop E f ml h (b0 :: rest) =
      appendEscapedRune E f ml h (decodeFirst b0 rest).1 ++
        escapeLoop E f ml h (rest.drop ((decodeFirst b0 rest).2 - 1)) := by
  conv => lhs; unfold escapeLoop
  have : (ml && (decodeFirst b0 rest).1 == 10) = false := by
    cases ml
    · rfl
    · simpa using h10 rfl
  simp only [hbr, this, Bool.false_eq_true, if_false]

theorem validUTF8_cons {b0 : Nat} {rest : Bytes} (h : validUTF8 (b0 :: rest) = true) :
    ¬ (0x80 ≤ b0 ∧ (decodeFirst b0 rest).2 = 1) ∧
      validUTF8 (rest.drop ((decodeFirst b0 rest).2 - 1)) = true := by
  unfold validUTF8 at h
  by_cases c : 0x80 ≤ b0 ∧ (decodeFirst b0 rest).2 = 1
  · simp [c.1, c.2] at h
  · have : (decide (0x80 ≤ b0) && (decodeFirst b0 rest).2 == 1) = false := by
      simpa using fun h80 hw => c ⟨h80, hw⟩
    exact ⟨c, by simpa [this] using h⟩

theorem escapeLoop_ind {E : Env} (f : Form) (ml : Bool) (h : Nat) (P : Bytes → Bytes → Prop)
    (h0 : P [] [])
    (hgood : ∀ r orig s', GoodUnit r orig → (ml = true → r ≠ 10) → P s' (escapeLoop E f ml h s') →
      P (orig ++ s') (appendEscapedRune E f ml h r ++ escapeLoop E f ml h s'))
    (hbad : ∀ b0 s', f.exact = true → 0x80 ≤ b0 → b0 < 256 → P s' (escapeLoop E f ml h s') →
      P (b0 :: s') (appendEscape h ++ [0x78, hexDigit (b0 / 16 % 16), hexDigit (b0 % 16)] ++
        escapeLoop E f ml h s'))
    (hnl : ∀ s', ml = true → P s' (escapeLoop E f ml h s') →
      P (10 :: s') (10 :: (nlIndent f s' ++ escapeLoop E f ml h s')))
    (s : Bytes) (hb : IsBytes s) (hv : f.exact = true ∨ validUTF8 s = true) :
    P s (escapeLoop E f ml h s) := by
  generalize hn : s.length = n
  induction n using Nat.strongRecOn generalizing s with
  | ind n ih =>
  subst hn
  match s with
  | [] => simpa [escapeLoop] using h0
  | b0 :: rest =>
    by_cases hlf : ml = true ∧ b0 = 10
    · obtain ⟨rfl, rfl⟩ := hlf
      rw [escapeLoop_nl]
      refine hnl rest rfl (ih _ (Nat.lt_succ_self _) rest hb.tail (hv.imp_right fun h => ?_) rfl)
      simpa [decodeFirst] using (validUTF8_cons h).2
    have h10 : ml = true → (decodeFirst b0 rest).1 ≠ 10 := fun hm =>
      decodeFirst_ne10 b0 rest fun hb0 => hlf ⟨hm, hb0⟩
    obtain ⟨hw1, ⟨hu, hnot⟩ | ⟨h80, hw, hr⟩⟩ := decodeFirst_cases b0 rest
    · -- a good unit: of width 1 only if it is ASCII, so never (RuneError, 1)
      have hbr : (f.exact && (decodeFirst b0 rest).2 == 1 && (decodeFirst b0 rest).1 == 0xFFFD) = false := by
        by_cases hx : (decodeFirst b0 rest).2 = 1
        · have hlt : b0 < 0x80 := by omega
          have : (decodeFirst b0 rest).1 = b0 := by simp [decodeFirst, hlt]
          have : ((decodeFirst b0 rest).1 == 0xFFFD) = false := by rw [this]; simp; omega
          simp [this]
        · simp [hx]
      rw [escapeLoop_cons E f ml h b0 rest hbr h10]
      have := hgood _ _ _ hu h10
        (ih _ (by simp only [List.length_drop, List.length_cons]; omega) _ (hb.tail.drop _)
          (hv.imp_right fun h => (validUTF8_cons h).2) rfl)
      rwa [take_drop_unit b0 rest _ hw1] at this
    · -- an invalid byte: only the bytes form gets here
      have hx : f.exact = true := hv.elim id fun h => absurd ⟨h80, hw⟩ (validUTF8_cons h).1
      rw [escapeLoop_cons_bad E f ml h b0 rest (by simp [hx, hw, hr])]
      exact hbad b0 rest hx h80 (hb b0 (by simp)) (ih _ (Nat.lt_succ_self _) rest hb.tail (.inl hx) rfl)

theorem loop_single {E : Env} (hE : E.Ok) (f : Form) (hf : f.WF) (q : QuoteInfo)
    (hqc : q.char = f.quote) (hm : q.multiline = false) (s : Bytes) (hb : IsBytes s)
    (hv : f.exact = true ∨ validUTF8 s = true) :
    Reads q (escapeLoop E f false q.numHash s ++ (q.char :: hashes q.numHash)) false s := by
  refine escapeLoop_ind (E := E) f false q.numHash
    (fun s body => Reads q (body ++ (q.char :: hashes q.numHash)) false s)
    (Reads.close q (hqc ▸ hf.quote) hm) ?_ ?_ (fun _ h => nomatch h) s hb hv
  · intro r orig s' hu _ ih
    rw [List.append_assoc]
    exact ih.step (appendEscapedRune_pos E f false q.numHash r) fun fuel buf =>
      step_rune hE f hf q hqc false r orig hu _ buf (fun h => nomatch h) fuel false false
  · intro b0 s' hx _ hb0 ih
    rw [List.append_assoc]
    exact ih.step (X := appendEscape q.numHash ++ _) (orig := [b0]) (by simp [appendEscape]) fun fuel buf =>
      step_badbyte q (hqc.trans (hf.quote_of_exact hx)) b0 hb0 _ buf fuel false false

/-! ### the bytes of a single-line body -/

theorem forall_mem_ite {α : Type} {c : Prop} [Decidable c] {l₁ l₂ : List α} {p : α → Prop}
    (h₁ : ∀ b ∈ l₁, p b) (h₂ : ∀ b ∈ l₂, p b) : ∀ b ∈ (if c then l₁ else l₂), p b := by
  split <;> assumption

/-- an escape letter or a hex digit: in particular neither LF nor non-ASCII -/
theorem escapeBody_bytes (x : Bool) (r : Nat) : ∀ b ∈ escapeBody x r, 48 ≤ b ∧ b < 0x80 := by
  have H := fun d => hexDigit_bounds (d % 16) (Nat.mod_lt d (by decide))
  unfold escapeBody
  repeat' apply forall_mem_ite
  all_goals simp only [List.forall_mem_cons, List.not_mem_nil, false_imp_iff, implies_true, and_true]
  any_goals decide
  · exact ⟨by decide, hexDigit_bounds _ (by omega), H _⟩
  · exact ⟨by decide, H _, H _, H _, H _⟩
  · exact ⟨by decide, H _, H _, H _, H _, H _, H _, H _, H _⟩

theorem hexEscape_bytes (b0 : Nat) :
    ∀ b ∈ [0x78, hexDigit (b0 / 16 % 16), hexDigit (b0 % 16)], 48 ≤ b ∧ b < 0x80 := by
  have H := fun d => hexDigit_bounds (d % 16) (Nat.mod_lt d (by decide))
  simp only [List.forall_mem_cons, List.not_mem_nil, false_imp_iff, implies_true, and_true]
  exact ⟨by decide, H _, H _⟩

/-- a piece of a single-line body: no LF or CR in it, no quote character at its head -/
def Plain (q : Nat) (X : Bytes) : Prop :=
  (∀ b ∈ X, b ≠ 10 ∧ b ≠ 13) ∧ X.head? ≠ some q

theorem Plain.nil (q : Nat) : Plain q [] := ⟨by simp, by simp⟩

theorem Plain.append {q : Nat} {X Y : Bytes} (hX : Plain q X) (hY : Plain q Y) : Plain q (X ++ Y) := by
  refine ⟨fun c hc => (List.mem_append.mp hc).elim (hX.1 c) (hY.1 c), ?_⟩
  cases X with
  | nil => exact hY.2
  | cons c cs => exact hX.2

theorem escape_facts (q : Nat) (hq : q = 0x22 ∨ q = 0x27) (X : Bytes) (hX : ∀ b ∈ X, b ≠ 10 ∧ b ≠ 13) :
    Plain q (appendEscape 0 ++ X) := by
  refine ⟨?_, ?_⟩
  · intro b hb
    rcases List.mem_cons.mp hb with rfl | hb
    · decide
    · exact hX b hb
  · rcases hq with g | g <;> simp [appendEscape, g]

theorem chunk_facts {E : Env} (hE : E.Ok) (f : Form) (hf : f.WF) (r : Nat) :
    Plain f.quote (appendEscapedRune E f false 0 r) := by
  have hq := hf.quote
  unfold appendEscapedRune
  split
  · next h =>
    have hr : r = f.quote ∨ r = 0x5C := by simpa using h
    exact escape_facts f.quote hq [r] fun b hb => by
      rw [List.mem_singleton.mp hb]
      rcases hr with h | h <;> rcases hq with g | g <;> omega
  · next hnq =>
    have hnq' : r ≠ f.quote ∧ r ≠ 0x5C := by simpa using hnq
    split
    · next hp =>
      have hctl := Form.isPrint_not_ctl hE f r hp
      by_cases h1 : r < 0x80
      · rw [encodeRune_ascii r h1]
        exact ⟨by simpa using hctl.2, by simpa using hnq'.1⟩
      · obtain ⟨c, cs, he, hc⟩ := encodeRune_cons r (by omega)
        refine ⟨fun b hb => ?_, ?_⟩
        · have := (encodeRune_bytes_high r (by omega) b hb).1; omega
        · rw [he]
          simp only [List.head?_cons, ne_eq, Option.some.injEq]
          rcases hq with g | g <;> omega
    · exact escape_facts f.quote hq _ fun b hb => by
        have := escapeBody_bytes f.exact r b hb; omega

theorem body_facts {E : Env} (hE : E.Ok) (f : Form) (hf : f.WF) (s : Bytes) (hb : IsBytes s)
    (hv : f.exact = true ∨ validUTF8 s = true) : Plain f.quote (escapeLoop E f false 0 s) := by
  refine escapeLoop_ind (E := E) f false 0 (fun _ body => Plain f.quote body) (Plain.nil _)
    ?_ ?_ (fun _ h => nomatch h) s hb hv
  · intro r _ s' _ _ ih
    exact (chunk_facts hE f hf r).append ih
  · intro b0 s' _ _ _ ih
    exact (escape_facts f.quote hf.quote _ fun b hb => by
      have := hexEscape_bytes b0 b hb; omega).append ih

/-! ### the plain single-line literal -/

theorem roundtrip_single_plain {E : Env} (hE : E.Ok) (slhc : Env → Form → Bytes → Nat) (f : Form)
    (hf : f.WF) (s : Bytes) (hb : IsBytes s) (hv : f.exact = true ∨ validUTF8 s = true)
    (hml : f.effMultiline s = false) (hh : hashCountWith slhc E f false s = 0) :
    unquote (quoteWith slhc E f s) = .ok s := by
  obtain ⟨f1, f2⟩ := body_facts hE f hf s hb hv
  have hlit : quoteWith slhc E f s =
      hashes 0 ++ f.quote :: (escapeLoop E f false 0 s ++ f.quote :: hashes 0) := by
    simp [quoteWith, hml, hh, hashes, appendEscaped]
  rw [hlit]
  exact unquote_single f.quote hf.quote 0 _ s (startsTwoQuotes_of_head f2) f1
    (loop_single hE f hf { char := f.quote, numHash := 0, multiline := false, whitespace := [] }
      rfl rfl s hb hv)

end CueVerif.Quote
