/-
C09_ascii_only: every byte `Quote` emits for a form with `WithASCIIOnly` is below 0x80,
for every form (single line, multi-line, optional hashes) and every input.
-/
import CueVerif.Proofs.QuoteHash
namespace CueVerif.Quote

def AllAscii (s : Bytes) : Prop := ∀ b ∈ s, b < 0x80

theorem AllAscii.append {a b : Bytes} (ha : AllAscii a) (hb : AllAscii b) : AllAscii (a ++ b) := by
  intro x hx; rcases List.mem_append.mp hx with h | h
  · exact ha x h
  · exact hb x h

theorem AllAscii.singleton {b : Nat} (h : b < 0x80) : AllAscii [b] :=
  fun _ hx => List.mem_singleton.mp hx ▸ h

theorem Form.isPrint_ascii {E : Env} {f : Form} (ha : f.asciiOnly = true) {r : Nat}
    (hp : f.isPrint E r = true) : r < 0x80 := by
  simp only [Form.isPrint, ha, if_true, Bool.and_eq_true, decide_eq_true_eq] at hp
  exact hp.1

theorem allAscii_hashes (n : Nat) : AllAscii (hashes n) := by
  intro b hb; simp [hashes] at hb; omega

theorem allAscii_tabs (n : Nat) : AllAscii (tabs n) := by
  intro b hb; simp [tabs] at hb; omega

theorem allAscii_appendEscape (h : Nat) : AllAscii (appendEscape h) := by
  intro b hb
  simp only [appendEscape, List.mem_cons] at hb
  rcases hb with rfl | hb
  · decide
  · exact allAscii_hashes h b hb

theorem allAscii_escapeBody (x : Bool) (r : Nat) : AllAscii (escapeBody x r) :=
  fun b hb => (escapeBody_bytes x r b hb).2

theorem allAscii_rune {E : Env} (f : Form) (hq : f.quote < 0x80) (ha : f.asciiOnly = true)
    (ml : Bool) (h r : Nat) : AllAscii (appendEscapedRune E f ml h r) := by
  unfold appendEscapedRune
  split
  · next hc =>
    have hr : r < 0x80 := by
      simp only [Bool.or_eq_true, Bool.and_eq_true, beq_iff_eq] at hc
      rcases hc with hc | hc
      · rw [hc.2]; exact hq
      · omega
    exact (allAscii_appendEscape h).append (.singleton hr)
  split
  · next hp =>
    have hr := Form.isPrint_ascii ha hp
    rw [encodeRune_ascii r hr]
    exact .singleton hr
  · exact AllAscii.append (allAscii_appendEscape h) (allAscii_escapeBody _ _)

theorem allAscii_nlIndent (f : Form) (rest : Bytes) : AllAscii (nlIndent f rest) := by
  unfold nlIndent
  split
  · exact fun _ hb => nomatch hb
  · split
    · exact allAscii_tabs _
    · exact fun _ hb => nomatch hb

theorem allAscii_escapeLoop {E : Env} (f : Form) (hq : f.quote < 0x80) (ha : f.asciiOnly = true)
    (ml : Bool) (h : Nat) (s : Bytes) : AllAscii (escapeLoop E f ml h s) := by
  induction s using escapeLoop.induct f ml with
  | case1 => intro b hb; simp [escapeLoop] at hb
  | case2 b0 rest _ hbr ih =>
    rw [escapeLoop_cons_bad E f ml h b0 rest hbr]
    exact ((allAscii_appendEscape h).append fun b hb => (hexEscape_bytes b0 b hb).2).append ih
  | case3 b0 rest _ hbr hnl ih =>
    unfold escapeLoop
    dsimp only
    rw [if_neg hbr, if_pos hnl]
    exact (AllAscii.singleton (b := 10) (by decide)).append ((allAscii_nlIndent f rest).append ih)
  | case4 b0 rest _ hbr hnl ih =>
    unfold escapeLoop
    dsimp only
    rw [if_neg hbr, if_neg hnl]
    exact (allAscii_rune f hq ha ml h _).append ih

/-- every unit the loop accepts is printable, and an ASCII-only form prints no rune ≥ 0x80 -/
theorem slhc_allAscii {E : Env} (f : Form) (ha : f.asciiOnly = true) {s : Bytes} {acc m : Nat}
    (hs : slhcLoop E f s acc = some m) : AllAscii s := by
  refine slhc_ind (fun t _ _ => AllAscii t) (fun _ b hb => nomatch hb) ?_ s acc m hs
  intro r orig rest' _ _ _ hg hpr _ _ _ ih
  have hr := Form.isPrint_ascii ha hpr
  rcases hg with ⟨_, rfl⟩ | ⟨h80, _⟩
  · exact AllAscii.append (.singleton hr) ih
  · omega

/-- `C09_ascii_only`, for either single-line hash counter -/
theorem quoteWith_ascii {E : Env} (slhc : Env → Form → Bytes → Nat)
    (hsl : ∀ f s, slhc E f s = 0 ∨ slhc E f s = singleLineHashCountOld E f s)
    (f : Form) (hq : f.quote < 0x80) (ha : f.asciiOnly = true) (s : Bytes) :
    AllAscii (quoteWith slhc E f s) := by
  have hQ : AllAscii [f.quote] := .singleton hq
  have hT : AllAscii f.triple := by
    intro b hb; simp [Form.triple] at hb; omega
  have hNL : AllAscii [10] := .singleton (by decide)
  have hbody : ∀ ml h, (ml = true ∨ h = 0 ∨ AllAscii s) → AllAscii (appendEscaped E f ml h s) := by
    intro ml h hc
    unfold appendEscaped
    split
    · next hcond =>
      simp only [Bool.and_eq_true, Bool.not_eq_true', decide_eq_true_eq] at hcond
      rcases hc with h1 | h1 | h1
      · rw [h1] at hcond; cases hcond.1
      · omega
      · exact h1
    · exact allAscii_escapeLoop f hq ha ml h s
  unfold quoteWith
  dsimp only
  split
  · next hml =>
    split
    · exact ((((allAscii_hashes _).append hT).append hNL).append (allAscii_tabs _)).append hT
    · refine (((((((allAscii_hashes _).append hT).append hNL).append ?_).append (hbody _ _ (Or.inl hml))).append hNL).append (allAscii_tabs _)).append hT |>.append (allAscii_hashes _)
      split
      · exact allAscii_tabs _
      · intro b hb; cases hb
  · next hml =>
    have hml' : f.effMultiline s = false := by simpa using hml
    refine ((((allAscii_hashes _).append hQ).append (hbody _ _ ?_)).append hQ).append (allAscii_hashes _)
    -- single line: the raw copy happens only when the hash counter is positive
    unfold hashCountWith
    simp only [hml', Bool.false_eq_true, if_false]
    split
    · rcases hsl f s with h0 | h1
      · exact .inr (.inl h0)
      · rcases Nat.eq_zero_or_pos (singleLineHashCountOld E f s) with h0 | hp
        · exact .inr (.inl (h1.trans h0))
        · exact .inr (.inr (slhc_allAscii f ha (slhcOld_pos_imp f s _ hp rfl)))
    · exact .inr (.inl rfl)

end CueVerif.Quote
