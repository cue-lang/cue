/-
C09: the raw-copy path of `Form.Append` with `WithOptionalHashes` (single-line, h ≥ 1 hashes).
-/
import CueVerif.Proofs.Quote
namespace CueVerif.Quote

/-! ### `hashRun` -/

theorem hashes_prefix_run (h : Nat) : ∀ (rest : Bytes) (c : Nat) (X : Bytes), c ≠ 0x23 →
    (hashes h).isPrefixOf (rest ++ c :: X) = true → h ≤ hashRun rest := by
  induction h with
  | zero => intros; omega
  | succ n ih =>
    intro rest c X hc hp
    rw [hashes_succ] at hp
    match rest with
    | [] =>
      simp only [List.nil_append, List.isPrefixOf, Bool.and_eq_true, beq_iff_eq] at hp
      omega
    | a :: r =>
      simp only [List.cons_append, List.isPrefixOf, Bool.and_eq_true, beq_iff_eq] at hp
      rw [← hp.1, hashRun_cons_hash]
      have := ih r c X hc hp.2
      omega

/-! ### `slhcLoop` -/

theorem slhc_cons (E : Env) (f : Form) (b0 : Nat) (rest : Bytes) (acc : Nat) :
    slhcLoop E f (b0 :: rest) acc =
      if (decide (0x80 ≤ b0) && (decodeFirst b0 rest).2 == 1) then none
      else if !f.isPrint E (decodeFirst b0 rest).1 then none
      else if (decodeFirst b0 rest).1 == f.quote || (decodeFirst b0 rest).1 == 0x5C then
        slhcLoop E f (rest.drop ((decodeFirst b0 rest).2 - 1))
          (max acc (hashRun (rest.drop ((decodeFirst b0 rest).2 - 1)) + 1))
      else slhcLoop E f (rest.drop ((decodeFirst b0 rest).2 - 1)) acc := by
  conv => lhs; unfold slhcLoop

theorem slhc_step {E : Env} {f : Form} {b0 : Nat} {rest : Bytes} {acc n : Nat}
    (hs : slhcLoop E f (b0 :: rest) acc = some n) :
    ∃ r orig rest' acc', b0 :: rest = orig ++ rest' ∧ GoodUnit r orig ∧ f.isPrint E r = true ∧
      rest'.length ≤ rest.length ∧ acc ≤ acc' ∧ slhcLoop E f rest' acc' = some n ∧
      ((r = f.quote ∨ r = 0x5C) → hashRun rest' + 1 ≤ acc') := by
  rw [slhc_cons] at hs
  obtain ⟨hw1, hcase⟩ := decodeFirst_cases b0 rest
  split at hs
  · cases hs
  next hbad =>
  split at hs
  · cases hs
  next hpr =>
  have hgood : GoodUnit (decodeFirst b0 rest).1 ((b0 :: rest).take (decodeFirst b0 rest).2) := by
    rcases hcase with ⟨hg, _⟩ | ⟨h80, hw, _⟩
    · exact hg
    · exfalso; apply hbad; simp [h80, hw]
  have hpr' : f.isPrint E (decodeFirst b0 rest).1 = true := by simpa using hpr
  refine ⟨(decodeFirst b0 rest).1, (b0 :: rest).take (decodeFirst b0 rest).2,
    rest.drop ((decodeFirst b0 rest).2 - 1), ?_⟩
  split at hs
  · exact ⟨_, (take_drop_unit b0 rest _ hw1).symm, hgood, hpr', by simp, Nat.le_max_left _ _, hs,
      fun _ => Nat.le_max_right _ _⟩
  · next hq =>
    refine ⟨acc, (take_drop_unit b0 rest _ hw1).symm, hgood, hpr', by simp, Nat.le_refl _, hs, ?_⟩
    intro h
    exfalso; apply hq
    rcases h with h | h <;> simp [h]

/-- along the units of a string that `slhcLoop` accepts: the accumulator only grows, and after a
quote or a backslash it exceeds the run of hashes that follows -/
theorem slhc_ind {E : Env} {f : Form} (P : Bytes → Nat → Nat → Prop) (h0 : ∀ acc, P [] acc acc)
    (hstep : ∀ r orig rest' acc acc' n, GoodUnit r orig → f.isPrint E r = true → acc ≤ acc' →
      ((r = f.quote ∨ r = 0x5C) → hashRun rest' + 1 ≤ acc') → slhcLoop E f rest' acc' = some n →
      P rest' acc' n → P (orig ++ rest') acc n)
    (t : Bytes) (acc n : Nat) (hs : slhcLoop E f t acc = some n) : P t acc n := by
  generalize hk : t.length = k
  induction k using Nat.strongRecOn generalizing t acc with
  | ind k ih =>
  subst hk
  match t with
  | [] =>
    simp only [slhcLoop, Option.some.injEq] at hs
    exact hs ▸ h0 acc
  | b0 :: rest =>
    obtain ⟨r, orig, rest', acc', hsplit, hg, hpr, hlen, hacc, hs', hrun⟩ := slhc_step hs
    rw [hsplit]
    exact hstep r orig rest' acc acc' n hg hpr hacc hrun hs'
      (ih _ (Nat.lt_succ_of_le hlen) rest' acc' hs' rfl)

theorem slhc_mono {E : Env} {f : Form} {t : Bytes} {acc n : Nat} (hs : slhcLoop E f t acc = some n) :
    acc ≤ n :=
  slhc_ind (fun _ acc n => acc ≤ n) (fun _ => Nat.le_refl _)
    (fun _ _ _ _ _ _ _ _ h _ _ ih => Nat.le_trans h ih) t acc n hs

theorem slhc_no_nl {E : Env} (hE : E.Ok) {f : Form} {t : Bytes} {acc n : Nat}
    (hs : slhcLoop E f t acc = some n) : ∀ b ∈ t, b ≠ 10 ∧ b ≠ 13 := by
  refine slhc_ind (fun t _ _ => ∀ b ∈ t, b ≠ 10 ∧ b ≠ 13) (fun _ b hb => nomatch hb) ?_ t acc n hs
  intro r orig rest' _ _ _ hg hpr _ _ _ ih b hb
  rcases List.mem_append.mp hb with hb | hb
  · rcases hg with ⟨_, rfl⟩ | ⟨h80, _, _, henc⟩
    · rw [List.mem_singleton.mp hb]
      exact (Form.isPrint_not_ctl hE f _ hpr).2
    · have := (encodeRune_bytes_high r h80 b (henc ▸ hb)).1
      omega
  · exact ih b hb

theorem uc_quote_raw (q : QuoteInfo) (hq : q.char = 0x22 ∨ q.char = 0x27) (hm : q.multiline = false)
    (X : Bytes) (hnp : (hashes q.numHash).isPrefixOf X = false) :
    unquoteChar (q.char :: X) q = .ok (.char q.char false, X) := by
  have h0 : (q.char != 0) = true := by rcases hq with h | h <;> simp [h]
  have hc : q.closing = q.char :: hashes q.numHash := by
    simp [QuoteInfo.closing, QuoteInfo.numChar, hm]
  simp [unquoteChar, h0, hc, hnp]

theorem uc_bs_raw (q : QuoteInfo) (hq : q.char = 0x22 ∨ q.char = 0x27)
    (X : Bytes) (hnp : (hashes q.numHash).isPrefixOf X = false) :
    unquoteChar (0x5C :: X) q = .ok (.char 0x5C false, X) := by
  have h1 : ((0x5C : Nat) == q.char) = false := by rcases hq with h | h <;> simp [h]
  have h2 : ¬ (0x80 ≤ (0x5C : Nat)) := by decide
  simp [unquoteChar, h1, h2, hnp]

/-! ### the main loop over a raw body -/

theorem loop_hashes {E : Env} (hE : E.Ok) (f : Form) (hf : f.WF) (q : QuoteInfo)
    (hqc : q.char = f.quote) (hm : q.multiline = false) (t : Bytes) (acc n : Nat)
    (hs : slhcLoop E f t acc = some n) :
    n ≤ q.numHash → Reads q (t ++ (q.char :: hashes q.numHash)) false t := by
  have hq : q.char = 0x22 ∨ q.char = 0x27 := hqc ▸ hf.quote
  have hq23 : q.char ≠ 0x23 := by rcases hq with h | h <;> simp [h]
  refine slhc_ind (fun t _ n => n ≤ q.numHash → Reads q (t ++ (q.char :: hashes q.numHash)) false t)
    (fun _ _ => Reads.close q hq hm) ?_ t acc n hs
  intro r orig rest' _ acc' n hg hpr _ hrun hs' ih hn
  have hctl := Form.isPrint_not_ctl hE f r hpr
  have hmono := slhc_mono hs'
  -- the accumulator, hence `numHash`, exceeds the run of hashes after a quote or a backslash
  have hnp : r = q.char ∨ r = 0x5C →
      (hashes q.numHash).isPrefixOf (rest' ++ q.char :: hashes q.numHash) = false := fun h =>
    Bool.eq_false_iff.2 fun hp => by
      have := hashes_prefix_run _ _ _ _ hq23 hp
      have := hrun (h.imp_left (·.trans hqc))
      omega
  have hlen : 1 ≤ orig.length := hg.encode ▸ encodeRune_ne_nil r
  rw [List.append_assoc]
  refine (ih hn).step hlen fun fuel buf => step_unit q hq hg hctl.1 hctl.2.1 hctl.2.2 _ ?_ fuel buf false false
  rintro (h | h)
  · rw [h]; exact uc_quote_raw q hq hm _ (hnp (.inl h))
  · rw [h]; exact uc_bs_raw q hq _ (hnp (.inr h))

/-! ### the round trip of the raw-copy path -/

theorem roundtrip_hashes_core {E : Env} (hE : E.Ok) (f : Form) (hf : f.WF) (s : Bytes)
    (h : Nat) (hs : slhcLoop E f s 1 = some h) (h2 : startsTwoQuotes f.quote s = false) :
    unquote (hashes h ++ [f.quote] ++ s ++ [f.quote] ++ hashes h) = .ok s := by
  have hshape : hashes h ++ [f.quote] ++ s ++ [f.quote] ++ hashes h
      = hashes h ++ f.quote :: (s ++ f.quote :: hashes h) := by simp
  rw [hshape]
  exact unquote_single f.quote hf.quote h s s h2 (slhc_no_nl hE hs)
    (loop_hashes hE f hf { char := f.quote, numHash := h, multiline := false, whitespace := [] }
      rfl rfl s 1 h hs (Nat.le_refl _))

theorem quoteWith_hashes_eq (slhc : Env → Form → Bytes → Nat) {E : Env} (f : Form) (s : Bytes)
    (hml : f.effMultiline s = false) (ha : f.autoHash = true) (h : Nat) (hs : slhc E f s = h)
    (hpos : 1 ≤ h) :
    quoteWith slhc E f s = hashes h ++ [f.quote] ++ s ++ [f.quote] ++ hashes h := by
  have hgt : decide (h > 0) = true := by simp; omega
  simp [quoteWith, hashCountWith, appendEscaped, hml, ha, hs, hgt]

theorem quoteOld_hashes_eq {E : Env} (f : Form) (s : Bytes) (hml : f.effMultiline s = false)
    (ha : f.autoHash = true) (h : Nat) (hs : singleLineHashCountOld E f s = h) (hpos : 1 ≤ h) :
    quoteOld E f s = hashes h ++ [f.quote] ++ s ++ [f.quote] ++ hashes h :=
  quoteWith_hashes_eq singleLineHashCountOld f s hml ha h hs hpos

theorem quote_hashes_eq {E : Env} (f : Form) (s : Bytes) (hml : f.effMultiline s = false)
    (ha : f.autoHash = true) (h : Nat) (hs : singleLineHashCount E f s = h) (hpos : 1 ≤ h) :
    quote E f s = hashes h ++ [f.quote] ++ s ++ [f.quote] ++ hashes h :=
  quoteWith_hashes_eq singleLineHashCount f s hml ha h hs hpos

theorem slhcOld_pos_imp {E : Env} (f : Form) (s : Bytes) (h : Nat) (hpos : 1 ≤ h)
    (hs : singleLineHashCountOld E f s = h) : slhcLoop E f s 1 = some h := by
  unfold singleLineHashCountOld at hs
  split at hs
  · omega
  · split at hs
    · next n hn => rw [hn, hs]
    · omega

theorem slhc_pos_imp {E : Env} (f : Form) (s : Bytes) (h : Nat)
    (hs : singleLineHashCount E f s = h) (hpos : 1 ≤ h) :
    slhcLoop E f s 1 = some h ∧ startsTwoQuotes f.quote s = false := by
  unfold singleLineHashCount at hs
  split at hs
  · omega
  split at hs
  · omega
  · next hany htwo =>
    constructor
    · split at hs
      · next n hn => rw [hn, hs]
      · omega
    · have h2 : startsWithTwo f.quote s = false := by simpa using htwo
      unfold startsTwoQuotes
      split
      · next a b rest =>
        have : (a == f.quote && b == f.quote) = false := by simpa [startsWithTwo] using h2
        simp [this]
      · rfl

/-! ### the defect of the OLD code (before /repo a2b8800) -/

/-- `"\"\"x"` quoted with `WithOptionalHashes` is `#"""x"#`, which does not read back -/
theorem hashes_witness_fails_old (E : Env) (hp : E.isPrint 0x22 = true) (hx : E.isPrint 0x78 = true) :
    unquote (quoteOld E stringForm.withOptionalHashes [0x22, 0x22, 0x78]) = .error .missingOpeningNewline := by
  have hc : singleLineHashCountOld E stringForm.withOptionalHashes [0x22, 0x22, 0x78] = 1 := by
    simp [singleLineHashCountOld, slhc_cons, slhcLoop, decodeFirst, Form.isPrint, stringForm,
      Form.withOptionalHashes, hp, hx, hashRun_cons_ne]
  have hqv := quoteOld_hashes_eq (E := E) stringForm.withOptionalHashes [0x22, 0x22, 0x78]
    (by simp [Form.effMultiline, stringForm, Form.withOptionalHashes]) rfl 1 hc (Nat.le_refl _)
  rw [hqv]
  rfl

end CueVerif.Quote
