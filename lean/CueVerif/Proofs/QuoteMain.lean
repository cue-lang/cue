/-
C09: the single-line round trip for every hash count, and the defect of the code before
/repo a2b8800 as a checked statement.
-/
import CueVerif.Proofs.Quote
import CueVerif.Proofs.QuoteHash
import CueVerif.Proofs.QuoteAscii
namespace CueVerif.Quote

/-- single-line round trip for any hash counter that, when positive, is the loop's answer and
is never positive where the raw copy would read as a multi-line opener -/
theorem roundtrip_single_with {E : Env} (hE : E.Ok) (slhc : Env → Form → Bytes → Nat)
    (hpos : ∀ f s h, slhc E f s = h → 1 ≤ h →
      slhcLoop E f s 1 = some h)
    (f : Form) (hf : f.WF) (s : Bytes) (hb : IsBytes s) (hv : f.exact = true ∨ validUTF8 s = true)
    (hml : f.effMultiline s = false)
    (h2 : f.autoHash = true → 1 ≤ slhc E f s → startsTwoQuotes f.quote s = false) :
    unquote (quoteWith slhc E f s) = .ok s := by
  by_cases ha : f.autoHash = true
  · by_cases h0 : slhc E f s = 0
    · exact roundtrip_single_plain hE slhc f hf s hb hv hml (by simp [hashCountWith, ha, h0])
    · have hp : 1 ≤ slhc E f s := by omega
      rw [quoteWith_hashes_eq slhc f s hml ha _ rfl hp]
      exact roundtrip_hashes_core hE f hf s _ (hpos f s _ rfl hp) (h2 ha hp)
  · have ha' : f.autoHash = false := by simpa using ha
    exact roundtrip_single_plain hE slhc f hf s hb hv hml (by simp [hashCountWith, ha'])

/-- EVERY single-line form, with or without `WithOptionalHashes`, any number of '#' -/
theorem roundtrip_single_all {E : Env} (hE : E.Ok) (f : Form) (hf : f.WF) (s : Bytes)
    (hb : IsBytes s) (hv : f.exact = true ∨ validUTF8 s = true) (hml : f.effMultiline s = false) :
    unquote (quote E f s) = .ok s :=
  roundtrip_single_with hE singleLineHashCount
    (fun f s h hs hp => (slhc_pos_imp f s h hs hp).1) f hf s hb hv hml
    (fun _ hp => (slhc_pos_imp f s _ rfl hp).2)

/-- the OLD code round-trips outside the region where its raw copy read as a multi-line opener -/
theorem roundtrip_hashes_old_partial {E : Env} (hE : E.Ok) (f : Form) (hf : f.WF) (s : Bytes)
    (hb : IsBytes s) (hv : f.exact = true ∨ validUTF8 s = true) (hml : f.effMultiline s = false)
    (h2 : startsTwoQuotes f.quote s = false) : unquote (quoteOld E f s) = .ok s :=
  roundtrip_single_with hE singleLineHashCountOld
    (fun f s h hs hp => slhcOld_pos_imp f s h hp hs) f hf s hb hv hml (fun _ _ => h2)

/-- an environment in which printable = graphic = the ASCII range 0x20..0x7E (for witnesses) -/
def asciiEnv : Env :=
  { isPrint := fun r => decide (0x20 ≤ r) && decide (r < 0x7F),
    isGraphic := fun r => decide (0x20 ≤ r) && decide (r < 0x7F) }

theorem asciiEnv_ok : asciiEnv.Ok := by constructor <;> decide

/-- the full-strength statement for the OLD variant (before /repo a2b8800) … -/
def roundtrip_hashes_old_stmt : Prop :=
  ∀ (E : Env), E.Ok → ∀ (f : Form), f.WF → ∀ (s : Bytes), IsBytes s →
    (f.exact = true ∨ validUTF8 s = true) → f.effMultiline s = false →
    unquote (quoteOld E f s) = .ok s

/-- … was false: `""x` quoted to `#"""x"#`, which reads as a multi-line opener -/
theorem roundtrip_hashes_old_false : ¬ roundtrip_hashes_old_stmt := by
  intro h
  have h1 := h asciiEnv asciiEnv_ok stringForm.withOptionalHashes (Or.inl ⟨rfl, rfl⟩)
    [0x22, 0x22, 0x78] (by intro b hb; simp at hb; omega) (Or.inr (by simp [validUTF8, decodeFirst])) (by decide)
  rw [hashes_witness_fails_old asciiEnv (by decide) (by decide)] at h1
  cases h1

theorem slhc_cases (E : Env) (f : Form) (s : Bytes) :
    singleLineHashCount E f s = 0 ∨ singleLineHashCount E f s = singleLineHashCountOld E f s := by
  unfold singleLineHashCount singleLineHashCountOld
  split
  · left; rfl
  · split
    · left; rfl
    · right; rfl

theorem quote_ascii {E : Env} (f : Form) (hf : f.WF) (ha : f.asciiOnly = true) (s : Bytes) :
    AllAscii (quote E f s) :=
  quoteWith_ascii singleLineHashCount (fun f s => slhc_cases E f s) f
    (by rcases hf with h | h <;> simp [h.1]) ha s

end CueVerif.Quote
