/-
C09: the round trip of the MULTI-LINE forms of `Form.Append` (`WithTabIndent`, and
`WithOptionalTabIndent` on a string that contains a line feed):
  #^h """ LF [indent] body LF indent """ #^h      with h = requiredHashCount
-/
import CueVerif.Proofs.Quote
import CueVerif.Proofs.QuoteHash
namespace CueVerif.Quote

theorem closing_ml (Q : QuoteInfo) (hm : Q.multiline = true) :
    Q.closing = Q.char :: Q.char :: Q.char :: hashes Q.numHash := by
  simp [QuoteInfo.closing, QuoteInfo.numChar, hm, List.replicate]

theorem uc_quote_ml (Q : QuoteInfo) (hq : Q.char = 0x22 ∨ Q.char = 0x27) (hm : Q.multiline = true)
    (X : Bytes) (hl : Q.closing.length ≤ X.length) :
    unquoteChar (Q.char :: X) Q = .ok (.char Q.char false, X) := by
  have h0 : (Q.char != 0) = true := by rcases hq with h | h <;> simp [h]
  have hne : ((Q.char :: X).length != Q.closing.length) = true := by
    simp only [List.length_cons, bne_iff_ne, ne_eq]; omega
  simp only [unquoteChar, beq_self_eq_true, h0, Bool.and_self, if_true, hne, hm]
  split <;> rfl

/-! ### the main loop over a multi-line body -/

/-- the end of a multi-line literal: LF, indentation, closing delimiter -/
def mlEnd (Q : QuoteInfo) : Bytes :=
  10 :: (Q.whitespace ++ Q.char :: Q.char :: Q.char :: hashes Q.numHash)

theorem skipWS_indent (Q : QuoteInfo) (hm : Q.multiline = true) (X : Bytes) :
    skipWS (Q.whitespace ++ X) Q = .ok X := by
  simp [skipWS, hm, List.isPrefixOf_iff_prefix]

theorem skipWS_nl (Q : QuoteInfo) (hm : Q.multiline = true) (n : Nat) (hws : Q.whitespace = tabs n)
    (X : Bytes) : skipWS (10 :: X) Q = .ok (10 :: X) := by
  cases n with
  | zero => simp [skipWS, hm, hws, tabs]
  | succ k => simp [skipWS, hm, hws, tabs, List.replicate_succ]

theorem closing_le_end (Q : QuoteInfo) (hm : Q.multiline = true) (X : Bytes) :
    Q.closing.length ≤ (X ++ mlEnd Q).length := by
  simp only [closing_ml Q hm, mlEnd, List.length_append, List.length_cons]; omega

theorem loop_step_nl (Q : QuoteInfo) (X X' : Bytes) (h1 : skipWS X Q = .ok X')
    (h2 : (Q.multiline && hasClosingDelimPrefix X' Q && decide (X'.length > Q.closing.length)) = false)
    (fuel : Nat) (buf : Bytes) (sn we : Bool) :
    unquoteLoop Q (fuel + 1) (10 :: X) buf sn we = unquoteLoop Q fuel X' (buf ++ [10]) true false := by
  simp [unquoteLoop, h1, h2]

theorem loop_end (Q : QuoteInfo) (hq : Q.char = 0x22 ∨ Q.char = 0x27) (hm : Q.multiline = true)
    (fuel : Nat) (buf : Bytes) (sn we : Bool) :
    unquoteLoop Q (fuel + 2) (mlEnd Q) buf sn we = .ok buf := by
  have h1 := skipWS_indent Q hm (Q.char :: Q.char :: Q.char :: hashes Q.numHash)
  have h2 := loop_step_term Q hq _ (closing_ml Q hm) fuel (buf ++ [10]) true
  show unquoteLoop Q ((fuel + 1) + 1) (10 :: _) buf sn we = _
  rw [loop_step_nl Q _ _ h1 (by simp [closing_ml Q hm]), h2]
  simp

theorem Reads.mlClose (Q : QuoteInfo) (hq : Q.char = 0x22 ∨ Q.char = 0x27) (hm : Q.multiline = true)
    (sn : Bool) : Reads Q (mlEnd Q) sn [] := by
  intro fuel buf hf
  obtain ⟨k, rfl⟩ : ∃ k, fuel = k + 2 :=
    ⟨fuel - 2, by simp only [mlEnd, List.length_cons] at hf; omega⟩
  simp [loop_end Q hq hm]

/-- no line of the body (and not the body itself) starts with the closing delimiter -/
def Safe (E : Env) (f : Form) (Q : QuoteInfo) (s : Bytes) : Prop :=
  ∀ t, (10 :: t) <:+ s → Q.closing.isPrefixOf (escapeLoop E f true Q.numHash t ++ mlEnd Q) = false

theorem Safe.suffix {E : Env} {f : Form} {Q : QuoteInfo} {s s' : Bytes} (h : Safe E f Q s) (hs : s' <:+ s) :
    Safe E f Q s' := fun t ht => h t (ht.trans hs)

theorem loop_multi {E : Env} (hE : E.Ok) (f : Form) (hf : f.WF) (Q : QuoteInfo)
    (hqc : Q.char = f.quote) (hm : Q.multiline = true) (hws : Q.whitespace = tabs f.indent)
    (s : Bytes) (hb : IsBytes s) (hv : f.exact = true ∨ validUTF8 s = true) :
    Safe E f Q s → ∀ sn, Reads Q (escapeLoop E f true Q.numHash s ++ mlEnd Q) sn s := by
  have hq : Q.char = 0x22 ∨ Q.char = 0x27 := hqc ▸ hf.quote
  refine escapeLoop_ind (E := E) f true Q.numHash
    (fun s body => Safe E f Q s → ∀ sn, Reads Q (body ++ mlEnd Q) sn s)
    (fun _ => Reads.mlClose Q hq hm) ?_ ?_ ?_ s hb hv
  · intro r orig s' hu _ ih hsafe sn
    rw [List.append_assoc]
    exact (ih (hsafe.suffix (List.suffix_append _ _)) false).step
      (appendEscapedRune_pos E f true Q.numHash r) fun fuel buf =>
        step_rune hE f hf Q hqc true r orig hu _ buf
          (fun _ => uc_quote_ml Q hq hm _ (closing_le_end Q hm _)) fuel sn false
  · intro b0 s' hx _ hb0 ih hsafe sn
    rw [List.append_assoc]
    exact (ih (hsafe.suffix (List.suffix_cons _ _)) false).step (X := appendEscape Q.numHash ++ _)
      (orig := [b0]) (by simp [appendEscape]) fun fuel buf =>
        step_badbyte Q (hqc.trans (hf.quote_of_exact hx)) b0 hb0 _ buf fuel sn false
  · -- a line feed: `skipWS` drops exactly the indentation that was emitted after it
    intro rest _ ih hsafe sn
    have hsk : skipWS (nlIndent f rest ++ escapeLoop E f true Q.numHash rest ++ mlEnd Q) Q
        = .ok (escapeLoop E f true Q.numHash rest ++ mlEnd Q) := by
      match rest with
      | [] => simp [nlIndent, escapeLoop, mlEnd, skipWS_nl Q hm f.indent hws]
      | b1 :: r =>
        by_cases h1 : b1 = 10
        · subst h1
          rw [escapeLoop_nl]
          simp [nlIndent, skipWS_nl Q hm f.indent hws]
        · have : (b1 != 10) = true := by simpa using h1
          simp only [nlIndent, this, if_true, ← hws, List.append_assoc]
          exact skipWS_indent Q hm _
    rw [List.cons_append, List.append_assoc]
    exact (ih (hsafe.suffix (List.suffix_cons _ _)) true).step (X := 10 :: nlIndent f rest) (orig := [10])
      (by simp) fun fuel buf => by
        rw [List.cons_append, ← List.append_assoc, loop_step_nl Q _ _ hsk
          (by simp [hasClosingDelimPrefix, hsafe rest (List.suffix_refl _)])]

/-! ### the quote / hash structure of the body mirrors the source -/

/-- the first byte that a source byte other than LF puts into a multi-line body: the byte
itself if it is ASCII and printed raw, else a backslash or a non-ASCII byte -/
theorem escapeLoop_head (E : Env) (f : Form) (h a : Nat) (rest : Bytes) (h10 : a ≠ 10) :
    (a < 0x80 ∧ escapeLoop E f true h (a :: rest) = a :: escapeLoop E f true h rest) ∨
    ∃ c tl, escapeLoop E f true h (a :: rest) = c :: tl ∧ (c = 0x5C ∨ 0x80 ≤ c) := by
  by_cases hbr : (f.exact && (decodeFirst a rest).2 == 1 && (decodeFirst a rest).1 == 0xFFFD) = true
  · rw [escapeLoop_cons_bad E f true h a rest hbr]
    exact .inr ⟨_, _, rfl, .inl rfl⟩
  rw [escapeLoop_cons E f true h a rest (by simpa using hbr) fun _ => decodeFirst_ne10 a rest h10]
  rcases appendEscapedRune_head E f true h (decodeFirst a rest).1 with ⟨tl, e⟩ | e <;> rw [e]
  · exact .inr ⟨_, _, rfl, .inl rfl⟩
  by_cases ha : a < 0x80
  · have hd : decodeFirst a rest = (a, 1) := by simp [decodeFirst, ha]
    rw [hd, encodeRune_ascii a ha]
    exact .inl ⟨ha, rfl⟩
  · obtain ⟨c, cs, he, hc⟩ := encodeRune_cons _ (decodeFirst_high a rest (by omega))
    rw [he]
    exact .inr ⟨c, _, rfl, .inr hc⟩

/-- an ASCII character of the body that is neither a backslash nor LF can only come from the
same character of the source, copied raw -/
theorem peel (E : Env) (f : Form) (h c : Nat) (hc80 : c < 0x80) (hc5c : c ≠ 0x5C) (hc10 : c ≠ 10)
    (P t Y : Bytes) (hp : (c :: P).isPrefixOf (escapeLoop E f true h t ++ 10 :: Y) = true) :
    ∃ t1, t = c :: t1 ∧ P.isPrefixOf (escapeLoop E f true h t1 ++ 10 :: Y) = true := by
  match t with
  | [] =>
    simp [escapeLoop, List.isPrefixOf] at hp
    omega
  | a :: t1 =>
    by_cases ha10 : a = 10
    · subst ha10
      rw [escapeLoop_nl] at hp
      simp [List.isPrefixOf] at hp
      omega
    rcases escapeLoop_head E f h a t1 ha10 with ⟨_, he⟩ | ⟨c', tl, he, hc'⟩
    all_goals
      rw [he] at hp
      simp only [List.cons_append, List.isPrefixOf, Bool.and_eq_true, beq_iff_eq] at hp
    · exact ⟨t1, by rw [hp.1], hp.2⟩
    · omega

theorem hash_le (E : Env) (f : Form) (h : Nat) (Y : Bytes) : ∀ (k : Nat) (t : Bytes),
    (hashes k).isPrefixOf (escapeLoop E f true h t ++ 10 :: Y) = true → k ≤ hashRun t := by
  intro k
  induction k with
  | zero => intros; omega
  | succ k ih =>
    intro t hp
    have hh : hashes (k + 1) = 0x23 :: hashes k := by simp [hashes, List.replicate_succ]
    rw [hh] at hp
    obtain ⟨t1, rfl, hp'⟩ := peel E f h 0x23 (by decide) (by decide) (by decide) _ _ _ hp
    have := ih t1 hp'
    rw [hashRun_cons_hash]; omega

/-- what `requiredHashCount` has to guarantee: more hashes than follow any run of three or
more quote characters at the start of the string or of one of its lines -/
def HashOK (q h : Nat) (s : Bytes) : Prop :=
  ∀ t', (q :: q :: q :: t' = s ∨ (10 :: q :: q :: q :: t') <:+ s) →
    hashRun (t'.dropWhile (· == q)) + 1 ≤ h

theorem noclose {E : Env} (f : Form) (hq : f.quote = 0x22 ∨ f.quote = 0x27) (h : Nat) (s : Bytes)
    (hok : HashOK f.quote h s) (t : Bytes) (ht : t = s ∨ (10 :: t) <:+ s) (Y : Bytes) :
    (f.quote :: f.quote :: f.quote :: hashes h).isPrefixOf (escapeLoop E f true h t ++ 10 :: Y) = false := by
  rw [Bool.eq_false_iff]
  intro hp
  obtain ⟨q80, q5c, q10, q23⟩ : f.quote < 0x80 ∧ f.quote ≠ 0x5C ∧ f.quote ≠ 10 ∧ f.quote ≠ 0x23 := by
    rcases hq with g | g <;> omega
  obtain ⟨t1, rfl, hp1⟩ := peel E f h f.quote q80 q5c q10 _ _ _ hp
  obtain ⟨t2, rfl, hp2⟩ := peel E f h f.quote q80 q5c q10 _ _ _ hp1
  obtain ⟨t3, rfl, hp3⟩ := peel E f h f.quote q80 q5c q10 _ _ _ hp2
  have h1 := hash_le E f h Y h t3 hp3
  have h2 := hok t3 ht
  have h3 : hashRun t3 ≤ hashRun (t3.dropWhile (· == f.quote)) := by
    match t3 with
    | [] => simp
    | a :: r =>
      by_cases ha : a = f.quote
      · rw [ha, hashRun_cons_ne _ _ q23]; omega
      · have : (a == f.quote) = false := by simpa using ha
        simp [this]
  omega

/-! ### `requiredHashCount` -/

theorem rhc_cons (q b : Nat) (rest : Bytes) (acc : Nat) :
    rhcLoop q (b :: rest) acc =
      if [q, q, q].isPrefixOf (b :: rest) then
        rhcLoop q (((rest.drop 2).dropWhile (· == q)).drop (hashRun ((rest.drop 2).dropWhile (· == q))))
          (max acc (hashRun ((rest.drop 2).dropWhile (· == q)) + 1))
      else rhcLoop q rest acc := by
  conv => lhs; unfold rhcLoop

theorem rhc_mono (q : Nat) (s : Bytes) (acc : Nat) : acc ≤ rhcLoop q s acc := by
  induction s, acc using rhcLoop.induct q with
  | case1 acc => simp [rhcLoop]
  | case2 b rest acc hpre t n ih =>
    rw [rhc_cons, if_pos hpre]
    exact Nat.le_trans (Nat.le_max_left _ _) ih
  | case3 b rest acc hpre ih =>
    rw [rhc_cons, if_neg hpre]
    exact ih

theorem rhc_start (q : Nat) (t' : Bytes) (acc : Nat) :
    hashRun (t'.dropWhile (· == q)) + 1 ≤ rhcLoop q (q :: q :: q :: t') acc := by
  rw [rhc_cons]
  have : [q, q, q].isPrefixOf (q :: q :: q :: t') = true := by simp [List.isPrefixOf]
  simp only [this, if_true, List.drop_succ_cons, List.drop_zero]
  exact Nat.le_trans (Nat.le_max_right _ _) (rhc_mono q _ _)

theorem suffix_of_cons_ne {c a : Nat} {u l : Bytes} (h : (c :: u) <:+ (a :: l)) (hne : c ≠ a) :
    (c :: u) <:+ l := by
  rcases List.suffix_cons_iff.mp h with h | h
  · simp only [List.cons.injEq] at h; exact absurd h.1 hne
  · exact h

theorem suffix_dropWhile (p : Nat → Bool) (c : Nat) (u : Bytes) (hc : p c = false) :
    ∀ l : Bytes, (c :: u) <:+ l → (c :: u) <:+ l.dropWhile p := by
  intro l
  induction l with
  | nil => intro h; simp at h
  | cons a l ih =>
    intro h
    by_cases ha : p a = true
    · rw [List.dropWhile_cons_of_pos ha]
      exact ih (suffix_of_cons_ne h (by intro e; rw [e, ha] at hc; cases hc))
    · rw [List.dropWhile_cons_of_neg ha]; exact h

theorem suffix_drop_hashRun (c : Nat) (u : Bytes) (hc : c ≠ 0x23) :
    ∀ l : Bytes, (c :: u) <:+ l → (c :: u) <:+ l.drop (hashRun l) := by
  intro l
  induction l with
  | nil => intro h; simp at h
  | cons a l ih =>
    intro h
    by_cases ha : a = 0x23
    · subst ha
      rw [hashRun_cons_hash, List.drop_succ_cons]
      exact ih (suffix_of_cons_ne h hc)
    · rw [hashRun_cons_ne a l ha]; exact h

theorem rhc_suffix (q c : Nat) (t' : Bytes) (hcq : c ≠ q) (hc23 : c ≠ 0x23) (s : Bytes) (acc : Nat)
    (hs : (c :: q :: q :: q :: t') <:+ s) : hashRun (t'.dropWhile (· == q)) + 1 ≤ rhcLoop q s acc := by
  induction s, acc using rhcLoop.induct q with
  | case1 acc => simp at hs
  | case2 b rest acc hpre t n ih =>
    -- the scan jumps over the run of quotes and the hashes after it; the jump cannot pass `c`
    rw [rhc_cons, if_pos hpre]
    obtain ⟨r3, h⟩ := List.isPrefixOf_iff_prefix.mp hpre
    obtain ⟨rfl, rfl⟩ := List.cons.inj h
    have s1 := suffix_of_cons_ne (suffix_of_cons_ne (suffix_of_cons_ne hs hcq) hcq) hcq
    have hpc : (fun x : Nat => x == q) c = false := by simpa using hcq
    exact ih (suffix_drop_hashRun c _ hc23 _ (suffix_dropWhile (fun x : Nat => x == q) c _ hpc r3 s1))
  | case3 b rest acc hpre ih =>
    rw [rhc_cons, if_neg hpre]
    rcases List.suffix_cons_iff.mp hs with h | h
    · simp only [List.cons.injEq] at h
      obtain ⟨rfl, rfl⟩ := h
      exact rhc_start q t' acc
    · exact ih h

theorem requiredHashCount_ok (f : Form) (hq : f.quote = 0x22 ∨ f.quote = 0x27) (s : Bytes) :
    HashOK f.quote (requiredHashCount f s) s := by
  intro t' ht
  unfold requiredHashCount
  rcases ht with rfl | ht
  · exact rhc_start _ _ _
  · exact rhc_suffix f.quote 10 t' (by rcases hq with g | g <;> omega) (by decide) s 0 ht

/-! ### `ParseQuotes` on a multi-line literal -/

theorem decodeLast_ascii (X : Bytes) (c : Nat) (hc : c < 0x80) : decodeLastRune (X ++ [c]) = (c, 1) := by
  simp [decodeLastRune, hc]

theorem tabs_succ (k : Nat) : tabs (k + 1) = tabs k ++ [9] := by
  simp [tabs, List.replicate_succ']

theorem scanBack_nl (X : Bytes) (fuel : Nat) :
    scanBackWS (fuel + 1) (X ++ [10]) = (X.length + 1, true) := by
  simp [scanBackWS, decodeLast_ascii X 10 (by decide)]

theorem scanBack_space (X : Bytes) (c : Nat) (hc : c < 0x80) (hs : isSpace c = true) (h10 : c ≠ 10)
    (fuel : Nat) : scanBackWS (fuel + 1) (X ++ [c]) = scanBackWS fuel X := by
  simp [scanBackWS, decodeLast_ascii X c hc, hs, h10]

theorem scanBack_tabs (P : Bytes) : ∀ (k fuel : Nat), k + 1 ≤ fuel →
    scanBackWS fuel (P ++ 10 :: tabs k) = (P.length + 1, true)
  | 0, j + 1, _ => scanBack_nl P j
  | k + 1, j + 1, hf => by
    rw [show P ++ 10 :: tabs (k + 1) = (P ++ 10 :: tabs k) ++ [9] by simp [tabs_succ],
      scanBack_space _ 9 (by decide) (by decide) (by decide)]
    exact scanBack_tabs P k j (by omega)

theorem drop_opener (h q : Nat) (Z : Bytes) : (hashes h ++ q :: q :: q :: 10 :: Z).drop (3 + h + 1) = Z := by
  have : 3 + h + 1 = h + 4 := by omega
  rw [this, ← List.drop_drop, drop_hashes]; rfl

/-- the backward half of `parseQuotes` on a literal that ends in LF, indentation and the closing
delimiter: the delimiter is found reversed, and the scan back over what is in front of it stops
at the LF and leaves the indentation -/
theorem closing_scan (P : Bytes) (q h n : Nat) :
    (hashes h ++ [q, q, q]).isPrefixOf (P ++ 10 :: tabs n ++ (q :: q :: q :: hashes h)).reverse = true ∧
    (P ++ 10 :: tabs n ++ (q :: q :: q :: hashes h)).take
      ((P ++ 10 :: tabs n ++ (q :: q :: q :: hashes h)).length - (hashes h ++ [q, q, q]).length)
        = P ++ 10 :: tabs n ∧
    scanBackWS ((P ++ 10 :: tabs n).length + 1) (P ++ 10 :: tabs n) = (P.length + 1, true) ∧
    (P ++ 10 :: tabs n).drop (P.length + 1) = tabs n := by
  refine ⟨?_, ?_, scanBack_tabs P n _ (by simp [tabs]; omega), ?_⟩
  · rw [List.reverse_append,
      show (q :: q :: q :: hashes h).reverse = hashes h ++ [q, q, q] by simp [reverse_hashes]]
    simp [List.isPrefixOf_iff_prefix]
  · rw [show (hashes h ++ [q, q, q]).length = (q :: q :: q :: hashes h).length by simp,
      List.length_append (bs := q :: q :: q :: hashes h), Nat.add_sub_cancel, List.take_left]
  · rw [show P ++ 10 :: tabs n = (P ++ [10]) ++ tabs n by simp,
      show P.length + 1 = (P ++ [10]).length by simp, List.drop_left]

theorem parseQuotes_multi (q : Nat) (hq : q = 0x22 ∨ q = 0x27) (h n : Nat) (W Z : Bytes)
    (hZ : 10 :: Z = W ++ 10 :: (tabs n ++ q :: q :: q :: hashes h)) :
    parseQuotes (hashes h ++ q :: q :: q :: 10 :: Z) =
      if Z.head? != some 10 then
        (if (tabs n).isPrefixOf Z then
          .ok ({ char := q, numHash := h, multiline := true, whitespace := tabs n }, 3 + h + 1 + n)
         else .error .whitespace)
      else .ok ({ char := q, numHash := h, multiline := true, whitespace := tabs n }, 3 + h + 1) := by
  have hq23 : q ≠ 0x23 := by rcases hq with g | g <;> omega
  have hrun := hashRun_hashes h q (q :: q :: 10 :: Z) hq23
  have hdrop := drop_hashes h (q :: q :: q :: 10 :: Z)
  have hc : (q != 0x22 && q != 0x27) = false := by rcases hq with g | g <;> simp [g]
  -- the literal, split in front of the closing delimiter
  have hL : (hashes h ++ q :: q :: q :: W) ++ 10 :: tabs n ++ (q :: q :: q :: hashes h)
      = hashes h ++ q :: q :: q :: 10 :: Z := by
    rw [hZ]; simp
  obtain ⟨hrev, hbody, hscan, hws⟩ := closing_scan (hashes h ++ q :: q :: q :: W) q h n
  rw [hL] at hrev hbody
  have hop1 : (decide ((q :: q :: q :: 10 :: Z).length > 3) && (q :: q :: q :: 10 :: Z)[1]? == some q &&
      (q :: q :: q :: 10 :: Z)[2]? == some q && (q :: q :: q :: 10 :: Z)[3]? != some 35) = true := by simp
  have hop2 : ((q :: q :: q :: 10 :: Z)[3]? == some 10) = true := by simp
  have htake : List.take (3 + h) (hashes h ++ q :: q :: q :: 10 :: Z) = hashes h ++ [q, q, q] :=
    take_hashes h 3 _
  have hdropN := drop_opener h q Z
  have hidx : (hashes h ++ q :: q :: q :: 10 :: Z)[3 + h + 1]? = Z.head? := by
    rw [← List.head?_drop, hdropN]
  have hZlen : 3 ≤ Z.length := by
    have := congrArg List.length hZ
    simp at this; omega
  have hlen : decide (List.length (hashes h ++ q :: q :: q :: 10 :: Z) > 3 + h + 1) = true := by
    simp [hashes]; omega
  have htl : (tabs n).length = n := by simp [tabs]
  unfold parseQuotes
  simp only [hrun, hdrop, hc, Bool.false_eq_true, if_false]
  simp only [hop1, hop2, if_true]
  simp only [htake, hrev, Bool.not_true, Bool.false_eq_true, if_false, hbody, hscan, hws,
    hidx, hlen, hdropN, htl, Bool.true_and]
  cases (Z.head? != some 10) <;> cases (tabs n).isPrefixOf Z <;> simp

/-- what `ParseQuotes` finds in a multi-line literal -/
def mlInfo (f : Form) (h : Nat) : QuoteInfo :=
  { char := f.quote, numHash := h, multiline := true, whitespace := tabs f.indent }

theorem parse_lit (f : Form) (hq : f.quote = 0x22 ∨ f.quote = 0x27) (h : Nat) (X ind0 W : Bytes)
    (hind : ind0 = tabs f.indent ∨ (ind0 = [] ∧ X.head? = some 10))
    (hW : 10 :: (ind0 ++ X) = W ++ 10 :: (tabs f.indent ++ f.quote :: f.quote :: f.quote :: hashes h)) :
    ∃ N, parseQuotes (hashes h ++ f.quote :: f.quote :: f.quote :: 10 :: (ind0 ++ X)) = .ok (mlInfo f h, N) ∧
      (hashes h ++ f.quote :: f.quote :: f.quote :: 10 :: (ind0 ++ X)).drop N = X := by
  rw [parseQuotes_multi f.quote hq h f.indent W (ind0 ++ X) hW]
  have htl : (tabs f.indent).length = f.indent := by simp [tabs]
  rcases hind with rfl | ⟨rfl, hX⟩
  · have hp : (tabs f.indent).isPrefixOf (tabs f.indent ++ X) = true := by simp [List.isPrefixOf_iff_prefix]
    simp only [hp, if_true]
    by_cases c : ((tabs f.indent ++ X).head? != some 10) = true
    · refine ⟨3 + h + 1 + f.indent, by simp only [c, if_true]; rfl, ?_⟩
      rw [← List.drop_drop, drop_opener]
      conv => lhs; arg 1; rw [← htl]
      exact List.drop_left
    · refine ⟨3 + h + 1, by simp only [c]; rfl, ?_⟩
      rw [drop_opener]
      match hn : f.indent with
      | 0 => simp [tabs]
      | k + 1 => rw [hn] at c; simp [tabs, List.replicate_succ] at c
  · refine ⟨3 + h + 1, ?_, by rw [drop_opener]; rfl⟩
    simp [hX]; rfl

theorem unquote_mlInfo_nil (f : Form) (hq : f.quote = 0x22 ∨ f.quote = 0x27) :
    (mlInfo f 0).unquote [f.quote, f.quote, f.quote] = .ok [] := by
  have hcl := closing_ml (mlInfo f 0) rfl
  have := loop_step_term (mlInfo f 0) hq _ hcl 3 [] false
  simp only [mlInfo, hashes, List.replicate] at hcl this
  simp [QuoteInfo.unquote, mlInfo, hasClosingDelimPrefix, hcl, this]

theorem unquote_body {E : Env} (hE : E.Ok) (f : Form) (hf : f.WF) (h : Nat) (s : Bytes) (hb : IsBytes s)
    (hv : f.exact = true ∨ validUTF8 s = true) (hok : HashOK f.quote h s) :
    (mlInfo f h).unquote (escapeLoop E f true h s ++ mlEnd (mlInfo f h)) = .ok s := by
  have hnc : ∀ t, (t = s ∨ (10 :: t) <:+ s) →
      (mlInfo f h).closing.isPrefixOf (escapeLoop E f true h t ++ mlEnd (mlInfo f h)) = false := by
    intro t ht
    rw [closing_ml (mlInfo f h) rfl]
    exact noclose f hf.quote h s hok t ht _
  have hm : (mlInfo f h).multiline = true := rfl
  simp only [QuoteInfo.unquote, hm, Bool.not_true, Bool.and_false, Bool.false_and, Bool.false_eq_true,
    if_false, hasClosingDelimPrefix, hnc s (Or.inl rfl)]
  exact (loop_multi hE f hf (mlInfo f h) rfl rfl rfl s hb hv (fun t ht => hnc t (Or.inr ht)) false).run

theorem roundtrip_multi_with {E : Env} (hE : E.Ok) (slhc : Env → Form → Bytes → Nat) (f : Form) (hf : f.WF)
    (s : Bytes) (hb : IsBytes s) (hv : f.exact = true ∨ validUTF8 s = true)
    (hml : f.effMultiline s = true) : unquote (quoteWith slhc E f s) = .ok s := by
  have hq := hf.quote
  match s with
  | [] =>
    have hlit : quoteWith slhc E f [] =
        hashes 0 ++ f.quote :: f.quote :: f.quote :: 10 :: (tabs f.indent ++ [f.quote, f.quote, f.quote]) := by
      simp [quoteWith, hml, hashCountWith, requiredHashCount, rhcLoop, Form.triple, hashes]
    obtain ⟨N, hp, hd⟩ := parse_lit f hq 0 [f.quote, f.quote, f.quote] (tabs f.indent) [] (Or.inl rfl)
      (by simp [hashes])
    rw [hlit]
    unfold unquote
    rw [hp]
    simp only [hd]
    exact unquote_mlInfo_nil f hq
  | b0 :: rest =>
    have hok := requiredHashCount_ok f hq (b0 :: rest)
    have hbody := unquote_body hE f hf _ (b0 :: rest) hb hv hok
    have hlit : quoteWith slhc E f (b0 :: rest) =
        hashes (requiredHashCount f (b0 :: rest)) ++ f.quote :: f.quote :: f.quote :: 10 ::
          ((if b0 = 10 then [] else tabs f.indent) ++
            (escapeLoop E f true (requiredHashCount f (b0 :: rest)) (b0 :: rest) ++
              mlEnd (mlInfo f (requiredHashCount f (b0 :: rest))))) := by
      simp [quoteWith, hml, hashCountWith, appendEscaped, Form.triple, mlEnd, mlInfo]
    rw [hlit]
    generalize requiredHashCount f (b0 :: rest) = h at hok hbody ⊢
    have hind : (if b0 = 10 then [] else tabs f.indent) = tabs f.indent ∨
        ((if b0 = 10 then [] else tabs f.indent) = [] ∧
          (escapeLoop E f true h (b0 :: rest) ++ mlEnd (mlInfo f h)).head? = some 10) := by
      by_cases h10 : b0 = 10
      · subst h10
        exact .inr ⟨if_pos rfl, by rw [escapeLoop_nl]; rfl⟩
      · exact .inl (if_neg h10)
    obtain ⟨N, hp, hd⟩ := parse_lit f hq h _ _
      (10 :: ((if b0 = 10 then [] else tabs f.indent) ++ escapeLoop E f true h (b0 :: rest))) hind
      (by simp [mlEnd, mlInfo])
    unfold unquote
    rw [hp]
    simp only [hd]
    exact hbody

/-- C09_roundtrip_multi: every multi-line form (`WithTabIndent(n)`, `WithOptionalTabIndent(n)` on a
string that contains a line feed; String and Bytes; any options) reads back what was quoted -/
theorem roundtrip_multi {E : Env} (hE : E.Ok) (f : Form) (hf : f.WF) (s : Bytes) (hb : IsBytes s)
    (hv : f.exact = true ∨ validUTF8 s = true) (hml : f.effMultiline s = true) :
    unquote (quote E f s) = .ok s :=
  roundtrip_multi_with hE singleLineHashCount f hf s hb hv hml

/-- three consecutive quote characters somewhere in the string -/
def hasTriple (q : Nat) : Bytes → Bool
  | a :: b :: c :: t => (a == q && b == q && c == q) || hasTriple q (b :: c :: t)
  | _ => false

/-- the special case of strings without three consecutive quote characters (the hypothesis
is not used) -/
theorem roundtrip_multi_notriple {E : Env} (hE : E.Ok) (f : Form) (hf : f.WF) (s : Bytes) (hb : IsBytes s)
    (hv : f.exact = true ∨ validUTF8 s = true) (hml : f.effMultiline s = true)
    (_hnoq : hasTriple f.quote s = false) : unquote (quote E f s) = .ok s :=
  roundtrip_multi hE f hf s hb hv hml

end CueVerif.Quote
