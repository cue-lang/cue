/-
C02 — proofs about the model of errors.Sanitize (Model/Sanitize.lean) against Spec/Sanitize.lean.
-/
import CueVerif.Proofs.SanitizeOrder
namespace CueVerif.Sanitize
open Std (TransCmp ReflCmp)

/-! ### the comparisons are total preorders -/

/-- absolute names first, then by name, then by offset -/
theorem cmpKey_eq_lex :
    Pos.cmpKey = compareLex (fun p q => compareOn (fun p : Pos => isAbs p.filename) q p)
      (compareLex (compareOn Pos.filename) (compareOn Pos.offset)) := by
  funext p q
  simp only [Pos.cmpKey, compareLex, compareOn, cmpBool_eq, cmpBytes_eq, cmpNat_eq]
  cases isAbs p.filename <;> cases isAbs q.filename <;> cases compare p.filename q.filename <;> rfl

instance : TransCmp Pos.cmpKey := cmpKey_eq_lex ▸ inferInstance

/-- validity first (NoPos = false before every valid position), then the key -/
theorem cmpPosNoPosFirst_eq_lex :
    cmpPosNoPosFirst = compareLex (compareOn fun p => decide (p ≠ noPos)) Pos.cmpKey := by
  funext a b
  unfold cmpPosNoPosFirst Pos.compare Pos.isValid compareLex compareOn
  by_cases ha : a = noPos <;> by_cases hb : b = noPos
  · subst ha; subst hb; simp [compare, ReflCmp.compare_self (cmp := Pos.cmpKey)]
  · subst ha
    have : noPos ≠ b := fun h => hb h.symm
    simp [compare, hb, this]
  · subst hb
    simp [compare, ha]
  · by_cases hab : a = b
    · subst hab; simp [compare, ha, ReflCmp.compare_self (cmp := Pos.cmpKey)]
    · simp [compare, ha, hb, hab]

instance : TransCmp cmpPosNoPosFirst := cmpPosNoPosFirst_eq_lex ▸ inferInstance

theorem cmp1_eq_lex :
    cmp1 = compareLex (fun x y => cmpPosNoPosFirst x.pos y.pos) (fun x y => cmpPath x.path y.path) := by
  funext x y; simp only [cmp1, compareLex]; cases cmpPosNoPosFirst x.pos y.pos <;> rfl

instance : TransCmp cmp1 :=
  have := transCmp_on (cmp := cmpPosNoPosFirst) Err.pos
  have := transCmp_on (cmp := cmpPath) Err.path
  cmp1_eq_lex ▸ inferInstance

instance : TransCmp cmpMsg := transCmp_on (cmp := cmpBytes) Err.msg

theorem cmp3_eq_lex : cmp3 = compareLex cmp1 cmpMsg := by
  funext x y; unfold cmp3 compareLex; cases cmp1 x y <;> rfl

instance : TransCmp cmp3 := cmp3_eq_lex ▸ inferInstance

theorem cmp1_tp : TotalPreorder cmp1 := totalPreorder _
theorem cmpMsg_tp : TotalPreorder cmpMsg := totalPreorder _
theorem cmp3_tp : TotalPreorder cmp3 := totalPreorder _

theorem insertionSort_contract : SortContract (fun cmp l => insertionSort cmp l) :=
  ⟨fun cmp l => insertionSort_perm cmp l, fun _ l h => insertionSort_sorted h l⟩

theorem cmpMsg_eq_iff (x y : Err) : cmpMsg x y = .eq ↔ x.msg = y.msg := cmpBytes_eq_iff _ _

theorem sameGroup_iff (x y : Err) : sameGroup x y = true ↔ x.pos = y.pos ∧ x.path = y.path := by
  simp [sameGroup]

theorem cmp1_eq_of_same {x y : Err} (h1 : x.pos = y.pos) (h2 : x.path = y.path) : cmp1 x y = .eq := by
  rw [cmp1_eq_lex, compareLex_eq_eq, h1, h2]
  exact ⟨ReflCmp.compare_self, ReflCmp.compare_self⟩

theorem cmp1_eq_elim {x y : Err} (h : cmp1 x y = .eq) :
    cmpPosNoPosFirst x.pos y.pos = .eq ∧ x.path = y.path := by
  rw [cmp1_eq_lex, compareLex_eq_eq] at h
  exact ⟨h.1, (cmpPath_eq_iff _ _).1 h.2⟩

/-! ### compaction -/

theorem sortedBy_cons {α : Type} {cmp : α → α → Ordering} {x : α} {l : List α} :
    SortedBy cmp (x :: l) ↔ (∀ y ∈ l, cmp x y ≠ .gt) ∧ SortedBy cmp l := by
  unfold SortedBy; exact List.pairwise_cons

theorem compactMsgAux_spec : ∀ (rest : List Err) (x : Err), SortedBy cmpMsg (x :: rest) →
    (x :: compactMsgAux x rest).Pairwise (fun a b => cmpMsg a b = .lt) ∧
    (∀ e ∈ x :: compactMsgAux x rest, e ∈ x :: rest) ∧
    (∀ r ∈ x :: rest, ∃ e ∈ x :: compactMsgAux x rest, e.msg = r.msg)
  | [], x, _ => by simp [compactMsgAux]
  | y :: rest, x, hs => by
    have hs' := sortedBy_cons.1 hs
    have hyr := sortedBy_cons.1 hs'.2
    unfold compactMsgAux
    by_cases hxy : x.msg = y.msg
    · -- `y` repeats the message of `x` and is dropped
      rw [if_pos hxy]
      have ih := compactMsgAux_spec rest x
        (sortedBy_cons.2 ⟨fun z hz => hs'.1 z (List.mem_cons_of_mem _ hz), hyr.2⟩)
      have hcov := List.forall_mem_cons.1 ih.2.2
      exact ⟨ih.1, List.Subset.trans ih.2.1 (List.cons_subset_cons x (List.subset_cons_self y rest)),
        List.forall_mem_cons.2 ⟨hcov.1, List.forall_mem_cons.2 ⟨⟨x, List.mem_cons_self, hxy⟩, hcov.2⟩⟩⟩
    · rw [if_neg hxy]
      have ih := compactMsgAux_spec rest y hs'.2
      have hxy_lt : cmpMsg x y = .lt :=
        Ordering.eq_lt_of_ne (hs'.1 y List.mem_cons_self) fun hc => hxy ((cmpMsg_eq_iff x y).1 hc)
      refine ⟨List.pairwise_cons.2 ⟨fun e he => ?_, ih.1⟩, List.cons_subset_cons x ih.2.1,
        List.forall_mem_cons.2 ⟨⟨x, List.mem_cons_self, rfl⟩, fun r hr =>
          (ih.2.2 r hr).imp fun e he => ⟨List.mem_cons_of_mem _ he.1, he.2⟩⟩⟩
      -- x < y ≤ e
      exact lt_of_lt_of_le hxy_lt (head_le hs'.2 e (ih.2.1 e he))

theorem compactMsg_spec (l : List Err) (hs : SortedBy cmpMsg l) :
    (compactMsg l).Pairwise (fun a b => cmpMsg a b = .lt) ∧
    (∀ e ∈ compactMsg l, e ∈ l) ∧
    (∀ r ∈ l, ∃ e ∈ compactMsg l, e.msg = r.msg) := by
  cases l with
  | nil => simp [compactMsg]
  | cons x rest => exact compactMsgAux_spec rest x hs

/-! ### one group -/

variable (S : (Err → Err → Ordering) → List Err → List Err)

theorem group_same {x : Err} {run : List Err} (hrun : ∀ g ∈ run, sameGroup x g = true) :
    ∀ g ∈ x :: run, g.pos = x.pos ∧ g.path = x.path :=
  List.forall_mem_cons.2 ⟨⟨rfl, rfl⟩, fun g h =>
    have := (sameGroup_iff x g).1 (hrun g h); ⟨this.1.symm, this.2.symm⟩⟩

theorem flush_spec (hS : SortContract S) (x : Err) (run : List Err)
    (hrun : ∀ g ∈ run, sameGroup x g = true) :
    (∀ e ∈ flush S x run, e ∈ x :: run) ∧
    (∀ g ∈ x :: run, ∃ e ∈ flush S x run, sameKey g e) ∧
    (flush S x run).Pairwise (fun a b => cmp3 a b = .lt) := by
  have hsame := group_same hrun
  unfold flush
  by_cases he : run.isEmpty = true
  · simp only [he, if_true]
    have : run = [] := List.isEmpty_iff.1 he
    subst this
    exact ⟨fun e h => h, fun g hg => ⟨g, hg, rfl, rfl, rfl⟩, by simp⟩
  · simp only [he]
    have hp := hS.perm cmpMsg (x :: run)
    have hsrt := hS.sorted cmpMsg (x :: run) cmpMsg_tp
    have hc := compactMsg_spec _ hsrt
    have hin : ∀ e ∈ compactMsg (S cmpMsg (x :: run)), e ∈ x :: run := fun e h => hp.subset (hc.2.1 e h)
    refine ⟨hin, ?_, ?_⟩
    · intro g hg
      rcases hc.2.2 g (hp.symm.subset hg) with ⟨e, he', hm⟩
      have hex := hsame e (hin e he')
      have hgx := hsame g hg
      exact ⟨e, he', by rw [hgx.1, hex.1], by rw [hgx.2, hex.2], hm.symm⟩
    · refine List.Pairwise.imp_of_mem ?_ hc.1
      intro a b ha hb hab
      have hax := hsame a (hin a ha)
      have hbx := hsame b (hin b hb)
      rw [cmp3_eq_lex, compareLex, cmp1_eq_of_same (by rw [hax.1, hbx.1]) (by rw [hax.2, hbx.2])]
      exact hab

/-! ### the group loop -/

/-- `x :: run` is the group being collected -/
theorem groupLoop_spec (hS : SortContract S) : ∀ (rest : List Err) (x : Err) (run : List Err),
    (∀ g ∈ run, sameGroup x g = true) →
    (∀ e ∈ groupLoop S x run rest, e ∈ x :: (run ++ rest)) ∧
    (∀ g ∈ x :: (run ++ rest), ∃ e ∈ groupLoop S x run rest, sameKey g e) ∧
    (SortedBy cmp1 (x :: (run ++ rest)) →
      (∀ a ∈ x :: (run ++ rest), ∀ b ∈ x :: (run ++ rest), cmp1 a b = .eq → sameGroup a b = true) →
      (groupLoop S x run rest).Pairwise (fun a b => cmp3 a b = .lt))
  | [], x, run, hrun => by
    have h := flush_spec S hS x run hrun
    simp only [groupLoop, List.append_nil]
    exact ⟨h.1, h.2.1, fun _ _ => h.2.2⟩
  | y :: rest, x, run, hrun => by
    unfold groupLoop
    by_cases hxy : sameGroup x y = true
    · rw [if_pos hxy]
      have ih := groupLoop_spec hS rest x (run ++ [y])
        (List.forall_mem_append.2 ⟨hrun, List.forall_mem_singleton.2 hxy⟩)
      rw [show run ++ [y] ++ rest = run ++ y :: rest by simp] at ih
      exact ih
    · rw [if_neg hxy]
      have hf := flush_spec S hS x run hrun
      have ih := groupLoop_spec hS rest y [] (by simp)
      simp only [List.nil_append] at ih
      refine ⟨?_, ?_, fun hsrt hcan => ?_⟩
      · exact List.append_subset.2
          ⟨List.Subset.trans hf.1 (List.cons_subset_cons x (List.subset_append_left _ _)),
            List.Subset.trans ih.1 (List.subset_cons_of_subset x (List.subset_append_right _ _))⟩
      · intro g hg
        rcases List.mem_append.1 (List.cons_append ▸ hg : g ∈ (x :: run) ++ y :: rest) with h | h
        · exact (hf.2.1 g h).imp fun e he => ⟨List.mem_append_left _ he.1, he.2⟩
        · exact (ih.2.1 g h).imp fun e he => ⟨List.mem_append_right _ he.1, he.2⟩
      · have hsub : List.Sublist (y :: rest) (x :: (run ++ y :: rest)) :=
          (List.sublist_append_right run (y :: rest)).cons _
        have hsrt' : SortedBy cmp1 (y :: rest) := List.Pairwise.sublist hsub hsrt
        have hmem : ∀ z, z ∈ y :: rest → z ∈ x :: (run ++ y :: rest) := fun z hz => hsub.subset hz
        have ih' := ih.2.2 hsrt' fun a ha b hb => hcan a (hmem a ha) b (hmem b hb)
        rw [List.pairwise_append]
        refine ⟨hf.2.2, ih', ?_⟩
        intro a ha b hb
        -- a is in the group of x, b is at or after y
        have hax := group_same hrun a (hf.1 a ha)
        have hxs := sortedBy_cons.1 hsrt
        have hxy_lt : cmp1 x y = .lt :=
          Ordering.eq_lt_of_ne (hxs.1 y (List.mem_append_right _ List.mem_cons_self))
            fun hc => hxy (hcan x List.mem_cons_self y (hmem y List.mem_cons_self) hc)
        have hxb : cmp1 x b = .lt := lt_of_lt_of_le hxy_lt (head_le hsrt' b (ih.1 b hb))
        have hab : cmp1 a b = .lt := TransCmp.lt_of_eq_of_lt (cmp1_eq_of_same hax.1 hax.2) hxb
        rw [cmp3_eq_lex, compareLex, hab]; rfl

/-! ### the whole of removeMultiples -/

theorem sanitizeWith_spec (hS : SortContract S) (es : List Err) :
    (∀ e ∈ sanitizeWith S es, e ∈ es) ∧ (∀ e ∈ es, ∃ e' ∈ sanitizeWith S es, sameKey e e') ∧
    (PosCanon es → StrictSorted (sanitizeWith S es)) := by
  unfold sanitizeWith StrictSorted
  by_cases hl : es.length ≤ 1
  · simp only [hl, if_true]
    refine ⟨fun e h => h, fun e h => ⟨e, h, rfl, rfl, rfl⟩, fun _ => ?_⟩
    match es, hl with
    | [], _ => simp
    | [_], _ => simp
    | _ :: _ :: _, hl => simp at hl
  · simp only [hl, if_false]
    have hp := hS.perm cmp1 es
    have hs := hS.sorted cmp1 es cmp1_tp
    cases ha : S cmp1 es with
    | nil =>
      rw [ha] at hp
      have : es = [] := List.Perm.eq_nil hp.symm
      subst this; simp
    | cons x rest =>
      rw [ha] at hp hs
      have h := groupLoop_spec S hS rest x [] (by simp)
      simp only [List.nil_append] at h
      refine ⟨fun e he => hp.subset (h.1 e he), fun e he => h.2.1 e (hp.symm.subset he),
        fun h1 => h.2.2 hs fun a ha' b hb' hab => ?_⟩
      -- equal under cmp1 means the same group, for members of a position-canonical list
      have := cmp1_eq_elim hab
      exact (sameGroup_iff a b).2 ⟨h1 a (hp.subset ha') b (hp.subset hb') this.1, this.2⟩

theorem sanitizeWith_complete (hS : SortContract S) (es : List Err) :
    (∀ e ∈ sanitizeWith S es, e ∈ es) ∧ (∀ e ∈ es, ∃ e' ∈ sanitizeWith S es, sameKey e e') :=
  ⟨(sanitizeWith_spec S hS es).1, (sanitizeWith_spec S hS es).2.1⟩

theorem sanitizeWith_strictSorted (hS : SortContract S) (es : List Err) (h1 : PosCanon es) :
    StrictSorted (sanitizeWith S es) :=
  (sanitizeWith_spec S hS es).2.2 h1

theorem sanitizeWith_mem (hS : SortContract S) (es : List Err) (h2 : MsgDet es) (e : Err) :
    e ∈ sanitizeWith S es ↔ e ∈ es := by
  have hc := sanitizeWith_complete S hS es
  constructor
  · exact hc.1 e
  · intro he
    rcases hc.2 e he with ⟨e', he', hk⟩
    have : e = e' := h2 e he e' (hc.1 e' he') hk.1 hk.2.1 hk.2.2
    rw [this]; exact he'

/-- the result depends on the set of members only -/
theorem sanitizeWith_ext (S S' : (Err → Err → Ordering) → List Err → List Err)
    (hS : SortContract S) (hS' : SortContract S') (es es' : List Err)
    (hm : ∀ x, x ∈ es ↔ x ∈ es') (h1 : PosCanon es) (h2 : MsgDet es) :
    sanitizeWith S es = sanitizeWith S' es' := by
  have h1' : PosCanon es' := fun x hx y hy => h1 x ((hm x).2 hx) y ((hm y).2 hy)
  have h2' : MsgDet es' := fun x hx y hy => h2 x ((hm x).2 hx) y ((hm y).2 hy)
  refine strict_unique cmp3_tp _ _ (sanitizeWith_strictSorted S hS es h1)
    (sanitizeWith_strictSorted S' hS' es' h1') fun x => ?_
  rw [sanitizeWith_mem S hS es h2, sanitizeWith_mem S' hS' es' h2']
  exact hm x

theorem sanitizeWith_perm (S S' : (Err → Err → Ordering) → List Err → List Err)
    (hS : SortContract S) (hS' : SortContract S') (es es' : List Err)
    (hp : es.Perm es') (h1 : PosCanon es) (h2 : MsgDet es) :
    sanitizeWith S es = sanitizeWith S' es' :=
  sanitizeWith_ext S S' hS hS' es es' (fun _ => hp.mem_iff) h1 h2

theorem sanitizeWith_idem (hS : SortContract S) (es : List Err) (h1 : PosCanon es) (h2 : MsgDet es) :
    sanitizeWith S (sanitizeWith S es) = sanitizeWith S es :=
  (sanitizeWith_ext S S hS hS es _ (fun x => (sanitizeWith_mem S hS es h2 x).symm) h1 h2).symm

/-! ### the full statements are false of the code -/

def wA : Pos := ⟨1, [97], 3, 0⟩
def wB : Pos := ⟨2, [97], 3, 0⟩
def w1 : Err := ⟨wA, [], [109], 0⟩
def w1' : Err := ⟨wA, [], [109], 1⟩
def w2 : Err := ⟨wB, [], [110], 0⟩

theorem perm_false : ¬ (∀ es es' : List Err, es.Perm es' → sanitize es = sanitize es') := by
  intro h
  have := h [w1, w1'] [w1', w1] (List.Perm.swap _ _ _)
  revert this; decide

theorem msgDet_witness : MsgDet [w1, w2, w1] := by
  intro x hx y hy
  simp only [List.mem_cons, List.mem_nil_iff, or_false] at hx hy
  rcases hx with rfl | rfl | rfl <;> rcases hy with rfl | rfl | rfl <;> decide

theorem perm_false_alias :
    ¬ (∀ es es' : List Err, es.Perm es' → MsgDet es → sanitize es = sanitize es') := by
  intro h
  have hp : [w1, w2, w1].Perm [w1, w1, w2] := (List.Perm.swap _ _ _).cons _
  have := h _ _ hp msgDet_witness
  revert this; decide

theorem dedup_false : ¬ (∀ es : List Err, (sanitize es).Pairwise (fun x y => ¬ sameKey x y)) := by
  intro h
  have h3 := h [w1, w2, w1]
  have e : sanitize [w1, w2, w1] = [w1, w2, w1] := by decide
  rw [e] at h3
  have := (List.pairwise_cons.1 h3).1 w1 (by simp)
  exact this ⟨rfl, rfl, rfl⟩

end CueVerif.Sanitize
