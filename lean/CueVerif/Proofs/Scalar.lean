import CueVerif.Spec.Scalar
import CueVerif.Proofs.Dec
/-!
C03 — proofs, the specification's side: which atoms satisfy which bound, type and range.  Atoms are
compared in one total preorder (`Atom.cmp`); an ordering operator is a side and a strictness, and
ordering bounds compose by one law on comparison results (`onSide_comp`, on atoms `ordHolds_comp`);
validation by `binOpBool` is the specification's `boundHolds` and the kind of a bound is its
`boundAdmits`; a numeric bound compares exact values (`satBound_num`), a predeclared range is the
conjunction it expands to (`sat_range`).  Nothing here speaks of `simplifyBounds` or of nodes.
Core Lean only.
-/
namespace CueVerif.Scalar
open CueVerif Std

/-! ### orderings: the finite facts -/

/-- what transitivity allows for `cmp v b` given `cmp v a` and `cmp a b` -/
def consistent : Ordering → Ordering → Ordering → Bool
  | .lt, .lt, o | .lt, .eq, o | .eq, .lt, o => o == .lt
  | .eq, .eq, o => o == .eq
  | .gt, .gt, o | .gt, .eq, o | .eq, .gt, o => o == .gt
  | _, _, _ => true

theorem consistent_of_trans {α} (cmp : α → α → Ordering) [TransCmp cmp] (v a b : α) :
    consistent (cmp v a) (cmp a b) (cmp v b) = true := by
  cases h1 : cmp v a <;> cases h2 : cmp a b <;> simp only [consistent, beq_iff_eq]
  · exact TransCmp.lt_trans h1 h2
  · exact TransCmp.lt_of_lt_of_eq h1 h2
  · exact TransCmp.lt_of_eq_of_lt h1 h2
  · exact TransCmp.eq_trans h1 h2
  · exact TransCmp.gt_of_eq_of_gt h1 h2
  · exact TransCmp.gt_of_gt_of_eq h1 h2
  · exact TransCmp.gt_trans h1 h2

/-! ### all atoms in one total preorder: by sort, then by value

`ordCmp` is this order inside the three sorts that have `<`, and `Atom.eqv` is its equivalence
(`ordCmp_eq`, `eqv_eq`); what the cells need of either is then a law of `Std.TransCmp`. -/

/-- null, bool, number (int and float are compared by value), string, bytes -/
def Atom.sort : Atom → Nat
  | .null => 0 | .bool _ => 1 | .int _ | .float _ => 2 | .str _ => 3 | .bytes _ => 4

/-- the number that is compared inside the sorts bool and number -/
def Atom.dec : Atom → Dec
  | .bool b => Dec.ofInt b.toNat | .int z => Dec.ofInt z | .float d => d | _ => Dec.ofInt 0

/-- the bytes that are compared inside the sorts string and bytes -/
def Atom.text : Atom → Bytes
  | .str s | .bytes s => s | _ => []

def Atom.cmp : Atom → Atom → Ordering :=
  compareLex (compareOn Atom.sort)
    (compareLex (fun a b => Dec.cmp a.dec b.dec) (compareOn Atom.text))

instance : TransCmp Atom.cmp :=
  have : TransCmp fun a b : Atom => Dec.cmp a.dec b.dec :=
    { eq_swap := OrientedCmp.eq_swap (cmp := Dec.cmp)
      isLE_trans := TransCmp.isLE_trans (cmp := Dec.cmp) }
  inferInstanceAs (TransCmp (compareLex _ _))

theorem bytes_compare_eq (a b : Bytes) : compare a b = .eq ↔ a = b :=
  LawfulEqCmp.compare_eq_iff_eq (cmp := (compare : Bytes → Bytes → Ordering))

/-- `ordCmp` is that order within the three sorts that have `<` -/
theorem ordCmp_eq (a b : Atom) :
    ordCmp a b = if a.sort = b.sort ∧ 2 ≤ a.sort then some (a.cmp b) else none := by
  cases a <;> cases b <;> first | rfl | exact congrArg some Ordering.then_eq.symm

theorem eqv_eq (a b : Atom) : a.eqv b = (a.cmp b == .eq) := by
  cases a <;> cases b
  case bool.bool x y => cases x <;> cases y <;> rfl
  case int.int | int.float | float.int | float.float =>
    all_goals exact congrArg (· == .eq) Ordering.then_eq.symm
  case str.str s t | bytes.bytes s t =>
    all_goals
      show (s == t) = (compare s t == .eq)
      rw [Bool.eq_iff_iff, beq_iff_eq, beq_iff_eq]; exact (bytes_compare_eq s t).symm
  all_goals rfl

theorem cmp_of_eqv {a b : Atom} (h : a.eqv b = true) : a.cmp b = .eq := by
  rw [eqv_eq, beq_iff_eq] at h; exact h

theorem sort_eq_of_eqv {a b : Atom} (h : a.eqv b = true) : a.sort = b.sort :=
  Nat.compare_eq_eq.1 (compareLex_eq_eq.1 (cmp_of_eqv h)).1

theorem ordCmp_some {a b : Atom} {o : Ordering} (h : ordCmp a b = some o) :
    (a.sort = b.sort ∧ 2 ≤ a.sort) ∧ a.cmp b = o := by
  rw [ordCmp_eq] at h
  split at h
  · exact ⟨‹_›, Option.some.inj h⟩
  · cases h

/-- an atom of the sort of `a` can be compared with whatever `a` can -/
theorem ordCmp_some_of_sort {a b c : Atom} {o : Ordering} (h : ordCmp a c = some o)
    (hs : a.sort = b.sort) : ∃ o', ordCmp b c = some o' := by
  obtain ⟨⟨s, t⟩, _⟩ := ordCmp_some h
  exact ⟨_, by rw [ordCmp_eq, if_pos ⟨hs ▸ s, hs ▸ t⟩]⟩

theorem ordCmp_consistent (v a b : Atom) (o1 o2 : Ordering)
    (h1 : ordCmp v a = some o1) (h2 : ordCmp a b = some o2) :
    ∃ o3, ordCmp v b = some o3 ∧ consistent o1 o2 o3 = true := by
  obtain ⟨⟨s1, t1⟩, rfl⟩ := ordCmp_some h1
  obtain ⟨⟨s2, _⟩, rfl⟩ := ordCmp_some h2
  exact ⟨v.cmp b, by rw [ordCmp_eq, if_pos ⟨s1.trans s2, t1⟩], consistent_of_trans _ _ _ _⟩

theorem ordCmp_swap (a b : Atom) : ordCmp b a = (ordCmp a b).map Ordering.swap := by
  rw [ordCmp_eq, ordCmp_eq, OrientedCmp.eq_swap (cmp := Atom.cmp) (a := b)]
  by_cases h : a.sort = b.sort
  · rw [h]; split <;> rfl
  · rw [if_neg fun h' => h h'.1.symm, if_neg fun h' => h h'.1]; rfl

theorem eqv_of_ordCmp (a b : Atom) (o : Ordering) (h : ordCmp a b = some o) :
    a.eqv b = (o == .eq) := by
  rw [eqv_eq, (ordCmp_some h).2]

theorem eqv_symm (a b : Atom) : a.eqv b = b.eqv a := by
  rw [eqv_eq, eqv_eq, Bool.eq_iff_iff, beq_iff_eq, beq_iff_eq]
  exact OrientedCmp.eq_comm

theorem ordCmp_congr_left (a b c : Atom) (h : a.eqv b = true) : ordCmp a c = ordCmp b c := by
  rw [ordCmp_eq, ordCmp_eq, sort_eq_of_eqv h, TransCmp.congr_left (cmp := Atom.cmp) (cmp_of_eqv h)]

theorem eqv_congr_left (a b c : Atom) (h : a.eqv b = true) : a.eqv c = b.eqv c := by
  rw [eqv_eq, eqv_eq, TransCmp.congr_left (cmp := Atom.cmp) (cmp_of_eqv h)]

theorem eqv_refl (a : Atom) : a.eqv a = true := by
  rw [eqv_eq, ReflCmp.compare_self (cmp := Atom.cmp)]; rfl

theorem eqv_trans (a b c : Atom) (h1 : a.eqv b = true) (h2 : b.eqv c = true) : a.eqv c = true := by
  rw [eqv_congr_left a b c h1]; exact h2

theorem ordCmp_num (v w : Atom) (x y : Dec) (hv : v.num? = some x) (hw : w.num? = some y) :
    ordCmp v w = some (Dec.cmp x y) := by
  cases v <;> simp [Atom.num?] at hv <;> cases w <;> simp [Atom.num?] at hw <;> subst hv <;> subst hw <;> rfl

theorem ordCmp_nonnum (v w : Atom) (y : Dec) (hv : v.num? = none) (hw : w.num? = some y) :
    ordCmp v w = none := by
  cases v <;> simp [Atom.num?] at hv <;> cases w <;> simp [Atom.num?] at hw <;> rfl

theorem isNum_eq (v : Atom) : v.isNum = v.num?.isSome := by cases v <;> rfl

/-! ### "the same atom" is an equivalence -/

theorem same_refl (a : Atom) : a.same a = true := by
  simp only [Atom.same, Atom.sameKind, beq_self_eq_true, eqv_refl, Bool.and_self]

theorem same_symm (v w : Atom) (h : v.same w = true) : w.same v = true := by
  simp only [Atom.same, Atom.sameKind, Bool.and_eq_true, beq_iff_eq] at h ⊢
  exact ⟨h.1.symm, by rw [eqv_symm]; exact h.2⟩

theorem same_trans (u v w : Atom) (h1 : u.same v = true) (h2 : v.same w = true) : u.same w = true := by
  simp only [Atom.same, Atom.sameKind, Bool.and_eq_true, beq_iff_eq] at h1 h2 ⊢
  exact ⟨h1.1.trans h2.1, eqv_trans u v w h1.2 h2.2⟩

/-! ### ordering operators: a side and a strictness -/

/-- the comparison results an ordering operator accepts: those on its side `d` and, unless it
is strict, `.eq` -/
def onSide (d : Ordering) (strict : Bool) (o : Ordering) : Bool := o == d || !strict && o == .eq

/-- `v R a` and `a S b` on one side give `v T b` on that side, `T` strict as soon as `R` or
`S` is -/
theorem onSide_comp (d : Ordering) (s t : Bool) (o1 o2 o3 : Ordering)
    (hc : consistent o1 o2 o3 = true) (h1 : onSide d s o1 = true) (h2 : onSide d t o2 = true) :
    onSide d (s || t) o3 = true := by
  -- the inconsistent triples first: that leaves 13 of the 27 for the sweep over `d`, `s`, `t`
  cases o1 <;> cases o2 <;> cases o3 <;> first | cases hc | skip
  all_goals (revert h1 h2; cases d <;> cases s <;> cases t <;> decide)

theorem onSide_weaken {d : Ordering} {s t : Bool} {o : Ordering} (h : onSide d s o = true)
    (hst : t = true → s = true) : onSide d t o = true := by
  cases t
  · simp only [onSide, Bool.or_eq_true, Bool.and_eq_true] at h ⊢
    exact h.imp_right fun h' => ⟨rfl, h'.2⟩
  · rw [hst rfl] at h; exact h

theorem onSide_swap (d : Ordering) (s : Bool) (o : Ordering) :
    onSide d.swap s o.swap = onSide d s o := by
  cases d <;> cases o <;> rfl

theorem onSide_not (d : Ordering) (s : Bool) (o : Ordering) (hd : d ≠ .eq)
    (h : onSide d (!s) o = false) : onSide d s o.swap = true := by
  revert h; cases d <;> cases s <;> cases o <;> first | decide | exact absurd rfl hd

def isOrd : Op → Bool
  | .lt | .le | .gt | .ge => true
  | _ => false

def isLower : Op → Bool
  | .gt | .ge => true
  | _ => false

def isUpper : Op → Bool
  | .lt | .le => true
  | _ => false

def Op.side : Op → Ordering
  | .lt | .le => .lt
  | .gt | .ge => .gt
  | _ => .eq

def Op.strict : Op → Bool
  | .lt | .gt => true
  | _ => false

theorem opHolds_ord (op : Op) (h : isOrd op = true) (o : Ordering) :
    opHolds op o = onSide op.side op.strict o := by
  cases op <;> first | (cases o <;> rfl) | cases h

theorem side_ne_eq (op : Op) (h : isOrd op = true) : op.side ≠ .eq := by
  cases op <;> first | decide | cases h

theorem lower_ord (op : Op) (h : isLower op = true) : isOrd op = true ∧ op.side = .gt := by
  cases op <;> first | exact ⟨rfl, rfl⟩ | cases h

theorem upper_ord (op : Op) (h : isUpper op = true) : isOrd op = true ∧ op.side = .lt := by
  cases op <;> first | exact ⟨rfl, rfl⟩ | cases h

theorem isOrd_of_lower (op : Op) (h : isLower op = true) : isOrd op = true := (lower_ord op h).1

theorem isOrd_of_upper (op : Op) (h : isUpper op = true) : isOrd op = true := (upper_ord op h).1

theorem opHolds_ge (o : Ordering) : opHolds .ge o = o.isGE := by cases o <;> rfl
theorem opHolds_gt (o : Ordering) : opHolds .gt o = (o == .gt) := by cases o <;> rfl
theorem opHolds_le (o : Ordering) : opHolds .le o = o.isLE := by cases o <;> rfl
theorem opHolds_lt (o : Ordering) : opHolds .lt o = (o == .lt) := by cases o <;> rfl

/-- `v` stands on the side `d` of `a`; atoms that cannot be compared stand nowhere -/
def ordHolds (d : Ordering) (strict : Bool) (v a : Atom) : Bool :=
  match ordCmp v a with
  | some o => onSide d strict o
  | none => false

theorem ordHolds_some {d : Ordering} {s : Bool} {v a : Atom} (h : ordHolds d s v a = true) :
    ∃ o, ordCmp v a = some o := by
  unfold ordHolds at h
  cases e : ordCmp v a with
  | none => rw [e] at h; cases h
  | some o => exact ⟨o, rfl⟩

theorem ordHolds_comp {d : Ordering} {s t : Bool} {v a b : Atom} (h1 : ordHolds d s v a = true)
    (h2 : ordHolds d t a b = true) : ordHolds d (s || t) v b = true := by
  obtain ⟨o1, e1⟩ := ordHolds_some h1
  obtain ⟨o2, e2⟩ := ordHolds_some h2
  obtain ⟨o3, e3, hc⟩ := ordCmp_consistent v a b o1 o2 e1 e2
  simp only [ordHolds, e1, e2, e3] at h1 h2 ⊢
  exact onSide_comp d s t o1 o2 o3 hc h1 h2

theorem ordHolds_weaken {d : Ordering} {s t : Bool} {v a : Atom} (h : ordHolds d s v a = true)
    (hst : t = true → s = true) : ordHolds d t v a = true := by
  obtain ⟨o, e⟩ := ordHolds_some h
  simp only [ordHolds, e] at h ⊢
  exact onSide_weaken h hst

theorem ordHolds_swap (d : Ordering) (s : Bool) (v a : Atom) :
    ordHolds d.swap s a v = ordHolds d s v a := by
  unfold ordHolds
  rw [ordCmp_swap v a]
  cases ordCmp v a with
  | none => rfl
  | some o => exact onSide_swap d s o

theorem ordHolds_not {d : Ordering} {s : Bool} {a b : Atom} {o : Ordering} (hd : d ≠ .eq)
    (ho : ordCmp a b = some o) (h : ordHolds d (!s) a b = false) : ordHolds d s b a = true := by
  simp only [ordHolds, ho, ordCmp_swap a b, Option.map] at h ⊢
  exact onSide_not d s o hd h

/-! ### what a bound says: `boundHolds` / `binOpBool`, `satBound` -/

/-- validation by `BinOp` is the specification's comparison, on every atom; what it leaves to
`updateNodeType` is the kind, `boundAdmits` (`kind_has_admits`) -/
theorem binOpBool_eq_holds (re : Bytes → Bytes → Bool) (b : Bound) (v : Atom) :
    binOpBool re b.op v b.val = boundHolds re b v := by
  obtain ⟨op, a⟩ := b
  cases op
  case mat => cases v <;> cases a <;> rfl
  case nmat => cases v <;> cases a <;> rfl
  all_goals rfl

theorem boundHolds_cmp (re : Bytes → Bytes → Bool) (op : Op) (a v : Atom) (h : isOrd op = true) :
    boundHolds re ⟨op, a⟩ v = (match ordCmp v a with | some o => opHolds op o | none => false) := by
  cases op <;> first | rfl | cases h

theorem boundHolds_ord (re : Bytes → Bytes → Bool) (op : Op) (a v : Atom) (h : isOrd op = true) :
    boundHolds re ⟨op, a⟩ v = ordHolds op.side op.strict v a := by
  rw [boundHolds_cmp re op a v h, ordHolds]
  cases ordCmp v a with
  | none => rfl
  | some o => exact opHolds_ord op h o

theorem binOpBool_ord (re : Bytes → Bytes → Bool) (op : Op) (l r : Atom) (h : isOrd op = true) :
    binOpBool re op l r = ordHolds op.side op.strict l r :=
  (binOpBool_eq_holds re ⟨op, r⟩ l).trans (boundHolds_ord re op r l h)

theorem eqv_str (a b : Atom) (h : a.eqv b = true) : a.isStr = b.isStr ∧ a.strVal = b.strVal := by
  cases a <;> cases b <;> first | exact ⟨rfl, rfl⟩ | cases h | skip
  exact ⟨rfl, eq_of_beq h⟩

theorem binOpBool_congr_left (re : Bytes → Bytes → Bool) (op : Op) (l l' r : Atom)
    (h : l.eqv l' = true) : binOpBool re op l r = binOpBool re op l' r := by
  cases op
  case ne => simp only [binOpBool]; rw [eqv_congr_left l l' r h]
  case mat => simp only [binOpBool, eqv_str l l' h]
  case nmat => simp only [binOpBool, eqv_str l l' h]
  all_goals (simp only [binOpBool]; rw [ordCmp_congr_left l l' r h])

theorem binOpBool_congr_right (re : Bytes → Bytes → Bool) (op : Op) (l r r' : Atom)
    (h : r.eqv r' = true) : binOpBool re op l r = binOpBool re op l r' := by
  cases op
  case ne => simp only [binOpBool]; rw [eqv_symm l r, eqv_symm l r', eqv_congr_left r r' l h]
  case mat => simp only [binOpBool, eqv_str r r' h]
  case nmat => simp only [binOpBool, eqv_str r r' h]
  all_goals (simp only [binOpBool]; rw [ordCmp_swap r l, ordCmp_swap r' l, ordCmp_congr_left r r' l h])

theorem holds_congr (re : Bytes → Bytes → Bool) (b : Bound) (v w : Atom) (h : v.same w = true) :
    boundHolds re b v = boundHolds re b w := by
  simp only [Atom.same, Bool.and_eq_true] at h
  rw [← binOpBool_eq_holds, ← binOpBool_eq_holds, binOpBool_congr_left re b.op v w b.val h.2]

theorem satBound_iff (re : Bytes → Bytes → Bool) (v : Atom) (x : Bound) :
    satBound re v x = true ↔ boundAdmits x v = true ∧ boundHolds re x v = true := by
  rw [satBound, Bool.and_eq_true]

theorem not_wellTyped_unsat (re : Bytes → Bytes → Bool) (x : Bound) (v : Atom)
    (h : x.wellTyped = false) : satBound re v x = false := by
  obtain ⟨op, a⟩ := x
  suffices boundHolds re ⟨op, a⟩ v = false by rw [satBound, this, Bool.and_false]
  cases a <;> first | cases h | skip
  all_goals cases op <;> first | (cases v <;> rfl) | cases h

/-- apart from `!=`, a bound admits the atoms of the sort of its operand -/
theorem admits_sort (op : Op) (a v : Atom) (h : op ≠ .ne) :
    boundAdmits ⟨op, a⟩ v = (v.sort == a.sort) := by
  cases a
  case null => simp only [boundAdmits, beq_false_of_ne h, Bool.false_eq_true, if_false]; cases v <;> rfl
  all_goals cases v <;> rfl

theorem admits_num (op : Op) (m v : Atom) (x : Dec) (hm : m.num? = some x) :
    boundAdmits ⟨op, m⟩ v = v.isNum := by
  cases m <;> first | rfl | cases hm

/-- a numeric ordering bound compares the atom's number with its operand's; other atoms fail it -/
theorem satBound_num (re : Bytes → Bytes → Bool) (a : Atom) (b : Bound) (n : Dec)
    (hn : b.val.num? = some n) (ho : isOrd b.op = true) :
    satBound re a b = match a.num? with
      | some x => opHolds b.op (Dec.cmp x n)
      | none => false := by
  obtain ⟨op, m⟩ := b
  rw [satBound, admits_num op m a n hn, isNum_eq, boundHolds_cmp re op m a ho]
  cases hv : a.num? with
  | none => rfl
  | some x => rw [ordCmp_num a m x n hv hn]; rfl

theorem sat_ord_num (re : Bytes → Bytes → Bool) (op : Op) (v m : Atom) (d x : Dec)
    (hop : isOrd op = true) (hv : v.num? = some d) (hm : m.num? = some x) :
    sat re v (.bound ⟨op, m⟩) = opHolds op (Dec.cmp d x) := by
  rw [sat, satBound_num re v ⟨op, m⟩ x hm hop, hv]

theorem sat_ge_num (re : Bytes → Bytes → Bool) (v : Atom) (m : Atom) (d x : Dec)
    (hv : v.num? = some d) (hm : m.num? = some x) :
    sat re v (.bound ⟨.ge, m⟩) = (Dec.cmp x d).isLE := by
  rw [sat_ord_num re .ge v m d x rfl hv hm, opHolds_ge]
  exact OrientedCmp.isGE_eq_isLE

theorem sat_le_num (re : Bytes → Bytes → Bool) (v : Atom) (m : Atom) (d x : Dec)
    (hv : v.num? = some d) (hm : m.num? = some x) :
    sat re v (.bound ⟨.le, m⟩) = (Dec.cmp d x).isLE := by
  rw [sat_ord_num re .le v m d x rfl hv hm, opHolds_le]

/-! ### kinds -/

def Kind.sub (k k' : Kind) : Prop := ∀ v : Atom, Kind.has k v = true → Kind.has k' v = true

theorem Kind.has_and (k k' : Kind) (v : Atom) : Kind.has (k &&& k') v = (Kind.has k v && Kind.has k' v) := by
  simp only [Kind.has, Nat.testBit_and]

theorem Kind.has_zero (v : Atom) : Kind.has 0 v = false := by
  simp only [Kind.has, Nat.zero_testBit]

theorem Kind.sub_and_left (k k' : Kind) : Kind.sub (k &&& k') k := by
  intro v h; rw [Kind.has_and] at h; simp only [Bool.and_eq_true] at h; exact h.1

theorem Kind.sub_and_right (k k' : Kind) : Kind.sub (k &&& k') k' := by
  intro v h; rw [Kind.has_and] at h; simp only [Bool.and_eq_true] at h; exact h.2

theorem Kind.sub_trans {a b c : Kind} (h1 : Kind.sub a b) (h2 : Kind.sub b c) : Kind.sub a c :=
  fun v h => h2 v (h1 v h)

theorem atom_kind_has (a v : Atom) : Kind.has a.kind v = v.sameKind a := by
  rw [Bool.eq_iff_iff]
  simp only [Kind.has, Atom.kind, Nat.testBit_two_pow, Atom.sameKind, decide_eq_true_eq, beq_iff_eq]
  exact eq_comm

theorem number_has (v : Atom) : Kind.has Kind.number v = v.isNum := by
  cases v <;> simp only [Kind.has, Atom.kindBit, Atom.isNum] <;> decide

theorem null_has (v : Atom) : Kind.has Kind.null v = v.isNull := by
  cases v <;> simp only [Kind.has, Atom.kindBit, Atom.isNull] <;> decide

theorem int_has (v : Atom) : Kind.has Kind.int v = (match v with | .int _ => true | _ => false) := by
  cases v <;> simp only [Kind.has, Atom.kindBit] <;> decide

theorem nonNull_has (v : Atom) : Kind.has Kind.nonNull v = !v.isNull := by
  cases v <;> simp only [Kind.has, Atom.kindBit, Atom.isNull] <;> decide

theorem kind_has_admits (b : Bound) (v : Atom) : Kind.has b.kind v = boundAdmits b v := by
  obtain ⟨op, a⟩ := b
  cases a <;> simp only [Bound.kind, boundAdmits, number_has, atom_kind_has]
  split <;> simp only [nonNull_has, null_has]

theorem bound_kind_ne_zero (b : Bound) : b.kind ≠ 0 := by
  obtain ⟨op, a⟩ := b
  cases a <;> (try cases op) <;>
    simp [Bound.kind, Atom.kind, Atom.kindBit, Kind.nonNull, Kind.null, Kind.number]

theorem atom_kind_ne_zero (a : Atom) : a.kind ≠ 0 := by
  cases a <;> simp [Atom.kind, Atom.kindBit]

theorem top_has (v : Atom) : Kind.has Kind.top v = true := by
  cases v <;> simp [Kind.has, Kind.top, Atom.kindBit] <;> decide

theorem has_float (k : Kind) (d : Dec) : Kind.has k (.float d) = k.hasFloat := rfl

theorem btype_kind_ne_zero (t : BType) : t.kind ≠ 0 := by cases t <;> decide

theorem has_congr (k : Kind) (v w : Atom) (h : v.same w = true) : Kind.has k v = Kind.has k w := by
  simp only [Atom.same, Atom.sameKind, Bool.and_eq_true, beq_iff_eq] at h
  simp only [Kind.has, h.1]

/-! ### predeclared ranges -/

theorem isLE_cmp_ofInt (a b : Int) : (Dec.cmp (Dec.ofInt a) (Dec.ofInt b)).isLE = decide (a ≤ b) := by
  rw [Dec.cmp_ofInt_ofInt, Bool.eq_iff_iff, decide_eq_true_eq]
  exact Int.isLE_compare

theorem sat_range (re : Bytes → Bytes → Bool) (r : Range) (v : Atom) :
    sat re v (.range r) = true ↔ ∀ c ∈ r.expand, sat re v c = true := by
  show satRange v r = true ↔ _
  unfold satRange Range.expand
  cases hspec : r.intSpec with
  | none =>
    simp only [List.forall_mem_cons, List.not_mem_nil, false_imp_iff, implies_true, and_true]
    cases hv : v.num? with
    | none =>
      rw [sat, satBound_num re v ⟨.ge, _⟩ _ rfl rfl, hv]
      simp
    | some d =>
      rw [sat_ge_num re v _ d _ hv rfl, sat_le_num re v _ d _ hv rfl]
      simp only [Bool.and_eq_true]
  | some p =>
    obtain ⟨lo, hi⟩ := p
    simp only [List.cons_append, List.nil_append, List.forall_mem_cons]
    cases v with
    | int z =>
      rw [show sat re (.int z) (.type .int) = true from int_has _,
        sat_ge_num re (.int z) (.int lo) _ _ rfl rfl, isLE_cmp_ofInt]
      cases hi with
      | none => simp
      | some h => simp [sat_le_num re (.int z) (.int h) _ _ rfl rfl, isLE_cmp_ofInt]
    | _ => simp [sat, BType.kind, int_has]

end CueVerif.Scalar
