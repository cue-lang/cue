import CueVerif.Proofs.Scalar
/-!
C03 — proofs, cell level: every outcome of `simplifyBounds` is sound (`Outcome.sound`,
`simplifyBounds_sound`), one lemma per cell: bounds of one category by the composition law
(`same_sound`), a `!=` against another bound by congruence (`ne_sound`), a lower against an upper
bound by the composition law again and, for integers, through the integers between the adjusted
ends (`opp_sound`).  Core Lean only.
-/
namespace CueVerif.Scalar
open CueVerif Std

/-! ### what an outcome claims -/

/-- what an outcome of `SimplifyBounds` claims of the two bounds for one atom: `X`, `Y` = the
first, the second bound holds -/
def Outcome.sound (o : Outcome) (X Y : Prop) : Prop :=
  match o with
  | .keepX => X → Y
  | .keepY => Y → X
  | .err => ¬ (X ∧ Y)
  | .both => True

theorem Outcome.sound.keepX {o : Outcome} {X Y : Prop} (h : o.sound X Y) (ho : o = .keepX) :
    X → Y := by
  subst ho; exact h

theorem Outcome.sound.keepY {o : Outcome} {X Y : Prop} (h : o.sound X Y) (ho : o = .keepY) :
    Y → X := by
  subst ho; exact h

theorem Outcome.sound.err {o : Outcome} {X Y : Prop} (h : o.sound X Y) (ho : o = .err) :
    ¬ (X ∧ Y) := by
  subst ho; exact h

/-- an outcome that keeps both bounds or reports an error says the same with the bounds exchanged -/
theorem Outcome.sound.swap {o : Outcome} {X Y : Prop} (h : o.sound X Y)
    (ho : o = .both ∨ o = .err) : o.sound Y X := by
  rcases ho with rfl | rfl
  · trivial
  · exact fun ⟨hy, hx⟩ => h ⟨hx, hy⟩

/-! ### `opInfo`: the categories select the cell -/

theorem cmpOp_ord (op : Op) (h : isOrd op = true) :
    isOrd (opInfo op).1 = true ∧ (opInfo op).1.side = op.side ∧
      (opInfo op).1.strict = !op.strict := by
  cases op <;> first | exact ⟨rfl, rfl, rfl⟩ | cases h

theorem cat_same_ord (xop yop : Op) (h : (opInfo xop).2 = (opInfo yop).2) (hx : isOrd xop = true) :
    isOrd yop = true ∧ yop.side = xop.side := by
  cases xop <;> cases yop <;> revert h hx <;> decide

theorem cat_same_nonord (xop yop : Op) (h : (opInfo xop).2 = (opInfo yop).2) (hx : ¬ isOrd xop = true) :
    yop = xop := by
  cases xop <;> cases yop <;> revert h hx <;> decide

theorem cat_cases (xop yop : Op) :
    (opInfo xop).2 = (opInfo yop).2 ∨ (isLower xop = true ∧ isUpper yop = true) ∨
    (isUpper xop = true ∧ isLower yop = true) ∨
    ((opInfo xop).2 ≠ (opInfo yop).2 ∧ (opInfo xop).2 ≠ -(opInfo yop).2) := by
  cases xop <;> cases yop <;> decide

theorem cat_lower (op : Op) (h : isLower op = true) : (opInfo op).2 = 1 := by
  cases op <;> first | rfl | cases h

theorem cat_upper (op : Op) (h : isUpper op = true) : (opInfo op).2 = -1 := by
  cases op <;> first | rfl | cases h

theorem simplifyBounds_same (re : Bytes → Bytes → Bool) (k : Kind) (x y : Bound)
    (h : (opInfo x.op).2 = (opInfo y.op).2) : simplifyBounds re k x y = simplifySame re x y := by
  simp only [simplifyBounds, h, beq_self_eq_true, if_true]

theorem simplifyBounds_opp (re : Bytes → Bytes → Bool) (k : Kind) (lo hi : Bound)
    (hl : isLower lo.op = true) (hu : isUpper hi.op = true) :
    simplifyBounds re k lo hi = simplifyOpp k lo hi ∧
      simplifyBounds re k hi lo = simplifyOpp k lo hi := by
  obtain ⟨lop, a⟩ := lo
  obtain ⟨hop, b⟩ := hi
  cases lop <;> cases hl <;> cases hop <;> cases hu <;> exact ⟨rfl, rfl⟩

theorem simplifyBounds_ne (re : Bytes → Bytes → Bool) (k : Kind) (x y : Bound)
    (h1 : (opInfo x.op).2 ≠ (opInfo y.op).2) (h2 : (opInfo x.op).2 ≠ -(opInfo y.op).2) :
    simplifyBounds re k x y = simplifyNe re x y := by
  simp only [simplifyBounds, beq_iff_eq, if_neg h1, if_neg h2]

/-! ### the same-category cells -/

theorem simplifySame_ord (re : Bytes → Bytes → Bool) (x y : Bound) (h : isOrd x.op = true) :
    simplifySame re x y =
      if ordHolds x.op.side (!x.op.strict) x.val y.val then .keepX else .keepY := by
  obtain ⟨hc1, hc2, hc3⟩ := cmpOp_ord x.op h
  rw [← hc2, ← hc3, ← binOpBool_ord re _ _ _ hc1]
  obtain ⟨xop, a⟩ := x
  cases xop <;> first | rfl | cases h

theorem simplifySame_nonord (re : Bytes → Bytes → Bool) (x y : Bound) (h : ¬ isOrd x.op = true) :
    simplifySame re x y = if x.val.eqv y.val then .keepX else .both := by
  obtain ⟨xop, a⟩ := x
  cases xop <;> first | rfl | exact absurd rfl h

theorem same_sound (re : Bytes → Bytes → Bool) (x y : Bound) (v : Atom)
    (hcat : (opInfo x.op).2 = (opInfo y.op).2) (hadx : boundAdmits x v = true) :
    (simplifySame re x y).sound (boundHolds re x v = true) (boundHolds re y v = true) := by
  by_cases hx : isOrd x.op = true
  · obtain ⟨hy, hs⟩ := cat_same_ord x.op y.op hcat hx
    rw [simplifySame_ord re x y hx, boundHolds_ord re _ _ _ hx, boundHolds_ord re _ _ _ hy, hs]
    split
    · -- `v R a` and `a S b` with one of `R`, `S` strict: `v` is strictly beyond `b`
      rename_i h'
      exact fun hv => ordHolds_weaken (ordHolds_comp hv h') fun _ => Bool.or_not_self _
    · rename_i h'
      intro hv
      -- `x` admits `v`, so its operand has the sort of `v` and is comparable with that of `y`
      obtain ⟨o1, h1⟩ := ordHolds_some hv
      obtain ⟨o2, h2⟩ := ordCmp_some_of_sort (b := x.val) h1 <| by
        rw [admits_sort _ _ _ fun e => by rw [e] at hx; cases hx] at hadx
        exact eq_of_beq hadx
      -- `v R b` and not `a S b`, that is `b S' a`, with `S'` as strict as `x`
      have hba := ordHolds_not (side_ne_eq _ hx) h2 (Bool.eq_false_iff.2 h')
      exact ordHolds_weaken (ordHolds_comp hv hba) fun hst => by rw [hst, Bool.or_true]
  · -- `!=`, `=~`, `!~`: kept only when the operands are equal
    rw [simplifySame_nonord re x y hx]
    obtain ⟨xop, a⟩ := x
    obtain ⟨yop, b⟩ := y
    cases cat_same_nonord xop yop hcat hx
    split
    · rename_i he
      intro hv
      rw [← binOpBool_eq_holds] at hv ⊢
      rw [← binOpBool_congr_right re xop v a b he]; exact hv
    · trivial

theorem same_XY (re : Bytes → Bytes → Bool) (k : Kind) (x y : Bound) (hx : isOrd x.op = true)
    (hcat : (opInfo x.op).2 = (opInfo y.op).2) :
    simplifyBounds re k x y = .keepX ∨ simplifyBounds re k x y = .keepY := by
  rw [simplifyBounds_same re k x y hcat, simplifySame_ord re x y hx]
  split
  · exact Or.inl rfl
  · exact Or.inr rfl

/-! ### the `!=` cells -/

theorem simplifyNe_cases (re : Bytes → Bytes → Bool) (x y : Bound) :
    simplifyNe re x y = .both ∨
    (simplifyNe re x y = .keepY ∧ x.op = .ne ∧ binOpBool re y.op x.val y.val = false) ∨
    (simplifyNe re x y = .keepX ∧ y.op = .ne ∧ binOpBool re x.op y.val x.val = false) := by
  unfold simplifyNe
  by_cases hx : x.op = .ne
  · cases hb : binOpBool re y.op x.val y.val <;> simp [hx]
  · by_cases hy : y.op = .ne
    · cases hb : binOpBool re x.op y.val x.val <;> simp [hx, hy]
    · simp [hx, hy]

theorem ne_of_fails (re : Bytes → Bytes → Bool) (x y : Bound) (v : Atom) (hx : x.op = .ne)
    (hb : binOpBool re y.op x.val y.val = false) (hv : boundHolds re y v = true) :
    boundHolds re x v = true := by
  obtain ⟨xop, a⟩ := x
  cases hx
  show (!v.eqv a) = true
  cases hva : v.eqv a with
  | false => rfl
  | true =>
    rw [← binOpBool_eq_holds, binOpBool_congr_left re y.op v a y.val hva, hb] at hv
    cases hv

theorem ne_sound (re : Bytes → Bytes → Bool) (x y : Bound) (v : Atom) :
    (simplifyNe re x y).sound (boundHolds re x v = true) (boundHolds re y v = true) := by
  rcases simplifyNe_cases re x y with h | ⟨h, hx, hb⟩ | ⟨h, hy, hb⟩ <;> rw [h]
  · trivial
  · exact ne_of_fails re x y v hx hb
  · exact ne_of_fails re y x v hy hb

theorem ite_X_both_or {c : Prop} [Decidable c] :
    (if c then Outcome.keepX else Outcome.both) = .keepX ∨
    (if c then Outcome.keepX else Outcome.both) = .both := by
  by_cases h : c <;> simp [h]

/-- an ordering bound against a `!=`: `SimplifyBounds` returns the ordering bound or nil -/
theorem ord_vs_ne (re : Bytes → Bytes → Bool) (k : Kind) (u c : Bound) (hu : isOrd u.op = true)
    (hc : c.op = .ne) :
    simplifyBounds re k u c = .keepX ∨ simplifyBounds re k u c = .both := by
  obtain ⟨uop, a⟩ := u
  obtain ⟨cop, b⟩ := c
  simp only at hc; subst hc
  cases uop <;> simp [isOrd] at hu <;> simp [simplifyBounds, opInfo, simplifyNe] <;> exact ite_X_both_or

/-! ### the opposite-direction cells -/

theorem strOpp_err (xop yop : Op) (c : Ordering) (hx : isLower xop = true) (hy : isUpper yop = true)
    (h : simplifyStrOpp xop yop c = .err) : onSide .lt (xop.strict || yop.strict) c = false := by
  cases xop <;> cases hx <;> cases yop <;> cases hy <;> cases c <;> first | rfl | cases h

theorem opp_generic (re : Bytes → Bytes → Bool) (lo hi : Bound) (v : Atom) (c : Ordering)
    (hlo : isLower lo.op = true) (hhi : isUpper hi.op = true)
    (hc : ordCmp lo.val hi.val = some c) (he : simplifyStrOpp lo.op hi.op c = .err) :
    ¬ (boundHolds re lo v = true ∧ boundHolds re hi v = true) := by
  obtain ⟨lop, a⟩ := lo
  obtain ⟨hop, b⟩ := hi
  obtain ⟨hl, hls⟩ := lower_ord lop hlo
  obtain ⟨hu, hus⟩ := upper_ord hop hhi
  intro ⟨h1, h2⟩
  rw [boundHolds_ord re _ _ _ hl, hls] at h1
  rw [boundHolds_ord re _ _ _ hu, hus] at h2
  have := ordHolds_comp (d := .lt) ((ordHolds_swap .gt _ v a).trans h1) h2
  simp only [ordHolds, hc, strOpp_err lop hop c hlo hhi he] at this
  cases this

theorem cmp_int_of_eq (d : Dec) (m n : Int) (h : Dec.cmp d (Dec.ofInt m) = .eq) :
    Dec.cmp d (Dec.ofInt n) = compare m n := by
  rw [TransCmp.congr_left (cmp := Dec.cmp) h, Dec.cmp_ofInt_ofInt]

theorem numOppCore_cases (k : Kind) (xop yop : Op) (lo hi : Dec) :
    numOppCore k xop yop lo hi = .both ∨
    (numOppCore k xop yop lo hi = .err ∧
      ((Dec.sub hi lo).coeff < 0 ∨
       ((Dec.sub hi lo).intVal? = some 1 ∧ k.hasFloat = false ∧ xop = .gt ∧ yop = .lt) ∨
       ((Dec.sub hi lo).intVal? = some 0 ∧ ¬ (xop = .ge ∧ yop = .le)))) := by
  unfold numOppCore
  split
  · exact Or.inl rfl
  split
  · exact Or.inl rfl
  rename_i d hd
  cases Dec.sub34_eq _ _ _ hd
  split
  · exact Or.inr ⟨rfl, Or.inl ‹_›⟩
  split
  · exact Or.inl rfl
  rename_i z hz
  split
  · rename_i hz1
    cases eq_of_beq hz1
    split
    · rename_i hc
      simp only [Bool.and_eq_true, Bool.not_eq_true', beq_iff_eq] at hc
      exact Or.inr ⟨rfl, Or.inr (Or.inl ⟨hz, hc.1.1, hc.1.2, hc.2⟩)⟩
    · exact Or.inl rfl
  · split
    · rename_i hz0
      cases eq_of_beq hz0
      split
      · exact Or.inl rfl
      · rename_i hc
        simp only [Bool.and_eq_true, beq_iff_eq] at hc
        exact Or.inr ⟨rfl, Or.inr (Or.inr ⟨hz, hc⟩)⟩
    · exact Or.inl rfl

theorem numOpp_err_float (k : Kind) (xop yop : Op) (a b : Dec) (hk : k.hasFloat = true)
    (h : simplifyNumOpp k xop yop a b = .err) : simplifyStrOpp xop yop (Dec.cmp a b) = .err := by
  have e : simplifyNumOpp k xop yop a b = numOppCore k xop yop a b := by
    simp only [simplifyNumOpp, adjLo, adjHi, hk, Bool.not_true, Bool.false_and, Bool.false_eq_true,
      if_false]
  rw [e] at h
  rcases numOppCore_cases k xop yop a b with hb | ⟨_, hneg | ⟨_, hf, _⟩ | ⟨hz, hc⟩⟩
  · rw [hb] at h; cases h
  · rw [OrientedCmp.gt_of_lt ((Dec.sub_coeff_neg_iff b a).1 hneg)]; rfl
  · rw [hk] at hf; cases hf
  · have h1 := Dec.intVal?_eq_some _ _ hz
    rw [Dec.cmp_sub_zero] at h1
    rw [OrientedCmp.eq_symm h1]
    simp only [simplifyStrOpp, Bool.and_eq_true, beq_iff_eq, if_neg hc]

/-- "Readjust bounds for integers": the adjusted end is the integer `Ceil`/`Floor` names -/
theorem adj_int (k : Kind) (c : Bool) (a r : Dec) (hk : k.hasFloat = false)
    (h : (if !k.hasFloat && a.exp < 0 then (if c then Dec.ceil34? a else Dec.floor34? a)
      else some a) = some r) :
    Dec.cmp r (Dec.ofInt (if c then Dec.ceil a else Dec.floor a)) = .eq := by
  by_cases he : a.exp < 0
  · simp only [hk, he, Bool.not_false, Bool.true_and, decide_true, if_true] at h
    cases c
    · exact Dec.floor34?_eq a r h
    · exact Dec.ceil34?_eq a r h
  · simp only [hk, he, Bool.not_false, Bool.true_and, decide_false, Bool.false_eq_true, if_false] at h
    cases h
    have hi := Dec.isInt_of_exp_nonneg a (by omega)
    rw [Dec.ceil_eq_floor_of_isInt a hi, ite_self]
    exact Dec.cmp_floor_of_isInt a hi

theorem lo_int (k : Kind) (xop : Op) (a lo : Dec) (hk : k.hasFloat = false)
    (h : adjLo k xop a = some lo) :
    Dec.cmp lo (Dec.ofInt (if xop == .ge then Dec.ceil a else Dec.floor a)) = .eq :=
  adj_int k (xop == .ge) a lo hk h

theorem hi_int (k : Kind) (yop : Op) (b hi : Dec) (hk : k.hasFloat = false)
    (h : adjHi k yop b = some hi) :
    Dec.cmp hi (Dec.ofInt (if yop == .le then Dec.floor b else Dec.ceil b)) = .eq := by
  unfold adjHi at h
  cases hy : yop == .le <;> rw [hy] at h
  · exact adj_int k true b hi hk h
  · exact adj_int k false b hi hk h

theorem numOpp_err_core (k : Kind) (xop yop : Op) (lo hi : Dec) (L H : Int)
    (hlo : Dec.cmp lo (Dec.ofInt L) = .eq) (hhi : Dec.cmp hi (Dec.ofInt H) = .eq)
    (h : numOppCore k xop yop lo hi = .err) :
    H < L ∨ (H = L + 1 ∧ xop = .gt ∧ yop = .lt) ∨ (H = L ∧ ¬ (xop = .ge ∧ yop = .le)) := by
  have hD := Dec.cmp_sub_ofInt hi lo H L hhi hlo
  rcases numOppCore_cases k xop yop lo hi with hb | ⟨_, hneg | ⟨hz, _, hx, hy⟩ | ⟨hz, hc⟩⟩
  · rw [hb] at h; cases h
  · have h1 := (Dec.sub_coeff_neg_iff hi lo).1 hneg
    rw [← Dec.cmp_sub_zero, cmp_int_of_eq _ _ 0 hD] at h1
    exact Or.inl (by have := Int.compare_eq_lt.1 h1; omega)
  · have h1 := Dec.intVal?_eq_some _ _ hz
    rw [cmp_int_of_eq _ _ 1 hD] at h1
    exact Or.inr (Or.inl ⟨by have := Int.compare_eq_eq.1 h1; omega, hx, hy⟩)
  · have h1 := Dec.intVal?_eq_some _ _ hz
    rw [cmp_int_of_eq _ _ 0 hD] at h1
    exact Or.inr (Or.inr ⟨by have := Int.compare_eq_eq.1 h1; omega, hc⟩)

theorem numOpp_err_int (k : Kind) (xop yop : Op) (a b : Dec) (hk : k.hasFloat = false)
    (hx : isLower xop = true) (hy : isUpper yop = true)
    (h : simplifyNumOpp k xop yop a b = .err) (n : Int) :
    ¬ (opHolds xop (Dec.cmp (Dec.ofInt n) a) = true ∧ opHolds yop (Dec.cmp (Dec.ofInt n) b) = true) := by
  unfold simplifyNumOpp at h
  split at h
  · rename_i lo hi hlo hhi
    have hcore := numOpp_err_core k xop yop _ _ _ _ (lo_int k xop a lo hk hlo) (hi_int k yop b hi hk hhi) h
    intro ⟨h1, h2⟩
    cases xop <;> simp [isLower] at hx <;> cases yop <;> simp [isUpper] at hy <;>
      simp only [opHolds_ge, opHolds_gt, opHolds_le, opHolds_lt, beq_iff_eq,
        Dec.ofInt_ge_iff, Dec.ofInt_gt_iff, Dec.ofInt_le_iff, Dec.ofInt_lt_iff] at h1 h2 <;>
      simp at hcore <;> omega
  · cases h

theorem opp_err (re : Bytes → Bytes → Bool) (k : Kind) (lo hi : Bound) (v : Atom)
    (hlo : isLower lo.op = true) (hhi : isUpper hi.op = true)
    (hk : Kind.has k v = true)
    (h : simplifyOpp k lo hi = .err) :
    ¬ (boundHolds re lo v = true ∧ boundHolds re hi v = true) := by
  unfold simplifyOpp at h
  split at h
  · split at h
    · rename_i a b ha hb
      exact opp_generic re lo hi v _ hlo hhi (by rw [ha, hb]; rfl) h
    · cases h
  · split at h
    · split at h
      · rename_i a b ha hb
        exact opp_generic re lo hi v _ hlo hhi (by rw [ha, hb]; rfl) h
      · cases h
    · split at h
      · rename_i a b ha hb
        by_cases hf : k.hasFloat = true
        · exact opp_generic re lo hi v _ hlo hhi (ordCmp_num _ _ _ _ ha hb)
            (numOpp_err_float k _ _ a b hf h)
        · have hf' : k.hasFloat = false := by simpa using hf
          intro ⟨h1, h2⟩
          obtain ⟨lop, lv⟩ := lo
          obtain ⟨hop, hv⟩ := hi
          rw [boundHolds_cmp re _ _ _ (isOrd_of_lower _ hlo)] at h1
          rw [boundHolds_cmp re _ _ _ (isOrd_of_upper _ hhi)] at h2
          cases hvn : v.num? with
          | none => rw [ordCmp_nonnum v lv a hvn ha] at h1; cases h1
          | some dv =>
            cases v <;> simp [Atom.num?] at hvn
            · subst hvn
              rw [ordCmp_num _ _ _ _ rfl ha] at h1
              rw [ordCmp_num _ _ _ _ rfl hb] at h2
              exact numOpp_err_int k lop hop a b hf' hlo hhi h _ ⟨h1, h2⟩
            · rw [has_float, hf'] at hk; cases hk
      · cases h

theorem strOpp_both_or_err (xop yop : Op) (c : Ordering) :
    simplifyStrOpp xop yop c = .both ∨ simplifyStrOpp xop yop c = .err := by
  unfold simplifyStrOpp
  cases c
  · simp
  · by_cases h : (xop == Op.ge && yop == Op.le) = true <;> simp [h]
  · simp

theorem numOpp_both_or_err (k : Kind) (xop yop : Op) (a b : Dec) :
    simplifyNumOpp k xop yop a b = .both ∨ simplifyNumOpp k xop yop a b = .err := by
  unfold simplifyNumOpp
  split
  · exact (numOppCore_cases _ _ _ _ _).imp_right And.left
  · exact Or.inl rfl

theorem opp_both_or_err (k : Kind) (lo hi : Bound) :
    simplifyOpp k lo hi = .both ∨ simplifyOpp k lo hi = .err := by
  unfold simplifyOpp
  repeat' split
  all_goals first | exact strOpp_both_or_err _ _ _ | exact numOpp_both_or_err _ _ _ _ _ | simp

theorem opp_sound (re : Bytes → Bytes → Bool) (k : Kind) (lo hi : Bound) (v : Atom)
    (hlo : isLower lo.op = true) (hhi : isUpper hi.op = true) (hk : Kind.has k v = true) :
    (simplifyOpp k lo hi).sound (boundHolds re lo v = true) (boundHolds re hi v = true) := by
  rcases opp_both_or_err k lo hi with h | h <;> rw [h]
  · trivial
  · exact opp_err re k lo hi v hlo hhi hk h

/-! ### soundness of `simplifyBounds` -/

/-- Every outcome of `SimplifyBounds` is sound for atoms the first bound admits. -/
theorem simplifyBounds_sound (re : Bytes → Bytes → Bool) (k : Kind) (x y : Bound) (v : Atom)
    (hax : boundAdmits x v = true) (hk : Kind.has k v = true) :
    (simplifyBounds re k x y).sound (boundHolds re x v = true) (boundHolds re y v = true) := by
  rcases cat_cases x.op y.op with hc | ⟨hl, hu⟩ | ⟨hu, hl⟩ | ⟨h1, h2⟩
  · rw [simplifyBounds_same re k x y hc]; exact same_sound re x y v hc hax
  · rw [(simplifyBounds_opp re k x y hl hu).1]; exact opp_sound re k x y v hl hu hk
  · rw [(simplifyBounds_opp re k y x hl hu).2]
    exact (opp_sound re k y x v hl hu hk).swap (opp_both_or_err k y x)
  · rw [simplifyBounds_ne re k x y h1 h2]; exact ne_sound re x y v

theorem simplify_sound (re : Bytes → Bytes → Bool) (k : Kind) (x y : Bound) (v : Atom)
    (hax : boundAdmits x v = true) (_hay : boundAdmits y v = true) (hk : Kind.has k v = true) :
    match simplifyBounds re k x y with
    | .keepX => boundHolds re x v = true → boundHolds re y v = true
    | .keepY => boundHolds re y v = true → boundHolds re x v = true
    | .err => ¬ (boundHolds re x v = true ∧ boundHolds re y v = true)
    | .both => True :=
  simplifyBounds_sound re k x y v hax hk

theorem keepX_sound {re : Bytes → Bytes → Bool} {k : Kind} {x y : Bound} {v : Atom}
    (h : simplifyBounds re k x y = .keepX) (hax : boundAdmits x v = true)
    (hk : Kind.has k v = true) (hx : boundHolds re x v = true) : boundHolds re y v = true :=
  (simplifyBounds_sound re k x y v hax hk).keepX h hx

theorem keepY_sound {re : Bytes → Bytes → Bool} {k : Kind} {x y : Bound} {v : Atom}
    (h : simplifyBounds re k x y = .keepY) (hax : boundAdmits x v = true)
    (hk : Kind.has k v = true) (hy : boundHolds re y v = true) : boundHolds re x v = true :=
  (simplifyBounds_sound re k x y v hax hk).keepY h hy

theorem err_sound {re : Bytes → Bytes → Bool} {k : Kind} {x y : Bound} {v : Atom}
    (h : simplifyBounds re k x y = .err) (hax : boundAdmits x v = true)
    (hk : Kind.has k v = true) : ¬ (boundHolds re x v = true ∧ boundHolds re y v = true) :=
  (simplifyBounds_sound re k x y v hax hk).err h

end CueVerif.Scalar
