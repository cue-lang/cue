import CueVerif.Proofs.ScalarCell
/-!
C03 — proofs, node level: inserting a conjunct intersects the denotation of the node with the
denotation of the conjunct (`insert_spec`, `fold_den`), `finalize` reads the denotation off the node
(`finalize_spec`), so the result of `evalS` stands for exactly the atoms that satisfy every conjunct
(`evalS_exact`).  Core Lean only.
-/
namespace CueVerif.Scalar
open CueVerif Std

def SNode.bounds (n : SNode) : List Bound := n.lower.toList ++ n.upper.toList ++ n.checks

theorem mem_bounds (n : SNode) (b : Bound) :
    b ∈ n.bounds ↔ n.lower = some b ∨ n.upper = some b ∨ b ∈ n.checks := by
  simp only [SNode.bounds, List.mem_append, Option.mem_toList, or_assoc]

/-- the atoms a node still admits -/
def den (re : Bytes → Bytes → Bool) (n : SNode) (v : Atom) : Prop :=
  n.err = false ∧ Kind.has n.kind v = true ∧ (∀ s, n.scalar = some s → v.same s = true) ∧
  ∀ b ∈ n.bounds, boundHolds re b v = true

theorem forall_bounds (n : SNode) (P : Bound → Prop) :
    (∀ b ∈ n.bounds, P b) ↔
      (∀ b, n.lower = some b → P b) ∧ (∀ b, n.upper = some b → P b) ∧ ∀ b ∈ n.checks, P b := by
  simp only [SNode.bounds, List.forall_mem_append, Option.mem_toList, and_assoc]

theorem mem_lower {n : SNode} {b : Bound} (h : n.lower = some b) : b ∈ n.bounds :=
  (mem_bounds n b).2 (Or.inl h)
theorem mem_upper {n : SNode} {b : Bound} (h : n.upper = some b) : b ∈ n.bounds :=
  (mem_bounds n b).2 (Or.inr (Or.inl h))
theorem mem_checks {n : SNode} {b : Bound} (h : b ∈ n.checks) : b ∈ n.bounds :=
  (mem_bounds n b).2 (Or.inr (Or.inr h))

section
variable {re : Bytes → Bytes → Bool} {n : SNode} {v : Atom} (h : den re n v)
include h
theorem den.ok : n.err = false := h.1
theorem den.kind : Kind.has n.kind v = true := h.2.1
theorem den.scalar {s : Atom} (hs : n.scalar = some s) : v.same s = true := h.2.2.1 s hs
theorem den.bounds {b : Bound} (hb : b ∈ n.bounds) : boundHolds re b v = true := h.2.2.2 b hb
end

structure WF (n : SNode) : Prop where
  lower : ∀ b, n.lower = some b → isLower b.op = true
  upper : ∀ b, n.upper = some b → isUpper b.op = true
  sub : ∀ b ∈ n.bounds, Kind.sub n.kind b.kind
  scalar : ∀ s, n.scalar = some s → ∀ i, Nat.testBit n.kind i = true → i = s.kindBit
  nonbot : n.err = false → n.kind ≠ 0

theorem WF.admits {n : SNode} (h : WF n) {v : Atom} (hk : Kind.has n.kind v = true) {b : Bound}
    (hb : b ∈ n.bounds) : boundAdmits b v = true := by
  rw [← kind_has_admits]; exact h.sub b hb v hk

theorem wf_top : WF SNode.top := by
  refine ⟨?_, ?_, ?_, ?_, ?_⟩ <;> intros <;> simp_all [SNode.top, SNode.bounds, Kind.top]

theorem den_top (re : Bytes → Bytes → Bool) (v : Atom) : den re SNode.top v := by
  refine ⟨rfl, top_has v, ?_, ?_⟩
  · intro s h; cases h
  · intro b hb; cases hb

theorem den_iff_of_err {re : Bytes → Bytes → Bool} {n : SNode} {v : Atom} {Q : Prop}
    (he : n.err = true) (hQ : ¬ Q) : den re n v ↔ Q :=
  ⟨fun h => Bool.noConfusion (h.ok.symm.trans he), fun h => absurd h hQ⟩

theorem WF.setErr {n : SNode} (h : WF n) : WF { n with err := true } :=
  ⟨h.lower, h.upper, h.sub, h.scalar, fun h => Bool.noConfusion h⟩

/-- What a node is once an atom has been inserted, and stays: in error or with a scalar.  Such a
node never finalizes to a residual. -/
def settled (n : SNode) : Prop := n.err = true ∨ n.scalar.isSome = true

/-- `n'` is well formed, admits those atoms of `n` that satisfy `P`, and is settled if `n` was:
what inserting a conjunct with denotation `P` has to achieve -/
structure Refines (re : Bytes → Bytes → Bool) (n n' : SNode) (P : Atom → Prop) : Prop where
  wf : WF n'
  iff : ∀ v, den re n' v ↔ den re n v ∧ P v
  settled : settled n → settled n'

theorem Refines.refl_of {re : Bytes → Bytes → Bool} {n : SNode} {P : Atom → Prop} (hwf : WF n)
    (hP : ∀ v, den re n v → P v) : Refines re n n P :=
  ⟨hwf, fun v => ⟨fun h => ⟨h, hP v h⟩, And.left⟩, id⟩

theorem Refines.of_err {re : Bytes → Bytes → Bool} {n n' : SNode} {P : Atom → Prop} (hwf : WF n')
    (he : n'.err = true) (hP : ∀ v, den re n v → ¬ P v) : Refines re n n' P :=
  ⟨hwf, fun v => den_iff_of_err he fun h => hP v h.1 h.2, fun _ => Or.inl he⟩

theorem Refines.trans {re : Bytes → Bytes → Bool} {n n' n'' : SNode} {P Q : Atom → Prop}
    (h1 : Refines re n n' P) (h2 : Refines re n' n'' Q) : Refines re n n'' fun v => P v ∧ Q v :=
  ⟨h2.wf, fun v => ((h2.iff v).trans (and_congr_left' (h1.iff v))).trans and_assoc,
    fun h => h2.settled (h1.settled h)⟩

theorem Refines.congr {re : Bytes → Bytes → Bool} {n n' : SNode} {P Q : Atom → Prop}
    (h : Refines re n n' P) (hPQ : ∀ v, den re n v → (P v ↔ Q v)) : Refines re n n' Q :=
  ⟨h.wf, fun v => (h.iff v).trans (and_congr_right (hPQ v)), h.settled⟩

def shrink (n : SNode) (k : Kind) : SNode := { n with kind := n.kind &&& k }

theorem updateKind_spec (n : SNode) (k : Kind) (hk : k ≠ 0) :
    (n.kind = 0 ∧ updateKind n k = (n, false)) ∨
    (n.kind &&& k = 0 ∧ updateKind n k = ({ n with kind := 0, err := true }, false)) ∨
    (n.kind &&& k ≠ 0 ∧ updateKind n k = (shrink n k, true)) := by
  unfold updateKind shrink
  by_cases h0 : n.kind = 0
  · left; simp [h0, Kind.bottom]
  · right
    by_cases h1 : n.kind &&& k = 0
    · left; simp [h0, hk, h1, Kind.bottom]
    · right; simp [h0, hk, h1, Kind.bottom]

theorem wf_shrink (n : SNode) (k : Kind) (h : WF n) (hne : n.kind &&& k ≠ 0) : WF (shrink n k) := by
  refine ⟨h.lower, h.upper, ?_, ?_, fun _ => hne⟩
  · intro b hb; exact Kind.sub_trans (Kind.sub_and_left _ _) (h.sub b hb)
  · intro s hs i hi
    simp only [shrink, Nat.testBit_and, Bool.and_eq_true] at hi
    exact h.scalar s hs i hi.1

theorem den_shrink (re : Bytes → Bytes → Bool) (n : SNode) (k : Kind) (v : Atom) :
    den re (shrink n k) v ↔ den re n v ∧ Kind.has k v = true := by
  unfold den shrink
  simp only [Kind.has_and, Bool.and_eq_true]
  constructor
  · rintro ⟨h1, ⟨h2, h3⟩, h4⟩; exact ⟨⟨h1, h2, h4⟩, h3⟩
  · rintro ⟨⟨h1, h2, h4⟩, h3⟩; exact ⟨h1, ⟨h2, h3⟩, h4⟩

/-- The common shape of the three insertion functions: `updateNodeType`, stop on failure,
otherwise continue with `g`.  `P` is "the atom satisfies the new conjunct". -/
theorem insert_shape (re : Bytes → Bytes → Bool) (n : SNode) (k : Kind) (g : SNode → SNode)
    (P : Atom → Prop) (hk : k ≠ 0) (hwf : WF n)
    (hP : ∀ v, P v → Kind.has k v = true)
    (hg : ∀ n1, WF n1 → n1.kind = n.kind &&& k → Refines re n1 (g n1) P) :
    Refines re n (if !(updateKind n k).2 then (updateKind n k).1 else g (updateKind n k).1) P := by
  rcases updateKind_spec n k hk with ⟨h0, he⟩ | ⟨h0, he⟩ | ⟨h0, he⟩ <;> rw [he]
  · simp only [Bool.not_false, if_true]
    refine Refines.refl_of hwf fun v h => ?_
    have := h.kind; rw [h0, Kind.has_zero] at this; cases this
  · simp only [Bool.not_false, if_true]
    refine Refines.of_err ⟨hwf.lower, hwf.upper, ?_, ?_, ?_⟩ rfl fun v h hp => ?_
    · intro b _ w hw; rw [Kind.has_zero] at hw; cases hw
    · intro s _ i hi; simp only [Nat.zero_testBit] at hi; cases hi
    · intro h; cases h
    · have := Kind.has_and n.kind k v
      rw [h0, Kind.has_zero, h.kind, hP v hp] at this; cases this
  · simp only [Bool.not_true, Bool.false_eq_true, if_false]
    have w := wf_shrink n k hwf h0
    exact ((Refines.mk w (den_shrink re n k) id).trans (hg _ w rfl)).congr
      fun v _ => ⟨And.right, fun h => ⟨hP v h, h⟩⟩

theorem recheck_spec (re : Bytes → Bytes → Bool) (n : SNode) (hwf : WF n) :
    WF (recheck re n) ∧ ∀ v, (den re (recheck re n) v ↔ den re n v) := by
  unfold recheck
  split
  · rename_i l u hl hu
    split
    · rename_i herr
      refine ⟨⟨?_, ?_, fun b hb => hwf.sub b (mem_checks hb), hwf.scalar,
        fun h => Bool.noConfusion h⟩, fun v => den_iff_of_err rfl fun h => ?_⟩
      · intro b hb; cases hb
      · intro b hb; cases hb
      exact err_sound herr (hwf.admits h.kind (mem_lower hl)) h.kind
        ⟨h.bounds (mem_lower hl), h.bounds (mem_upper hu)⟩
    · exact ⟨hwf, fun v => Iff.rfl⟩
  · exact ⟨hwf, fun v => Iff.rfl⟩

theorem settled_recheck (re : Bytes → Bytes → Bool) (n : SNode) (h : settled n) :
    settled (recheck re n) := by
  unfold recheck
  split
  · split
    · exact Or.inl rfl
    · exact h
  · exact h

theorem Refines.recheck {re : Bytes → Bytes → Bool} {n m : SNode} {P : Atom → Prop}
    (h : Refines re n m P) : Refines re n (recheck re m) P :=
  ⟨(recheck_spec re m h.wf).1, fun v => ((recheck_spec re m h.wf).2 v).trans (h.iff v),
    fun hs => settled_recheck re m (h.settled hs)⟩

/-! ### storing a bound -/

/-- `l'` is `l` after `x` has been held against it: nothing is new but `x`; a bound that went is
one `x` implies; `x` itself is there unless a bound that stayed implies it. -/
structure Stored (re : Bytes → Bytes → Bool) (k : Kind) (x : Bound) (l l' : List Bound) : Prop where
  mem : ∀ b ∈ l', b = x ∨ b ∈ l
  dropped : ∀ y ∈ l, y ∈ l' ∨ simplifyBounds re k x y = .keepX
  kept : x ∈ l' ∨ ∃ y ∈ l', simplifyBounds re k x y = .keepY

theorem Stored.holds {re : Bytes → Bytes → Bool} {k : Kind} {x : Bound} {l l' : List Bound}
    (st : Stored re k x l l') {v : Atom} (hk : Kind.has k v = true) (hax : boundAdmits x v = true) :
    (∀ b ∈ l', boundHolds re b v = true) ↔
      (∀ b ∈ l, boundHolds re b v = true) ∧ boundHolds re x v = true := by
  constructor
  · intro h
    have hx : boundHolds re x v = true := by
      rcases st.kept with hx | ⟨y, hy, hY⟩
      · exact h x hx
      · exact keepY_sound hY hax hk (h y hy)
    refine ⟨fun y hy => ?_, hx⟩
    rcases st.dropped y hy with h' | hX
    · exact h y h'
    · exact keepX_sound hX hax hk hx
  · rintro ⟨hl, hx⟩ b hb
    rcases st.mem b hb with rfl | h
    · exact hx
    · exact hl b h

theorem bounds_step (re : Bytes → Bytes → Bool) {n n' : SNode} {x : Bound}
    {pre l l' post : List Bound} (hwf : WF n) (hsub : Kind.sub n.kind x.kind)
    (he : n'.err = n.err) (hk : n'.kind = n.kind) (hs : n'.scalar = n.scalar)
    (hl : ∀ b, n'.lower = some b → isLower b.op = true)
    (hu : ∀ b, n'.upper = some b → isUpper b.op = true)
    (hb : n.bounds = pre ++ l ++ post) (hb' : n'.bounds = pre ++ l' ++ post)
    (st : Stored re n.kind x l l') : Refines re n n' fun v => boundHolds re x v = true := by
  refine ⟨⟨hl, hu, ?_, by rw [hs, hk]; exact hwf.scalar, by rw [he, hk]; exact hwf.nonbot⟩,
    fun v => ?_, by unfold settled; rw [he, hs]; exact id⟩
  · have hsub' := hwf.sub
    rw [hb] at hsub'
    rw [hb', hk]
    simp only [List.forall_mem_append] at hsub' ⊢
    exact ⟨⟨hsub'.1.1, fun b h => (st.mem b h).elim (· ▸ hsub) (hsub'.1.2 b)⟩, hsub'.2⟩
  · unfold den
    rw [he, hk, hs, hb, hb']
    simp only [List.forall_mem_append]
    constructor
    · rintro ⟨h1, h2, h3, ⟨h4, h5⟩, h6⟩
      have := (st.holds h2 ((kind_has_admits x v).symm.trans (hsub v h2))).1 h5
      exact ⟨⟨h1, h2, h3, ⟨h4, this.1⟩, h6⟩, this.2⟩
    · rintro ⟨⟨h1, h2, h3, ⟨h4, h5⟩, h6⟩, hx⟩
      exact ⟨h1, h2, h3,
        ⟨h4, (st.holds h2 ((kind_has_admits x v).symm.trans (hsub v h2))).2 ⟨h5, hx⟩⟩, h6⟩

/-- `slotLower` / `slotUpper` on the slot alone -/
def slotNew (re : Bytes → Bytes → Bool) (k : Kind) (cur : Option Bound) (x : Bound) : Option Bound :=
  match cur with
  | some y => if simplifyBounds re k x y == .keepY then cur else some x
  | none => some x

theorem slotLower_eq (re : Bytes → Bytes → Bool) (n : SNode) (x : Bound) :
    slotLower re n x = { n with lower := slotNew re n.kind n.lower x } := by
  unfold slotLower slotNew
  cases h : n.lower with
  | none => rfl
  | some y => simp only; split <;> first | rfl | (rw [← h])

theorem slotUpper_eq (re : Bytes → Bytes → Bool) (n : SNode) (x : Bound) :
    slotUpper re n x = { n with upper := slotNew re n.kind n.upper x } := by
  unfold slotUpper slotNew
  cases h : n.upper with
  | none => rfl
  | some y => simp only; split <;> first | rfl | (rw [← h])

theorem stored_slot (re : Bytes → Bytes → Bool) (k : Kind) (cur : Option Bound) (x : Bound)
    (hx : isOrd x.op = true) (hcat : ∀ y, cur = some y → (opInfo x.op).2 = (opInfo y.op).2) :
    Stored re k x cur.toList (slotNew re k cur x).toList := by
  have new : Stored re k x [] [x] ∧ ∀ y, simplifyBounds re k x y = .keepX → Stored re k x [y] [x] :=
    ⟨⟨fun _ hb => Or.inl (List.mem_singleton.1 hb), fun _ h => absurd h List.not_mem_nil,
      Or.inl (List.mem_singleton_self x)⟩,
     fun y h => ⟨fun _ hb => Or.inl (List.mem_singleton.1 hb),
      fun _ hb => Or.inr (List.mem_singleton.1 hb ▸ h), Or.inl (List.mem_singleton_self x)⟩⟩
  cases cur with
  | none => exact new.1
  | some y =>
    rcases same_XY re k x y hx (hcat y rfl) with h | h
    · rw [show slotNew re k (some y) x = some x by simp [slotNew, h]]
      exact new.2 y h
    · rw [show slotNew re k (some y) x = some y by simp [slotNew, h]]
      exact ⟨fun _ hb => Or.inr hb, fun _ hb => Or.inl hb, Or.inr ⟨y, List.mem_singleton_self y, h⟩⟩

theorem slotLower_spec (re : Bytes → Bytes → Bool) (n : SNode) (x : Bound) (hwf : WF n)
    (hx : isLower x.op = true) (hsub : Kind.sub n.kind x.kind) :
    Refines re n (slotLower re n x) fun v => boundHolds re x v = true := by
  have st := stored_slot re n.kind n.lower x (isOrd_of_lower _ hx)
    fun y hy => (cat_lower _ hx).trans (cat_lower _ (hwf.lower y hy)).symm
  rw [slotLower_eq]
  refine bounds_step re (pre := []) hwf hsub rfl rfl rfl ?_ hwf.upper (List.append_assoc _ _ _)
    (List.append_assoc _ _ _) st
  intro b hb
  rcases st.mem b (Option.mem_toList.2 hb) with rfl | h
  · exact hx
  · exact hwf.lower b (Option.mem_toList.1 h)

theorem slotUpper_spec (re : Bytes → Bytes → Bool) (n : SNode) (x : Bound) (hwf : WF n)
    (hx : isUpper x.op = true) (hsub : Kind.sub n.kind x.kind) :
    Refines re n (slotUpper re n x) fun v => boundHolds re x v = true := by
  have st := stored_slot re n.kind n.upper x (isOrd_of_upper _ hx)
    fun y hy => (cat_upper _ hx).trans (cat_upper _ (hwf.upper y hy)).symm
  rw [slotUpper_eq]
  refine bounds_step re (pre := n.lower.toList) hwf hsub rfl rfl rfl hwf.lower ?_ rfl rfl st
  intro b hb
  rcases st.mem b (Option.mem_toList.2 hb) with rfl | h
  · exact hx
  · exact hwf.upper b (Option.mem_toList.1 h)

/-! ### `!=`, `=~`, `!~`: the checks list -/

theorem insertCheck_outcomes (re : Bytes → Bytes → Bool) (k : Kind) (x : Bound) (ys : List Bound) :
    (∀ b ∈ (insertCheck re k x ys).1, b ∈ ys) ∧
    (∀ y ∈ ys, y ∈ (insertCheck re k x ys).1 ∨ simplifyBounds re k x y = .keepX) ∧
    ((insertCheck re k x ys).2 = true →
      ∃ y ∈ (insertCheck re k x ys).1, simplifyBounds re k x y = .keepY) := by
  induction ys with
  | nil => exact ⟨fun _ h => h, fun _ h => absurd h List.not_mem_nil, fun h => Bool.noConfusion h⟩
  | cons y ys ih =>
    obtain ⟨h1, h2, h3⟩ := ih
    have stays : (∀ b ∈ y :: (insertCheck re k x ys).1, b ∈ y :: ys) ∧
        ∀ z ∈ y :: ys, z ∈ y :: (insertCheck re k x ys).1 ∨ simplifyBounds re k x z = .keepX :=
      ⟨fun b hb => List.mem_cons.2 ((List.mem_cons.1 hb).imp_right (h1 b)),
       fun z hz => (List.mem_cons.1 hz).elim (fun e => Or.inl (e ▸ List.mem_cons_self))
         fun h => (h2 z h).imp_left (List.mem_cons_of_mem _)⟩
    have later : (insertCheck re k x ys).2 = true →
        ∃ z ∈ y :: (insertCheck re k x ys).1, simplifyBounds re k x z = .keepY :=
      fun hm => (h3 hm).imp fun z hz => ⟨List.mem_cons_of_mem _ hz.1, hz.2⟩
    unfold insertCheck
    cases hs : simplifyBounds re k x y <;> simp only
    · exact ⟨fun b hb => List.mem_cons_of_mem _ (h1 b hb),
        fun z hz => (List.mem_cons.1 hz).elim (fun e => Or.inr (e ▸ hs)) (h2 z), h3⟩
    · exact ⟨stays.1, stays.2, fun _ => ⟨y, List.mem_cons_self, hs⟩⟩
    · exact ⟨stays.1, stays.2, later⟩
    · exact ⟨stays.1, stays.2, later⟩

theorem addCheck_eq (re : Bytes → Bytes → Bool) (n : SNode) (x : Bound) :
    addCheck re n x = { n with checks :=
      if (insertCheck re n.kind x n.checks).2 then (insertCheck re n.kind x n.checks).1
      else (insertCheck re n.kind x n.checks).1 ++ [x] } := rfl

theorem stored_checks (re : Bytes → Bytes → Bool) (k : Kind) (x : Bound) (ys : List Bound) :
    Stored re k x ys (if (insertCheck re k x ys).2 then (insertCheck re k x ys).1
      else (insertCheck re k x ys).1 ++ [x]) := by
  obtain ⟨h1, h2, h3⟩ := insertCheck_outcomes re k x ys
  split
  · rename_i hm
    exact ⟨fun b hb => Or.inr (h1 b hb), h2, Or.inr (h3 hm)⟩
  · exact ⟨fun b hb => (List.mem_append.1 hb).elim (fun h => Or.inr (h1 b h))
        fun h => Or.inl (List.mem_singleton.1 h),
      fun y hy => (h2 y hy).imp_left (List.mem_append_left _),
      Or.inl (List.mem_append_right _ (List.mem_singleton_self x))⟩

theorem addCheck_spec (re : Bytes → Bytes → Bool) (n : SNode) (x : Bound) (hwf : WF n)
    (hsub : Kind.sub n.kind x.kind) :
    Refines re n (addCheck re n x) fun v => boundHolds re x v = true := by
  rw [addCheck_eq]
  exact bounds_step re (post := []) hwf hsub rfl rfl rfl hwf.lower hwf.upper
    (List.append_nil _).symm (List.append_nil _).symm (stored_checks re n.kind x n.checks)

theorem placeBound_eq (re : Bytes → Bytes → Bool) (n : SNode) (x : Bound) :
    placeBound re n x =
      if isLower x.op then recheck re (slotLower re n x)
      else if isUpper x.op then recheck re (slotUpper re n x) else addCheck re n x := by
  obtain ⟨op, a⟩ := x
  cases op <;> rfl

theorem placeBound_spec (re : Bytes → Bytes → Bool) (n : SNode) (x : Bound) (hwf : WF n)
    (hsub : Kind.sub n.kind x.kind) :
    Refines re n (placeBound re n x) fun v => boundHolds re x v = true := by
  rw [placeBound_eq]
  split
  · exact (slotLower_spec re n x hwf ‹_› hsub).recheck
  split
  · exact (slotUpper_spec re n x hwf ‹_› hsub).recheck
  · exact addCheck_spec re n x hwf hsub

theorem insertBound_spec (re : Bytes → Bytes → Bool) (n : SNode) (x : Bound) (hwf : WF n) :
    Refines re n (insertBound re n x) fun v => satBound re v x = true := by
  unfold insertBound
  by_cases hw : x.wellTyped = true
  · simp only [hw, Bool.not_true, Bool.false_eq_true, if_false]
    refine insert_shape re n x.kind (fun m => placeBound re m x) _ (bound_kind_ne_zero x) hwf ?_ ?_
    · intro v hv
      rw [kind_has_admits]
      exact ((satBound_iff re v x).1 hv).1
    · intro n1 w1 hk1
      have hsub : Kind.sub n1.kind x.kind := by rw [hk1]; exact Kind.sub_and_right _ _
      refine (placeBound_spec re n1 x w1 hsub).congr fun v h => ?_
      rw [satBound_iff, ← kind_has_admits]
      exact (and_iff_right (hsub v h.kind)).symm
  · have hw' : x.wellTyped = false := by simpa using hw
    simp only [hw', Bool.not_false, if_true]
    refine Refines.of_err hwf.setErr rfl fun v _ h => ?_
    rw [not_wellTyped_unsat re x v hw'] at h; cases h

theorem placeAtom_spec (re : Bytes → Bytes → Bool) (n : SNode) (a : Atom) (hwf : WF n)
    (hbits : ∀ i, Nat.testBit n.kind i = true → i = a.kindBit) :
    Refines re n (placeAtom re n a) fun v => v.same a = true := by
  have hkind : ∀ v, Kind.has n.kind v = true → v.sameKind a = true := by
    intro v hv
    have := hbits _ hv
    simp only [Atom.sameKind, this, beq_self_eq_true]
  unfold placeAtom
  simp only
  split
  · rename_i y hy
    split
    · rename_i he
      refine (Refines.refl_of hwf fun v h => ?_).recheck
      have hvy := h.scalar hy
      simp only [Atom.same, Bool.and_eq_true] at hvy ⊢
      have he' : a.eqv y = true := he
      rw [eqv_symm] at he'
      exact ⟨hkind v h.kind, eqv_trans v y a hvy.2 he'⟩
    · rename_i he
      refine (Refines.of_err hwf.setErr rfl fun v h hva => he ?_).recheck
      have hvy := h.scalar hy
      simp only [Atom.same, Bool.and_eq_true] at hvy hva
      exact eqv_trans a v y (by rw [eqv_symm]; exact hva.2) hvy.2
  · rename_i hnone
    have w1 : WF { n with scalar := some a } := by
      refine ⟨hwf.lower, hwf.upper, hwf.sub, ?_, hwf.nonbot⟩
      intro s hs; cases hs; exact hbits
    refine Refines.recheck ⟨w1, fun v => ?_, fun _ => Or.inr rfl⟩
    unfold den
    constructor
    · rintro ⟨h1, h2, h3, h4⟩
      exact ⟨⟨h1, h2, (fun s hs => by rw [hnone] at hs; cases hs), h4⟩, h3 a rfl⟩
    · rintro ⟨⟨h1, h2, _, h4⟩, h3⟩
      exact ⟨h1, h2, (fun s hs => by cases hs; exact h3), h4⟩

theorem insertAtom_spec (re : Bytes → Bytes → Bool) (n : SNode) (a : Atom) (hwf : WF n) :
    Refines re n (insertAtom re n a) fun v => v.same a = true := by
  unfold insertAtom
  refine insert_shape re n a.kind (fun m => placeAtom re m a) _ (atom_kind_ne_zero a) hwf ?_ ?_
  · intro v hv
    rw [atom_kind_has]
    simp only [Atom.same, Bool.and_eq_true] at hv; exact hv.1
  · intro n1 w1 hk1
    refine placeAtom_spec re n1 a w1 ?_
    intro i hi
    rw [hk1, Nat.testBit_and, Bool.and_eq_true] at hi
    have := hi.2
    simp only [Atom.kind, Nat.testBit_two_pow, decide_eq_true_eq] at this
    exact this.symm

theorem insertType_spec (re : Bytes → Bytes → Bool) (n : SNode) (k : Kind) (hwf : WF n) (hk : k ≠ 0) :
    Refines re n (insertType re n k) fun v => Kind.has k v = true := by
  unfold insertType
  refine insert_shape re n k (fun m => recheck re m) _ hk hwf (fun _ h => h)
    fun n1 w1 hk1 => (Refines.refl_of w1 fun v h => ?_).recheck
  have := h.kind
  rw [hk1, Kind.has_and] at this
  simp only [Bool.and_eq_true] at this; exact this.2

def Constraint.isBasic : Constraint → Bool
  | .range _ => false
  | _ => true

theorem insertBasic_spec (re : Bytes → Bytes → Bool) (n : SNode) (c : Constraint) (hwf : WF n)
    (hb : c.isBasic = true) : Refines re n (insertBasic re n c) fun v => sat re v c = true := by
  cases c with
  | atom a => exact insertAtom_spec re n a hwf
  | type t => exact insertType_spec re n t.kind hwf (btype_kind_ne_zero t)
  | bound b => exact insertBound_spec re n b hwf
  | range r => cases hb

theorem foldl_spec (re : Bytes → Bytes → Bool) (f : SNode → Constraint → SNode)
    (ok : Constraint → Prop)
    (hf : ∀ n c, WF n → ok c → Refines re n (f n c) fun v => sat re v c = true) :
    ∀ (cs : List Constraint) (n : SNode), WF n → (∀ c ∈ cs, ok c) →
      Refines re n (cs.foldl f n) fun v => ∀ c ∈ cs, sat re v c = true := by
  intro cs
  induction cs with
  | nil => intro n hwf _; exact Refines.refl_of hwf fun _ _ _ h => absurd h List.not_mem_nil
  | cons c cs ih =>
    intro n hwf hok
    have h1 := hf n c hwf (hok c List.mem_cons_self)
    exact (h1.trans (ih (f n c) h1.wf fun c' hc' => hok c' (List.mem_cons_of_mem _ hc'))).congr
      fun v _ => (List.forall_mem_cons (p := fun c => sat re v c = true)).symm

/-! ### predeclared ranges -/

theorem expand_ok (r : Range) : ∀ c ∈ r.expand, c.isBasic = true := by
  cases r <;> decide

theorem insert_spec (re : Bytes → Bytes → Bool) (n : SNode) (c : Constraint) (hwf : WF n) :
    Refines re n (insert re n c) fun v => sat re v c = true := by
  cases c with
  | range r =>
    exact (foldl_spec re (insertBasic re) (fun c => c.isBasic = true)
      (fun n c w h => insertBasic_spec re n c w h) r.expand n hwf (expand_ok r)).congr
        fun v _ => (sat_range re r v).symm
  | atom a => exact insertBasic_spec re n (.atom a) hwf rfl
  | type t => exact insertBasic_spec re n (.type t) hwf rfl
  | bound b => exact insertBasic_spec re n (.bound b) hwf rfl

/-! ### finalisation -/

/-- the denotation does not distinguish equal atoms (`1.0` / `1.00`) -/
theorem den_congr (re : Bytes → Bytes → Bool) (n : SNode) (v w : Atom) (h : v.same w = true)
    (hd : den re n v) : den re n w := by
  obtain ⟨h1, h2, h3, h4⟩ := hd
  refine ⟨h1, by rw [← has_congr n.kind v w h]; exact h2, ?_, ?_⟩
  · intro s hs; exact same_trans w v s (same_symm v w h) (h3 s hs)
  · intro b hb; rw [← holds_congr re b v w h]; exact h4 b hb

theorem optAll_iff (o : Option Bound) (p : Bound → Bool) :
    optAll o p = true ↔ ∀ b, o = some b → p b = true := by
  cases o <;> simp [optAll]

theorem finalize_cases (re : Bytes → Bytes → Bool) (n : SNode) :
    (n.err = true ∧ finalize re n = .bottom) ∨
    (n.err = false ∧ n.scalar = none ∧ finalize re n = .residual n.kind (residualBounds re n)) ∨
    ∃ s, n.err = false ∧ n.scalar = some s ∧
      (((∀ b ∈ n.bounds, boundHolds re b s = true) ∧ finalize re n = .atom s) ∨
       (¬ (∀ b ∈ n.bounds, boundHolds re b s = true) ∧ finalize re n = .bottom)) := by
  unfold finalize
  cases n.err
  · right
    rw [if_neg Bool.false_ne_true]
    cases n.scalar with
    | none => exact Or.inl ⟨rfl, rfl, rfl⟩
    | some s =>
      refine Or.inr ⟨s, rfl, rfl, ?_⟩
      have hval : (optAll n.lower (validate re · s) && optAll n.upper (validate re · s) &&
          n.checks.all (validate re · s)) = true ↔ ∀ b ∈ n.bounds, boundHolds re b s = true := by
        simp only [Bool.and_eq_true, optAll_iff, List.all_eq_true, validate, binOpBool_eq_holds,
          and_assoc, forall_bounds]
      simp only
      split
      · exact Or.inl ⟨hval.1 ‹_›, rfl⟩
      · exact Or.inr ⟨fun h => ‹¬ _› (hval.2 h), rfl⟩
  · exact Or.inl ⟨rfl, rfl⟩

/-! ### the residual keeps the denotation (`getValidators`) -/

/-- `getValidators` keeps the two slots and every check but a `!=` that a slot does not leave alone -/
theorem mem_residualBounds (re : Bytes → Bytes → Bool) (n : SNode) (b : Bound) :
    b ∈ residualBounds re n ↔ n.lower = some b ∨ n.upper = some b ∨ (b ∈ n.checks ∧
      ¬ (b.op = .ne ∧ ((∃ u, n.upper = some u ∧ simplifyBounds re n.kind u b ≠ .both) ∨
        ∃ u, n.lower = some u ∧ simplifyBounds re n.kind u b ≠ .both))) := by
  unfold residualBounds
  rw [List.mem_append, List.mem_append, Option.mem_toList, Option.mem_toList, List.mem_filter,
    or_assoc]
  cases n.upper <;> cases n.lower <;> simp [Decidable.imp_iff_not_or]

theorem mem_residual (re : Bytes → Bytes → Bool) (n : SNode) (b : Bound) (h : b ∈ residualBounds re n) :
    b ∈ n.bounds := by
  rcases (mem_residualBounds re n b).1 h with h | h | h
  · exact mem_lower h
  · exact mem_upper h
  · exact mem_checks h.1

theorem residual_covers (re : Bytes → Bytes → Bool) (n : SNode) (hwf : WF n) (b : Bound)
    (hb : b ∈ n.bounds) :
    b ∈ residualBounds re n ∨
      ∃ u ∈ residualBounds re n, u ∈ n.bounds ∧ simplifyBounds re n.kind u b = .keepX := by
  by_cases hin : b ∈ residualBounds re n
  · exact Or.inl hin
  right
  rw [mem_residualBounds] at hin
  rcases (mem_bounds n b).1 hb with h | h | h
  · exact absurd (Or.inl h) hin
  · exact absurd (Or.inr (Or.inl h)) hin
  · -- a check that went is a `!=` that the ordering bound in a slot does not leave alone: it implies it
    obtain ⟨hne, ⟨u, hu, hnb⟩ | ⟨u, hu, hnb⟩⟩ :=
      Decidable.of_not_not fun hp => hin (Or.inr (Or.inr ⟨h, hp⟩))
    · exact ⟨u, (mem_residualBounds re n u).2 (Or.inr (Or.inl hu)), mem_upper hu,
        (ord_vs_ne re n.kind u b (isOrd_of_upper _ (hwf.upper u hu)) hne).resolve_right hnb⟩
    · exact ⟨u, (mem_residualBounds re n u).2 (Or.inl hu), mem_lower hu,
        (ord_vs_ne re n.kind u b (isOrd_of_lower _ (hwf.lower u hu)) hne).resolve_right hnb⟩

theorem residual_den (re : Bytes → Bytes → Bool) (n : SNode) (hwf : WF n) (he : n.err = false)
    (hs : n.scalar = none) (v : Atom) :
    den re n v ↔ (Kind.has n.kind v = true ∧ ∀ b ∈ residualBounds re n, satBound re v b = true) := by
  constructor
  · intro h
    refine ⟨h.kind, fun b hb => (satBound_iff re v b).2 ?_⟩
    have hb' := mem_residual re n b hb
    exact ⟨hwf.admits h.kind hb', h.bounds hb'⟩
  · rintro ⟨hk, hall⟩
    have holds : ∀ b ∈ residualBounds re n, boundHolds re b v = true :=
      fun b hb => ((satBound_iff re v b).1 (hall b hb)).2
    refine ⟨he, hk, fun s h => (by rw [hs] at h; cases h), fun b hb => ?_⟩
    rcases residual_covers re n hwf b hb with h | ⟨u, hu, hub, hX⟩
    · exact holds b h
    · exact keepX_sound hX (hwf.admits hk hub) hk (holds u hu)

/-! ### what a result stands for -/

/-- the atoms a result stands for -/
def Result.den (re : Bytes → Bytes → Bool) : Result → Atom → Prop
  | .bottom, _ => False
  | .atom s, v => v.same s = true
  | .residual k bs, v => Kind.has k v = true ∧ ∀ b ∈ bs, satBound re v b = true

/-- `finalize` reads the denotation off the node -/
theorem finalize_spec (re : Bytes → Bytes → Bool) (n : SNode) (hwf : WF n) (v : Atom) :
    den re n v ↔ (finalize re n).den re v := by
  rcases finalize_cases re n with ⟨he, e⟩ | ⟨he, hs, e⟩ | ⟨s, he, hs, ⟨hv, e⟩ | ⟨hv, e⟩⟩ <;> rw [e]
  · exact den_iff_of_err he id
  · exact residual_den re n hwf he hs v
  · have hd : den re n s := by
      refine ⟨he, ?_, ?_, hv⟩
      · obtain ⟨i, hi⟩ := Nat.exists_testBit_of_ne_zero (hwf.nonbot he)
        have := hwf.scalar s hs i hi
        rw [this] at hi; exact hi
      · intro s' hs'; rw [hs] at hs'; cases hs'; exact same_refl _
    exact ⟨fun h => h.scalar hs, fun h => den_congr re n s v (same_symm v s h) hd⟩
  · exact ⟨fun h => hv fun _ => (den_congr re n v s (h.scalar hs) h).bounds, False.elim⟩

/-! ### an atom among the conjuncts settles the node -/

theorem settled_placeAtom (re : Bytes → Bytes → Bool) (n : SNode) (a : Atom) : settled (placeAtom re n a) := by
  unfold placeAtom
  apply settled_recheck
  split
  · split
    · rename_i y hy _; exact Or.inr (by rw [hy]; rfl)
    · exact Or.inl rfl
  · exact Or.inr rfl

theorem settled_insertAtom (re : Bytes → Bytes → Bool) (n : SNode) (a : Atom) (hwf : WF n) :
    settled (insertAtom re n a) := by
  unfold insertAtom
  simp only
  rcases updateKind_spec n a.kind (atom_kind_ne_zero a) with ⟨h0, he⟩ | ⟨_, he⟩ | ⟨_, he⟩ <;> rw [he]
  · exact Or.inl (Decidable.of_not_not fun h => hwf.nonbot (Bool.eq_false_iff.2 h) h0)
  · exact Or.inl rfl
  · exact settled_placeAtom re _ a

theorem fold_den (re : Bytes → Bytes → Bool) (cs : List Constraint) (n : SNode) (hwf : WF n) :
    Refines re n (cs.foldl (insert re) n) (Sat re cs) :=
  foldl_spec re (insert re) (fun _ => True) (fun n c w _ => insert_spec re n c w) cs n hwf
    fun _ _ => trivial

theorem settled_of_mem (re : Bytes → Bytes → Bool) (a : Atom) (cs : List Constraint) (n : SNode)
    (hwf : WF n) (h : Constraint.atom a ∈ cs) : settled (cs.foldl (insert re) n) := by
  induction cs generalizing n with
  | nil => cases h
  | cons c cs ih =>
    have h1 := insert_spec re n c hwf
    rcases List.mem_cons.1 h with h' | h'
    · subst h'
      exact (fold_den re cs _ h1.wf).settled (settled_insertAtom re n a hwf)
    · exact ih _ h1.wf h'

/-! ### the property theorems -/

/-- C03 in one line: the result of `evalS` stands for exactly the atoms that satisfy every conjunct -/
theorem evalS_exact (re : Bytes → Bytes → Bool) (cs : List Constraint) (a : Atom) :
    Sat re cs a ↔ (evalS re cs).den re a := by
  have hf := fold_den re cs SNode.top wf_top
  exact (((hf.iff a).trans (and_iff_right (den_top re a))).symm).trans (finalize_spec re _ hf.wf a)

/-- with an atom among the conjuncts the result is never left non-concrete -/
theorem evalS_concrete (re : Bytes → Bytes → Bool) (cs : List Constraint) (a : Atom)
    (ha : Constraint.atom a ∈ cs) (k : Kind) (bs : List Bound) : evalS re cs ≠ .residual k bs := by
  intro h
  rcases finalize_cases re (cs.foldl (insert re) SNode.top) with
    ⟨_, e⟩ | ⟨he, hs, _⟩ | ⟨s, _, _, ⟨_, e⟩ | ⟨_, e⟩⟩
  any_goals (rw [evalS, e] at h; cases h)
  rcases settled_of_mem re a cs SNode.top wf_top ha with h' | h'
  · rw [he] at h'; cases h'
  · rw [hs] at h'; cases h'

theorem accept_iff (re : Bytes → Bytes → Bool) (cs : List Constraint) (a : Atom)
    (ha : Constraint.atom a ∈ cs) :
    accepts (evalS re cs) a ↔ Sat re cs a := by
  rw [evalS_exact]
  unfold accepts
  cases h : evalS re cs with
  | bottom => exact ⟨fun ⟨_, hb, _⟩ => (nomatch hb), False.elim⟩
  | atom b =>
    exact ⟨fun ⟨_, hb, hs⟩ => same_symm _ _ (Result.atom.inj hb ▸ hs),
      fun hs => ⟨b, rfl, same_symm _ _ hs⟩⟩
  | residual k bs => exact absurd h (evalS_concrete re cs a ha k bs)

theorem bottom_sound (re : Bytes → Bytes → Bool) (cs : List Constraint)
    (h : evalS re cs = .bottom) : ∀ a, ¬ Sat re cs a := by
  intro a hs
  rw [evalS_exact, h] at hs; exact hs

theorem pinned (re : Bytes → Bytes → Bool) (cs : List Constraint) (b : Atom)
    (h : evalS re cs = .atom b) : Sat re cs b ∧ ∀ a, Sat re cs a → a.same b = true := by
  simp only [evalS_exact, h]
  exact ⟨same_refl b, fun _ => id⟩

theorem residual_exact (re : Bytes → Bytes → Bool) (cs : List Constraint) (k : Kind) (bs : List Bound)
    (h : evalS re cs = .residual k bs) (a : Atom) :
    Sat re cs a ↔ (Kind.has k a = true ∧ ∀ b ∈ bs, satBound re a b = true) := by
  rw [evalS_exact, h]; rfl

end CueVerif.Scalar

