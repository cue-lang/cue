/-
Every sub-scanner of the scanner model (C09) returns a position not before the one it was given;
the string scanners a STRING or INTERPOLATION token.  Core Lean only.
-/
import CueVerif.Spec.Scan
import CueVerif.Proofs.Utf8
import CueVerif.Proofs.NumLit
import CueVerif.Proofs.Lib
namespace CueVerif.Scan
open CueVerif.Quote

theorem drop_width_le_tail (b : Nat) (t : Str) : ((b :: t).drop (width (b :: t))).length ≤ t.length := by
  have : 1 ≤ width (b :: t) := (decodeRune_width_pos b t).1
  simp only [List.length_drop, List.length_cons]; omega

theorem skipWs_len (i : Bool) : ∀ cur, (skipWs i cur).length ≤ cur.length := by
  intro cur
  induction cur with
  | nil => exact Nat.le_refl _
  | cons b rest ih =>
    unfold skipWs
    repeat' split
    all_goals simp only [List.length_cons] <;> omega

theorem skipLine_len : ∀ cur, (skipLine cur).1.length ≤ cur.length := by
  intro cur
  induction cur with
  | nil => exact Nat.le_refl _
  | cons b rest ih =>
    unfold skipLine
    split
    · exact Nat.le_refl _
    · exact Nat.le_succ_of_le ih

theorem consumeN_len (c : Nat) : ∀ n cur, (consumeN c n cur).2.length ≤ cur.length := by
  intro n
  induction n with
  | zero => intro cur; exact Nat.le_refl _
  | succ n ih =>
    intro cur
    cases cur with
    | nil => exact Nat.le_refl _
    | cons b rest =>
      unfold consumeN
      split
      · exact Nat.le_succ_of_le (ih rest)
      · exact Nat.le_refl _

theorem closeLoop_len (q : QI) : ∀ m i cur, (closeLoop q m i cur).2.length ≤ cur.length := by
  intro m
  induction m with
  | zero => intro i cur; exact Nat.le_refl _
  | succ m ih =>
    intro i cur
    cases cur with
    | nil => exact Nat.le_refl _
    | cons b rest =>
      unfold closeLoop
      dsimp only
      have := ih (i + 1) rest
      repeat' split
      all_goals simp only [List.length_cons] <;> omega

theorem consumeStringClose_len (q : QI) (ch : Nat) (rest : Str) :
    (consumeStringClose q ch rest).2.length ≤ rest.length := by
  unfold consumeStringClose
  split
  · exact Nat.le_refl _
  · exact closeLoop_len q _ _ _

theorem escDigits_len (base : Nat) : ∀ n cur x, (escDigits base n cur x).1.length ≤ cur.length := by
  intro n
  induction n with
  | zero => intro cur x; exact Nat.le_refl _
  | succ n ih =>
    intro cur x
    cases cur with
    | nil => exact Nat.le_refl _
    | cons b rest =>
      unfold escDigits
      dsimp only
      split
      · exact Nat.le_refl _
      · exact Nat.le_succ_of_le (ih rest _)

theorem scanEscape_len (q : QI) (cur : Str) : (scanEscape q cur).1.length ≤ cur.length := by
  have h0 := consumeN_len 35 q.numHash cur
  unfold scanEscape
  generalize consumeN 35 q.numHash cur = h at h0
  refine ite_ind (P := fun x : Str × Bool × Bool => x.1.length ≤ cur.length) (fun _ => h0) fun _ => ?_
  obtain ⟨n, s⟩ := h
  cases s with
  | nil => exact Nat.zero_le _
  | cons b rest =>
    refine Nat.le_trans ?_ h0
    -- every exit is at `b :: rest`, at `rest`, or where `escDigits` stopped from one of the two
    have step := @ite_ind _ (fun x : Str × Bool × Bool => x.1.length ≤ (b :: rest).length)
    have fin : ∀ r max, r.1.length ≤ rest.length → (escFinish r max).1.length ≤ (b :: rest).length :=
      fun _ _ h => Nat.le_succ_of_le h
    refine step (fun _ => Nat.le_refl _) fun _ => ?_
    refine step (fun _ => Nat.le_succ _) fun _ => ?_
    refine step (fun _ => step (fun _ => Nat.le_refl _) fun _ => escDigits_len 8 3 (b :: rest) 0) fun _ => ?_
    refine step (fun _ => step (fun _ => Nat.le_refl _) fun _ => fin _ _ (escDigits_len ..)) fun _ => ?_
    refine step (fun _ => fin _ _ (escDigits_len ..)) fun _ => ?_
    exact step (fun _ => fin _ _ (escDigits_len ..)) fun _ => Nat.le_refl _

theorem identLoop_len (U : Uni) : ∀ cur skip, (identLoop U skip cur).length ≤ cur.length := by
  intro cur
  induction cur with
  | nil => intro skip; cases skip <;> exact Nat.le_refl _
  | cons b rest ih =>
    intro skip
    cases skip with
    | succ k => exact Nat.le_succ_of_le (ih k)
    | zero =>
      unfold identLoop
      split
      · exact Nat.le_succ_of_le (ih _)
      · exact Nat.le_refl _

theorem identLoop_le_tail (U : Uni) (b : Nat) (rest : Str) (h : identPartAt U (b :: rest) = true) :
    (identLoop U 0 (b :: rest)).length ≤ rest.length := by
  unfold identLoop
  rw [if_pos h]
  exact identLoop_len U rest _

theorem scanFieldIdent_len (U : Uni) (cur : Str) : (scanFieldIdent U cur).length ≤ cur.length := by
  unfold scanFieldIdent
  split
  · split
    · exact Nat.le_succ _
    · exact Nat.le_succ_of_le (identLoop_len U _ 0)
  · exact identLoop_len U cur 0

theorem recoverParen_len : ∀ cur o, (recoverParen o cur).length ≤ cur.length := by
  intro cur
  induction cur with
  | nil => intro o; exact Nat.le_refl _
  | cons b rest ih =>
    intro o
    unfold recoverParen
    repeat' split
    all_goals first | exact Nat.le_refl _ | exact Nat.le_succ_of_le (ih _)

/-! ### strings -/

def StrTok (n : Nat) (k : Kind) (rest : Str) : Prop :=
  rest.length ≤ n ∧ (k = .STRING ∨ k = .INTERPOLATION)

theorem StrTok.mono {n m : Nat} {k : Kind} {rest : Str} (h : StrTok n k rest) (hnm : n ≤ m) :
    StrTok m k rest := ⟨Nat.le_trans h.1 hnm, h.2⟩

theorem StrTok.string {n : Nat} {rest : Str} (h : rest.length ≤ n) : StrTok n .STRING rest :=
  ⟨h, Or.inl rfl⟩

def StopOk (n : Nat) : StrNext → Prop
  | .stop r => StrTok n r.kind r.rest
  | .cont .. => True

theorem strStep_stop {q : QI} {ca : Bool} {lp : Str} {hasCR err : Bool} {b : Nat} {rest : Str}
    {w : Nat} {r1 : Str} {cl : Bool × Str} {r : StrRes}
    (h : strStep q ca lp hasCR err b rest w r1 cl = .stop r) : StrTok cl.2.length r.kind r.rest := by
  have hs : StopOk cl.2.length (strStep q ca lp hasCR err b rest w r1 cl) := by
    unfold strStep
    refine ite_ind (fun _ => .string (Nat.le_refl _)) fun _ => ?_
    refine ite_ind (fun _ => trivial) fun _ => ?_
    refine ite_ind (fun _ => trivial) fun _ => ?_
    refine ite_ind (fun _ => ?_) fun _ => trivial
    exact ite_ind (fun _ => ⟨scanEscape_len _ _, Or.inr rfl⟩) fun _ => trivial
  rwa [h] at hs

theorem strLoop_ok : ∀ cur q ca lp hasCR err skip,
    StrTok cur.length (strLoop q ca lp hasCR err skip cur).kind (strLoop q ca lp hasCR err skip cur).rest := by
  intro cur
  induction cur with
  | nil => intro q ca lp hasCR err skip; cases skip <;> exact .string (Nat.le_refl _)
  | cons b rest ih =>
    intro q ca lp hasCR err skip
    cases skip with
    | succ k => exact (ih ..).mono (Nat.le_succ _)
    | zero =>
      unfold strLoop
      split
      · exact .string (Nat.le_refl _)
      · have hd := drop_width_le_tail b rest
        have hc := consumeStringClose_len q b ((b :: rest).drop (width (b :: rest)))
        dsimp only
        split
        · rename_i r hstep
          refine (strStep_stop hstep).mono ?_
          split <;> simp only [List.length_cons] <;> omega
        · exact (ih ..).mono (Nat.le_succ _)

theorem scanQuoted_ok (nh ch : Nat) (cur : Str) :
    StrTok cur.length (scanQuoted nh ch cur).kind (scanQuoted nh ch cur).rest := by
  unfold scanQuoted
  have hc := consumeN_len ch 2 cur
  have hh := Nat.le_trans (consumeN_len 35 nh (consumeN ch 2 cur).2) hc
  dsimp only
  split
  · exact (strLoop_ok ..).mono hc
  · split
    · exact .string hh
    · exact (strLoop_ok ..).mono hh
  · -- three quotes: the hashes, then the line break that must follow the opening delimiter
    have hh' : (if nh > 0 then consumeN 35 nh (consumeN ch 2 cur).2 else (0, (consumeN ch 2 cur).2)).2.length
        ≤ cur.length := by
      split
      · exact hh
      · exact hc
    generalize (if nh > 0 then consumeN 35 nh (consumeN ch 2 cur).2 else (0, (consumeN ch 2 cur).2)) = h at hh'
    split
    · exact .string hh'
    · split
      next r heq => rw [heq] at hh'; exact (strLoop_ok ..).mono (Nat.le_of_succ_le hh')
      next r heq => rw [heq] at hh'; exact (strLoop_ok ..).mono (Nat.le_of_succ_le (Nat.le_of_succ_le hh'))
      next r heq => rw [heq] at hh'; exact .string (Nat.le_of_succ_le hh')
      next => exact .string hh'

/-! ### the number automaton (`NumLit`) -/

theorem sMant_len (base : Nat) (cur : Str) (last : Nat) : (NumLit.sMant base last cur).1.length ≤ cur.length := by
  rw [NumLit.sMant_eq]
  exact NumLit.lMant_len base cur last

theorem sSign_len (cs : Str) : (NumLit.sSign cs).1.length ≤ cs.length := by
  unfold NumLit.sSign
  split
  · exact Nat.le_succ _
  · exact Nat.le_succ _
  · exact Nat.le_refl _

theorem sExpDigits_len (cur : Str) (e : Bool) : (NumLit.sExpDigits cur e).2.1.length ≤ cur.length :=
  sMant_len 10 cur 0

theorem sExponent_len (k : NumLit.Kind) (cur : Str) (e : Bool) :
    (NumLit.sExponent k cur e).2.1.length ≤ cur.length := by
  unfold NumLit.sExponent
  split
  · exact Nat.le_refl _
  · rename_i c cs
    split
    · split
      · exact Nat.le_succ_of_le (Nat.le_succ _)
      · exact Nat.le_succ _
    · split
      · exact Nat.le_trans (sExpDigits_len _ _) (Nat.le_succ_of_le (sSign_len cs))
      · exact Nat.le_refl _

theorem sFraction_len (k : NumLit.Kind) (cur : Str) (e : Bool) :
    (NumLit.sFraction k cur e).2.1.length ≤ cur.length := by
  unfold NumLit.sFraction
  split
  · exact Nat.le_refl _
  · exact Nat.le_trans (sExponent_len _ _ _) (Nat.le_succ_of_le (sMant_len 10 _ 0))
  · exact sExponent_len _ _ _

theorem sPrefixed_len (base n0 : Nat) (cs : Str) (e : Bool) :
    (NumLit.sPrefixed base n0 cs e).2.1.length ≤ cs.length :=
  sMant_len base cs 0

theorem sZeroTail_len (r : Str) (sd e : Bool) : (NumLit.sZeroTail r sd e).2.1.length ≤ r.length := by
  unfold NumLit.sZeroTail
  split
  · exact Nat.le_refl _
  · exact ite_ind (P := fun x : NumLit.Kind × Str × Bool => x.2.1.length ≤ r.length)
      (fun _ => sFraction_len _ _ _) fun _ => sExponent_len _ _ _

theorem sScanNumber_true_len (cur : Str) : (NumLit.sScanNumber true cur).2.1.length ≤ cur.length := by
  unfold NumLit.sScanNumber
  rw [if_pos rfl]
  exact Nat.le_trans (sExponent_len _ _ _) (sMant_len 10 cur 0)

theorem sScanNumber_false_le_tail (b : Nat) (rest : Str) (hb : (48 ≤ b && b ≤ 57) = true) :
    (NumLit.sScanNumber false (b :: rest)).2.1.length ≤ rest.length := by
  unfold NumLit.sScanNumber
  rw [if_neg Bool.false_ne_true]
  split
  · rename_i cs heq
    cases heq
    split
    iterate 4 exact Nat.le_succ_of_le (sPrefixed_len _ _ _ _)
    split
    rename_i r sd e heq
    refine Nat.le_trans (sZeroTail_len _ _ _) ?_
    rw [show r = (r, sd, e).1 from rfl, ← heq]
    split
    · split
      · exact sMant_len 10 _ 0
      · exact Nat.le_refl _
    · exact Nat.le_refl _
  · have hd : NumLit.digitVal b < 10 := by
      simp only [Bool.and_eq_true, decide_eq_true_eq] at hb
      unfold NumLit.digitVal
      split <;> omega
    have hm : (NumLit.sMant 10 0 (b :: rest)).1.length ≤ rest.length := by
      unfold NumLit.sMant
      rw [if_pos hd]
      exact sMant_len 10 rest b
    exact Nat.le_trans (sFraction_len _ _ _) hm

end CueVerif.Scan
