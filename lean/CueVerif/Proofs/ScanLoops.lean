/-
C02 — totality / progress of the scanner loop model (Model/ScanLoops.lean), for every rune list and
every oracle (`uniLetter`, `uniDigit`, `numEnd`): no fuelled loop answers `fuel`, a Scan call
lowers the measure `μ` for every token but EOF, the client loop ends.
-/
import CueVerif.Model.ScanLoops
import CueVerif.Proofs.Lib
namespace CueVerif.ScanLoops

theorem Env.ch_eof (e : Env) {p : Nat} (h : e.len ≤ p) : e.ch p = -1 := by
  unfold Env.ch Env.len at *
  rw [List.getElem?_eq_none h]

theorem Env.ch_nonneg (e : Env) {p : Nat} (h : p < e.len) : 0 ≤ e.ch p := by
  unfold Env.ch Env.len at *
  rw [List.getElem?_eq_getElem h]
  exact Int.natCast_nonneg _

theorem Env.lt_of_ch (e : Env) {p : Nat} (h : e.ch p ≠ -1) : p < e.len :=
  Nat.lt_of_not_le fun hn => h (e.ch_eof hn)

theorem Env.next_of_lt (e : Env) {p : Nat} (h : p < e.len) : e.next p = p + 1 := if_pos h

theorem Env.le_next (e : Env) (p : Nat) : p ≤ e.next p := by
  unfold Env.next; split <;> omega

theorem Env.next_le (e : Env) {p : Nat} (h : p ≤ e.len) : e.next p ≤ e.len := by
  unfold Env.next; split <;> omega

/-- `q` is at or after `p` and within the input.  The loop lemmas say "`Fwd e p₀` is closed under the
loop" with the base `p₀` a variable, so that results compose without transitivity steps. -/
abbrev Fwd (e : Env) (p q : Nat) : Prop := p ≤ q ∧ q ≤ e.len

theorem Fwd.refl {e : Env} {p : Nat} (h : p ≤ e.len) : Fwd e p p := ⟨Nat.le_refl p, h⟩

theorem Fwd.trans {e : Env} {p q r : Nat} (h : Fwd e p q) (h' : Fwd e q r) : Fwd e p r :=
  ⟨Nat.le_trans h.1 h'.1, h'.2⟩

theorem Fwd.next {e : Env} {p q : Nat} (h : Fwd e p q) : Fwd e p (e.next q) :=
  ⟨Nat.le_trans h.1 (e.le_next q), e.next_le h.2⟩

/-- `r = ok q` with `p ≤ q ≤ length` -/
def Bnd (e : Env) (p : Nat) (r : Res Nat) : Prop := ∃ q, r = .ok q ∧ p ≤ q ∧ q ≤ e.len

/-- `x = ok a` with `Q a` (`Bnd e p` is `IsOk (Fwd e p)`) -/
def IsOk {α : Type} (Q : α → Prop) (x : Res α) : Prop := ∃ a, x = .ok a ∧ Q a

theorem Fwd.ite {e : Env} {p0 : Nat} {β : Type} {c : Prop} [Decidable c] {t s : Nat × β}
    (ht : c → Fwd e p0 t.1) (hs : ¬ c → Fwd e p0 s.1) : Fwd e p0 (ite c t s).1 :=
  ite_ind (P := fun r : Nat × β => Fwd e p0 r.1) ht hs

/-! ## the loops -/

theorem whileCh_total (e : Env) (pred : Int → Bool) (hp : pred (-1) = false) {p0 : Nat} :
    ∀ (f p : Nat), Fwd e p0 p → e.len - p + 1 ≤ f → IsOk (Fwd e p0) (whileCh e pred f p)
  | 0, _, _, hf => absurd hf (by omega)
  | f + 1, p, h, hf => by
    unfold whileCh
    refine ite_ind (fun hc => ?_) fun _ => ⟨p, rfl, h⟩
    have hlt : p < e.len := e.lt_of_ch fun h' => by rw [h', hp] at hc; cases hc
    rw [e.next_of_lt hlt]
    exact whileCh_total e pred hp f (p + 1) ⟨by omega, hlt⟩ (by omega)

theorem identPart_eof (e : Env) : identPart e (-1) = false := by
  simp [identPart, isLetter, isDigit]

theorem commentBody_eof : commentBody (-1) = false := by decide

theorem wsPred_eof (b : Bool) : wsPred b (-1) = false := by cases b <;> decide

theorem scanIdentifier_total (e : Env) (f : Nat) {p0 p : Nat} (h : Fwd e p0 p)
    (hf : e.len - p + 1 ≤ f) : IsOk (Fwd e p0) (scanIdentifier e f p) :=
  whileCh_total e _ (identPart_eof e) f p h hf

theorem scanFieldIdentifier_total (e : Env) (f : Nat) {p0 p : Nat} (h : Fwd e p0 p)
    (hf : e.len - p + 1 ≤ f) : IsOk (Fwd e p0) (scanFieldIdentifier e f p) := by
  unfold scanFieldIdentifier
  exact ite_ind
    (fun _ => ite_ind (fun _ => ⟨_, rfl, h.next⟩) fun _ =>
      whileCh_total e _ (identPart_eof e) f _ h.next (by have := e.le_next p; omega))
    fun _ => whileCh_total e _ (identPart_eof e) f p h hf

theorem scanFieldIdentifier_adv (e : Env) (f p : Nat) (hf : e.len - p + 1 ≤ f)
    (hc : isLetter e (e.ch p) = true ∨ e.ch p = 36 ∨ e.ch p = 35) :
    IsOk (Fwd e (p + 1)) (scanFieldIdentifier e f p) := by
  have hlt : p < e.len := e.lt_of_ch fun h1 => by rw [h1] at hc; simp [isLetter] at hc
  have h1 : Fwd e (p + 1) (p + 1) := .refl hlt
  have rest := fun f hf => whileCh_total e _ (identPart_eof e) f (p + 1) h1 hf
  unfold scanFieldIdentifier
  rw [e.next_of_lt hlt]
  refine ite_ind (fun _ => ite_ind (fun _ => ⟨_, rfl, h1⟩) fun _ => rest f (by omega)) fun hne => ?_
  have hip : identPart e (e.ch p) = true := by
    rcases hc with h | h | h
    · simp [identPart, h]
    · simp [identPart, h]
    · exact absurd h hne
  cases f with
  | zero => omega
  | succ f => rw [whileCh, if_pos hip, e.next_of_lt hlt]; exact rest f (by omega)

theorem scanComment_total (e : Env) (f : Nat) {p0 p : Nat} (h : Fwd e p0 p)
    (hf : e.len - p + 1 ≤ f) : IsOk (Fwd e p0) (scanComment e f p) := by
  unfold scanComment
  exact ite_ind
    (fun _ => whileCh_total e _ commentBody_eof f _ h.next (by have := e.le_next p; omega))
    fun _ => ⟨p, rfl, h⟩

theorem skipWhitespace_total (e : Env) (eol : Bool) (f : Nat) {p0 p : Nat} (h : Fwd e p0 p)
    (hf : e.len - p + 1 ≤ f) : IsOk (Fwd e p0) (skipWhitespace e eol f p) :=
  whileCh_total e _ (wsPred_eof eol) f p h hf

theorem recoverParen_total (e : Env) {p0 : Nat} :
    ∀ (f : Nat) (opn : Int) (p : Nat), Fwd e p0 p → e.len - p + 1 ≤ f →
      IsOk (Fwd e p0) (recoverParen e f opn p)
  | 0, _, _, _, hf => absurd hf (by omega)
  | f + 1, opn, p, h, hf => by
    unfold recoverParen
    refine ite_ind (fun _ => ⟨p, rfl, h⟩) fun hc => ?_
    have hlt : p < e.len := e.lt_of_ch fun h' => hc (Or.inr h')
    rw [e.next_of_lt hlt]
    have step : ∀ o, IsOk (Fwd e p0) (recoverParen e f o (p + 1)) := fun o =>
      recoverParen_total e f o (p + 1) ⟨by omega, hlt⟩ (by omega)
    exact ite_ind (fun _ => step _) fun _ =>
      ite_ind (fun _ => ite_ind (fun _ => ⟨p, rfl, h⟩) fun _ => step _) fun _ => step _

/-! counted loops: they recurse on the counter, there is no fuel -/

theorem consumeQuotes_fwd (e : Env) (c : Int) {p0 : Nat} :
    ∀ (m p n : Nat), Fwd e p0 p → Fwd e p0 (consumeQuotes e c m p n).1
  | 0, _, _, h => h
  | m + 1, _, _, h => by
    unfold consumeQuotes
    exact .ite (fun _ => h) fun _ => consumeQuotes_fwd e c m _ _ h.next

theorem scanHashes_fwd (e : Env) {p0 : Nat} :
    ∀ (m p n : Nat), Fwd e p0 p → Fwd e p0 (scanHashes e m p n).1
  | 0, _, _, h => h
  | m + 1, _, _, h => by
    unfold scanHashes
    exact .ite (fun _ => h) fun _ => scanHashes_fwd e m _ _ h.next

theorem closeLoop_fwd (e : Env) (nc : Nat) {p0 : Nat} :
    ∀ (k i : Nat) (w : Int) (p : Nat), Fwd e p0 p → Fwd e p0 (closeLoop e nc k i w p).1
  | 0, _, _, _, h => h
  | k + 1, _, _, _, h => by
    unfold closeLoop
    exact .ite (fun _ => h) fun _ => closeLoop_fwd e nc k _ _ _ h.next

theorem consumeStringClose_fwd (e : Env) (c : Int) (q : Quote) {p0 p : Nat} (h : Fwd e p0 p) :
    Fwd e p0 (consumeStringClose e c q p).1 := by
  unfold consumeStringClose
  exact .ite (fun _ => h) fun _ => closeLoop_fwd e _ _ _ _ p h

theorem escHashes_fwd (e : Env) {p0 : Nat} :
    ∀ (k p : Nat), Fwd e p0 p → Fwd e p0 (escHashes e k p).1
  | 0, _, h => h
  | k + 1, _, h => by
    unfold escHashes
    exact .ite (fun _ => h) fun _ => escHashes_fwd e k _ h.next

theorem escDigits_fwd (e : Env) (base : Int) {p0 : Nat} :
    ∀ (n p : Nat), Fwd e p0 p → Fwd e p0 (escDigits e base n p)
  | 0, _, h => h
  | n + 1, _, h => by
    unfold escDigits
    exact ite_ind (fun _ => h) fun _ => escDigits_fwd e base n _ h.next

theorem scanEscape_fwd (e : Env) (q : Quote) {p0 p : Nat} (h : Fwd e p0 p) :
    Fwd e p0 (scanEscape e q p).1 := by
  unfold scanEscape
  have hh := escHashes_fwd e q.numHash p h
  generalize escHashes e q.numHash p = r at hh
  obtain ⟨p', _ | _⟩ := r
  · exact hh
  · exact .ite (fun _ => hh) fun _ => .ite (fun _ => hh.next) fun _ =>
      .ite (fun _ => .ite (fun _ => hh) fun _ => escDigits_fwd e 8 3 _ hh) fun _ =>
      .ite (fun _ => .ite (fun _ => hh) fun _ => escDigits_fwd e 16 2 _ hh.next) fun _ =>
      .ite (fun _ => escDigits_fwd e 16 4 _ hh.next) fun _ =>
      .ite (fun _ => escDigits_fwd e 16 8 _ hh.next) fun _ => hh

theorem scanStringLoop_total (e : Env) (q : Quote) {p0 : Nat} :
    ∀ (f : Nat) (ca : Bool) (p : Nat), Fwd e p0 p → e.len - p + 1 ≤ f →
      IsOk (fun r => Fwd e p0 r.1) (scanStringLoop e q f ca p)
  | 0, _, _, _, hf => absurd hf (by omega)
  | f + 1, ca, p, h, hf => by
    unfold scanStringLoop
    refine ite_ind (fun _ => ⟨_, rfl, h⟩) fun hc => ?_
    have hlt : p < e.len := e.lt_of_ch fun h' => hc (Or.inr (by omega))
    rw [e.next_of_lt hlt]
    have h0 : Fwd e p0 (p + 1) := ⟨by omega, hlt⟩
    have hr : Fwd e (p + 1) (if q.numChar ≠ 3 ∨ ca = true then consumeStringClose e (e.ch p) q (p + 1)
        else (p + 1, false)).1 :=
      .ite (fun _ => consumeStringClose_fwd e _ q (.refl hlt)) fun _ => .refl hlt
    have hesc := scanEscape_fwd e q hr
    have step : ∀ ca' p', Fwd e (p + 1) p' → IsOk (fun r => Fwd e p0 r.1) (scanStringLoop e q f ca' p') :=
      fun ca' p' h' => scanStringLoop_total e q f ca' p' (h0.trans h') (by have := h'.1; omega)
    exact ite_ind (fun _ => ⟨_, rfl, h0.trans hr⟩) fun _ => ite_ind (fun _ => step _ _ hr) fun _ =>
      ite_ind
        (fun _ => ite_ind (fun _ => ⟨_, rfl, h0.trans hesc⟩) fun _ => step _ _ hesc)
        fun _ => step _ _ hr

theorem scanString_total (e : Env) (q : Quote) (cont : Bool) (f : Nat) {p0 p : Nat} (h : Fwd e p0 p)
    (hf : e.len - p + 1 ≤ f) : IsOk (fun r => Fwd e p0 r.1) (scanString e q cont f p) :=
  scanStringLoop_total e q f _ p h hf

/-! ## one pass through the body of Scan -/

/-- the progress measure: `2·(length − s.offset) + (s.insertEOL ? 1 : 0)` -/
def μ (e : Env) (st : St) : Nat := 2 * (e.len - st.pos) + st.eol.toNat

/-- holds of `ok a` when `P a`; `fuel` is excluded; `badOracle` / `panic` are allowed -/
def ResPost {α : Type} (P : α → Prop) : Res α → Prop
  | .ok a => P a
  | .fuel => False
  | _ => True

theorem IsOk.post {α : Type} {Q : α → Prop} {x : Res α} (h : IsOk Q x) : ResPost Q x := by
  obtain ⟨a, rfl, ha⟩ := h
  exact ha

theorem ResPost.bind {α β : Type} {P : β → Prop} {Q : α → Prop} {x : Res α} {g : α → Res β}
    (hx : ResPost Q x) (hg : ∀ a, Q a → ResPost P (g a)) : ResPost P (x.bind g) := by
  cases x with
  | ok a => exact hg a hx
  | fuel => exact hx
  | _ => trivial

theorem ResPost.mono {α : Type} {P Q : α → Prop} {x : Res α} (hx : ResPost P x)
    (h : ∀ a, P a → Q a) : ResPost Q x := by
  cases x with
  | ok a => exact h a hx
  | fuel => exact hx
  | _ => trivial

theorem ResPost.ne_fuel {α : Type} {P : α → Prop} {x : Res α} (hx : ResPost P x) : x ≠ .fuel :=
  fun h => by rw [h] at hx; exact hx

theorem ResPost.of_eq_ok {α : Type} {P : α → Prop} {x : Res α} {a : α} (hx : ResPost P x)
    (h : x = .ok a) : P a := by
  rw [h] at hx; exact hx

def StepPost (e : Env) (st : St) : Step → Prop
  | .done st' cls => st'.pos ≤ e.len ∧ μ e st' ≤ μ e st ∧ (cls ≠ .EOF → μ e st' < μ e st)
  | .again st' => st'.pos ≤ e.len ∧ μ e st' < μ e st
  | .attr st' => st'.pos ≤ e.len ∧ st'.eol = st.eol ∧ st.pos < st'.pos

section
variable {e : Env} {f : Nat} {st : St} {p : Nat}

theorem mu_adv {pos : Nat} (h : Fwd e (st.pos + 1) pos) (b : Bool)
    (stk : List Quote) : μ e ⟨pos, b, stk⟩ < μ e st := by
  have := Bool.toNat_le b
  simp only [μ]
  omega

theorem post_adv {pos : Nat} {b : Bool} {stk : List Quote} {cls : Cls}
    (h : Fwd e (st.pos + 1) pos) : StepPost e st (.done ⟨pos, b, stk⟩ cls) :=
  ⟨h.2, Nat.le_of_lt (mu_adv h b stk), fun _ => mu_adv h b stk⟩

/-- a token that clears a pending insertEOL lowers `μ` even when the position stays -/
theorem post_eol {stk : List Quote} {cls : Cls} (h : Fwd e st.pos p) (heol : st.eol = true) :
    StepPost e st (.done ⟨p, false, stk⟩ cls) := by
  simp only [StepPost, μ, heol, Bool.toNat_false, Bool.toNat_true]
  omega

theorem scanNumber_spec {start : Nat} (h : st.pos ≤ start) :
    ResPost (StepPost e st) (scanNumber e st start) := by
  unfold scanNumber
  split
  · exact ite_ind (fun hq => post_adv ⟨by omega, hq.2⟩) fun _ => trivial
  · trivial

theorem strTok_post (q : Quote) {r : Nat × Bool} (h : Fwd e (st.pos + 1) r.1) :
    StepPost e st (strTok st q r) := by
  unfold strTok
  exact ite_ind (fun _ => post_adv h) fun _ => post_adv h

theorem strBind_spec (q : Quote) (h : Fwd e (st.pos + 1) p) (hf : e.len - st.pos + 1 ≤ f) :
    ResPost (StepPost e st) ((scanString e q false f p).bind fun r => .ok (strTok st q r)) :=
  (scanString_total e q false f h (by omega)).post.bind fun _ hr => strTok_post q hr

theorem stringStart_spec (nh : Nat) (c : Int) (h : Fwd e (st.pos + 1) p)
    (hf : e.len - st.pos + 1 ≤ f) : ResPost (StepPost e st) (stringStart e f st nh c p) := by
  have hq := consumeQuotes_fwd e c 2 p 0 h
  have hh := scanHashes_fwd e nh _ 0 hq
  have hb : Fwd e (st.pos + 1) (if nh > 0 then scanHashes e nh (consumeQuotes e c 2 p 0).1 0
      else ((consumeQuotes e c 2 p 0).1, 0)).1 := .ite (fun _ => hh) fun _ => hq
  unfold stringStart
  exact ite_ind (fun _ => strBind_spec _ hq hf) fun _ => ite_ind
    (fun _ => ite_ind (fun _ => post_adv hh) fun _ => strBind_spec _ hh hf)
    fun _ => ite_ind (fun _ => post_adv hb) fun _ => ite_ind (fun _ => strBind_spec _ hb.next hf)
    fun _ => ite_ind
      (fun _ => ite_ind (fun _ => strBind_spec _ hb.next.next hf) fun _ => post_adv hb.next)
      fun _ => post_adv hb

theorem switch2_post (t0 t1 : Cls) (h : Fwd e (st.pos + 1) p) :
    ResPost (StepPost e st) (.ok (switch2 e st p t0 t1)) := by
  unfold switch2
  exact ite_ind (fun _ => post_adv h.next) fun _ => post_adv h

theorem scanUnderscore_spec (h : Fwd e (st.pos + 1) p) (hf : e.len - st.pos + 1 ≤ f) :
    ResPost (StepPost e st) (scanUnderscore e f st p) := by
  unfold scanUnderscore
  refine ite_ind (fun _ => post_adv h.next.next) fun _ =>
    (scanFieldIdentifier_total e f h (by omega)).post.bind fun p2 h2 => ite_ind (fun _ => ?_)
      fun _ => post_adv h2
  have h2' := h2.next
  exact (scanIdentifier_total e f h2' (by omega)).post.bind fun _ h3 => post_adv h3

theorem scanNewline_spec (h : Fwd e (st.pos + 1) p) (hf : e.len - st.pos + 1 ≤ f) :
    ResPost (StepPost e st) (scanNewline e f st p) := by
  unfold scanNewline
  exact (skipWhitespace_total e false f h (by omega)).post.bind fun _ h2 =>
    ite_ind (fun _ => ⟨h2.2, mu_adv h2 _ _⟩) fun _ => post_adv h2

theorem scanHashStr_spec (nh : Nat) (h : Fwd e (st.pos + 1) p) (hf : e.len - st.pos + 1 ≤ f) :
    ResPost (StepPost e st) (scanHashStr e f st nh p) := by
  unfold scanHashStr
  exact (whileCh_total e _ (by decide) f p h (by omega)).post.bind fun _ h2 =>
    ite_ind (fun _ => post_adv h2) fun _ => stringStart_spec _ _ h2.next hf

theorem scanAt_spec (h : Fwd e (st.pos + 1) p) (hf : e.len - st.pos + 1 ≤ f) :
    ResPost (StepPost e st) (scanAt e f st p) := by
  unfold scanAt
  exact (scanIdentifier_total e f h (by omega)).post.bind fun _ h2 => ⟨h2.2, rfl, h2.1⟩

theorem scanDot_spec {offset : Nat} (ho : st.pos ≤ offset) (h : Fwd e (st.pos + 1) p) :
    ResPost (StepPost e st) (scanDot e st offset p) := by
  unfold scanDot
  exact ite_ind (fun _ => scanNumber_spec ho) fun _ => ite_ind
    (fun _ => ite_ind (fun _ => post_adv h.next.next) fun _ => post_adv h.next)
    fun _ => post_adv h

theorem scanSlash_spec {offset : Nat} (ho : Fwd e st.pos offset) (h : Fwd e (st.pos + 1) p)
    (hf : e.len - st.pos + 1 ≤ f) : ResPost (StepPost e st) (scanSlash e f st offset p) := by
  unfold scanSlash
  -- the comment-with-insertEOL reset: the position goes back to the '/', insertEOL is cleared
  exact ite_ind (fun _ => ite_ind (fun heol => post_eol ho heol) fun _ =>
    (scanComment_total e f h (by omega)).post.bind fun _ h2 => post_adv h2) fun _ => post_adv h


theorem tk_adv {b : Bool} {cls : Cls} (h : Fwd e (st.pos + 1) p) :
    ResPost (StepPost e st) (tk st p b cls) := post_adv h

theorem scanDefault_spec {offset : Nat} (nh : Nat) (ho : Fwd e st.pos offset) (hp : Fwd e offset p)
    (hf : e.len - st.pos + 1 ≤ f) :
    ResPost (StepPost e st) (scanDefault e f st offset nh (e.ch p) p) := by
  unfold scanDefault
  refine ite_ind (fun hc => ?_) fun hc => ?_
  · -- EOF: `next` stays in place; only a pending insertEOL is cleared
    have hge : e.len ≤ p := Nat.le_of_not_lt fun hlt => by have := e.ch_nonneg hlt; omega
    have hnx : e.next p = p := if_neg (by omega)
    rw [hnx]
    refine ite_ind (fun heol => ?_) fun _ => ?_
    · exact post_eol (ho.trans hp) heol
    · simp only [tk, ResPost, StepPost, μ, Bool.toNat_false]
      exact ⟨hp.2, by omega, fun h => absurd rfl h⟩
  · rw [e.next_of_lt (e.lt_of_ch hc)]
    have a : Fwd e (st.pos + 1) (p + 1) := ⟨by omega, e.lt_of_ch hc⟩
    -- pushed through every `if` of the cascade, each arm is one of the facts listed: `True`
    simp only [apply_ite (ResPost (StepPost e st)), tk_adv a, tk_adv a.next, switch2_post _ _ a,
      scanUnderscore_spec a hf, scanNewline_spec a hf, scanHashStr_spec nh a hf,
      stringStart_spec nh _ a hf, scanAt_spec a hf, scanDot_spec ho.1 a, scanSlash_spec ho a hf,
      ite_self]

theorem scanStep_spec {offset : Nat} (ho : Fwd e st.pos offset) (hf : e.len - st.pos + 1 ≤ f) :
    ResPost (StepPost e st) (scanStep e f st offset) := by
  unfold scanStep
  refine ite_ind (fun _ => scanNumber_spec ho.1) fun _ => ite_ind (fun hid => ?_)
    fun _ => scanDefault_spec 0 ho (.refl ho.2) hf
  -- the first rune is a letter, '$' or '#': it is not EOF, and the identifier consumes it
  refine (scanFieldIdentifier_adv e f offset (by omega) hid).post.bind fun p1 h1 => ?_
  have a : Fwd e (st.pos + 1) p1 := ⟨by omega, h1.2⟩
  exact ite_ind (fun _ => post_adv a) fun _ => ite_ind (fun _ => post_adv a)
    fun _ => scanDefault_spec 1 ho ⟨by omega, h1.2⟩ hf

end

/-! ## Scan (with scanAttribute / scanAttributeTokens) and the client loop -/

def ScanPost (e : Env) (st : St) (r : St × Nat × Cls) : Prop := StepPost e st (.done r.1 r.2.2)

def AttrPost (e : Env) (st : St) (st' : St) : Prop := st'.pos ≤ e.len ∧ μ e st' ≤ μ e st

theorem popQuote_spec (st : St) :
    ResPost (fun qs : Quote × St => qs.2.pos = st.pos ∧ qs.2.eol = st.eol) (popQuote st) := by
  unfold popQuote
  split
  · exact ⟨rfl, rfl⟩
  · trivial

theorem mu_ge (e : Env) (st : St) : e.len - st.pos ≤ μ e st := by unfold μ; omega

theorem scan_attr_spec (e : Env) : ∀ F : Nat,
    (∀ st : St, st.pos ≤ e.len → μ e st + 2 ≤ F → ResPost (ScanPost e st) (scan e F st)) ∧
    (∀ (close : Close) (st : St), st.pos ≤ e.len → μ e st + 3 ≤ F →
      ResPost (AttrPost e st) (scanAttrTokens e F close st))
  | 0 => ⟨fun _ _ h => absurd h (by omega), fun _ _ _ h => absurd h (by omega)⟩
  | F + 1 => by
    obtain ⟨ihS, ihA⟩ := scan_attr_spec e F
    refine ⟨fun st h0 hF => ?_, fun close st h0 hF => ?_⟩
    · have hm := mu_ge e st
      rw [scan]
      refine (skipWhitespace_total e st.eol F (.refl h0) (by omega)).post.bind fun offset ho =>
        (scanStep_spec ho (by omega)).bind fun step hstep => ?_
      cases step with
      | done st' cls => exact hstep
      | again st' =>
        obtain ⟨hp, hlt⟩ := hstep
        exact (ihS st' hp (by omega)).mono fun r hr =>
          ⟨hr.1, by have := hr.2.1; omega, fun _ => by have := hr.2.1; omega⟩
      | attr st1 =>
        obtain ⟨hp, heol, hlt⟩ := hstep
        have hm1 : μ e st1 + 2 ≤ μ e st := by unfold μ; rw [heol]; omega
        refine (ihS st1 hp (by omega)).bind fun r hr => ?_
        have hattr : ∀ st3 : St, st3.pos ≤ e.len → μ e st3 ≤ μ e r.1 →
            ScanPost e st ({ st3 with eol := true }, offset, Cls.ATTR) := by
          intro st3 h3 h4
          have := hr.2.1
          have : μ e { st3 with eol := true } ≤ μ e st3 + 1 := by
            unfold μ; simp only [Bool.toNat_true]; omega
          have lt : μ e { st3 with eol := true } < μ e st := by omega
          exact ⟨h3, Nat.le_of_lt lt, fun _ => lt⟩
        exact ite_ind
          (fun _ => (ihA .paren r.1 hr.1 (by have := hr.2.1; omega)).bind fun st3 h3 =>
            hattr st3 h3.1 h3.2)
          fun _ => hattr r.1 hr.1 (Nat.le_refl _)
    · have hm := mu_ge e st
      rw [scanAttrTokens]
      refine (ihS st h0 (by omega)).bind fun r ⟨hp, hle, hlt⟩ => ?_
      have loop : ∀ (cl : Close) (st2 : St), st2.pos ≤ e.len → μ e st2 < μ e st →
          ResPost (AttrPost e st) (scanAttrTokens e F cl st2) := fun cl st2 h2 h3 =>
        (ihA cl st2 h2 (by omega)).mono fun a ha => ⟨ha.1, by have := ha.2; omega⟩
      have nested : ∀ (c1 cl : Close), r.2.2 ≠ .EOF →
          ResPost (AttrPost e st)
            ((scanAttrTokens e F c1 r.1).bind fun st2 => scanAttrTokens e F cl st2) :=
        fun c1 cl hne => (ihA c1 r.1 hp (by have := hlt hne; omega)).bind fun st2 h2 =>
          loop cl st2 h2.1 (by have := hlt hne; have := h2.2; omega)
      refine ite_ind (fun _ => ⟨hp, hle⟩) fun _ => ite_ind (fun _ => ⟨hp, hle⟩) fun hne =>
        ite_ind (fun _ => ?_) fun _ => ite_ind (fun _ => nested _ _ hne) fun _ =>
        ite_ind (fun _ => nested _ _ hne) fun _ => ite_ind (fun _ => nested _ _ hne)
        fun _ => loop close r.1 hp (hlt hne)
      -- an interpolation inside the attribute: skip to its closing parenthesis
      refine (popQuote_spec r.1).bind fun qs hqs => ?_
      have := mu_ge e r.1
      have := hlt hne
      refine (recoverParen_total e F 1 qs.2.pos (.refl (hqs.1 ▸ hp)) (by rw [hqs.1]; omega)).post.bind
        fun p h3 => loop close _ h3.2 ?_
      show μ e ⟨p, qs.2.eol, qs.2.stack⟩ < μ e st
      have := h3.1
      simp only [μ, hqs.2] at *
      omega

theorem scan_total (e : Env) (F : Nat) (st : St) (h0 : st.pos ≤ e.len) (hF : μ e st + 2 ≤ F) :
    scan e F st ≠ .fuel :=
  ((scan_attr_spec e F).1 st h0 hF).ne_fuel

/-- covers the comment-with-insertEOL reset, where the position goes back to the '/' after
`s.next()`: same position, insertEOL cleared -/
theorem scan_progress (e : Env) (F : Nat) (st st' : St) (start : Nat) (cls : Cls)
    (h0 : st.pos ≤ e.len) (hF : μ e st + 2 ≤ F) (h : scan e F st = .ok (st', start, cls)) :
    st'.pos ≤ e.len ∧ μ e st' ≤ μ e st ∧ (cls ≠ .EOF → μ e st' < μ e st) :=
  ((scan_attr_spec e F).1 st h0 hF).of_eq_ok h

theorem scan_progress_pos (e : Env) (F : Nat) (st st' : St) (start : Nat) (cls : Cls)
    (h0 : st.pos ≤ e.len) (hF : μ e st + 2 ≤ F) (h : scan e F st = .ok (st', start, cls))
    (hne : cls ≠ .EOF) :
    st.pos < st'.pos ∨ (st'.pos = st.pos ∧ st.eol = true ∧ st'.eol = false) := by
  have h4 := (scan_progress e F st st' start cls h0 hF h).2.2 hne
  unfold μ at h4
  cases hb : st.eol <;> cases hb' : st'.eol <;>
    simp only [hb, hb', Bool.toNat_true, Bool.toNat_false, and_true, and_false, reduceCtorEq] at h4 ⊢ <;>
    omega

theorem scanAttrTokens_total (e : Env) (F : Nat) (close : Close) (st : St) (h0 : st.pos ≤ e.len)
    (hF : μ e st + 3 ≤ F) : scanAttrTokens e F close st ≠ .fuel :=
  ((scan_attr_spec e F).2 close st h0 hF).ne_fuel

theorem resume_spec (e : Env) (f : Nat) (st : St) (h0 : st.pos ≤ e.len)
    (hf : e.len - st.pos + 1 ≤ f) :
    ResPost (fun r : St × Nat × Cls => r.1.pos ≤ e.len ∧ μ e r.1 ≤ μ e st) (resume e f st) := by
  unfold resume
  refine (popQuote_spec st).bind fun qs hqs =>
    (scanString_total e qs.1 true f (.refl (hqs.1 ▸ h0)) (hqs.1 ▸ hf)).post.bind fun r hr => ?_
  have := hr.1
  refine ite_ind (fun _ => ⟨hr.2, ?_⟩) fun _ => ⟨hr.2, ?_⟩ <;> simp only [μ, hqs.2] <;> omega

theorem scanAllLoop_spec (e : Env) : ∀ (F : Nat) (st : St) (depth : List Nat) (acc : Trace),
    st.pos ≤ e.len → μ e st + 3 ≤ F → ResPost (fun _ => True) (scanAllLoop e F st depth acc)
  | 0, _, _, _, _, h => absurd h (by omega)
  | F + 1, st, depth, acc, h0, hF => by
    have hm := mu_ge e st
    rw [scanAllLoop]
    refine ((scan_attr_spec e F).1 st h0 (by omega)).bind fun r ⟨hp, hle, hlt⟩ => ?_
    refine ite_ind (fun _ => trivial) fun hne => ?_
    have hl := hlt hne
    have next : ∀ d a, ResPost (fun _ => True) (scanAllLoop e F r.1 d a) :=
      fun d a => scanAllLoop_spec e F r.1 d a hp (by omega)
    refine ite_ind (fun _ => next _ _) fun _ => ?_
    cases depth with
    | nil => exact next _ _
    | cons d rest =>
      refine ite_ind (fun _ => next _ _) fun _ => ite_ind (fun _ => ite_ind (fun _ => ?_)
        fun _ => next _ _) fun _ => next _ _
      have hm1 := mu_ge e r.1
      exact (resume_spec e F r.1 hp (by omega)).bind fun r2 hr2 =>
        have := hr2.2
        ite_ind (fun _ => scanAllLoop_spec e F r2.1 _ _ hr2.1 (by omega))
          fun _ => scanAllLoop_spec e F r2.1 _ _ hr2.1 (by omega)

theorem initPos_le (e : Env) : initPos e ≤ e.len := by
  unfold initPos
  split
  · exact e.next_le (Nat.zero_le _)
  · exact Nat.zero_le _

/-- the other possible answers: `badOracle` for a number-extent oracle that breaks
`start < end ≤ length`, `panic` for ResumeInterpolation on an empty quote stack -/
theorem scanAll_total (e : Env) : scanAll e ≠ .fuel :=
  (scanAllLoop_spec e (scanAllFuel e) (initSt e) [] [] (initPos_le e) (by
    unfold μ scanAllFuel initSt
    simp only [Bool.toNat_false]
    omega)).ne_fuel

/-! ## non-vacuity (tests on samples, not the property) -/

/-- environment for an ASCII-only sample with a number-extent table -/
def sampleEnv (s : String) (tbl : List (Nat × Nat)) : Env :=
  { src := s.toList.map Char.toNat
    uniLetter := fun _ => false
    uniDigit := fun _ => false
    numEnd := fun p => (tbl.find? fun x => x.1 == p).map (·.2) }

-- `@x("\(` : the attribute swallows the interpolation (recoverParen runs to EOF)
example : scanAll (sampleEnv "@x(\"\\(" []) =
    .ok [(0, 6, .ATTR), (6, 6, .COMMA_ELIDED), (6, 6, .EOF)] := by decide +kernel

-- `a: "x\(b)y" // c` : interpolation, ResumeInterpolation, and the comment-with-insertEOL reset
example : scanAll (sampleEnv "a: \"x\\(b)y\" // c" []) =
    .ok [(0, 1, .IDENT), (1, 2, .COLON), (3, 6, .INTERP), (6, 7, .LPAREN), (7, 8, .IDENT),
      (8, 9, .RPAREN), (9, 11, .RESUME), (12, 12, .COMMA_ELIDED), (12, 16, .COMMENT),
      (16, 16, .EOF)] := by decide +kernel

-- a bad number oracle is reported, not looped on
example : scanAll (sampleEnv "1" [(0, 0)]) = .badOracle := by decide +kernel
example : scanAll (sampleEnv "12 " [(0, 2)]) = .ok [(0, 2, .NUM), (3, 3, .COMMA_ELIDED), (3, 3, .EOF)] := by
  decide +kernel

end CueVerif.ScanLoops
