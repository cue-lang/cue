/-
Scanner and `literal.Unquote` agree on PLAIN single-line string literals (C09): a quote
character, a body of printable ASCII bytes without that quote character and without
backslash, the closing quote character.  Core Lean only.
-/
import CueVerif.Model.Scan
import CueVerif.Proofs.Unquote
namespace CueVerif.Scan
open CueVerif.Quote

/-- printable ASCII without the quote character and without backslash -/
def Plain (q : Nat) (body : Str) : Prop :=
  ∀ b ∈ body, 0x20 ≤ b ∧ b < 0x7F ∧ b ≠ q ∧ b ≠ 0x5C

/-! ### the literal side -/

theorem isSimple_plain (q : Nat) : ∀ body, Plain q body → isSimple q body = true
  | [], _ => by simp [isSimple]
  | b :: rest, h => by
    obtain ⟨hb, ht⟩ := List.forall_mem_cons.mp h
    rw [show b :: rest = [b] ++ rest from rfl, isSimple_unit q (.inl ⟨by omega, rfl⟩),
      isSimple_plain q rest ht]
    simp only [Bool.and_true, Bool.not_eq_true', Bool.or_eq_false_iff, beq_eq_false_iff_ne]
    omega

/-- a plain body is simple, so `Unquote` returns it as it stands (`unquote_single`) -/
theorem unquote_plain (f : Form) (hf : f = stringForm ∨ f = bytesForm) (body : Bytes)
    (h : Plain f.quote body) : unquote (f.quote :: (body ++ [f.quote])) = .ok body := by
  have hq : f.quote = 0x22 ∨ f.quote = 0x27 := by rcases hf with rfl | rfl <;> simp [stringForm, bytesForm]
  have hcr : ∀ b ∈ body, b ≠ 10 ∧ b ≠ 13 := fun b hb => by have := h b hb; omega
  have hh : body.head? ≠ some f.quote := by
    cases body with
    | nil => simp
    | cons b _ => simpa using (h b (by simp)).2.2.1
  exact unquote_single f.quote hq 0 body body (startsTwoQuotes_of_head hh) hcr
    (isSimple_reads f.quote hq body (isSimple_plain _ body h) hcr)

/-! ### the scanner side -/

theorem width_ascii (b : Nat) (t : Str) (h : b < 0x80) : width (b :: t) = 1 := by
  unfold width; rw [decodeRune_ascii b t h]

theorem strLoop_plain_body (q : Nat) : ∀ (body lp tail : Str), Plain q body →
    strLoop ⟨q, 1, 0, none⟩ false lp false false 0 (body ++ tail) =
      strLoop ⟨q, 1, 0, none⟩ false (body.reverse ++ lp) false false 0 tail := by
  intro body
  induction body with
  | nil => intro lp tail _; rfl
  | cons b rest ih =>
    intro lp tail h
    obtain ⟨hb, ht⟩ := List.forall_mem_cons.mp h
    have hb10 : (b == 10) = false := by simp; omega
    have hb13 : (b == 13) = false := by simp; omega
    have hb92 : (b == 92) = false := by simp; exact hb.2.2.2
    have hbq : (q != b) = true := by simp; exact fun e => hb.2.2.1 e.symm
    rw [List.cons_append, strLoop]
    simp only [hb10, Bool.and_false, Bool.false_eq_true, if_false, width_ascii b _ (show b < 0x80 by omega)]
    simp only [strStep, consumeStringClose, hbq, if_true, List.drop_one, List.tail_cons,
      Bool.false_eq_true, if_false, hb13, Bool.false_and, hb10, hb92, Bool.and_false,
      Bool.or_false, bne_iff_ne, ne_eq, Nat.sub_self, Nat.add_zero]
    simpa using ih (b :: lp) tail ht

theorem strLoop_plain (q : Nat) (hq : q = 34 ∨ q = 39) (body lp : Str) (h : Plain q body) :
    strLoop ⟨q, 1, 0, none⟩ false lp false false 0 (body ++ [q]) =
      ⟨.STRING, [], false, false, 0, ⟨q, 1, 0, none⟩⟩ := by
  have hq80 : q < 0x80 := by omega
  have hq10 : (q == 10) = false := by rcases hq with rfl | rfl <;> rfl
  rw [strLoop_plain_body q body lp [q] h]
  unfold strLoop
  simp only [hq10, Bool.and_false, Bool.false_eq_true, if_false, width_ascii q [] hq80]
  simp [strStep, consumeStringClose, closeLoop]

theorem strLoop_plain_open (q : Nat) (body lp : Str) (h : Plain q body) :
    strLoop ⟨q, 1, 0, none⟩ false lp false false 0 body = ⟨.STRING, [], true, false, 0, ⟨q, 1, 0, none⟩⟩ := by
  have := strLoop_plain_body q body lp [] h
  rw [List.append_nil] at this
  rw [this]
  rfl

theorem scanQuoted_plain (q : Nat) (hq : q = 34 ∨ q = 39) (body : Str) (h : Plain q body) :
    scanQuoted 0 q (body ++ [q]) = ⟨.STRING, [], false, false, 0, none⟩ := by
  cases body with
  | nil => simp [scanQuoted, consumeN]
  | cons b rest =>
    have hb := h b (by simp)
    have hbq : (b == q) = false := by simp; exact hb.2.2.1
    unfold scanQuoted
    simp only [List.cons_append, consumeN, hbq, Bool.false_eq_true, if_false]
    have := strLoop_plain q hq (b :: rest) [] h
    simp only [List.cons_append] at this
    simp [this, ofStr]

theorem nextErrs_ascii : ∀ (l : Str), (∀ b ∈ l, 0 < b ∧ b < 0x80) → ∀ first, nextErrs 0 0 first l = false := by
  intro l
  induction l with
  | nil => intro _ first; simp [nextErrs]
  | cons b rest ih =>
    intro h first
    obtain ⟨hb, ht⟩ := List.forall_mem_cons.mp h
    unfold nextErrs
    have hr : runeErr (b :: rest) = false := by
      unfold runeErr
      have : (b == 0) = false := by simp; omega
      simp [this, hb.2]
    simp only [Nat.not_lt_zero, if_false, hr, Bool.and_false, Bool.false_or, width_ascii b rest hb.2,
      Nat.sub_self]
    exact ih ht false

theorem skipWs_quote (q : Nat) (hq : q = 34 ∨ q = 39) (r : Str) : skipWs false (q :: r) = q :: r := by
  rcases hq with rfl | rfl <;> rfl

theorem classify_quote (M : Mode) (U : Uni) (q : Nat) (hq : q = 34 ∨ q = 39) (r : Str) :
    classify M U false (q :: r) = quotedAct (q :: r) 0 q r := by
  rcases hq with rfl | rfl <;> rfl

/-- `Scan` reads a plain literal as ONE error-free STRING token that is the whole input -/
theorem scanTok_plain (M : Mode) (U : Uni) (q : Nat) (hq : q = 34 ∨ q = 39) (body : Str)
    (h : Plain q body) (fuel : Nat) :
    scanTok M U (q :: (body ++ [q])).length (fuel + 1) ⟨q :: (body ++ [q]), false, []⟩ =
      some (⟨.STRING, 0, (q :: (body ++ [q])).length, q :: (body ++ [q]), false⟩,
            ⟨[], if M.dontInsertCommas then false else true, []⟩) := by
  have hcl : classify M U false (q :: (body ++ [q])) =
      .done .STRING (q :: (body ++ [q])) [] true false none := by
    rw [classify_quote M U q hq, quotedAct, scanQuoted_plain q hq body h]
    simp [between]
    exact List.take_of_length_le (by simp)
  have hq' : 0 < q ∧ q < 0x80 := by omega
  have hne : nextErrs 0 0 true (q :: (body ++ [q])) = false :=
    nextErrs_ascii _ (List.forall_mem_cons.mpr ⟨hq', List.forall_mem_append.mpr
      ⟨fun b hb => by have := h b hb; omega, List.forall_mem_singleton.mpr hq'⟩⟩) true
  unfold scanTok
  simp only [skipWs_quote q hq, hcl, List.length_nil, Nat.sub_self, Nat.sub_zero, hne, Bool.or_false]

/-! ### unterminated plain literals are rejected by both -/

/-- `Scan` on an unterminated plain literal: a STRING token WITH an error -/
theorem scanTok_plain_open (M : Mode) (U : Uni) (q : Nat) (hq : q = 34 ∨ q = 39) (b : Nat) (rest : Str)
    (h : Plain q (b :: rest)) (fuel : Nat) :
    ∃ t st', scanTok M U (q :: b :: rest).length (fuel + 1) ⟨q :: b :: rest, false, []⟩ = some (t, st') ∧
      t.kind = .STRING ∧ t.err = true := by
  have hbq : (b == q) = false := by simp; exact (h b (by simp)).2.2.1
  have hsq : scanQuoted 0 q (b :: rest) = ⟨.STRING, [], true, false, 0, none⟩ := by
    unfold scanQuoted
    simp only [consumeN, hbq, Bool.false_eq_true, if_false]
    simp [strLoop_plain_open q (b :: rest) [] h, ofStr]
  unfold scanTok
  simp only [skipWs_quote q hq, classify_quote M U q hq, quotedAct, hsq]
  exact ⟨_, _, rfl, rfl, by simp⟩

/-- `literal.Unquote` on an unterminated plain literal: "unmatched quote" -/
theorem unquote_plain_open (q : Nat) (hq : q = 34 ∨ q = 39) (body : Bytes) (hne : body ≠ [])
    (h : Plain q body) : unquote (q :: body) = .error .unmatchedQuote := by
  obtain ⟨init, last, rfl⟩ : ∃ init last, body = init ++ [last] :=
    ⟨body.dropLast, body.getLast hne, (List.dropLast_concat_getLast hne).symm⟩
  have hl := h last (by simp)
  have hlq : (q == last) = false := by simp; exact fun e => hl.2.2.1 e.symm
  have hhr : hashRun (q :: (init ++ [last])) = 0 := by
    unfold hashRun
    rcases hq with rfl | rfl <;> rfl
  unfold unquote parseQuotes
  simp only [hhr, List.drop_zero]
  have hc : (q != 0x22 && q != 0x27) = false := by rcases hq with rfl | rfl <;> rfl
  have hm : ((q :: (init ++ [last]))[1]? == some q) = false := by
    cases init with
    | nil => simpa using hl.2.2.1
    | cons a t => simpa using (h a (by simp)).2.2.1
  simp only [hc, Bool.false_eq_true, if_false, hm, Bool.and_false, Bool.false_and]
  simp [hlq, List.isPrefixOf]

/-! ### the known divergence: a lone surrogate escape -/

/-- `"\ud800"`: `literal.Unquote` rejects it … -/
theorem unquote_lone_surrogate : ∀ v, unquote [34, 92, 117, 100, 56, 48, 48, 34] ≠ .ok v := by
  intro v
  have hp := parseQuotes_single 34 (.inl rfl) [92, 117, 100, 56, 48, 48] (by simp)
  -- the body holds a backslash, so the shortcut for simple bodies is not taken; the main loop
  -- evaluates to the surrogate error
  have hl : unquoteLoop { char := 34, numHash := 0, multiline := false, whitespace := [] } 8
      [92, 117, 100, 56, 48, 48, 34] [] false false = .error .surrogate := rfl
  unfold unquote
  rw [show [34, 92, 117, 100, 56, 48, 48, 34] = 34 :: ([92, 117, 100, 56, 48, 48] ++ [34]) from rfl, hp]
  show QuoteInfo.unquote _ [92, 117, 100, 56, 48, 48, 34] ≠ _
  unfold QuoteInfo.unquote
  simp only [List.dropLast, isSimple_backslash, Bool.and_false, Bool.false_and, Bool.false_eq_true, if_false]
  rw [if_neg (by decide)]
  exact fun h => nomatch hl ▸ h

/-- … while the scanner reads it as one error-free STRING token -/
theorem scanTok_lone_surrogate :
    scanTok ⟨false, false⟩ ⟨fun _ => false, fun _ => false⟩ 8 20 ⟨[34, 92, 117, 100, 56, 48, 48, 34], false, []⟩ =
      some (⟨.STRING, 0, 8, [34, 92, 117, 100, 56, 48, 48, 34], false⟩, ⟨[], true, []⟩) := by rfl

end CueVerif.Scan
