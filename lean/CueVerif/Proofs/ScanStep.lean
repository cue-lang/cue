/-
The token switch of `Scan` (C09), specified once: every exit is at a position after the token start
(EOF and the pending automatic comma aside), and every token has a real kind together with the
`insertEOL` that kind asks for.  Core Lean only.
-/
import CueVerif.Proofs.ScanLen
namespace CueVerif.Scan
open CueVerif.Quote

/-- the two pseudo tokens that are not produced by `Scan` -/
def isMarker : Kind → Bool
  | .FUEL | .PANIC => true
  | _ => false

/-- a kind the token switch may emit, with the `insertEOL` it asks for: ILLEGAL tokens keep the
previous value, or set it for `__#…` -/
def KindOk (k : Kind) (ins : Bool) : Prop :=
  isMarker k = false ∧ (k ≠ .ILLEGAL → ins = insertsComma k)

instance (k : Kind) (ins : Bool) : Decidable (KindOk k ins) := by unfold KindOk; infer_instance

theorem StrTok.kindOk {n : Nat} {k : Kind} {rest : Str} (h : StrTok n k rest) : KindOk k true := by
  rcases h.2 with rfl | rfl <;> decide

theorem kindOfNum_kind (k : NumLit.Kind) : KindOk (kindOfNum k) true := by
  cases k <;> decide

theorem lookup_kind (l : Str) : KindOk (lookup l) true := by
  unfold lookup; split <;> decide

/-- the kinds after which the code sets `insertEOL` are the list of doc/ref/spec.md §Commas plus
SEMICOLON and ATTRIBUTE -/
theorem insertsComma_spec (k : Kind) (h1 : k ≠ .SEMICOLON) (h2 : k ≠ .ATTRIBUTE) :
    insertsComma k = specComma k := by
  cases k <;> first | rfl | exact absurd rfl h1 | exact absurd rfl h2

def OptReal : Option (Kind × Nat) → Prop
  | some p => isMarker p.1 = false
  | none => True

theorem op2_real {rest : Str} {c2 : Nat} {k1 k2 : Kind} (h1 : isMarker k1 = false)
    (h2 : isMarker k2 = false) : OptReal (some (op2 rest c2 k1 k2)) := by
  unfold op2
  repeat' split
  all_goals assumption

theorem operator_real (b : Nat) (rest : Str) : OptReal (operator b rest) := by
  unfold operator
  iterate 14 refine ite_ind (fun _ => rfl) fun _ => ?_
  refine ite_ind (fun _ => ?_) fun _ => ?_
  · split
    · rfl
    · exact op2_real rfl rfl
  refine ite_ind (fun _ => op2_real rfl rfl) fun _ => ?_
  iterate 2
    refine ite_ind (fun _ => ?_) fun _ => ?_
    · split
      · rfl
      · exact op2_real rfl rfl
  refine ite_ind (fun _ => op2_real rfl rfl) fun _ => ?_
  exact ite_ind (fun _ => op2_real rfl rfl) fun _ => trivial

/-- What the token switch guarantees of each exit at `cur` (`ins` = `insertEOL` on entry): a token
has a real kind with the `insertEOL` that kind asks for; and every exit is at a position strictly
after `cur`, except EOF and the automatic comma emitted without consuming (which needs `ins`). -/
def ActSpec (ins : Bool) (cur : Str) : Act → Prop
  | .done k _ rest i _ _ =>
    KindOk k i ∧ ((k = .EOF ∧ cur = [] ∧ rest = [] ∧ i = false) ∨ rest.length < cur.length)
  | .autoComma rest => rest.length < cur.length ∨ (rest = cur ∧ ins = true)
  | .again start => start.length < cur.length
  | .attr c1 => c1.length < cur.length

section
variable {ins : Bool} {b : Nat} {t : Str}

/-- a token that ends at or after the byte following the token start; its kind is checked by
evaluation unless it is computed (number, keyword lookup, string) -/
theorem ActSpec.tok {k : Kind} {l rest : Str} {i e : Bool} {p : Option QI}
    (h : rest.length ≤ t.length) (hk : KindOk k i := by decide) :
    ActSpec ins (b :: t) (.done k l rest i e p) :=
  ⟨hk, .inr (Nat.lt_succ_of_le h)⟩

theorem ActSpec.comma {rest : Str} (h : rest.length ≤ t.length) : ActSpec ins (b :: t) (.autoComma rest) :=
  .inl (Nat.lt_succ_of_le h)

theorem ActSpec.comma_same {cur : Str} (h : ins = true) : ActSpec ins cur (.autoComma cur) :=
  .inr ⟨rfl, h⟩

theorem scanFieldIdent_le_tail (U : Uni) (b : Nat) (rest : Str)
    (h : (isLetterAt U (b :: rest) || b == 36 || b == 35) = true) :
    (scanFieldIdent U (b :: rest)).length ≤ rest.length := by
  unfold scanFieldIdent
  split
  · rename_i r heq
    injection heq with h1 h2
    subst h2
    split
    · exact Nat.le_refl _
    · exact identLoop_len U _ 0
  · rename_i hne
    have hb : b ≠ 35 := by
      intro e; subst e; exact hne rest rfl
    apply identLoop_le_tail
    unfold identPartAt
    simp only [Bool.or_eq_true, beq_iff_eq] at h ⊢
    rcases h with (h | h) | h
    · exact Or.inl (Or.inl h)
    · exact Or.inr (Or.inr h)
    · exact absurd h hb

theorem quotedAct_spec {nh ch : Nat} {after : Str} (h : after.length ≤ t.length) :
    ActSpec ins (b :: t) (quotedAct (b :: t) nh ch after) :=
  have s := scanQuoted_ok nh ch after
  .tok (Nat.le_trans s.1 h) s.kindOk

theorem hashString_spec {l r2 : Str} (h : r2.length ≤ t.length) :
    ActSpec ins (b :: t) (hashString (b :: t) l r2) := by
  unfold hashString
  have hc := Nat.le_trans (consumeN_len 35 r2.length r2) h
  dsimp only
  split
  · rename_i c r3 heq
    split
    · rw [heq] at hc
      exact quotedAct_spec (Nat.le_of_succ_le hc)
    · exact .tok hc
  · exact .tok hc

theorem classIdent_spec (U : Uni) (h : (isLetterAt U (b :: t) || b == 36 || b == 35) = true) :
    ActSpec ins (b :: t) (classIdent U (b :: t) b) := by
  have hr := scanFieldIdent_le_tail U b t h
  unfold classIdent
  dsimp only
  split
  · exact .tok hr (lookup_kind _)
  · split
    · exact .tok hr
    · split
      · rename_i r2 heq
        rw [heq] at hr
        exact hashString_spec (Nat.le_of_succ_le hr)
      · rename_i c r2 _ heq
        rw [heq] at hr
        exact quotedAct_spec (Nat.le_of_succ_le hr)
      · exact .tok hr

theorem classUnderscore_spec (U : Uni) : ActSpec ins (b :: t) (classUnderscore U (b :: t) t) := by
  unfold classUnderscore
  split
  · exact .tok (Nat.le_succ_of_le (Nat.le_succ _))
  · have hr := scanFieldIdent_len U t
    dsimp only
    split
    · refine .tok (Nat.le_trans (identLoop_len U _ 0) ?_)
      rw [List.length_drop]
      exact Nat.le_trans (Nat.sub_le _ _) hr
    · exact .tok hr

theorem classNewline_spec : ActSpec ins (b :: t) (classNewline t) := by
  unfold classNewline
  have := skipWs_len false t
  dsimp only
  split
  · exact Nat.lt_succ_of_le this
  · exact .comma this

theorem classDot_spec : ActSpec ins (b :: t) (classDot (b :: t) t) := by
  unfold classDot
  split
  · exact .tok (Nat.le_succ_of_le (Nat.le_succ _))
  · exact .tok (Nat.le_succ _)
  · split
    · exact .tok (sScanNumber_true_len t) (kindOfNum_kind _)
    · exact .tok (Nat.le_refl _)

theorem classSlash_spec (M : Mode) : ActSpec ins (b :: t) (classSlash M ins (b :: t) t) := by
  unfold classSlash
  split
  · rename_i r
    have := Nat.le_succ_of_le (skipLine_len r)
    split
    · rename_i h; exact .comma_same h
    · dsimp only
      split
      · exact Nat.lt_succ_of_le this
      · exact .tok this
  · exact .tok (Nat.le_refl _)

theorem classOther_spec : ActSpec ins (b :: t) (classOther ins (b :: t) b t) := by
  unfold classOther
  split
  · rename_i k x heq
    have h := operator_real b t
    rw [heq] at h
    exact .tok (List.length_drop ▸ Nat.sub_le _ _) ⟨h, fun _ => rfl⟩
  · exact .tok (drop_width_le_tail b t) ⟨rfl, fun h => absurd rfl h⟩

end

theorem classify_cons_cases {P : Act → Prop} (M : Mode) (U : Uni) (ins : Bool) (b : Nat) (rest : Str)
    (num : (48 ≤ b && b ≤ 57) = true →
      let r := NumLit.sScanNumber false (b :: rest)
      P (.done (kindOfNum r.1) (litOf (b :: rest) r.2.1) r.2.1 true r.2.2 none))
    (ident : (isLetterAt U (b :: rest) || b == 36 || b == 35) = true → P (classIdent U (b :: rest) b))
    (underscore : P (classUnderscore U (b :: rest) rest))
    (newline : P (classNewline rest))
    (quoted : P (quotedAct (b :: rest) 0 b rest))
    (attr : P (.attr (identLoop U 0 rest)))
    (dot : P (classDot (b :: rest) rest))
    (slash : P (classSlash M ins (b :: rest) rest))
    (other : P (classOther ins (b :: rest) b rest)) :
    P (classify M U ins (b :: rest)) :=
  ite_ind num fun _ => ite_ind ident fun _ => ite_ind (fun _ => underscore) fun _ =>
    ite_ind (fun _ => newline) fun _ => ite_ind (fun _ => quoted) fun _ => ite_ind (fun _ => attr) fun _ =>
    ite_ind (fun _ => dot) fun _ => ite_ind (fun _ => slash) fun _ => other

theorem classify_spec (M : Mode) (U : Uni) (ins : Bool) (cur : Str) : ActSpec ins cur (classify M U ins cur) := by
  cases cur with
  | nil =>
    unfold classify
    dsimp only
    split
    · rename_i h; exact .comma_same h
    · exact ⟨by decide, .inl ⟨rfl, rfl, rfl, rfl⟩⟩
  | cons b rest =>
    apply classify_cons_cases
    · exact fun h => .tok (sScanNumber_false_le_tail b rest h) (kindOfNum_kind _)
    · exact classIdent_spec U
    · exact classUnderscore_spec U
    · exact classNewline_spec
    · exact quotedAct_spec (Nat.le_refl _)
    · exact Nat.lt_succ_of_le (identLoop_len U rest 0)
    · exact classDot_spec
    · exact classSlash_spec M
    · exact classOther_spec

end CueVerif.Scan
