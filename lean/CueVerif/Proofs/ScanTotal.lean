/-
`Scan` (C09) as a total function.  Specified once and without reference to the fuel: whenever a call
returns, it returned a `GoodStep` (offsets ordered, `mu` strictly smaller unless EOF) with a real token
and the `insertEOL` its kind asks for (`scanTok_spec`); with fuel above the measure `mu` every call
returns (`scanTok_total`); and the client loop `scanLoop` exhausts neither the per-call fuel
2·|remaining|+3 nor the loop fuel 3·len+4 (`scan_no_fuel`).  Core Lean only.
-/
import CueVerif.Proofs.ScanStep
namespace CueVerif.Scan

theorem mu_bounds (st : St) : 2 * st.cur.length ≤ mu st ∧ mu st ≤ 2 * st.cur.length + 1 := by
  unfold mu; split <;> omega

theorem mu_false (st : St) (h : st.insertEOL = false) : mu st = 2 * st.cur.length := by
  unfold mu; simp [h]

theorem mu_true (st : St) (h : st.insertEOL = true) : mu st = 2 * st.cur.length + 1 := by
  unfold mu; simp [h]

theorem mu_mono {s t : St} (hlen : s.cur.length ≤ t.cur.length)
    (hins : s.insertEOL = true → t.insertEOL = true) : mu s ≤ mu t := by
  unfold mu
  split
  · rw [if_pos (hins ‹_›)]; omega
  · split <;> omega

theorem mu_mk_le (c : Str) (i : Bool) (s : List QI) : mu ⟨c, i, s⟩ ≤ 2 * c.length + 1 := (mu_bounds ⟨c, i, s⟩).2
theorem mu_mk_ge (c : Str) (i : Bool) (s : List QI) : 2 * c.length ≤ mu ⟨c, i, s⟩ := (mu_bounds ⟨c, i, s⟩).1

theorem goodStep_consumed {n : Nat} {st st' : St} {t : Tok} {c : Str} (hc : c.length ≤ st.cur.length)
    (hlt : st'.cur.length < c.length) (hoff : t.off = n - c.length) (hfin : t.fin = n - st'.cur.length) :
    GoodStep n st t st' := by
  have := mu_bounds st
  have := mu_bounds st'
  exact ⟨by omega, by omega, by omega, hfin, by omega, Or.inr (by omega)⟩

section
variable {n : Nat} {st st' : St} {t : Tok}

theorem GoodStep.len_le (h : GoodStep n st t st') : st'.cur.length ≤ st.cur.length := h.1

theorem GoodStep.mu_le (h : GoodStep n st t st') : mu st' ≤ mu st := h.2.2.2.2.1

theorem GoodStep.progress (h : GoodStep n st t st') : t.kind = .EOF ∨ mu st' < mu st := h.2.2.2.2.2

end

/-- what a call of `Scan` that returned `t` and left the scanner in `st'` guarantees -/
structure TokSpec (M : Mode) (n : Nat) (st : St) (t : Tok) (st' : St) : Prop where
  good : GoodStep n st t st'
  real : isMarker t.kind = false
  comma : M.dontInsertCommas = false → t.kind ≠ .ILLEGAL → st'.insertEOL = insertsComma t.kind

/-- the attribute loop over a `scan` that only returns good steps does not raise `mu` -/
theorem attrTokens_mu {n : Nat} {scan : St → Option (Tok × St)}
    (hg : ∀ st t st', scan st = some (t, st') → GoodStep n st t st') :
    ∀ f close st e st' e', attrTokens scan f close st e = some (st', e') → mu st' ≤ mu st := by
  intro f
  induction f with
  | zero => intro close st e st' e' h; cases h
  | succ f ih =>
    intro close st e st' e' h
    unfold attrTokens at h
    split at h
    · cases h
    · rename_i t st1 hscan
      have h1 := (hg _ _ _ hscan).mu_le
      dsimp only at h
      split at h
      · cases h; exact h1
      split at h
      · cases h; exact h1
      split at h
      · exact Nat.le_trans (ih _ _ _ _ _ h) (Nat.le_trans (mu_mono (recoverParen_len st1.cur 1) id) h1)
      split at h
      · split at h
        · cases h
        · rename_i st2 e2 h2
          exact Nat.le_trans (ih _ _ _ _ _ h) (Nat.le_trans (ih _ _ _ _ _ h2) h1)
      · exact Nat.le_trans (ih _ _ _ _ _ h) h1

theorem scanTok_spec (M : Mode) (U : Uni) (n : Nat) :
    ∀ fuel st t st', scanTok M U n fuel st = some (t, st') → TokSpec M n st t st' := by
  intro fuel
  induction fuel with
  | zero => intro st t st' h; cases h
  | succ fuel ih =>
    intro st t st' h
    have hws := skipWs_len st.insertEOL st.cur
    have hc := classify_spec M U st.insertEOL (skipWs st.insertEOL st.cur)
    have bst := mu_bounds st
    unfold scanTok at h
    dsimp only at h
    generalize classify M U st.insertEOL (skipWs st.insertEOL st.cur) = act at hc h
    generalize skipWs st.insertEOL st.cur = c at hws hc h
    -- the exit of an attribute: position `r` reached through nested calls from `c1`
    have attr : ∀ {c1 r : Str} {e : Bool} {stack : List QI}, c1.length < c.length → r.length ≤ c1.length →
        TokSpec M n st ⟨.ATTRIBUTE, n - c.length, n - r.length, between c r.length, e⟩
          ⟨r, if M.dontInsertCommas then st.insertEOL else true, stack⟩ := fun h1 h2 =>
      ⟨goodStep_consumed hws (Nat.lt_of_le_of_lt h2 h1) rfl rfl, rfl, fun hM _ => by dsimp only; rw [hM]; rfl⟩
    cases act with
    | done k l rest ins e push =>
      cases h
      refine ⟨?_, hc.1.1, fun hM => by dsimp only; rw [hM]; exact hc.1.2⟩
      rcases hc.2 with ⟨hk, hcur, hrest, hins⟩ | hlt
      · -- EOF: nothing is left, `insertEOL` is not set
        subst hk hcur hrest hins
        refine ⟨Nat.zero_le _, Nat.sub_le _ _, Nat.le_refl _, rfl, mu_mono (Nat.zero_le _) ?_, Or.inl rfl⟩
        dsimp only
        split
        · exact id
        · exact fun h => absurd h Bool.false_ne_true
      · exact goodStep_consumed hws hlt rfl rfl
    | autoComma rest =>
      cases h
      refine ⟨?_, rfl, fun _ _ => rfl⟩
      rcases hc with hlt | ⟨heq, hins⟩
      · exact goodStep_consumed hws hlt rfl rfl
      · -- the pending comma, emitted without consuming
        subst heq
        have hm : mu { st with cur := rest, insertEOL := false } = 2 * rest.length := mu_false _ rfl
        have := mu_true st hins
        exact ⟨hws, by dsimp only; omega, Nat.le_refl _, rfl, by omega, Or.inr (by omega)⟩
    | again start =>
      have hc' : start.length < c.length := hc
      dsimp only at h
      split at h
      · cases h
      · rename_i t0 s0 heq
        cases h
        obtain ⟨⟨g1, g2, g3, g4, g5, g6⟩, hr, hk⟩ := ih _ _ _ heq
        have hm : mu { st with cur := start, insertEOL := false } = 2 * start.length := mu_false _ rfl
        dsimp only at g1 g2
        exact ⟨⟨by omega, by dsimp only; omega, g3, g4, by omega, Or.inr (by omega)⟩, hr, hk⟩
    | attr c1 =>
      have hc' : c1.length < c.length := hc
      dsimp only at h
      split at h
      · cases h
      · rename_i t1 st1 heq
        have h1 : st1.cur.length ≤ c1.length := (ih _ _ _ heq).good.len_le
        split at h
        · split at h
          · cases h
          · rename_i st2 e2 hat
            cases h
            have := attrTokens_mu (fun a b c h => (ih a b c h).good) _ _ _ _ _ _ hat
            have := mu_bounds st1
            have := mu_bounds st2
            exact attr hc' (by omega)
        · cases h
          exact attr hc' h1

/-! ### totality -/

theorem attrTokens_some {n F : Nat} {scan : St → Option (Tok × St)}
    (hs : ∀ st, mu st < F → ∃ r, scan st = some r)
    (hg : ∀ st t st', scan st = some (t, st') → GoodStep n st t st') :
    ∀ f close st e, mu st < f → f ≤ F → ∃ r, attrTokens scan f close st e = some r := by
  intro f
  induction f with
  | zero => intro close st e h; omega
  | succ f ih =>
    intro close st e hmu hF
    obtain ⟨⟨t, st1⟩, hscan⟩ := hs st (by omega)
    have hle := (hg _ _ _ hscan).mu_le
    have hprog := (hg _ _ _ hscan).progress
    unfold attrTokens
    simp only [hscan]
    by_cases h1 : (t.kind == close) = true
    · rw [if_pos h1]; exact ⟨_, rfl⟩
    rw [if_neg h1]
    by_cases h2 : (t.kind == Kind.EOF) = true
    · rw [if_pos h2]; exact ⟨_, rfl⟩
    rw [if_neg h2]
    have hlt : mu st1 < mu st := hprog.resolve_left fun h => h2 (by rw [h]; rfl)
    by_cases h3 : (t.kind == Kind.INTERPOLATION) = true
    · rw [if_pos h3]
      exact ih _ _ _ (by have := mu_mono (s := { st1 with stack := st1.stack.dropLast, cur := recoverParen 1 st1.cur })
                          (t := st1) (recoverParen_len st1.cur 1) id; omega) (by omega)
    rw [if_neg h3]
    split
    · rename_i c _
      obtain ⟨⟨st2, e2⟩, h1'⟩ := ih c st1 (e || t.err) (by omega) (by omega)
      have := attrTokens_mu hg _ _ _ _ _ _ h1'
      simp only [h1']
      exact ih _ _ _ (by omega) (by omega)
    · exact ih _ _ _ (by omega) (by omega)

theorem scanTok_total (M : Mode) (U : Uni) (n : Nat) :
    ∀ fuel st, mu st < fuel → ∃ r, scanTok M U n fuel st = some r := by
  intro fuel
  induction fuel with
  | zero => intro st h; omega
  | succ fuel ih =>
    intro st hmu
    have hws := skipWs_len st.insertEOL st.cur
    have hc := classify_spec M U st.insertEOL (skipWs st.insertEOL st.cur)
    have bst := mu_bounds st
    unfold scanTok
    dsimp only
    generalize classify M U st.insertEOL (skipWs st.insertEOL st.cur) = act at hc
    generalize skipWs st.insertEOL st.cur = c at hws hc
    cases act with
    | done k l rest ins e push => exact ⟨_, rfl⟩
    | autoComma rest => exact ⟨_, rfl⟩
    | again start =>
      have hc' : start.length < c.length := hc
      have hm : mu { st with cur := start, insertEOL := false } = 2 * start.length := mu_false _ rfl
      obtain ⟨r, hr⟩ := ih { st with cur := start, insertEOL := false } (by omega)
      simp only [hr]
      exact ⟨_, rfl⟩
    | attr c1 =>
      have hc' : c1.length < c.length := hc
      have b1 := mu_mk_le c1 st.insertEOL st.stack
      obtain ⟨⟨t, st1⟩, hr⟩ := ih { st with cur := c1 } (by omega)
      have hg := (scanTok_spec M U n _ _ _ _ hr).good
      simp only [hr]
      split
      · obtain ⟨⟨st2, e2⟩, hat⟩ := attrTokens_some ih
          (fun a b c h => (scanTok_spec M U n _ a b c h).good) fuel .RPAREN st1 t.err
          (by have := hg.mu_le; omega) (Nat.le_refl _)
        simp only [hat]
        exact ⟨_, rfl⟩
      · exact ⟨_, rfl⟩

theorem scanTok_ok (M : Mode) (U : Uni) (n fuel : Nat) (st : St) (h : mu st < fuel) :
    ∃ t st', scanTok M U n fuel st = some (t, st') ∧ GoodStep n st t st' :=
  have ⟨(t, st'), hr⟩ := scanTok_total M U n fuel st h
  ⟨t, st', hr, (scanTok_spec M U n _ _ _ _ hr).good⟩

/-! ### the client loop -/

theorem resume_spec (n : Nat) (st : St) (t : Tok) (st' : St) (h : resume n st = some (t, st')) :
    isMarker t.kind = false ∧ mu st' ≤ mu st := by
  unfold resume at h
  split at h
  · exact absurd h (by simp)
  · rename_i q _
    dsimp only at h
    injection h with h
    injection h with h1 h2
    subst h1 h2
    have := strLoop_ok st.cur q false [] false false 0
    exact ⟨this.kindOk.1, mu_mono this.1 id⟩

def NoFuel (l : List Tok) : Prop := ∀ t ∈ l, t.kind ≠ .FUEL

theorem NoFuel.cons {t : Tok} {l : List Tok} (ht : t.kind ≠ .FUEL) (hl : NoFuel l) : NoFuel (t :: l) :=
  List.forall_mem_cons.mpr ⟨ht, hl⟩

theorem NoFuel.nil : NoFuel [] := fun _ h => nomatch h

theorem ne_fuel_of_real {k : Kind} (h : isMarker k = false) : k ≠ .FUEL :=
  fun e => by rw [e] at h; cases h

theorem scanLoop_no_fuel (M : Mode) (U : Uni) (n : Nat) :
    ∀ fuel st ds, mu st < fuel → NoFuel (scanLoop M U n fuel st ds) := by
  intro fuel
  induction fuel with
  | zero => intro st ds h; omega
  | succ fuel ih =>
    intro st ds hmu
    obtain ⟨⟨t, st1⟩, hscan⟩ := scanTok_total M U n (2 * st.cur.length + 3) st
      (by have := (mu_bounds st).2; omega)
    have sp := scanTok_spec M U n _ _ _ _ hscan
    have hne := ne_fuel_of_real sp.real
    unfold scanLoop
    simp only [hscan]
    refine ite_ind (fun _ => .cons hne .nil) fun heof => ?_
    have hlt : mu st1 < fuel := by
      have := sp.good.progress.resolve_left fun h => heof (by rw [h]; rfl)
      omega
    have next : ∀ ds', NoFuel (t :: scanLoop M U n fuel st1 ds') := fun ds' => .cons hne (ih st1 ds' hlt)
    cases ds with
    | nil => exact next _
    | cons d ds' =>
      refine ite_ind (fun _ => next _) fun _ => ite_ind (fun _ => next _) fun _ =>
        ite_ind (fun _ => ite_ind (fun _ => ?_) fun _ => next _) fun _ => next _
      -- the `)` that closes an interpolation: the string is resumed
      split
      · exact .cons hne (.cons (by decide) .nil)
      · rename_i t2 st2 hres
        obtain ⟨hr1, hr2⟩ := resume_spec n st1 t2 st2 hres
        exact .cons hne (.cons (ne_fuel_of_real hr1) (ih st2 _ (by omega)))

theorem init_len (src : Str) : (init src).1.cur.length ≤ src.length := by
  unfold init
  dsimp only
  split <;> simp

theorem scan_no_fuel (M : Mode) (U : Uni) (src : Str) : NoFuel (scan M U src).1 := by
  unfold scan
  dsimp only
  apply scanLoop_no_fuel
  have := init_len src
  have := (mu_bounds (init src).1).2
  omega

end CueVerif.Scan
