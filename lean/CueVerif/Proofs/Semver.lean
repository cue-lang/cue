/-
Proofs for the version-comparison half of C14: the model of Go's `semver.Compare`
(`compare'`) agrees with SemVer 2.0.0 precedence (`specCmp`) on valid versions and is a
total preorder on all strings.  Core Lean only.
-/
import CueVerif.Spec.Semver
namespace CueVerif.Semver
open Std

/-! ### order laws of the specification -/

instance : OrientedCmp Ident.cmp where
  eq_swap {a b} := by
    cases a <;> cases b <;> simp only [Ident.cmp, Ordering.swap_lt, Ordering.swap_gt]
    · exact OrientedCmp.eq_swap
    · exact OrientedCmp.eq_swap (cmp := List.compareLex compare)

instance : TransCmp Ident.cmp where
  isLE_trans {a b c} hab hbc :=
    match a, b, c, hab, hbc with
    | .num _, .num _, .num _, hab, hbc => TransCmp.isLE_trans (cmp := compare) hab hbc
    | .alnum _, .alnum _, .alnum _, hab, hbc =>
      TransCmp.isLE_trans (cmp := List.compareLex compare) hab hbc
    | .num _, _, .alnum _, _, _ => rfl
    | .alnum _, .num _, _, hab, _ => nomatch hab
    | _, .alnum _, .num _, _, hbc => nomatch hbc

instance : LawfulEqCmp Ident.cmp where
  compare_self {a} := ReflCmp.compare_self
  eq_of_compare {a b} h := by
    cases a <;> cases b <;> simp only [Ident.cmp] at h
    · exact congrArg _ (LawfulEqCmp.eq_of_compare h)
    · cases h
    · cases h
    · exact congrArg _ (LawfulEqCmp.eq_of_compare (cmp := List.compareLex compare) h)

theorem preCmp_cons_cons (a b : Ident) (as bs : List Ident) :
    preCmp (a :: as) (b :: bs) = List.compareLex Ident.cmp (a :: as) (b :: bs) := rfl

theorem preCmp_of_ne_nil {a b : List Ident} (ha : a ≠ []) (hb : b ≠ []) :
    preCmp a b = List.compareLex Ident.cmp a b := by
  cases a with
  | nil => exact absurd rfl ha
  | cons x xs => cases b with
    | nil => exact absurd rfl hb
    | cons y ys => rfl

/-- a release (no identifiers) above every pre-release, then identifier by identifier -/
theorem preCmp_eq_lex : preCmp =
    compareLex (compareOn fun l : List Ident => l.isEmpty) (List.compareLex Ident.cmp) := by
  funext a b
  cases a <;> cases b <;> rfl

instance : OrientedCmp preCmp := by
  rw [preCmp_eq_lex]; infer_instance

instance : TransCmp preCmp := by
  rw [preCmp_eq_lex]; infer_instance

instance : LawfulEqCmp preCmp where
  compare_self {a} := ReflCmp.compare_self
  eq_of_compare {a b} h := by
    cases a <;> cases b <;> simp only [preCmp] at h
    · rfl
    · cases h
    · cases h
    · exact LawfulEqCmp.eq_of_compare (cmp := List.compareLex Ident.cmp) h

/-- comparison of the pre-release components of two structured versions -/
def preOn (v w : SV) : Ordering := preCmp v.pre w.pre

instance : OrientedCmp preOn where
  eq_swap := OrientedCmp.eq_swap (cmp := preCmp)

instance : TransCmp preOn where
  isLE_trans := TransCmp.isLE_trans (cmp := preCmp)

theorem specCmp_eq_lex : specCmp =
    compareLex (compareOn SV.maj) (compareLex (compareOn SV.min)
      (compareLex (compareOn SV.pat) preOn)) := rfl

instance : TransCmp specCmp := by
  rw [specCmp_eq_lex]; infer_instance

instance : LawfulEqCmp specCmp where
  compare_self {a} := ReflCmp.compare_self
  eq_of_compare {a b} h := by
    simp only [specCmp, Ordering.then_eq_eq, Nat.compare_eq_eq] at h
    obtain ⟨h1, h2, h3, h4⟩ := h
    have h5 := LawfulEqCmp.eq_of_compare h4
    cases a; cases b; simp_all

/-! ### bytewise comparison -/

theorem lexCmp_eq (x y : Str) : lexCmp x y = List.compareLex compare x y := by
  induction x generalizing y with
  | nil => cases y <;> rfl
  | cons a as ih =>
    cases y with
    | nil => rfl
    | cons b bs => simp only [lexCmp, List.compareLex_cons_cons, ih]

theorem lexCmp_eq_eq {x y : Str} : lexCmp x y = .eq ↔ x = y := by
  rw [lexCmp_eq]; exact LawfulEqCmp.compare_eq_iff_eq

/-! ### digit strings -/

theorem isDigit_iff {c : Nat} : isDigit c = true ↔ 48 ≤ c ∧ c ≤ 57 := by
  simp [isDigit]

theorem foldl_ge (x : Str) (p : Nat) :
    p ≤ x.foldl (fun acc c => acc * 10 + (c - 48)) p := by
  induction x generalizing p with
  | nil => exact Nat.le_refl _
  | cons a as ih =>
    simp only [List.foldl_cons]
    have := ih (p * 10 + (a - 48))
    omega

/-- a comparison decided by a first key `a`, `b` and, on a tie, by `o` -/
theorem compare_eq_then {a b c d : Nat} {o : Ordering} (hlt : a < b → c < d)
    (hgt : b < a → d < c) (heq : a = b → compare c d = o) :
    compare c d = (compare a b).then o := by
  rcases Nat.lt_trichotomy a b with h | h | h
  · rw [Nat.compare_eq_lt.mpr h, Nat.compare_eq_lt.mpr (hlt h)]; rfl
  · rw [Nat.compare_eq_eq.mpr h, heq h]; rfl
  · rw [Nat.compare_eq_gt.mpr h, Nat.compare_eq_gt.mpr (hgt h)]; rfl

theorem cmp_step (p q a b : Nat) (ha : 48 ≤ a ∧ a ≤ 57) (hb : 48 ≤ b ∧ b ≤ 57) :
    compare (p * 10 + (a - 48)) (q * 10 + (b - 48)) = (compare p q).then (compare a b) := by
  refine compare_eq_then (by omega) (by omega) fun h => ?_
  subst h
  rw [← Ordering.then_eq (o := compare a b)]
  exact compare_eq_then (by omega) (by omega) fun h => Nat.compare_eq_eq.mpr (by omega)

/-- equal-length digit strings: numeric order with carried-in accumulators is the
accumulator order, then the bytewise order -/
theorem foldl_cmp_same (x y : Str) (p q : Nat)
    (hx : x.all isDigit = true) (hy : y.all isDigit = true) (hl : x.length = y.length) :
    compare (x.foldl (fun acc c => acc * 10 + (c - 48)) p)
        (y.foldl (fun acc c => acc * 10 + (c - 48)) q)
      = (compare p q).then (lexCmp x y) := by
  induction x generalizing y p q with
  | nil =>
    cases y with
    | nil => simp [lexCmp]
    | cons b bs => simp at hl
  | cons a as ih =>
    cases y with
    | nil => simp at hl
    | cons b bs =>
      simp only [List.all_cons, Bool.and_eq_true] at hx hy
      simp only [List.length_cons, Nat.add_right_cancel_iff] at hl
      simp only [List.foldl_cons, lexCmp]
      rw [ih bs _ _ hx.2 hy.2 hl, cmp_step p q a b (isDigit_iff.mp hx.1) (isDigit_iff.mp hy.1),
        Ordering.then_assoc]

/-- a digit string that is not longer, started from a smaller accumulator, stays smaller -/
theorem foldl_lt_of_shorter (y x : Str) (p q : Nat)
    (hx : x.all isDigit = true) (hl : x.length ≤ y.length) (hpq : p < q) :
    x.foldl (fun acc c => acc * 10 + (c - 48)) p
      < y.foldl (fun acc c => acc * 10 + (c - 48)) q := by
  induction y generalizing x p q with
  | nil =>
    cases x with
    | nil => simpa using hpq
    | cons a as => simp at hl
  | cons b bs ih =>
    cases x with
    | nil =>
      have := foldl_ge (b :: bs) q
      simp only [List.foldl_nil]
      omega
    | cons a as =>
      simp only [List.all_cons, Bool.and_eq_true] at hx
      simp only [List.length_cons, Nat.add_le_add_iff_right] at hl
      simp only [List.foldl_cons]
      have ha := isDigit_iff.mp hx.1
      exact ih as _ _ hx.2 hl (by omega)

/-- a `GoodNum` is numerically below every longer `GoodNum` -/
theorem digitsVal_lt_of_length_lt {x y : Str} (hx : GoodNum x) (hy : GoodNum y)
    (hl : x.length < y.length) : digitsVal x < digitsVal y := by
  obtain ⟨hxne, hxall, _⟩ := hx
  obtain ⟨_, hyall, hyhead⟩ := hy
  cases y with
  | nil => simp at hl
  | cons b bs =>
    simp only [List.all_cons, Bool.and_eq_true] at hyall
    have hb := isDigit_iff.mp hyall.1
    have hb48 : b ≠ 48 := by
      intro h
      subst h
      have := hyhead rfl
      simp only [List.length_cons] at this hl
      have : x.length = 0 := by omega
      exact hxne (List.length_eq_zero_iff.mp this)
    simp only [List.length_cons] at hl
    simp only [digitsVal, List.foldl_cons]
    exact foldl_lt_of_shorter bs x 0 _ hxall (by omega) (by omega)

theorem compareInt_eq (x y : Str) (hx : GoodNum x) (hy : GoodNum y) :
    compareInt x y = compare (digitsVal x) (digitsVal y) := by
  refine (compare_eq_then (digitsVal_lt_of_length_lt hx hy) (digitsVal_lt_of_length_lt hy hx)
    fun h => ?_).symm
  simpa [digitsVal] using foldl_cmp_same x y 0 0 hx.2.1 hy.2.1 h

theorem compareInt_eq_eq {x y : Str} : compareInt x y = .eq → x = y := by
  intro h
  simp only [compareInt, Ordering.then_eq_eq] at h
  exact lexCmp_eq_eq.mp h.2

/-! ### `splitDot` -/

theorem splitDot_ne_nil (x : Str) : splitDot x ≠ [] := by
  cases x with
  | nil => simp [splitDot]
  | cons c cs =>
    unfold splitDot
    split
    · simp
    · split <;> simp

/-- inverse of `splitDot` -/
def joinDot : List Str → Str
  | [] => []
  | [a] => a
  | a :: b :: r => a ++ 46 :: joinDot (b :: r)

theorem joinDot_cons_cons (c : Nat) (h : Str) (t : List Str) :
    joinDot ((c :: h) :: t) = c :: joinDot (h :: t) := by
  cases t <;> simp [joinDot]

theorem joinDot_splitDot (x : Str) : joinDot (splitDot x) = x := by
  induction x with
  | nil => simp [splitDot, joinDot]
  | cons c cs ih =>
    unfold splitDot
    split
    · rename_i hc
      have hc : c = 46 := by simpa using hc
      cases hs : splitDot cs with
      | nil => exact absurd hs (splitDot_ne_nil cs)
      | cons h t =>
        rw [hs] at ih
        simp [joinDot, ih, hc]
    · split
      · rename_i hs
        exact absurd hs (splitDot_ne_nil cs)
      · rename_i h t hs
        rw [hs] at ih
        rw [joinDot_cons_cons, ih]

theorem splitDot_inj {x y : Str} (h : splitDot x = splitDot y) : x = y := by
  rw [← joinDot_splitDot x, ← joinDot_splitDot y, h]

/-! ### what `parse` returns -/

/-- a pre-release identifier accepted by `parsePrerelease` -/
def GoodId (s : Str) : Prop := s ≠ [] ∧ isBadNum s = false

/-- a pre-release field as returned by `parse`: empty, or '-' followed by dot-separated
good identifiers -/
def GoodPre (pre : Str) : Prop :=
  pre = [] ∨ ∃ body, pre = 45 :: body ∧ ∀ id ∈ splitDot body, GoodId id

theorem parseInt_good {v n r : Str} (h : parseInt v = some (n, r)) : GoodNum n := by
  unfold parseInt at h
  cases v with
  | nil => simp at h
  | cons c rest =>
    simp only at h
    split at h
    · simp at h
    · rename_i hc
      split at h
      · simp at h
      · rename_i hz
        simp only [Option.some.injEq, Prod.mk.injEq] at h
        obtain ⟨rfl, -⟩ := h
        have hc : isDigit c = true := by simpa using hc
        refine ⟨by simp, ?_, ?_⟩
        · simp only [List.all_cons, hc, Bool.true_and]
          exact List.all_takeWhile
        · intro h48
          simp only [List.head?_cons, Option.some.injEq] at h48
          subst h48
          simp only [BEq.rfl, Bool.true_and, Bool.not_eq_true'] at hz
          simp only [List.length_cons]
          have : (List.takeWhile isDigit rest) = [] := by simpa using hz
          simp [this]

theorem parsePrerelease_good {v pre r : Str} (h : parsePrerelease v = some (pre, r)) :
    ∃ body, pre = 45 :: body ∧ ∀ id ∈ splitDot body, GoodId id := by
  unfold parsePrerelease at h
  cases v with
  | nil => simp at h
  | cons c rest =>
    simp only at h
    split at h
    · simp at h
    · rename_i hc
      have hc : c = 45 := by simpa using hc
      split at h
      · simp at h
      · split at h
        · simp at h
        · rename_i hany
          simp only [Option.some.injEq, Prod.mk.injEq] at h
          obtain ⟨rfl, -⟩ := h
          refine ⟨_, by rw [hc], ?_⟩
          intro id hid
          simp only [List.any_eq_true, not_exists, not_and, Bool.or_eq_true, not_or,
            Bool.not_eq_true] at hany
          have := hany id hid
          exact ⟨by simpa using this.1, this.2⟩

theorem parseTail_good {maj min pat v : Str} {p : Parsed} (h : parseTail maj min pat v = some p) :
    p.major = maj ∧ p.minor = min ∧ p.patch = pat ∧ GoodPre p.prerelease := by
  unfold parseTail at h
  simp only at h
  split at h
  · simp at h
  · rename_i pre v1 hpre
    split at h
    · simp at h
    · rename_i bld v2 hbld
      split at h
      · simp only [Option.some.injEq] at h
        subst h
        refine ⟨rfl, rfl, rfl, ?_⟩
        split at hpre
        · exact Or.inr (parsePrerelease_good hpre)
        · simp only [Option.some.injEq, Prod.mk.injEq] at hpre
          exact Or.inl hpre.1.symm
      · simp at h

theorem goodNum_zero : GoodNum [48] := by
  refine ⟨by simp, by decide, fun _ => rfl⟩

theorem parse_good {v : Str} {p : Parsed} (h : parse v = some p) :
    GoodNum p.major ∧ GoodNum p.minor ∧ GoodNum p.patch ∧ GoodPre p.prerelease := by
  unfold parse at h
  split at h
  · split at h
    · simp at h
    · rename_i maj v1 hmaj
      have gmaj := parseInt_good hmaj
      split at h
      · simp only [Option.some.injEq] at h
        subst h
        exact ⟨gmaj, goodNum_zero, goodNum_zero, Or.inl rfl⟩
      · split at h
        · simp at h
        · rename_i min v2 hmin
          have gmin := parseInt_good hmin
          split at h
          · simp only [Option.some.injEq] at h
            subst h
            exact ⟨gmaj, gmin, goodNum_zero, Or.inl rfl⟩
          · split at h
            · simp at h
            · rename_i pat v3 hpat
              have gpat := parseInt_good hpat
              obtain ⟨h1, h2, h3, h4⟩ := parseTail_good h
              rw [h1, h2, h3]
              exact ⟨gmaj, gmin, gpat, h4⟩
          · simp at h
      · simp at h
  · simp at h

/-! ### pre-release comparison -/

theorem goodNum_of_goodId {s : Str} (h : GoodId s) (hn : isNum s = true) : GoodNum s := by
  obtain ⟨hne, hbad⟩ := h
  refine ⟨hne, hn, ?_⟩
  intro h48
  simp only [isBadNum, isNum] at hbad hn
  simp only [hn, h48, Bool.true_and, BEq.rfl, Bool.and_true, decide_eq_false_iff_not,
    Nat.not_lt] at hbad
  have : s.length ≠ 0 := fun h => hne (List.length_eq_zero_iff.mp h)
  omega

theorem cmpIdentDiff_eq {dx dy : Str} (hx : GoodId dx) (hy : GoodId dy) (hne : dx ≠ dy) :
    cmpIdentDiff dx dy = Ident.cmp (toIdent dx) (toIdent dy) ∧ cmpIdentDiff dx dy ≠ .eq := by
  unfold cmpIdentDiff toIdent
  cases h1 : isNum dx <;> cases h2 : isNum dy <;> simp only [Ident.cmp]
  · simp only [bne_self_eq_false, Bool.false_eq_true, ↓reduceIte]
    refine ⟨lexCmp_eq dx dy, ?_⟩
    intro h; exact hne (lexCmp_eq_eq.mp h)
  · simp
  · simp
  · simp only [bne_self_eq_false, Bool.false_eq_true, ↓reduceIte]
    have := compareInt_eq dx dy (goodNum_of_goodId hx h1) (goodNum_of_goodId hy h2)
    unfold compareInt at this
    refine ⟨this, ?_⟩
    intro h; exact hne (compareInt_eq_eq h)

theorem cmpIdents_eq (xs ys : List Str) (hx : ∀ id ∈ xs, GoodId id) (hy : ∀ id ∈ ys, GoodId id)
    (hne : xs ≠ ys) :
    cmpIdents xs ys = List.compareLex Ident.cmp (xs.map toIdent) (ys.map toIdent) := by
  induction xs generalizing ys with
  | nil =>
    cases ys with
    | nil => exact absurd rfl hne
    | cons dy ys => rfl
  | cons dx xs ih =>
    cases ys with
    | nil => rfl
    | cons dy ys =>
      simp only [cmpIdents, List.map_cons, List.compareLex_cons_cons]
      have gx := hx dx (List.mem_cons_self)
      have gy := hy dy (List.mem_cons_self)
      by_cases hd : dx = dy
      · subst hd
        have hne' : xs ≠ ys := fun h => hne (by rw [h])
        simp only [bne_self_eq_false, Bool.false_eq_true, ↓reduceIte]
        rw [ReflCmp.compare_self (cmp := Ident.cmp), Ordering.eq_then]
        exact ih ys (fun id h => hx id (List.mem_cons_of_mem _ h))
          (fun id h => hy id (List.mem_cons_of_mem _ h)) hne'
      · obtain ⟨h1, h2⟩ := cmpIdentDiff_eq gx gy hd
        have hb : (dx != dy) = true := by simpa using hd
        simp only [hb, ↓reduceIte]
        rw [← h1]
        cases h : cmpIdentDiff dx dy
        · rfl
        · exact absurd h h2
        · rfl

/-- the pre-release identifier list denoted by a pre-release field -/
def preOf (p : Str) : List Ident :=
  if p.isEmpty then [] else (splitDot p.tail).map toIdent

theorem comparePrerelease_eq {x y : Str} (hx : GoodPre x) (hy : GoodPre y) :
    comparePrerelease x y = preCmp (preOf x) (preOf y) := by
  have hmap : ∀ b : Str, (splitDot b).map toIdent ≠ [] := by
    intro b h
    exact splitDot_ne_nil b (List.map_eq_nil_iff.mp h)
  rcases hx with rfl | ⟨bx, rfl, gx⟩ <;> rcases hy with rfl | ⟨by', rfl, gy⟩
  · rfl
  · obtain ⟨a, as, h⟩ := List.exists_cons_of_ne_nil (hmap by')
    simp [comparePrerelease, preOf, h, preCmp]
  · obtain ⟨a, as, h⟩ := List.exists_cons_of_ne_nil (hmap bx)
    simp [comparePrerelease, preOf, h, preCmp]
  · simp only [comparePrerelease, preOf, List.isEmpty_cons, List.tail_cons, Bool.false_eq_true,
      ↓reduceIte]
    by_cases hb : bx = by'
    · subst hb
      simp only [BEq.rfl, ↓reduceIte]
      exact (ReflCmp.compare_self (cmp := preCmp)).symm
    · have hb' : ((45 :: bx) == (45 :: by')) = false := by simpa using hb
      simp only [hb', Bool.false_eq_true, ↓reduceIte]
      rw [preCmp_of_ne_nil (hmap bx) (hmap by')]
      exact cmpIdents_eq _ _ gx gy (fun h => hb (splitDot_inj h))

/-! ### `Compare` against the specification -/

theorem compare'_eq_spec (v w : Str) (pv pw : Parsed)
    (hv : parse v = some pv) (hw : parse w = some pw) :
    compare' v w = specCmp (structure' pv) (structure' pw) := by
  obtain ⟨v1, v2, v3, v4⟩ := parse_good hv
  obtain ⟨w1, w2, w3, w4⟩ := parse_good hw
  simp only [compare', hv, hw]
  rw [compareInt_eq _ _ v1 w1, compareInt_eq _ _ v2 w2, compareInt_eq _ _ v3 w3,
    comparePrerelease_eq v4 w4]
  rfl

theorem compare'_invalid (v w : Str) :
    (parse v = none → parse w = none → compare' v w = .eq) ∧
    (parse v = none → (parse w).isSome → compare' v w = .lt) ∧
    ((parse v).isSome → parse w = none → compare' v w = .gt) := by
  refine ⟨?_, ?_, ?_⟩
  · intro hv hw; simp only [compare', hv, hw]
  · intro hv hw
    obtain ⟨pw, hw⟩ := Option.isSome_iff_exists.mp hw
    simp only [compare', hv, hw]
  · intro hv hw
    obtain ⟨pv, hv⟩ := Option.isSome_iff_exists.mp hv
    simp only [compare', hv, hw]

section
/- `Compare` is the order of `Option SV` with `none` (an invalid string) below every
version: the order laws of `compare'` are those of `specCmp` lifted by core's `Option`
instances. -/
local instance : Ord SV := ⟨specCmp⟩
local instance : TransOrd SV := inferInstanceAs (TransCmp specCmp)

theorem compare'_eq_compare (v w : Str) :
    compare' v w = compare ((parse v).map structure') ((parse w).map structure') := by
  cases hv : parse v <;> cases hw : parse w
  case some.some => exact compare'_eq_spec v w _ _ hv hw
  all_goals simp only [compare', hv, hw]; rfl

theorem compare'_refl (v : Str) : compare' v v = .eq := by
  rw [compare'_eq_compare]
  exact ReflCmp.compare_self

theorem compare'_swap (v w : Str) : compare' w v = (compare' v w).swap := by
  rw [compare'_eq_compare, compare'_eq_compare]
  exact OrientedCmp.eq_swap

theorem compare'_trans (u v w : Str)
    (h1 : (compare' u v).isLE) (h2 : (compare' v w).isLE) : (compare' u w).isLE := by
  rw [compare'_eq_compare] at h1 h2 ⊢
  exact TransCmp.isLE_trans h1 h2

end

theorem compare'_eq_iff (v w : Str) (pv pw : Parsed)
    (hv : parse v = some pv) (hw : parse w = some pw) :
    compare' v w = .eq ↔ structure' pv = structure' pw := by
  rw [compare'_eq_spec v w pv pw hv hw]
  exact LawfulEqCmp.compare_eq_iff_eq

end CueVerif.Semver
