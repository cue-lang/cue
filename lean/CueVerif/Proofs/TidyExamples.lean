/-
C17 — sample universes on which the hypotheses of the general theorems are met.

TESTS, not the property: `Example` is a universe and its reversal for `tidy_order_indep`
(TidyOrder); `FixExample` a universe with one missing requirement, for the notions of TidyMvs and
TidyLoad and for the fixpoint test of TidyFix.
Core Lean only.
-/
import CueVerif.Proofs.TidyOrder
import CueVerif.Proofs.TidyMvs
import CueVerif.Proofs.TidyFix
namespace CueVerif.Tidy

/-! ## the hypotheses of `tidy_order_indep` -/

namespace Example

def main : Mod :=
  { mp := ⟨[1, 2], 0⟩, rank := 0
    deps := [⟨⟨[1, 3], 0⟩, 3, true⟩, ⟨⟨[1, 4], 1⟩, 5, false⟩]
    pkgs := [⟨[1, 2], [⟨[1, 3, 6], none⟩, ⟨[1, 4, 7], some 1⟩]⟩,
             ⟨[1, 2, 5], [⟨[0, 9], none⟩, ⟨[1, 2], none⟩]⟩] }

/-- `main` with every list reversed -/
def main' : Mod :=
  { mp := ⟨[1, 2], 0⟩, rank := 0
    deps := [⟨⟨[1, 4], 1⟩, 5, false⟩, ⟨⟨[1, 3], 0⟩, 3, true⟩]
    pkgs := [⟨[1, 2, 5], [⟨[1, 2], none⟩, ⟨[0, 9], none⟩]⟩,
             ⟨[1, 2], [⟨[1, 4, 7], some 1⟩, ⟨[1, 3, 6], none⟩]⟩] }

def modA : Mod :=
  { mp := ⟨[1, 3], 0⟩, rank := 3
    deps := [⟨⟨[1, 4], 1⟩, 5, false⟩, ⟨⟨[1, 5], 0⟩, 3, false⟩]
    pkgs := [⟨[1, 3], [⟨[0, 9], none⟩, ⟨[0, 7], none⟩]⟩,
             ⟨[1, 3, 6], [⟨[1, 4, 7], none⟩, ⟨[0, 8], none⟩]⟩] }

def modA' : Mod :=
  { mp := ⟨[1, 3], 0⟩, rank := 3
    deps := [⟨⟨[1, 5], 0⟩, 3, false⟩, ⟨⟨[1, 4], 1⟩, 5, false⟩]
    pkgs := [⟨[1, 3, 6], [⟨[0, 8], none⟩, ⟨[1, 4, 7], none⟩]⟩,
             ⟨[1, 3], [⟨[0, 7], none⟩, ⟨[0, 9], none⟩]⟩] }

def modB : Mod :=
  { mp := ⟨[1, 4], 1⟩, rank := 5
    deps := []
    pkgs := [⟨[1, 4, 7], [⟨[0, 9], none⟩, ⟨[0, 8], none⟩]⟩,
             ⟨[1, 4], [⟨[0, 7], none⟩, ⟨[0, 9], none⟩]⟩] }

def modB' : Mod :=
  { mp := ⟨[1, 4], 1⟩, rank := 5
    deps := []
    pkgs := [⟨[1, 4], [⟨[0, 9], none⟩, ⟨[0, 7], none⟩]⟩,
             ⟨[1, 4, 7], [⟨[0, 8], none⟩, ⟨[0, 9], none⟩]⟩] }

theorem main_perm : ModPerm main main' :=
  ⟨rfl, rfl, List.Perm.swap _ _ _,
    [⟨[1, 2], [⟨[1, 4, 7], some 1⟩, ⟨[1, 3, 6], none⟩]⟩,
     ⟨[1, 2, 5], [⟨[1, 2], none⟩, ⟨[0, 9], none⟩]⟩],
    .cons ⟨rfl, List.Perm.swap _ _ _⟩ (.cons ⟨rfl, List.Perm.swap _ _ _⟩ .nil),
    List.Perm.swap _ _ _⟩

theorem modA_perm : ModPerm modA modA' :=
  ⟨rfl, rfl, List.Perm.swap _ _ _,
    [⟨[1, 3], [⟨[0, 7], none⟩, ⟨[0, 9], none⟩]⟩,
     ⟨[1, 3, 6], [⟨[0, 8], none⟩, ⟨[1, 4, 7], none⟩]⟩],
    .cons ⟨rfl, List.Perm.swap _ _ _⟩ (.cons ⟨rfl, List.Perm.swap _ _ _⟩ .nil),
    List.Perm.swap _ _ _⟩

theorem modB_perm : ModPerm modB modB' :=
  ⟨rfl, rfl, List.Perm.nil,
    [⟨[1, 4, 7], [⟨[0, 8], none⟩, ⟨[0, 9], none⟩]⟩,
     ⟨[1, 4], [⟨[0, 9], none⟩, ⟨[0, 7], none⟩]⟩],
    .cons ⟨rfl, List.Perm.swap _ _ _⟩ (.cons ⟨rfl, List.Perm.swap _ _ _⟩ .nil),
    List.Perm.swap _ _ _⟩

theorem main_small : Mod.small main := ⟨⟨by decide, by decide⟩, by decide⟩
theorem modA_small : Mod.small modA := ⟨⟨by decide, by decide⟩, by decide⟩
theorem modB_small : Mod.small modB := ⟨⟨by decide, by decide⟩, by decide⟩

/-- the hypotheses of `tidy_order_indep` are satisfiable by a universe and its reversal -/
example :
    tidy main' (regOf [modB', modA']) 40 = tidy main (regOf [modA, modB]) 40 ∧
      checkTidy main' (regOf [modB', modA']) 40 = checkTidy main (regOf [modA, modB]) 40 :=
  tidy_order_indep main main' [modA, modB] [modB', modA'] 40 main_perm main_small.paths
    ⟨[modA', modB'], .cons modA_perm (.cons modB_perm .nil), List.Perm.swap _ _ _⟩
    (by
      intro m hm
      rcases List.mem_cons.1 hm with h | h
      · exact h ▸ modA_small
      · rcases List.mem_cons.1 h with h | h
        · exact h ▸ modB_small
        · cases h)
    (by decide)

/-- ... and on it the common value is not an error (the file is tidy) -/
example : checkTidy main (regOf [modA, modB]) 40 = .ok := by decide +kernel

example : (match tidy main' (regOf [modB', modA']) 40 with
    | .ok d => d == main.deps
    | .error _ => false) = true := by decide +kernel

end Example

/-! ## selection, load and fixpoint test on a small universe -/

namespace FixExample

def main0 : Mod := ⟨⟨[8,5],0⟩, 0, [], [⟨[8,5,10], [⟨[8,1,10], none⟩]⟩]⟩
def mods : List Mod := [⟨⟨[8,1],0⟩, 3, [], [⟨[8,1,10], []⟩]⟩]
def dep1 : Dep := ⟨⟨[8,1],0⟩, 3, true⟩
/-- the same module with the tidied module file -/
def main1 : Mod := { main0 with deps := [dep1] }

example : maxRank [2, 5, 3] = 5 := by decide
example : specSel (regOf mods) [(⟨[8,1],0⟩, 3)] ⟨[8,1],0⟩ = 3 := by decide
example : PReach (regOf mods) [(⟨[8,1],0⟩, 3)] (⟨[8,1],0⟩, 3) := .root (by decide)
example : (graphSel (regOf mods) [(⟨[8,1],0⟩, 3)]).isSome = true := by decide
example : (graphSel (regOf mods) [(⟨[8,2],0⟩, 3)]).isSome = false := by decide
example : Mvs.Reach (mvsGraph (regOf mods) [(⟨[8,1],0⟩, 3)] encMP) [(0, 0)] (encMP ⟨[8,1],0⟩, 3) :=
  ((preach_iff_mvs_reach_enc _ _ _ _).1 (.root (by decide))).1

example : tidyRoots [(⟨[8,1,10], none⟩, .ok (.ext ⟨[8,1],0⟩ 3) [] false)] = [(⟨[8,1],0⟩, 3)] := by
  decide
example : loadOne (normMod main0) (regOf mods) (initReqs (normMod main1)) ⟨[8,1,10], none⟩ =
    .ok (.ext ⟨[8,1],0⟩ 3) [] false := by decide

/-- `tidy` adds the missing requirement … -/
example : tidy main0 (regOf mods) 50 = .ok [dep1] := by rfl
/-- … CheckTidy rejects the untidy file and accepts the tidied one … -/
example : checkTidy main0 (regOf mods) 50 = .nottidy := by decide
example : checkTidy main1 (regOf mods) 50 = .ok := by decide
/-- … on which `tidy` is a no-op (instance of `check_ok_tidy_noop`) -/
example : tidy main1 (regOf mods) 50 = .ok [dep1] := by rfl

end FixExample

end CueVerif.Tidy
