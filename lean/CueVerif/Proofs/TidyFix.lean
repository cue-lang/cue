/-
C17 — CheckTidy is a fixpoint test (model: `CueVerif.Model.Tidy`).

When `checkTidy` accepts a module file, `tidy` succeeds on it and returns the entries of the file
as read: the load finds nothing missing (`resolveLoop_noop`, TidyLoad), `keepImpliedDefaults`
changes nothing because the tidy roots are the file's roots, and `depsOf` rebuilds every entry,
its `default` flag included (`wfMain_flags_norm`); two sorted lists with the same members are equal
(TidySort).
Core Lean only.
-/
import CueVerif.Proofs.TidyLoad
namespace CueVerif.Tidy

/-! ## 1. what an accepting check has established -/

theorem checkTidy_ok_inv (main : Mod) (reg : Reg) (fuel : Nat) (h : checkTidy main reg fuel = .ok) :
    wfMain main = true ∧ ∃ pkgs g,
      loadAll (normMod main) reg (initReqs (normMod main)) fuel (rootKeys (normMod main)) [] = some pkgs ∧
      pkgs.find? (fun p => p.2.isErr) = none ∧
      graphSel reg (tidyRoots pkgs) = some g ∧
      sameRoots (tidyRoots pkgs) (initReqs (normMod main)).roots = true := by
  unfold checkTidy at h
  split at h
  · cases h
  · rename_i hwf
    simp only at h
    split at h
    · cases h
    · rename_i pkgs hload
      split at h
      · cases h
      · cases h
      · rename_i hfind
        split at h
        · cases h
        · rename_i g hg
          split at h
          · rename_i hsame
            exact ⟨by simpa using hwf, pkgs, g, hload, hfind, hg, hsame⟩
          · cases h

theorem sameRoots_iff (a b : List (MPath × Nat)) :
    sameRoots a b = true ↔ ∀ x, x ∈ a ↔ x ∈ b := by
  simp only [sameRoots, Bool.and_eq_true, List.all_eq_true, List.contains_iff_mem]
  constructor
  · rintro ⟨h1, h2⟩ x; exact ⟨h1 x, h2 x⟩
  · intro h; exact ⟨fun x hx => (h x).1 hx, fun x hx => (h x).2 hx⟩

/-! ## 2. `keepImpliedDefaults` changes nothing when the tidy roots are the load roots -/

/-- one step of `keepImpliedDefaults` -/
def kidStep (rs : Reqs) (troots : List (MPath × Nat)) (d : List (Path × Nat)) (p : Imp × PkgRes) :
    List (Path × Nat) :=
  match p.1.major, p.2 with
  | none, .ok (.ext mp _) _ _ =>
    match rs.defaultMajor mp.base with
    | .nonexplicit m =>
      if (Reqs.defaultMajor { roots := troots, dflts := d } mp.base) = .ambiguous then setDflt d mp.base m
      else d
    | _ => d
  | _, _ => d

theorem keepImpliedDefaults_eq (rs : Reqs) (pkgs : List (Imp × PkgRes)) :
    keepImpliedDefaults rs pkgs = pkgs.foldl (kidStep rs (tidyRoots pkgs)) rs.dflts := rfl

theorem nodup_all_eq (l : List (MPath × Nat)) (r : MPath × Nat) (hn : l.Nodup) (h : ∀ x ∈ l, x = r) :
    l = [] ∨ l = [r] := by
  match l, hn, h with
  | [], _, _ => exact Or.inl rfl
  | [a], _, h => right; rw [h a (by simp)]
  | a :: b :: t, hn, h =>
    exfalso
    have ha := h a (by simp)
    have hb := h b (by simp)
    rw [List.nodup_cons] at hn
    exact hn.1 (by rw [ha, ← hb]; simp)

/-- if a base path has an implied default in `rs` (exactly one root of that base path), a root
list drawn from `rs.roots` with one entry per module path cannot make it ambiguous -/
theorem defaultMajor_not_ambiguous (rs : Reqs) (troots : List (MPath × Nat)) (d : List (Path × Nat))
    (b : Path) (m : Nat) (hsub : ∀ x ∈ troots, x ∈ rs.roots) (hnd : (troots.map (·.1)).Nodup)
    (h : rs.defaultMajor b = .nonexplicit m) :
    Reqs.defaultMajor { roots := troots, dflts := d } b ≠ .ambiguous := by
  unfold Reqs.defaultMajor at h ⊢
  cases hl : lookupD rs.dflts b with
  | some x => rw [hl] at h; cases h
  | none =>
    rw [hl] at h
    simp only at h
    cases hf : rs.roots.filter (fun r => r.1.base == b) with
    | nil => rw [hf] at h; cases h
    | cons r t =>
      cases t with
      | cons r2 t2 => rw [hf] at h; cases h
      | nil =>
        cases hd : lookupD d b with
        | some x => simp
        | none =>
          simp only
          have hnod : (troots.filter (fun r => r.1.base == b)).Nodup :=
            List.Nodup.sublist List.filter_sublist
              (List.Pairwise.of_map (·.1) (fun _ _ hab e => hab (congrArg _ e)) hnd)
          have hall : ∀ x ∈ troots.filter (fun r => r.1.base == b), x = r := by
            intro x hx
            have hx' := List.mem_filter.1 hx
            have : x ∈ rs.roots.filter (fun r => r.1.base == b) := List.mem_filter.2 ⟨hsub x hx'.1, hx'.2⟩
            rw [hf] at this
            simpa using this
          rcases nodup_all_eq _ r hnod hall with h0 | h1
          · rw [h0]; simp
          · rw [h1]; simp

theorem kidStep_noop (rs : Reqs) (troots : List (MPath × Nat)) (p : Imp × PkgRes)
    (hsub : ∀ x ∈ troots, x ∈ rs.roots) (hnd : (troots.map (·.1)).Nodup) :
    kidStep rs troots rs.dflts p = rs.dflts := by
  unfold kidStep
  split
  · split
    · rename_i m hm
      rw [if_neg (defaultMajor_not_ambiguous rs troots rs.dflts _ m hsub hnd hm)]
    · rfl
  · rfl

theorem keepImpliedDefaults_noop (rs : Reqs) (pkgs : List (Imp × PkgRes))
    (hsub : ∀ x ∈ tidyRoots pkgs, x ∈ rs.roots) : keepImpliedDefaults rs pkgs = rs.dflts :=
  foldl_fixed _ _ _ fun p _ => kidStep_noop rs _ p hsub (tidyRoots_spec pkgs).1

/-! ## 3. the `default` flags of a well-formed file are the ones `tidy` writes -/

/-- in a table with one entry per key, `lookupD` finds exactly the entries -/
theorem lookupD_iff {L : List (Path × Nat)} (hfun : ∀ e ∈ L, ∀ e' ∈ L, e.1 = e'.1 → e = e')
    (b : Path) (j : Nat) : lookupD L b = some j ↔ (b, j) ∈ L := by
  unfold lookupD
  constructor
  · intro h
    obtain ⟨e, hf, rfl⟩ := Option.map_eq_some_iff.1 h
    obtain rfl : e.1 = b := by simpa using List.find?_some hf
    exact List.mem_of_find?_eq_some hf
  · intro h
    cases hf : L.find? (fun e => e.1 == b) with
    | none => simpa using List.find?_eq_none.1 hf _ h
    | some e =>
      have : e.1 = b := by simpa using List.find?_some hf
      rw [hfun e (List.mem_of_find?_eq_some hf) (b, j) h this]; rfl

theorem mem_fileDflts (m : Mod) (mp : MPath) : (mp.base, mp.major) ∈ fileDflts m ↔
    mp = m.mp ∨ ∃ d ∈ m.deps, d.dflt = true ∧ d.mp = mp := by
  have e : ∀ a : MPath, (a.base, a.major) = (mp.base, mp.major) ↔ a = mp := fun a =>
    ⟨fun h => MPath.ext (Prod.mk.inj h).1 (Prod.mk.inj h).2, fun h => h ▸ rfl⟩
  simp only [fileDflts, List.mem_cons, List.mem_map, List.mem_filter, e, and_assoc,
    eq_comm (a := (mp.base, mp.major)), eq_comm (a := mp)]

/-- a module with the main path of a well-formed file and some of its entries (the file itself;
the file as read, entries sorted): `default: true` sits exactly on the entries whose major
version is the module's default for their base path -/
theorem wfMain_flags_sub (main m : Mod) (hwf : wfMain main = true) (hmp : m.mp = main.mp)
    (hsub : ∀ d ∈ m.deps, d ∈ main.deps) :
    ∀ d ∈ m.deps, d.dflt = (lookupD (fileDflts m) d.mp.base == some d.mp.major) := by
  obtain ⟨_, hmain, hfd⟩ := (wfMain_iff main).1 hwf
  have hinj := depsDistinct_of_wfMain hwf
  have hfun := distinct_of_nodup_map (fun e : Path × Nat => e.1) _ hfd
  have hsubL : ∀ e ∈ fileDflts m, e ∈ fileDflts main := by
    simp only [fileDflts, hmp, List.mem_cons, List.mem_map, List.mem_filter]
    exact fun e he => he.imp_right fun ⟨d', hd', h⟩ => ⟨d', ⟨hsub d' hd'.1, hd'.2⟩, h⟩
  intro d hd
  rw [Bool.eq_iff_iff, beq_iff_eq,
    lookupD_iff (fun e he e' he' => hfun e (hsubL e he) e' (hsubL e' he')), mem_fileDflts]
  constructor
  · exact fun h => .inr ⟨d, hd, h, rfl⟩
  · rintro (h | ⟨d', hd', hf, h⟩)
    · exact absurd (h.trans hmp) (hmain d (hsub d hd))
    · exact hinj d' (hsub d' hd') d (hsub d hd) h ▸ hf

/-- in a module file that ParseNonStrict accepts, `default: true` sits exactly on the entries
whose major version is the file's default for their base path -/
theorem wfMain_flags (main : Mod) (hwf : wfMain main = true) :
    ∀ d ∈ main.deps, d.dflt = (lookupD (fileDflts main) d.mp.base == some d.mp.major) :=
  wfMain_flags_sub main main hwf rfl fun _ h => h

theorem wfMain_flags_norm (main : Mod) (hwf : wfMain main = true) :
    ∀ d ∈ (normMod main).deps,
      d.dflt = (lookupD (fileDflts (normMod main)) d.mp.base == some d.mp.major) :=
  wfMain_flags_sub main (normMod main) hwf rfl fun d hd => mem_of_mem_sortDedup _ _ d hd

/-! ## 4. the fixpoint test -/

/-- When CheckTidy accepts a module file, Tidy returns the entries of the file as read: the first
load finds nothing missing, the tidy roots are the file's roots, `keepImpliedDefaults` changes
nothing, and `depsOf` rebuilds every entry (the flags by `wfMain_flags_norm`); both lists are
sorted by module path without repetition.  (`0 < fuel`: with no fuel at all `tidy` gives up
before loading anything, while `checkTidy` still accepts a main module without imports.) -/
theorem check_ok_tidy_eq_deps (main : Mod) (reg : Reg) (fuel : Nat) (hf : 0 < fuel)
    (h : checkTidy main reg fuel = .ok) : tidy main reg fuel = .ok (normMod main).deps := by
  obtain ⟨hwf, pkgs, g, hload, hfind, hg, hsame⟩ := checkTidy_ok_inv main reg fuel h
  have hany : pkgs.any (fun p => p.2.isErr) = false :=
    List.any_eq_false.2 fun p hp => List.find?_eq_none.1 hfind p hp
  have hne : ∀ p ∈ pkgs, p.2 ≠ PkgRes.err true := fun p hp he =>
    List.any_eq_false.1 hany p hp (by rw [he]; rfl)
  obtain ⟨f, rfl⟩ : ∃ f, fuel = f + 1 := ⟨fuel - 1, by omega⟩
  have hres := resolveLoop_noop (normMod main) reg (f + 1) f (initReqs (normMod main)) pkgs hload hne
  have hsame := (sameRoots_iff _ _).1 hsame
  have hkid : keepImpliedDefaults (initReqs (normMod main)) pkgs = fileDflts (normMod main) :=
    keepImpliedDefaults_noop _ pkgs fun x hx => (hsame x).1 hx
  simp only [tidy, hwf, hres, hany, hg, hkid]
  refine congrArg Except.ok (ksorted_ext (fun d : Dep => d.mp.key) _ _ (sortDedup_sorted _ _)
    (sortDedup_sorted _ main.deps) fun d => ?_)
  have hinj := distinct_of_nodup_map (fun r : MPath × Nat => r.1) _ (tidyRoots_spec pkgs).1
  rw [depsOf, mem_sortDedup _ _ _ (by
    intro x hx y hy hk
    obtain ⟨r, hr, rfl⟩ := List.mem_map.1 hx
    obtain ⟨r', hr', rfl⟩ := List.mem_map.1 hy
    rw [hinj r hr r' hr' (MPath.key_inj _ _ hk)])]
  simp only [List.mem_map, hsame, initReqs]
  -- `depsOf` rebuilds an entry of the file from its path and version
  have hfl : ∀ d' ∈ (normMod main).deps, (⟨d'.mp, d'.rank,
      lookupD (fileDflts (normMod main)) d'.mp.base == some d'.mp.major⟩ : Dep) = d' :=
    fun d' hd' => by rw [← wfMain_flags_norm main hwf d' hd']
  constructor
  · rintro ⟨_, ⟨d', hd', rfl⟩, rfl⟩
    exact (hfl d' hd').symm ▸ hd'
  · exact fun hd => ⟨_, ⟨d, hd, rfl⟩, hfl d hd⟩

/-- the same module versions, each with the `default` flag the file's own defaults give it -/
theorem check_ok_tidy_noop (main : Mod) (reg : Reg) (fuel : Nat) (hf : 0 < fuel)
    (h : checkTidy main reg fuel = .ok) :
    ∃ ds, tidy main reg fuel = .ok ds ∧
      (∀ mp v, (mp, v) ∈ (initReqs (normMod main)).roots ↔ ∃ d ∈ ds, d.mp = mp ∧ d.rank = v) ∧
      (∀ d ∈ ds, d.dflt = (lookupD (fileDflts (normMod main)) d.mp.base == some d.mp.major)) :=
  ⟨_, check_ok_tidy_eq_deps main reg fuel hf h, fun mp v => by simp [initReqs, Prod.ext_iff],
    wfMain_flags_norm main (checkTidy_ok_inv main reg fuel h).1⟩

theorem check_ok_tidy_same_deps (main : Mod) (reg : Reg) (fuel : Nat) (hf : 0 < fuel)
    (h : checkTidy main reg fuel = .ok) :
    ∃ ds, tidy main reg fuel = .ok ds ∧ ∀ d, d ∈ ds ↔ d ∈ (normMod main).deps :=
  ⟨_, check_ok_tidy_eq_deps main reg fuel hf h, fun _ => Iff.rfl⟩

/-- without `0 < fuel` the statement is false (an artefact of the model's fuel, not of the code:
the code has no fuel); `check_ok_tidy_noop` is the partial with exactly the excluded region -/
def check_ok_tidy_noop_anyfuel_stmt : Prop :=
  ∀ (main : Mod) (reg : Reg) (fuel : Nat), checkTidy main reg fuel = .ok →
    ∃ ds, tidy main reg fuel = .ok ds

theorem check_ok_tidy_noop_anyfuel_false : ¬ check_ok_tidy_noop_anyfuel_stmt := by
  intro h
  rcases h ⟨⟨[8,5],0⟩,0,[],[]⟩ (regOf []) 0 (by decide) with ⟨ds, hds⟩
  have : tidy ⟨⟨[8,5],0⟩,0,[],[]⟩ (regOf []) 0 = .error .other := rfl
  rw [this] at hds; cases hds

end CueVerif.Tidy
