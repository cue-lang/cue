/-
C17 — what a load establishes, and "no unused entry" (model: `CueVerif.Model.Tidy`).

Every entry of `loadAll` is `loadOne` of its key; a package that `loadOne` takes from an external
module lies in a module version the registry has and that contains the directory; `tidyRoots`
keeps the first version per module path of the loaded packages' modules; `resolveLoop` stops at
once when nothing is missing, and what it returns are the requirements its last load was made
with.  Together: every module version `tidy` lists provided a package of the final load
(`tidy_no_unused`).
Core Lean only.
-/
import CueVerif.Proofs.TidySort
namespace CueVerif.Tidy

/-! ## 1. the packages of a load -/

theorem locate_ext_hasPkg (main : Mod) (reg : Reg) (imp : Imp) (dflt : Path → Option Nat)
    (sel : MPath → Option Nat) (ps : List Path) (r : List Prov)
    (h : locate main reg imp dflt sel ps = .ok r) (mp : MPath) (v : Nat) (hm : Prov.ext mp v ∈ r) :
    ∃ m, reg.find mp v = some m ∧ m.hasPkg imp.path = true ∧ sel mp = some v := by
  fun_induction locate main reg imp dflt sel ps generalizing r
  case case1 => cases h; cases hm
  case case2 ih | case5 ih => exact ih r h hm
  case case3 | case6 | case7 => cases h
  -- the prefix names the main module: what is put in front is not an `ext`
  case case4 r' hr' ih =>
    cases h
    split at hm
    · rcases List.mem_cons.1 hm with hm | hm
      · cases hm
      · exact ih r' hr' hm
    · exact ih r' hr' hm
  -- the prefix names a module with a selected version that the registry has
  case case8 hsel m hfind r' hr' ih =>
    cases h
    split at hm
    · rename_i hhas
      rcases List.mem_cons.1 hm with hm | hm
      · obtain ⟨rfl, rfl⟩ := Prov.ext.inj hm
        exact ⟨m, hfind, hhas, hsel⟩
      · exact ih r' hr' hm
    · exact ih r' hr' hm

theorem importFrom_some (main : Mod) (reg : Reg) (rs : Reqs) (imp : Imp)
    (dflt : Path → Option Nat) (p : Prov) (h : importFrom main reg rs imp dflt = .ok (some p)) :
    ∃ sel, locate main reg imp dflt sel (prefixes imp.path) = .ok [p] := by
  unfold importFrom at h
  split at h
  · cases h
  · cases h
  · rename_i hl; cases h; exact ⟨_, hl⟩
  · split at h
    · cases h
    · simp only at h
      split at h
      · cases h
      · cases h
      · rename_i hl; cases h; exact ⟨_, hl⟩
      · cases h

theorem importFrom_ext_hasPkg (main : Mod) (reg : Reg) (rs : Reqs) (imp : Imp)
    (dflt : Path → Option Nat) (mp : MPath) (v : Nat)
    (h : importFrom main reg rs imp dflt = .ok (some (.ext mp v))) :
    ∃ m, reg.find mp v = some m ∧ m.hasPkg imp.path = true := by
  obtain ⟨sel, hl⟩ := importFrom_some main reg rs imp dflt _ h
  obtain ⟨m, h1, h2, _⟩ :=
    locate_ext_hasPkg main reg imp dflt sel _ _ hl mp v (List.mem_singleton.2 rfl)
  exact ⟨m, h1, h2⟩

/-- a package loaded from an external module: that module version exists in the registry and
contains the package directory -/
theorem loadOne_ext_hasPkg (main : Mod) (reg : Reg) (rs : Reqs) (key : Imp) (mp : MPath) (v : Nat)
    (imps : List Imp) (bad : Bool) (h : loadOne main reg rs key = .ok (.ext mp v) imps bad) :
    ∃ m, reg.find mp v = some m ∧ m.hasPkg key.path = true := by
  unfold loadOne at h
  split at h
  · cases h
  · split at h
    · cases h
    · cases h
    · cases h
    · rename_i mp' v' himp
      split at h
      · cases h
      · simp only at h
        have h1 := PkgRes.ok.inj h
        have h2 := Prov.ext.inj h1.1
        rw [← h2.1, ← h2.2]
        exact importFrom_ext_hasPkg main reg rs key _ mp' v' himp

/-- every entry `loadAll` adds is `loadOne` of its key -/
theorem loadAll_mem (main : Mod) (reg : Reg) (rs : Reqs) (f : Nat) (q : List Imp)
    (done out : List (Imp × PkgRes)) (h : loadAll main reg rs f q done = some out) :
    ∀ p ∈ out, p ∈ done ∨ p.2 = loadOne main reg rs p.1 := by
  induction f generalizing q done with
  | zero =>
    cases q with
    | nil => simp only [loadAll] at h; cases h; exact fun p hp => Or.inl hp
    | cons k q => simp [loadAll] at h
  | succ f ih =>
    cases q with
    | nil => simp only [loadAll] at h; cases h; exact fun p hp => Or.inl hp
    | cons k q =>
      simp only [loadAll] at h
      split at h
      · exact ih _ _ h
      · intro p hp
        rcases ih _ _ h p hp with hd | hd
        · rcases List.mem_append.1 hd with hd | hd
          · exact Or.inl hd
          · right
            have : p = (k, loadOne main reg rs k) := by simpa using hd
            rw [this]
        · exact Or.inr hd

/-! ## 2. `tidyRoots`: the first version seen per module path -/

def trStep (acc : List (MPath × Nat)) (p : Imp × PkgRes) : List (MPath × Nat) :=
  match p.2 with
  | .ok (.ext mp v) _ _ => if acc.any (fun a => a.1 == mp) then acc else acc ++ [(mp, v)]
  | _ => acc

theorem tidyRoots_eq (pkgs : List (Imp × PkgRes)) : tidyRoots pkgs = pkgs.foldl trStep [] := rfl

theorem trStep_spec (acc : List (MPath × Nat)) (p : Imp × PkgRes) :
    (trStep acc p = acc ∧
      ∀ mp v imps bad, p.2 = .ok (.ext mp v) imps bad → mp ∈ acc.map (·.1)) ∨
    (∃ mp v imps bad, p.2 = .ok (.ext mp v) imps bad ∧ mp ∉ acc.map (·.1) ∧
      trStep acc p = acc ++ [(mp, v)]) := by
  unfold trStep
  split
  · rename_i mp v imps bad hp
    have hany : acc.any (fun a => a.1 == mp) = true ↔ mp ∈ acc.map (·.1) := by simp
    by_cases hin : mp ∈ acc.map (·.1)
    · rw [if_pos (hany.2 hin)]
      exact .inl ⟨rfl, fun _ _ _ _ h => by rw [hp] at h; cases h; exact hin⟩
    · rw [if_neg (mt hany.1 hin)]
      exact .inr ⟨mp, v, imps, bad, hp, hin, rfl⟩
  · rename_i hno
    exact .inl ⟨rfl, fun mp v imps bad h => (hno mp v imps bad h).elim⟩

theorem tidyRoots_spec (pkgs : List (Imp × PkgRes)) :
    ((tidyRoots pkgs).map (·.1)).Nodup ∧
    (∀ k mp v imps bad, (k, PkgRes.ok (Prov.ext mp v) imps bad) ∈ pkgs →
      mp ∈ (tidyRoots pkgs).map (·.1)) ∧
    (∀ r ∈ tidyRoots pkgs, ∃ k imps bad, (k, PkgRes.ok (Prov.ext r.1 r.2) imps bad) ∈ pkgs) := by
  refine foldl_inv trStep (fun acc seen => (acc.map (·.1)).Nodup ∧
    (∀ k mp v imps bad, (k, PkgRes.ok (Prov.ext mp v) imps bad) ∈ seen → mp ∈ acc.map (·.1)) ∧
    ∀ r ∈ acc, ∃ k imps bad, (k, PkgRes.ok (Prov.ext r.1 r.2) imps bad) ∈ seen) pkgs [] ?_ ?_
  · exact ⟨List.nodup_nil, by simp, by simp⟩
  intro acc seen p _ ⟨h1, h2, h3⟩
  have h3' : ∀ r ∈ acc, ∃ k imps bad, (k, PkgRes.ok (Prov.ext r.1 r.2) imps bad) ∈ seen ++ [p] :=
    fun r hr => (h3 r hr).imp fun k ⟨i, b, h⟩ => ⟨i, b, List.mem_append_left _ h⟩
  -- the step leaves `acc` alone (the module of `p`, if it has one, is listed) or appends that module
  rcases trStep_spec acc p with ⟨he, hin⟩ | ⟨mp, v, imps, bad, hp, hnin, he⟩
  · rw [he]
    refine ⟨h1, fun k mp v imps bad h => ?_, h3'⟩
    rcases List.mem_append.1 h with h | h
    · exact h2 k mp v imps bad h
    · exact hin mp v imps bad (List.mem_singleton.1 h ▸ rfl)
  · rw [he, List.map_append]
    refine ⟨List.nodup_append.2 ⟨h1, by simp, fun a ha b hb hab => hnin ?_⟩,
      fun k mp' v' imps' bad' h => ?_, fun r hr => ?_⟩
    · obtain rfl : b = mp := by simpa using hb
      exact hab ▸ ha
    · rcases List.mem_append.1 h with h | h
      · exact List.mem_append_left _ (h2 k mp' v' imps' bad' h)
      · obtain rfl := List.mem_singleton.1 h
        cases hp
        exact List.mem_append_right _ (List.mem_singleton_self _)
    · rcases List.mem_append.1 hr with hr | hr
      · exact h3' r hr
      · obtain rfl := List.mem_singleton.1 hr
        exact ⟨p.1, imps, bad,
          List.mem_append_right _ (by rw [← hp]; exact List.mem_singleton_self _)⟩

theorem tidyRoots_functional (pkgs : List (Imp × PkgRes)) (mp : MPath) (v v' : Nat)
    (h1 : (mp, v) ∈ tidyRoots pkgs) (h2 : (mp, v') ∈ tidyRoots pkgs) : v = v' :=
  (Prod.mk.inj (distinct_of_nodup_map (·.1) _ (tidyRoots_spec pkgs).1 _ h1 _ h2 rfl)).2

/-! ## 3. `resolveLoop` when nothing is missing -/

def rmStep (main : Mod) (reg : Reg) (rs : Reqs)
    (acc : List (MPath × Nat) × List (Path × Nat)) (p : Imp × PkgRes) :
    List (MPath × Nat) × List (Path × Nat) :=
  match p.2 with
  | .err true =>
    let cands := queryImport main reg rs p.1
    (cands.foldl addNew acc.1,
     if p.1.major.isNone then cands.foldl (fun d c => setDflt d c.1.base c.1.major) acc.2 else acc.2)
  | _ => acc

theorem resolveMissing_eq (main : Mod) (reg : Reg) (rs : Reqs) (pkgs : List (Imp × PkgRes)) :
    resolveMissing main reg rs pkgs = pkgs.foldl (rmStep main reg rs) ([], rs.dflts) := rfl

theorem rmStep_noop (main : Mod) (reg : Reg) (rs : Reqs)
    (acc : List (MPath × Nat) × List (Path × Nat)) (p : Imp × PkgRes)
    (hp : p.2 ≠ PkgRes.err true) : rmStep main reg rs acc p = acc := by
  unfold rmStep
  split
  · rename_i he; exact absurd he hp
  · rfl

/-- nothing is missing: `resolveMissingImports` adds nothing and leaves the defaults alone -/
theorem resolveMissing_noop (main : Mod) (reg : Reg) (rs : Reqs) (pkgs : List (Imp × PkgRes))
    (h : ∀ p ∈ pkgs, p.2 ≠ PkgRes.err true) :
    resolveMissing main reg rs pkgs = ([], rs.dflts) :=
  foldl_fixed _ _ _ fun p hp => rmStep_noop main reg rs _ p (h p hp)

theorem resolveLoop_noop (main : Mod) (reg : Reg) (lf f : Nat) (rs : Reqs)
    (pkgs : List (Imp × PkgRes))
    (hload : loadAll main reg rs lf (rootKeys main) [] = some pkgs)
    (h : ∀ p ∈ pkgs, p.2 ≠ PkgRes.err true) :
    resolveLoop main reg lf (f + 1) rs = .ok (rs, pkgs) := by
  simp only [resolveLoop, hload, resolveMissing_noop main reg rs pkgs h, List.isEmpty_nil, if_true]

/-! ## 4. the final load of `resolveLoop` was made with the requirements it returns -/

theorem addNew_ne_nil (acc : List (MPath × Nat)) (c : MPath × Nat) : addNew acc c ≠ [] := by
  unfold addNew
  split
  · rename_i h
    intro he; rw [he] at h; simp at h
  · simp

theorem foldl_addNew_nil (cands acc : List (MPath × Nat)) (h : cands.foldl addNew acc = []) :
    cands = [] ∧ acc = [] := by
  induction cands generalizing acc with
  | nil => exact ⟨rfl, h⟩
  | cons c cs ih => exact absurd (ih _ h).2 (addNew_ne_nil acc c)

theorem rmStep_nil (main : Mod) (reg : Reg) (rs : Reqs)
    (acc : List (MPath × Nat) × List (Path × Nat)) (p : Imp × PkgRes)
    (h : (rmStep main reg rs acc p).1 = []) : acc.1 = [] ∧ (rmStep main reg rs acc p).2 = acc.2 := by
  unfold rmStep at h ⊢
  split
  · rename_i he
    simp only [he] at h
    rcases foldl_addNew_nil _ _ h with ⟨hc, ha⟩
    refine ⟨ha, ?_⟩
    simp only [hc, List.foldl_nil, ite_self]
  · rename_i hne
    split at h
    · rename_i he; exact (hne he).elim
    · exact ⟨h, rfl⟩

/-- no module to add ⇒ the default-major-version map is unchanged -/
theorem resolveMissing_nil_dflts (main : Mod) (reg : Reg) (rs : Reqs) (pkgs : List (Imp × PkgRes))
    (h : (resolveMissing main reg rs pkgs).1 = []) : (resolveMissing main reg rs pkgs).2 = rs.dflts := by
  refine foldl_inv (rmStep main reg rs) (fun acc _ => acc.1 = [] → acc.2 = rs.dflts) pkgs _
    (fun _ => rfl) (fun acc _ p _ ih hn => ?_) h
  obtain ⟨h1, h2⟩ := rmStep_nil main reg rs acc p hn
  rw [h2, ih h1]

theorem resolveLoop_ok_load (main : Mod) (reg : Reg) (lf f : Nat) (rs rs' : Reqs)
    (pkgs : List (Imp × PkgRes)) (h : resolveLoop main reg lf f rs = .ok (rs', pkgs)) :
    loadAll main reg rs' lf (rootKeys main) [] = some pkgs := by
  induction f generalizing rs with
  | zero => simp [resolveLoop] at h
  | succ f ih =>
    unfold resolveLoop at h
    split at h
    · cases h
    · rename_i pkgs0 hload
      generalize hrm : resolveMissing main reg rs pkgs0 = res at h
      rcases res with ⟨adds, dflts'⟩
      simp only at h
      split at h
      · rename_i hemp
        obtain rfl : adds = [] := by simpa using hemp
        have hd : dflts' = rs.dflts := by
          simpa [hrm] using resolveMissing_nil_dflts main reg rs pkgs0
        cases h
        rw [hd]
        exact hload
      · split at h
        · cases h
        · split at h
          · cases h
          · exact ih _ h

/-! ## 5. no unused entry -/

theorem tidy_ok_inv (main : Mod) (reg : Reg) (fuel : Nat) (ds : List Dep)
    (h : tidy main reg fuel = .ok ds) :
    wfMain main = true ∧ ∃ rs pkgs g,
      resolveLoop (normMod main) reg fuel fuel (initReqs (normMod main)) = .ok (rs, pkgs) ∧
      pkgs.any (fun p => p.2.isErr) = false ∧
      graphSel reg (tidyRoots pkgs) = some g ∧
      ds = depsOf (tidyRoots pkgs) (keepImpliedDefaults rs pkgs) := by
  unfold tidy at h
  split at h
  · cases h
  · rename_i hwf
    simp only at h
    split at h
    · cases h
    · rename_i rs pkgs hres
      split at h
      · cases h
      · rename_i hany
        split at h
        · cases h
        · rename_i g hg
          refine ⟨by simpa using hwf, rs, pkgs, g, hres, by simpa using hany, hg, ?_⟩
          exact (Except.ok.inj h).symm

theorem mem_depsOf (roots : List (MPath × Nat)) (dflts : List (Path × Nat)) (d : Dep)
    (h : d ∈ depsOf roots dflts) :
    (d.mp, d.rank) ∈ roots ∧ d.dflt = (lookupD dflts d.mp.base == some d.mp.major) := by
  have := mem_of_mem_sortDedup _ _ _ h
  rcases List.mem_map.1 this with ⟨r, hr, he⟩
  subst he
  exact ⟨hr, rfl⟩

/-- "no unused entry", registry form: every module version `tidy` lists exists in the registry
and contains the directory of a package (key `k`) that the final load — made with the returned
requirements `rs` — resolved to it without error -/
theorem tidy_no_unused (main : Mod) (reg : Reg) (fuel : Nat) (ds : List Dep)
    (h : tidy main reg fuel = .ok ds) :
    ∀ d ∈ ds, ∃ rs pkgs k imps m,
      resolveLoop (normMod main) reg fuel fuel (initReqs (normMod main)) = .ok (rs, pkgs) ∧
      (k, PkgRes.ok (Prov.ext d.mp d.rank) imps false) ∈ pkgs ∧
      loadOne (normMod main) reg rs k = PkgRes.ok (Prov.ext d.mp d.rank) imps false ∧
      reg.find d.mp d.rank = some m ∧ m.hasPkg k.path = true := by
  intro d hd
  obtain ⟨_, rs, pkgs, g, hres, hany, _, rfl⟩ := tidy_ok_inv main reg fuel ds h
  obtain ⟨k, imps, bad, hk⟩ := (tidyRoots_spec pkgs).2.2 _ (mem_depsOf _ _ d hd).1
  obtain rfl : bad = false := by simpa [PkgRes.isErr] using List.any_eq_false.1 hany _ hk
  have hload := resolveLoop_ok_load _ _ _ _ _ _ _ hres
  have hone : loadOne (normMod main) reg rs k = PkgRes.ok (Prov.ext d.mp d.rank) imps false := by
    rcases loadAll_mem _ _ _ _ _ _ _ hload _ hk with h0 | h0
    · cases h0
    · exact h0.symm
  rcases loadOne_ext_hasPkg _ _ _ _ _ _ _ _ hone with ⟨m, h1, h2⟩
  exact ⟨rs, pkgs, k, imps, m, hres, hk, hone, h1, h2⟩

end CueVerif.Tidy
