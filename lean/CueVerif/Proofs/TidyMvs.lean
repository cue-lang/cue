/-
C17 — the versions `tidy` works with are a minimal version selection (C14).

`specSel` / `graphSel` fold `maxRank` over `graphNodes`; that node list is exactly the set
reachable in the pruned requirement graph main → roots → each root's own requirements (`PReach`),
so the selection is the least upper bound of the reachable versions of a path, attained unless
"none".  `PReach` is C14's `Mvs.Reach` on `mvsGraph` for every injective, nowhere-zero numbering
of module paths; `encMP` is such a numbering.
Core Lean only.
-/
import CueVerif.Spec.Tidy
namespace CueVerif.Tidy

/-! ## 1. `maxRank` -/

theorem foldl_max_le_iff (l : List Nat) (a b : Nat) :
    l.foldl max a ≤ b ↔ a ≤ b ∧ ∀ x ∈ l, x ≤ b := by
  induction l generalizing a with
  | nil => simp
  | cons y ys ih => simp [ih, Nat.max_le, and_assoc]

theorem foldl_max_attained (l : List Nat) (a : Nat) : l.foldl max a = a ∨ l.foldl max a ∈ l := by
  induction l generalizing a with
  | nil => exact Or.inl rfl
  | cons y ys ih =>
    rcases ih (max a y) with h | h
    · rw [List.foldl_cons, h]
      rcases Nat.le_total a y with hay | hay
      · rw [Nat.max_eq_right hay]; exact Or.inr (List.mem_cons_self ..)
      · rw [Nat.max_eq_left hay]; exact Or.inl rfl
    · exact Or.inr (List.mem_cons_of_mem _ h)

theorem maxRank_ge (l : List Nat) : ∀ x ∈ l, x ≤ maxRank l :=
  ((foldl_max_le_iff l 0 _).1 (Nat.le_refl _)).2

theorem maxRank_attained (l : List Nat) : maxRank l = 0 ∨ maxRank l ∈ l :=
  foldl_max_attained l 0

/-! ## 2. the selected versions are the minimal version selection of the pruned graph -/

/-- the node list the model folds over is exactly the reachable set of the pruned graph -/
theorem mem_graphNodes_iff (reg : Reg) (roots : List (MPath × Nat)) (n : MPath × Nat) :
    n ∈ graphNodes reg roots ↔ PReach reg roots n := by
  have : PReach reg roots n ↔ n ∈ roots ∨ ∃ r, r ∈ roots ∧ n ∈ prunedGraph reg roots (some r) :=
    ⟨fun h => by
      cases h with
      | root h => exact .inl h
      | dep hr hn => exact .inr ⟨_, hr, hn⟩,
     fun h => h.elim .root fun ⟨_, hr, hn⟩ => .dep hr hn⟩
  rw [this, graphNodes, List.mem_append, List.mem_flatMap]
  refine or_congr_right (exists_congr fun r => and_congr_right fun hr => ?_)
  rw [prunedGraph, if_pos (List.contains_iff_mem.2 hr)]
  exact Iff.rfl

theorem specSel_upper (reg : Reg) (roots : List (MPath × Nat)) (mp : MPath) (v : Nat) :
    PReach reg roots (mp, v) → v ≤ specSel reg roots mp := by
  intro h
  apply maxRank_ge
  refine List.mem_map.2 ⟨(mp, v), ?_, rfl⟩
  exact List.mem_filter.2 ⟨(mem_graphNodes_iff reg roots _).2 h, by simp⟩

theorem specSel_attained (reg : Reg) (roots : List (MPath × Nat)) (mp : MPath) :
    specSel reg roots mp = 0 ∨ PReach reg roots (mp, specSel reg roots mp) := by
  rcases maxRank_attained (((graphNodes reg roots).filter (fun n => n.1 == mp)).map (·.2)) with h | h
  · exact Or.inl h
  · obtain ⟨⟨a, b⟩, hn, he⟩ := List.mem_map.1 h
    obtain ⟨hg, hm⟩ := List.mem_filter.1 hn
    obtain rfl : a = mp := by simpa using hm
    right
    unfold specSel
    rw [← he]
    exact (mem_graphNodes_iff reg roots _).1 hg

/-- minimal version selection, as a characterisation: the selected version of a path is the
least upper bound of the versions of that path reachable in the pruned graph -/
theorem specSel_least (reg : Reg) (roots : List (MPath × Nat)) (mp : MPath) (b : Nat)
    (hb : ∀ v, PReach reg roots (mp, v) → v ≤ b) : specSel reg roots mp ≤ b := by
  rcases specSel_attained reg roots mp with h | h
  · rw [h]; exact Nat.zero_le _
  · exact hb _ h

theorem graphSel_eq_specSel (reg : Reg) (roots : List (MPath × Nat)) (g : MPath → Nat)
    (h : graphSel reg roots = some g) : g = specSel reg roots := by
  unfold graphSel at h
  split at h
  · funext mp
    have := Option.some.inj h
    rw [← this]; rfl
  · cases h

theorem graphSel_isSome (reg : Reg) (roots : List (MPath × Nat)) :
    (graphSel reg roots).isSome = roots.all (fun r => (reg.find r.1 r.2).isSome) := by
  unfold graphSel
  split <;> simp [*]

theorem graphSel_none_iff (reg : Reg) (roots : List (MPath × Nat)) :
    graphSel reg roots = none ↔ ∃ r ∈ roots, reg.find r.1 r.2 = none := by
  rw [← Option.not_isSome_iff_eq_none, graphSel_isSome]
  simp only [List.all_eq_true, Classical.not_forall, Option.not_isSome_iff_eq_none, exists_prop]

theorem graphSel_some_iff (reg : Reg) (roots : List (MPath × Nat)) :
    (∃ g, graphSel reg roots = some g) ↔ ∀ r ∈ roots, ∃ m, reg.find r.1 r.2 = some m := by
  simp only [← Option.isSome_iff_exists, graphSel_isSome, List.all_eq_true]

/-! ## 3. `PReach` is C14's `Mvs.Reach` on an encoded graph -/

/-- the pruned graph as a C14 graph: node (0,0) is the main module, a module path `mp` is the
path id `e mp` -/
def mvsGraph (reg : Reg) (roots : List (MPath × Nat)) (e : MPath → Nat) : Mvs.Graph :=
  fun n =>
    if n = (0, 0) then roots.map (fun r => (e r.1, r.2))
    else (roots.filter (fun r => (e r.1, r.2) = n)).flatMap (fun r =>
      (prunedGraph reg roots (some r)).map (fun d => (e d.1, d.2)))

theorem mvs_reach_decode (reg : Reg) (roots : List (MPath × Nat)) (e : MPath → Nat)
    (x : Mvs.Node) (h : Mvs.Reach (mvsGraph reg roots e) [(0, 0)] x) :
    x = (0, 0) ∨ ∃ n, x = (e n.1, n.2) ∧ PReach reg roots n := by
  induction h with
  | root h => left; simpa using h
  | dep hm hn _ =>
    rename_i m n
    right
    unfold mvsGraph at hn
    split at hn
    · rcases List.mem_map.1 hn with ⟨r, hr, he⟩
      exact ⟨r, he.symm, .root hr⟩
    · rcases List.mem_flatMap.1 hn with ⟨r, hr, hd⟩
      rcases List.mem_map.1 hd with ⟨d, hd, he⟩
      exact ⟨d, he.symm, .dep (List.mem_filter.1 hr).1 hd⟩

theorem mvs_reach_root (reg : Reg) (roots : List (MPath × Nat)) (e : MPath → Nat)
    {r : MPath × Nat} (hr : r ∈ roots) : Mvs.Reach (mvsGraph reg roots e) [(0, 0)] (e r.1, r.2) := by
  refine .dep (.root (List.mem_singleton.2 rfl)) ?_
  simp only [mvsGraph, if_true]
  exact List.mem_map.2 ⟨r, hr, rfl⟩

theorem preach_iff_mvs_reach (reg : Reg) (roots : List (MPath × Nat)) (e : MPath → Nat)
    (hinj : ∀ a b, e a = e b → a = b) (hne : ∀ a, e a ≠ 0) (mp : MPath) (v : Nat) :
    PReach reg roots (mp, v) ↔
      (Mvs.Reach (mvsGraph reg roots e) [(0, 0)] (e mp, v) ∧ (e mp, v) ≠ (0, 0)) := by
  have hne' : ∀ (a : MPath) (w : Nat), (e a, w) ≠ ((0, 0) : Nat × Nat) := by
    intro a w h; exact hne a (Prod.mk.inj h).1
  constructor
  · intro h
    refine ⟨?_, hne' mp v⟩
    cases h with
    | root h => exact mvs_reach_root reg roots e h
    | @dep r _ hr hn =>
      refine .dep (mvs_reach_root reg roots e hr) ?_
      simp only [mvsGraph, if_neg (hne' r.1 r.2)]
      refine List.mem_flatMap.2 ⟨r, List.mem_filter.2 ⟨hr, by simp⟩, ?_⟩
      exact List.mem_map.2 ⟨(mp, v), hn, rfl⟩
  · rintro ⟨h, _⟩
    rcases mvs_reach_decode reg roots e _ h with h0 | ⟨⟨a, b⟩, hn, hp⟩
    · exact absurd h0 (hne' mp v)
    · obtain ⟨h1, rfl⟩ := Prod.mk.inj hn
      obtain rfl := hinj _ _ h1
      exact hp

/-- consequence: the model's selection is the maximum over C14's reachable set -/
theorem specSel_mvs (reg : Reg) (roots : List (MPath × Nat)) (e : MPath → Nat)
    (hinj : ∀ a b, e a = e b → a = b) (hne : ∀ a, e a ≠ 0) (mp : MPath) :
    (∀ v, Mvs.Reach (mvsGraph reg roots e) [(0, 0)] (e mp, v) → v ≤ specSel reg roots mp) ∧
    (specSel reg roots mp = 0 ∨
      Mvs.Reach (mvsGraph reg roots e) [(0, 0)] (e mp, specSel reg roots mp)) := by
  constructor
  · intro v h
    apply specSel_upper
    exact (preach_iff_mvs_reach reg roots e hinj hne mp v).2
      ⟨h, fun h0 => hne mp (Prod.mk.inj h0).1⟩
  · rcases specSel_attained reg roots mp with h | h
    · exact Or.inl h
    · exact Or.inr ((preach_iff_mvs_reach reg roots e hinj hne mp _).1 h).1

/-! ## 4. an explicit injective, nowhere-zero encoding of module paths (the hypotheses of
`preach_iff_mvs_reach` are satisfiable) -/

/-- `1ˣ0` in front of the binary digits of `n` -/
def encG : Nat → Nat → Nat
  | 0, n => 2 * n
  | x + 1, n => 2 * encG x n + 1

def encL : List Nat → Nat
  | [] => 1
  | x :: xs => encG x (encL xs)

def encMP (mp : MPath) : Nat := encL (mp.major :: mp.base)

theorem encG_inj (x y n m : Nat) (h : encG x n = encG y m) : x = y ∧ n = m := by
  induction x generalizing y with
  | zero => cases y with
    | zero => simp only [encG] at h; exact ⟨rfl, by omega⟩
    | succ y => simp only [encG] at h; omega
  | succ x ih => cases y with
    | zero => simp only [encG] at h; omega
    | succ y =>
      simp only [encG] at h
      rcases ih y (by omega) with ⟨h1, h2⟩
      exact ⟨by rw [h1], h2⟩

theorem encG_pos (x n : Nat) (h : 0 < n) : 1 < encG x n := by
  induction x with
  | zero => simp only [encG]; omega
  | succ x ih => simp only [encG]; omega

theorem encL_pos (l : List Nat) : 0 < encL l := by
  cases l with
  | nil => exact Nat.one_pos
  | cons x xs =>
    have := encG_pos x (encL xs) (encL_pos xs)
    simp only [encL]; omega

theorem encL_inj (a b : List Nat) (h : encL a = encL b) : a = b := by
  induction a generalizing b with
  | nil => cases b with
    | nil => rfl
    | cons y ys =>
      have := encG_pos y (encL ys) (encL_pos ys)
      simp only [encL] at h; omega
  | cons x xs ih => cases b with
    | nil =>
      have := encG_pos x (encL xs) (encL_pos xs)
      simp only [encL] at h; omega
    | cons y ys =>
      simp only [encL] at h
      rcases encG_inj _ _ _ _ h with ⟨h1, h2⟩
      rw [h1, ih ys h2]

theorem encMP_inj (a b : MPath) (h : encMP a = encMP b) : a = b := by
  have := List.cons.inj (encL_inj _ _ h)
  cases a; cases b; simp_all

theorem encMP_ne_zero (a : MPath) : encMP a ≠ 0 := Nat.pos_iff_ne_zero.1 (encL_pos _)

/-- `PReach` IS C14's reachability, for the concrete encoding -/
theorem preach_iff_mvs_reach_enc (reg : Reg) (roots : List (MPath × Nat)) (mp : MPath) (v : Nat) :
    PReach reg roots (mp, v) ↔
      (Mvs.Reach (mvsGraph reg roots encMP) [(0, 0)] (encMP mp, v) ∧ (encMP mp, v) ≠ (0, 0)) :=
  preach_iff_mvs_reach reg roots encMP encMP_inj encMP_ne_zero mp v

end CueVerif.Tidy
