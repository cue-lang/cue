/-
C17 — order-independence of `tidy` / `checkTidy` (model: `CueVerif.Model.Tidy`).

The result does not depend on the order of the registry listing, of the packages (directories /
files) of a module, of the imports inside a package, or of the dependency entries of a module
file.  The model normalises its inputs at entry (`normMod`, `regOf`); the theorems here show that
those normalisations are invariant under the permutations in question, since `sortDedup` sees
only the set of elements (TidySort).
Core Lean only.
-/
import CueVerif.Proofs.TidySort

namespace CueVerif.Tidy

/-! ## 1. permuting the contents of one module -/

/-- element-wise relatedness of two lists (core Lean has no `List.Forall₂`) -/
inductive Forall₂ {α β} (R : α → β → Prop) : List α → List β → Prop
  | nil : Forall₂ R [] []
  | cons {a b l1 l2} : R a b → Forall₂ R l1 l2 → Forall₂ R (a :: l1) (b :: l2)

theorem forall₂_mem_left {α β} {R : α → β → Prop} {l1 : List α} {l2 : List β}
    (h : Forall₂ R l1 l2) : ∀ a ∈ l1, ∃ b ∈ l2, R a b := by
  induction h with
  | nil => intro a ha; cases ha
  | cons hab _ ih =>
    intro a ha
    rcases List.mem_cons.1 ha with ha | ha
    · exact ⟨_, List.mem_cons_self, ha ▸ hab⟩
    · obtain ⟨b, hb, hr⟩ := ih a ha
      exact ⟨b, List.mem_cons_of_mem _ hb, hr⟩

theorem Forall₂.flip {α β} {R : α → β → Prop} {l1 : List α} {l2 : List β}
    (h : Forall₂ R l1 l2) : Forall₂ (fun b a => R a b) l2 l1 := by
  induction h with
  | nil => exact .nil
  | cons hab _ ih => exact .cons hab ih

theorem forall₂_map_eq {α β γ} {R : α → β → Prop} {f : α → γ} {g : β → γ}
    (hfg : ∀ a b, R a b → f a = g b) {l1 : List α} {l2 : List β}
    (h : Forall₂ R l1 l2) : l1.map f = l2.map g := by
  induction h with
  | nil => rfl
  | cons hab _ ih => simp only [List.map_cons, hfg _ _ hab, ih]

/-- the same module up to the order of its dependency entries, of its packages (directories /
files) and of the imports inside each package -/
def ModPerm (m m' : Mod) : Prop :=
  m.mp = m'.mp ∧ m.rank = m'.rank ∧ m.deps.Perm m'.deps ∧
  ∃ l, Forall₂ (fun p q => p.path = q.path ∧ p.imports.Perm q.imports) m.pkgs l ∧
    l.Perm m'.pkgs

/-- every path element is a proper element id (the keys reserve ≥ 1000 for major versions) -/
structure Mod.smallPaths (m : Mod) : Prop where
  imps : ∀ p ∈ m.pkgs, ∀ i ∈ p.imports, Imp.small i
  deps : ∀ d ∈ m.deps, d.mp.small

structure Mod.small (m : Mod) : Prop where
  paths : m.smallPaths
  distinct : m.depsDistinct

theorem mem_pkgImports (m : Mod) (p : Path) (i : Imp) :
    i ∈ pkgImports m p ↔ ∃ q ∈ m.pkgs, q.path = p ∧ i ∈ q.imports := by
  simp only [pkgImports, List.mem_flatMap, List.mem_filter, beq_iff_eq]
  constructor
  · rintro ⟨q, ⟨hq, hp⟩, hi⟩; exact ⟨q, hq, hp, hi⟩
  · rintro ⟨q, hq, hp, hi⟩; exact ⟨q, ⟨hq, hp⟩, hi⟩

theorem ModPerm.pkg_mem {m m' : Mod} (h : ModPerm m m') (p : Path) (i : Imp) :
    (∃ q ∈ m.pkgs, q.path = p ∧ i ∈ q.imports) ↔ (∃ q ∈ m'.pkgs, q.path = p ∧ i ∈ q.imports) := by
  obtain ⟨_, _, _, l, hf, hp⟩ := h
  constructor
  · rintro ⟨q, hq, hqp, hi⟩
    obtain ⟨q', hq', hpath, himp⟩ := forall₂_mem_left hf q hq
    exact ⟨q', hp.mem_iff.1 hq', hpath ▸ hqp, himp.mem_iff.1 hi⟩
  · rintro ⟨q', hq', hqp, hi⟩
    obtain ⟨q, hq, hpath, himp⟩ := forall₂_mem_left hf.flip q' (hp.mem_iff.2 hq')
    exact ⟨q, hq, hpath.trans hqp, himp.mem_iff.2 hi⟩

theorem ModPerm.path_mem {m m' : Mod} (h : ModPerm m m') (p : Path) :
    p ∈ m.pkgs.map (·.path) ↔ p ∈ m'.pkgs.map (·.path) := by
  obtain ⟨_, _, _, l, hf, hp⟩ := h
  have e : m.pkgs.map (·.path) = l.map (·.path) := forall₂_map_eq (fun _ _ r => r.1) hf
  rw [e]
  exact (hp.map _).mem_iff

theorem normPkgs_modPerm {m m' : Mod} (h : ModPerm m m') (hs : m.smallPaths) :
    normPkgs m = normPkgs m' := by
  have h1 : sortDedup id (m.pkgs.map (·.path)) = sortDedup id (m'.pkgs.map (·.path)) :=
    sortDedup_congr id _ _ (fun _ _ _ _ e => e) (fun p => h.path_mem p)
  have h2 : (fun p => (⟨p, sortDedup Imp.key (pkgImports m p)⟩ : Pkg)) =
      fun p => ⟨p, sortDedup Imp.key (pkgImports m' p)⟩ := by
    funext p
    congr 1
    refine sortDedup_congr _ _ _ ?_ ?_
    · intro x hx y hy hk
      obtain ⟨q, hq, _, hi⟩ := (mem_pkgImports m p x).1 hx
      obtain ⟨q', hq', _, hi'⟩ := (mem_pkgImports m p y).1 hy
      exact Imp.key_inj x y (hs.imps q hq x hi) (hs.imps q' hq' y hi') hk
    · intro i
      rw [mem_pkgImports, mem_pkgImports]
      exact h.pkg_mem p i
  unfold normPkgs
  rw [h1, h2]

theorem normDeps_modPerm {m m' : Mod} (h : ModPerm m m') (hd : m.depsDistinct) :
    sortDedup (fun d : Dep => d.mp.key) m.deps = sortDedup (fun d : Dep => d.mp.key) m'.deps :=
  sortDedup_perm _ _ _
    (fun x hx y hy hk => hd x hx y hy (MPath.key_inj _ _ hk))
    h.2.2.1

theorem normMod_modPerm {m m' : Mod} (h : ModPerm m m') (hs : m.smallPaths)
    (hd : m.depsDistinct) : normMod m = normMod m' := by
  unfold normMod
  rw [normPkgs_modPerm h hs, normDeps_modPerm h hd, h.1, h.2.1]

theorem wfMain_modPerm {m m' : Mod} (h : ModPerm m m') : wfMain m = wfMain m' := by
  have hd := h.2.2.1
  have hf : (fileDflts m).Perm (fileDflts m') := by
    unfold fileDflts
    rw [← h.1]
    exact ((hd.filter _).map _).cons _
  rw [Bool.eq_iff_iff, wfMain_iff, wfMain_iff, ← h.1]
  exact and_congr (hd.map _).nodup_iff
    (and_congr (forall_congr' fun d => imp_congr_left hd.mem_iff) (hf.map _).nodup_iff)

/-- `tidy` and `checkTidy` read the main module only through `wfMain` and, where that accepts,
`normMod`; only the path bound is needed, since `wfMain` rejects duplicate entries -/
theorem modPerm_entry {m m' : Mod} (h : ModPerm m m') (hs : m.smallPaths) :
    wfMain m' = wfMain m ∧ (wfMain m = true → normMod m' = normMod m) :=
  ⟨(wfMain_modPerm h).symm, fun hw => (normMod_modPerm h hs (depsDistinct_of_wfMain hw)).symm⟩

theorem tidy_modPerm (main main' : Mod) (reg : Reg) (fuel : Nat) (h : ModPerm main main')
    (hs : Mod.smallPaths main) : tidy main' reg fuel = tidy main reg fuel := by
  obtain ⟨hw, hn⟩ := modPerm_entry h hs
  unfold tidy
  rw [hw]
  cases hm : wfMain main with
  | false => simp only [Bool.not_false, if_true]
  | true => rw [hn hm]

theorem checkTidy_modPerm (main main' : Mod) (reg : Reg) (fuel : Nat)
    (h : ModPerm main main') (hs : Mod.smallPaths main) :
    checkTidy main' reg fuel = checkTidy main reg fuel := by
  obtain ⟨hw, hn⟩ := modPerm_entry h hs
  unfold checkTidy
  rw [hw]
  cases hm : wfMain main with
  | false => simp only [Bool.not_false, if_true]
  | true => rw [hn hm]

/-! ## 2. the registry listing -/

theorem verLt_iff (a b : Nat × Nat) :
    verLt a b = true ↔ a.1 < b.1 ∨ (a.1 = b.1 ∧ a.2 < b.2) := by
  simp [verLt]

theorem maxVer_nil : maxVer [] = none := rfl

/-- `maxVer` folds a step that keeps the greater of two versions in the lexicographic order on
(major, rank), a total order: the step does not care in which order two versions arrive, and a
fold of such a step is invariant under permutation -/
theorem maxVer_perm {l l' : List (Nat × Nat)} (h : l.Perm l') : maxVer l = maxVer l' := by
  refine h.foldl_eq' (fun x _ y _ acc => ?_) none
  -- the step commutes: `step (step acc x) y = step (step acc y) x`, by trichotomy of the order
  cases acc <;> grind [verLt_iff]

theorem latest_perm {l l' : List (Nat × Nat)} (h : l.Perm l') : latest l = latest l' := by
  unfold latest
  rw [maxVer_perm (h.filter _), maxVer_perm h]

theorem find?_perm_of_unique {α} {p : α → Bool} {l l' : List α} (h : l.Perm l')
    (hu : ∀ x ∈ l, ∀ y ∈ l, p x = true → p y = true → x = y) : l.find? p = l'.find? p := by
  cases h1 : l.find? p with
  | none =>
    rw [List.find?_eq_none] at h1
    symm
    rw [List.find?_eq_none]
    exact fun x hx => h1 x (h.mem_iff.2 hx)
  | some a =>
    cases h2 : l'.find? p with
    | none =>
      rw [List.find?_eq_none] at h2
      exact absurd (List.find?_some h1) (h2 a (h.mem_iff.1 (List.mem_of_find?_eq_some h1)))
    | some b =>
      congr 1
      exact hu a (List.mem_of_find?_eq_some h1) b (h.mem_iff.2 (List.mem_of_find?_eq_some h2))
        (List.find?_some h1) (List.find?_some h2)

theorem regOf_perm (mods mods' : List Mod) (h : mods.Perm mods')
    (hn : (mods.map (fun m => (m.mp, m.rank))).Nodup) : regOf mods' = regOf mods := by
  have hf : ∀ mp r, mods'.find? (fun m => m.mp == mp && m.rank == r) =
      mods.find? (fun m => m.mp == mp && m.rank == r) := by
    intro mp r
    refine (find?_perm_of_unique h ?_).symm
    intro x hx y hy px py
    simp only [Bool.and_eq_true, beq_iff_eq] at px py
    refine distinct_of_nodup_map _ mods hn x hx y hy ?_
    show (x.mp, x.rank) = (y.mp, y.rank)
    rw [px.1, px.2, py.1, py.2]
  simp only [regOf, Reg.mk.injEq]
  refine ⟨?_, ?_⟩
  · funext mp r
    rw [hf]
  · funext b mj
    exact latest_perm ((h.symm.filter _).map _)

theorem forall₂_filter_map {α γ} {R : α → α → Prop} {q : α → Bool} {g : α → γ} {l1 l2 : List α}
    (h : Forall₂ R l1 l2) (hq : ∀ a b, R a b → q a = q b) (hg : ∀ a ∈ l1, ∀ b, R a b → g a = g b) :
    (l1.filter q).map g = (l2.filter q).map g := by
  induction h with
  | nil => rfl
  | @cons a b _ _ hab _ ih =>
    have ih := ih fun a ha => hg a (List.mem_cons_of_mem _ ha)
    simp only [List.filter_cons, hq a b hab]
    cases q b with
    | true => simp only [if_true, List.map_cons, hg a List.mem_cons_self b hab, ih]
    | false => simpa using ih

/-- replacing every published module by a permuted presentation of it -/
theorem regOf_modPerm (mods l : List Mod) (h : Forall₂ ModPerm mods l)
    (hs : ∀ m ∈ mods, Mod.small m) : regOf l = regOf mods := by
  simp only [regOf, Reg.mk.injEq]
  refine ⟨?_, ?_⟩
  · funext mp r
    -- `find?` is the head of `filter`
    simp only [← List.head?_filter, ← List.head?_map]
    rw [forall₂_filter_map h (fun x y hxy => by rw [hxy.1, hxy.2.1])
      (fun x hx y hxy => normMod_modPerm hxy (hs x hx).paths (hs x hx).distinct)]
  · funext b mj
    rw [forall₂_filter_map h (fun x y hxy => by rw [hxy.1]) (fun x _ y hxy => by rw [hxy.1, hxy.2.1])]

/-! ## 3. the combined statement -/

theorem regOf_order_indep (mods mods' : List Mod)
    (hr : ∃ l, Forall₂ ModPerm mods l ∧ l.Perm mods') (hsm : ∀ m ∈ mods, Mod.small m)
    (hn : (mods.map (fun m => (m.mp, m.rank))).Nodup) : regOf mods' = regOf mods := by
  obtain ⟨l, hf, hp⟩ := hr
  have e : mods.map (fun m => (m.mp, m.rank)) = l.map (fun m => (m.mp, m.rank)) :=
    forall₂_map_eq (fun a b r => by rw [r.1, r.2.1]) hf
  rw [regOf_perm l mods' hp (e ▸ hn), regOf_modPerm mods l hf hsm]

/-- C17: `tidy` and `checkTidy` do not depend on the order of the registry listing, of the
packages of a module, of the imports inside a package, or of the dependency entries of a module
file (of the main module only the path bound is asked: `wfMain` refuses duplicate entries) -/
theorem tidy_order_indep (main main' : Mod) (mods mods' : List Mod) (fuel : Nat)
    (hm : ModPerm main main') (hs : Mod.smallPaths main)
    (hr : ∃ l, Forall₂ ModPerm mods l ∧ l.Perm mods') (hsm : ∀ m ∈ mods, Mod.small m)
    (hn : (mods.map (fun m => (m.mp, m.rank))).Nodup) :
    tidy main' (regOf mods') fuel = tidy main (regOf mods) fuel ∧
      checkTidy main' (regOf mods') fuel = checkTidy main (regOf mods) fuel := by
  rw [regOf_order_indep mods mods' hr hsm hn]
  exact ⟨tidy_modPerm main main' _ fuel hm hs, checkTidy_modPerm main main' _ fuel hm hs⟩

end CueVerif.Tidy
