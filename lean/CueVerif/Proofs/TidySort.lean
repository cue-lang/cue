/-
C17 — the sorted sets that `tidy` reads its inputs into (model: `sortDedup`, `normMod`, `wfMain`).

`lexLt` is core's `<` on `List Nat`; the loops of the model are folds, and `foldl_inv` proves an
invariant of a fold from its step; `sortDedup k l` is the strictly `k`-sorted list drawn from `l`
with one element for every key, hence a function of the SET of elements where `k` is injective;
the keys `Imp.key` and `MPath.key` are injective; `wfMain` demands one entry per module path.
TidyOrder, TidyLoad and TidyFix rest on this.
Core Lean only.
-/
import CueVerif.Model.Tidy
import CueVerif.Proofs.Lib

namespace CueVerif.Tidy

/-! ## 1. `lexLt` is core's lexicographic order on `List Nat` -/

theorem lexLt_iff (a b : List Nat) : lexLt a b = true ↔ a < b := by
  induction a generalizing b with
  | nil => cases b <;> simp [lexLt]
  | cons x xs ih =>
    cases b with
    | nil => simp [lexLt]
    | cons y ys =>
      rw [List.cons_lt_cons_iff, ← ih]
      simp only [lexLt]
      split
      · simp [*]
      · split <;> simp [*] <;> omega

/-! ## 2. invariants of a fold -/

/-- `P acc seen` relates the accumulator to the prefix folded so far (`sortDedup`, `tidyRoots`,
`resolveMissing`, `keepImpliedDefaults` are folds) -/
theorem foldl_inv {α β} (f : β → α → β) (P : β → List α → Prop) (l : List α) (b : β)
    (h0 : P b []) (hstep : ∀ acc seen x, x ∈ l → P acc seen → P (f acc x) (seen ++ [x])) :
    P (l.foldl f b) l := by
  induction l generalizing b P with
  | nil => exact h0
  | cons x xs ih =>
    exact ih (fun acc seen => P acc (x :: seen)) (f b x) (hstep b [] x List.mem_cons_self h0)
      fun acc seen y hy => hstep acc (x :: seen) y (List.mem_cons_of_mem _ hy)

theorem foldl_fixed {α β} (f : β → α → β) (b : β) (l : List α) (h : ∀ a ∈ l, f b a = b) :
    l.foldl f b = b :=
  foldl_inv f (fun acc _ => acc = b) l b rfl fun _ _ a ha e => by rw [e, h a ha]

/-! ## 3. `sortDedup` depends only on the set of elements (for an injective key) -/

def KSorted {α} (k : α → List Nat) (l : List α) : Prop :=
  l.Pairwise (fun a b => k a < k b)

/-- what one insertion does to a sorted list: the result is sorted, holds nothing new but
possibly `x`, and has an element for every key of `x :: l` (`x` is dropped in favour of an
element with its key) -/
theorem insertBy_spec {α} (k : α → List Nat) (x : α) (l : List α) (h : KSorted k l) :
    KSorted k (insertBy k x l) ∧ (∀ z ∈ insertBy k x l, z = x ∨ z ∈ l) ∧
      ∀ y ∈ x :: l, ∃ z ∈ insertBy k x l, k z = k y := by
  induction l with
  | nil => exact ⟨List.pairwise_singleton .., fun z hz => .inl (List.mem_singleton.1 hz),
      fun y hy => ⟨y, hy, rfl⟩⟩
  | cons y ys ih =>
    obtain ⟨hy, hys⟩ := List.pairwise_cons.1 h
    obtain ⟨ih1, ih2, ih3⟩ := ih hys
    simp only [insertBy, lexLt_iff]
    split
    · rename_i hxy
      refine ⟨List.pairwise_cons.2 ⟨?_, h⟩, fun z hz => List.mem_cons.1 hz, fun y' hy' => ⟨y', hy', rfl⟩⟩
      intro z hz
      rcases List.mem_cons.1 hz with rfl | hz
      · exact hxy
      · exact List.lt_trans hxy (hy z hz)
    · split
      · rename_i hyx
        refine ⟨List.pairwise_cons.2 ⟨fun z hz => ?_, ih1⟩, fun z hz => ?_, fun y' hy' => ?_⟩
        · rcases ih2 z hz with rfl | hz
          · exact hyx
          · exact hy z hz
        · rcases List.mem_cons.1 hz with rfl | hz
          · exact .inr List.mem_cons_self
          · exact (ih2 z hz).imp_right (List.mem_cons_of_mem _)
        · rcases List.mem_cons.1 hy' with rfl | hy'
          · exact (ih3 _ List.mem_cons_self).imp fun z hz => ⟨List.mem_cons_of_mem _ hz.1, hz.2⟩
          · rcases List.mem_cons.1 hy' with rfl | hy'
            · exact ⟨_, List.mem_cons_self, rfl⟩
            · exact (ih3 _ (List.mem_cons_of_mem _ hy')).imp fun z hz => ⟨List.mem_cons_of_mem _ hz.1, hz.2⟩
      · rename_i h1 h2
        refine ⟨h, fun z hz => .inr hz, fun y' hy' => ?_⟩
        rcases List.mem_cons.1 hy' with rfl | hy'
        · exact ⟨y, List.mem_cons_self, List.le_antisymm (List.not_lt.1 h1) (List.not_lt.1 h2)⟩
        · exact ⟨y', hy', rfl⟩

/-- the specification of `sortDedup`: sorted by key, drawn from `l`, one element for every key -/
theorem sortDedup_spec {α} (k : α → List Nat) (l : List α) :
    KSorted k (sortDedup k l) ∧ (∀ y ∈ sortDedup k l, y ∈ l) ∧
      ∀ y ∈ l, ∃ z ∈ sortDedup k l, k z = k y := by
  refine foldl_inv _ (fun acc seen => KSorted k acc ∧ (∀ y ∈ acc, y ∈ seen) ∧
    ∀ y ∈ seen, ∃ z ∈ acc, k z = k y) l []
    ⟨List.Pairwise.nil, fun _ h => h, fun _ h => nomatch h⟩ ?_
  intro acc seen x _ ⟨h1, h2, h3⟩
  obtain ⟨s1, s2, s3⟩ := insertBy_spec k x acc h1
  refine ⟨s1, fun y hy => ?_, fun y hy => ?_⟩
  · rcases s2 y hy with rfl | h
    · exact List.mem_append_right _ (List.mem_singleton_self y)
    · exact List.mem_append_left _ (h2 y h)
  · rcases List.mem_append.1 hy with hy | hy
    · obtain ⟨z, hz, e⟩ := h3 y hy
      exact e ▸ s3 z (List.mem_cons_of_mem _ hz)
    · exact List.mem_singleton.1 hy ▸ s3 x List.mem_cons_self

theorem sortDedup_sorted {α} (k : α → List Nat) (l : List α) : KSorted k (sortDedup k l) :=
  (sortDedup_spec k l).1

theorem mem_of_mem_sortDedup {α} (k : α → List Nat) (l : List α) (y : α)
    (h : y ∈ sortDedup k l) : y ∈ l :=
  (sortDedup_spec k l).2.1 y h

theorem sortDedup_covers {α} (k : α → List Nat) (l : List α) (y : α) (h : y ∈ l) :
    ∃ z ∈ sortDedup k l, k z = k y :=
  (sortDedup_spec k l).2.2 y h

theorem mem_sortDedup {α} (k : α → List Nat) (z : α) (l : List α)
    (hinj : ∀ x ∈ l, ∀ y ∈ l, k x = k y → x = y) : z ∈ sortDedup k l ↔ z ∈ l := by
  refine ⟨mem_of_mem_sortDedup k l z, fun h => ?_⟩
  obtain ⟨y, hy, he⟩ := sortDedup_covers k l z h
  exact hinj y (mem_of_mem_sortDedup k l y hy) z h he ▸ hy

theorem ksorted_ext {α} (k : α → List Nat) (l1 l2 : List α) (h1 : KSorted k l1)
    (h2 : KSorted k l2) (hm : ∀ x, x ∈ l1 ↔ x ∈ l2) : l1 = l2 :=
  pairwise_ext (fun _ _ => List.lt_asymm) h1 h2 hm

/-- `sortDedup` is a function of the SET of elements, for a key injective on that set -/
theorem sortDedup_congr {α} (k : α → List Nat) (l l' : List α)
    (hinj : ∀ x ∈ l, ∀ y ∈ l, k x = k y → x = y) (hm : ∀ x, x ∈ l ↔ x ∈ l') :
    sortDedup k l = sortDedup k l' := by
  have hinj' : ∀ x ∈ l', ∀ y ∈ l', k x = k y → x = y :=
    fun x hx y hy => hinj x ((hm x).2 hx) y ((hm y).2 hy)
  refine ksorted_ext k _ _ (sortDedup_sorted k l) (sortDedup_sorted k l') ?_
  intro x
  rw [mem_sortDedup k x l hinj, mem_sortDedup k x l' hinj', hm]

theorem sortDedup_perm {α} (k : α → List Nat) (l l' : List α)
    (hinj : ∀ x ∈ l, ∀ y ∈ l, k x = k y → x = y) (h : l.Perm l') :
    sortDedup k l = sortDedup k l' :=
  sortDedup_congr k l l' hinj (fun _ => h.mem_iff)

/-! ## 4. the keys are injective on small paths -/

theorem append_split (p q s t : List Nat) (hp : ∀ x ∈ p, x < 1000) (hq : ∀ x ∈ q, x < 1000)
    (hs : ∀ x ∈ s, 1000 ≤ x) (ht : ∀ x ∈ t, 1000 ≤ x) (h : p ++ s = q ++ t) :
    p = q ∧ s = t := by
  have nil : ∀ a : List Nat, (∀ x ∈ a, x < 1000) → (∀ x ∈ a, 1000 ≤ x) → a = [] := fun a h1 h2 =>
    List.eq_nil_iff_forall_not_mem.2 fun x hx => by have := h1 x hx; have := h2 x hx; omega
  -- the longer of `p`, `q` exceeds the other by a segment `a` that also starts `t` or `s`
  rcases List.append_eq_append_iff.1 h with ⟨a, rfl, rfl⟩ | ⟨a, rfl, rfl⟩
  · obtain rfl := nil a (fun x hx => hq x (List.mem_append_right _ hx))
      (fun x hx => hs x (List.mem_append_left _ hx))
    simp
  · obtain rfl := nil a (fun x hx => hp x (List.mem_append_right _ hx))
      (fun x hx => ht x (List.mem_append_left _ hx))
    simp

/-- all path elements are proper element ids (< 1000, the offset `Imp.key` uses for majors) -/
abbrev Imp.small (i : Imp) : Prop := ∀ x ∈ i.path, x < 1000

abbrev MPath.small (m : MPath) : Prop := ∀ x ∈ m.base, x < 1000

theorem Imp.key_inj (i j : Imp) (hi : i.small) (hj : j.small) (h : i.key = j.key) : i = j := by
  obtain ⟨ip, im⟩ := i
  obtain ⟨jp, jm⟩ := j
  simp only [Imp.key] at h
  have := append_split ip jp _ _ hi hj
    (by cases im <;> simp) (by cases jm <;> simp) h
  obtain ⟨h1, h2⟩ := this
  subst h1
  cases im <;> cases jm <;> simp_all

theorem MPath.ext {a b : MPath} (h1 : a.base = b.base) (h2 : a.major = b.major) : a = b := by
  cases a; cases b; simp only at h1 h2; rw [h1, h2]

/-- the major version is the last element of the key: no bound on the base path is needed -/
theorem MPath.key_inj (a b : MPath) (h : a.key = b.key) : a = b := by
  obtain ⟨h1, h2⟩ := List.append_inj' h rfl
  exact MPath.ext h1 (by simpa using h2)

/-! ## 5. one entry per key: what `wfMain` demands -/

theorem distinct_of_nodup_map {α β} (f : α → β) (l : List α) (h : (l.map f).Nodup) :
    ∀ x ∈ l, ∀ y ∈ l, f x = f y → x = y := by
  induction l with
  | nil => intro x hx; cases hx
  | cons a as ih =>
    rw [List.map_cons, List.nodup_cons] at h
    intro x hx y hy e
    rcases List.mem_cons.1 hx with hx | hx <;> rcases List.mem_cons.1 hy with hy | hy
    · rw [hx, hy]
    · exact absurd (List.mem_map.2 ⟨y, hy, by rw [← e, hx]⟩) h.1
    · exact absurd (List.mem_map.2 ⟨x, hx, by rw [e, hy]⟩) h.1
    · exact ih h.2 x hx y hy e

theorem nodupKeys_iff {α} [DecidableEq α] (l : List α) : nodupKeys l = true ↔ l.Nodup := by
  induction l with
  | nil => simp [nodupKeys]
  | cons x xs ih => simp [nodupKeys, ih]

theorem wfMain_iff (m : Mod) : wfMain m = true ↔
    (m.deps.map (·.mp)).Nodup ∧ (∀ d ∈ m.deps, d.mp ≠ m.mp) ∧ ((fileDflts m).map (·.1)).Nodup := by
  simp [wfMain, nodupKeys_iff, and_assoc]

/-- a module file has one entry per module path (what `wfMain` checks for the main module) -/
abbrev Mod.depsDistinct (m : Mod) : Prop :=
  ∀ d ∈ m.deps, ∀ d' ∈ m.deps, d.mp = d'.mp → d = d'

theorem depsDistinct_of_wfMain {m : Mod} (h : wfMain m = true) : m.depsDistinct :=
  distinct_of_nodup_map (·.mp) m.deps ((wfMain_iff m).1 h).1

end CueVerif.Tidy
