/-
The position table of `token.File` (C09): well-formedness under `AddLine`, the `Pos`/`Offset` round
trip, the binary search, and `Position` as the greatest line start ≤ the offset.  Core Lean only.
-/
import CueVerif.Spec.TokenFile
namespace CueVerif.TokenFile

theorem newFile_wf (size : Int) (h : 0 ≤ size) : WF (newFile size) :=
  ⟨h, rfl, by simp [newFile], by intro x hx; simp [newFile] at hx⟩

theorem lt_of_lastLt {lines : List Int} (hs : lines.Pairwise (· < ·)) {x : Int}
    (h : lastLt lines x = true) : ∀ l ∈ lines, l < x := by
  unfold lastLt at h
  split at h
  next hl => simp [List.getLast?_eq_none_iff.mp hl]
  next l hl =>
    obtain ⟨ys, rfl⟩ := List.getLast?_eq_some_iff.mp hl
    rw [decide_eq_true_eq] at h
    intro a ha
    rcases List.mem_append.mp ha with h1 | h1
    · exact Int.lt_trans ((List.pairwise_append.mp hs).2.2 a h1 l (by simp)) h
    · rw [List.mem_singleton.mp h1]; exact h

theorem addLine_wf (f : File) (o : Int) (h : WF f) : WF (addLine f o) := by
  unfold addLine
  split
  next hc =>
    simp only [Bool.and_eq_true, decide_eq_true_eq] at hc
    have hne : f.lines ≠ [] := by intro e; have := h.head; rw [e] at this; cases this
    refine ⟨h.size_nonneg, ?_, ?_, ?_⟩
    · show (f.lines ++ [o]).head? = some 0
      rw [List.head?_append, h.head]; rfl
    · exact List.pairwise_append.mpr ⟨h.sorted, List.pairwise_singleton _ _,
        fun a ha b hb => by rw [List.mem_singleton.mp hb]; exact lt_of_lastLt h.sorted hc.1 a ha⟩
    · intro x hx
      rw [show (f.lines ++ [o]).tail = f.lines.tail ++ [o] from List.tail_append_of_ne_nil hne] at hx
      rcases List.mem_append.mp hx with h1 | h1
      · exact h.bound x h1
      · rw [List.mem_singleton.mp h1]; exact hc.2
  next => exact h

theorem addLines_wf (offs : List Int) : ∀ (f : File), WF f → WF (addLines f offs) := by
  induction offs with
  | nil => intro f h; exact h
  | cons o rest ih => intro f h; exact ih _ (addLine_wf f o h)

theorem addLine_size (f : File) (o : Int) : (addLine f o).size = f.size := by
  unfold addLine; split <;> rfl

theorem addLines_size (offs : List Int) : ∀ f : File, (addLines f offs).size = f.size := by
  induction offs with
  | nil => intro f; rfl
  | cons o rest ih => intro f; simp only [addLines, List.foldl_cons] at *; rw [ih, addLine_size]

/-! ### `fixOffset`, `Pos`, `Offset`, `Add` -/

theorem fixOffset_range (f : File) (h : 0 ≤ f.size) (o : Int) :
    0 ≤ fixOffset f o ∧ fixOffset f o ≤ f.size := by
  unfold fixOffset; repeat' split
  all_goals omega

theorem fixOffset_id (f : File) (o : Int) (h0 : 0 ≤ o) (h1 : o ≤ f.size) : fixOffset f o = o := by
  unfold fixOffset; repeat' split
  all_goals omega

theorem index_pos (f : File) (o rel : Int) (hr0 : 0 ≤ rel) (hr1 : rel < 64) :
    index (pos f o rel) = 1 + fixOffset f o := by
  unfold index pos toPos relUnit; omega

theorem offset_pos (f : File) (h : 0 ≤ f.size) (o rel : Int) (hr0 : 0 ≤ rel) (hr1 : rel < 64) :
    offset f (pos f o rel) = fixOffset f o := by
  unfold offset
  rw [index_pos f o rel hr0 hr1]
  have := fixOffset_range f h o
  rw [show 1 + fixOffset f o - 1 = fixOffset f o by omega]
  exact fixOffset_id f _ this.1 this.2

theorem pos_offset (f : File) (h : 0 ≤ f.size) (o rel : Int) (hr0 : 0 ≤ rel) (hr1 : rel < 64) :
    pos f (offset f (pos f o rel)) rel = pos f o rel := by
  rw [offset_pos f h o rel hr0 hr1]
  have := fixOffset_range f h o
  unfold pos
  rw [fixOffset_id f _ this.1 this.2]

theorem offset_add (f : File) (p n : Int) : offset f (add p n) = fixOffset f (index p - 1 + n) := by
  unfold offset add index toPos relUnit
  congr 1; omega

/-! ### the binary search and `Position` -/

theorem sorted_get {a : List Int} (hs : a.Pairwise (· < ·)) {k h : Nat} {w v : Int} (hk : k < h)
    (h1 : a[k]? = some w) (h2 : a[h]? = some v) : w < v := by
  obtain ⟨b1, e1⟩ := List.getElem?_eq_some_iff.mp h1
  obtain ⟨b2, e2⟩ := List.getElem?_eq_some_iff.mp h2
  have := List.pairwise_iff_getElem.mp hs k h b1 b2 hk
  omega

theorem sorted_get_le {a : List Int} (hs : a.Pairwise (· < ·)) {k h : Nat} {w v : Int} (hk : k ≤ h)
    (h1 : a[k]? = some w) (h2 : a[h]? = some v) : w ≤ v := by
  rcases Nat.eq_or_lt_of_le hk with rfl | hlt
  · rw [h1] at h2; cases h2; exact Int.le_refl _
  · exact Int.le_of_lt (sorted_get hs hlt h1 h2)

/-- the invariant of the binary search: everything left of `i` is ≤ x, everything from `j` on is > x -/
def Cut (a : List Int) (x : Int) (i j : Nat) : Prop :=
  (∀ k v, k < i → a[k]? = some v → v ≤ x) ∧ (∀ k v, j ≤ k → a[k]? = some v → x < v)

/-- the loop of `searchInts` ends (fuel `j - i + 1` suffices), never indexes out of range, and
returns the number of entries ≤ x -/
theorem searchLoop_spec (a : List Int) (x : Int) (hs : a.Pairwise (· < ·)) :
    ∀ fuel i j, i ≤ j → j ≤ a.length → j - i < fuel → Cut a x i j →
      ∃ r, searchLoop a x fuel i j = .ok r ∧ r ≤ a.length ∧ Cut a x r r := by
  intro fuel
  induction fuel with
  | zero => intro i j _ _ h; omega
  | succ fuel ih =>
    intro i j hij hj hf inv
    unfold searchLoop
    split
    next hlt =>
      have hh1 : i ≤ i + (j - i) / 2 := by omega
      have hh2 : i + (j - i) / 2 < j := by omega
      generalize i + (j - i) / 2 = h at hh1 hh2
      -- named: `a[h]` below then carries a variable, not the arithmetic proof
      have hb : h < a.length := by omega
      have hget : a[h]? = some a[h] := List.getElem?_eq_getElem hb
      simp only [hget]
      split
      next hv =>
        exact ih (h + 1) j (by omega) hj (by omega)
          ⟨fun k v hk hkv => Int.le_trans (sorted_get_le hs (by omega) hkv hget) hv, inv.2⟩
      next hv =>
        exact ih i h (by omega) (by omega) (by omega)
          ⟨inv.1, fun k v hk hkv => Int.lt_of_lt_of_le (Int.not_le.mp hv) (sorted_get_le hs hk hget hkv)⟩
    next hlt =>
      have : i = j := by omega
      subst this
      exact ⟨i, rfl, hj, inv⟩

theorem searchInts_spec (a : List Int) (x : Int) (hs : a.Pairwise (· < ·)) :
    ∃ r : Nat, searchInts a x = .ok ((r : Int) - 1) ∧ r ≤ a.length ∧ Cut a x r r := by
  obtain ⟨r, h1, h2⟩ := searchLoop_spec a x hs (a.length + 1) 0 a.length (by omega)
    (by omega) (by omega)
    ⟨by intro k v hk; omega, by
      intro k v hk hkv
      obtain ⟨b, _⟩ := List.getElem?_eq_some_iff.mp hkv
      omega⟩
  exact ⟨r, by simp [searchInts, h1], h2⟩

theorem unpack_good (f : File) (hwf : WF f) (o : Int) (h0 : 0 ≤ o) (h1 : o ≤ f.size) :
    ∃ l c, unpack f o = .ok (l, c) ∧ GoodPosition f o ⟨o, l, c⟩ := by
  obtain ⟨r, hr, hlen, hle, hgt⟩ := searchInts_spec f.lines o hwf.sorted
  have hhead : f.lines[0]? = some 0 := by rw [← List.head?_eq_getElem?]; exact hwf.head
  -- line 1 starts at 0 ≤ o, so at least one entry is ≤ o
  have hr1 : 1 ≤ r := Nat.pos_of_ne_zero fun e => by
    subst e
    have := hgt 0 0 (Nat.le_refl _) hhead
    omega
  have hb : r - 1 < f.lines.length := by omega
  have hget : f.lines[r - 1]? = some f.lines[r - 1] := List.getElem?_eq_getElem hb
  have hle' := hle (r - 1) _ (by omega) hget
  have ht : ((r : Int) - 1).toNat = r - 1 := by omega
  refine ⟨(r : Int), o - f.lines[r - 1] + 1, ?_, ?_⟩
  · unfold unpack
    rw [hr]
    have hi : ((r : Int) - 1) ≥ 0 := by omega
    simp only [hi, if_true, ht, hget]
    congr 2
    omega
  · refine ⟨rfl, h0, h1, by simp only; omega, by simp only; omega, by simp only; omega, ?_, ?_⟩
    · simp only [ht, hget]
      congr 1; omega
    · intro nxt hn
      simp only [Int.toNat_natCast] at hn
      exact hgt r nxt (by omega) hn

theorem position_good (f : File) (hwf : WF f) (o rel : Int) (hr0 : 0 ≤ rel) (hr1 : rel < 64) :
    ∃ p, position f (pos f o rel) = .ok p ∧ GoodPosition f (fixOffset f o) p := by
  have hrange := fixOffset_range f hwf.size_nonneg o
  obtain ⟨l, c, hu, hg⟩ := unpack_good f hwf (fixOffset f o) hrange.1 hrange.2
  refine ⟨⟨fixOffset f o, l, c⟩, ?_, hg⟩
  unfold position
  simp only [offset_pos f hwf.size_nonneg o rel hr0 hr1, hu]

/-- the start offset of the reported line, `o - (column - 1)`, as the table has it -/
theorem GoodPosition.start {f : File} {o : Int} {p : Position} (g : GoodPosition f o p) :
    f.lines[(p.line - 1).toNat]? = some (o - (p.column - 1)) := g.2.2.2.2.2.2.1

theorem GoodPosition.start_mem {f : File} {o : Int} {p : Position} (g : GoodPosition f o p) :
    o - (p.column - 1) ∈ f.lines := List.mem_of_getElem? g.start

theorem GoodPosition.start_le {f : File} {o : Int} {p : Position} (g : GoodPosition f o p) :
    o - (p.column - 1) ≤ o := by have := g.2.2.2.2.2.1; omega

/-- in a well-formed table, the start of the reported line is the GREATEST table entry that is
≤ the offset -/
theorem good_greatest (f : File) (hwf : WF f) (o : Int) (p : Position) (g : GoodPosition f o p)
    (x : Int) (hx : x ∈ f.lines) (hxo : x ≤ o) : x ≤ o - (p.column - 1) := by
  obtain ⟨_, _, _, a1, a2, a3, a4, a5⟩ := g
  obtain ⟨k, hk⟩ := List.getElem?_of_mem hx
  rcases Nat.lt_or_ge (p.line - 1).toNat k with hgt | hle
  · -- an entry of a later line is not below the start of the next line, which is above `o`
    exfalso
    have hkb : k < f.lines.length := (List.getElem?_eq_some_iff.mp hk).1
    have hlb : p.line.toNat < f.lines.length := by omega
    have hw : f.lines[p.line.toNat]? = some f.lines[p.line.toNat] := List.getElem?_eq_getElem hlb
    have := a5 _ hw
    have := sorted_get_le hwf.sorted (show p.line.toNat ≤ k by omega) hw hk
    omega
  · exact sorted_get_le hwf.sorted hle hk a4

/-- the start of the smaller offset's line is a table entry ≤ the larger offset: `good_greatest` -/
theorem good_monotone (f : File) (hwf : WF f) (o1 o2 : Int) (p1 p2 : Position) (h : o1 ≤ o2)
    (g1 : GoodPosition f o1 p1) (g2 : GoodPosition f o2 p2) :
    p1.line < p2.line ∨ (p1.line = p2.line ∧ p1.column ≤ p2.column) := by
  have hs := good_greatest f hwf o2 p2 g2 _ g1.start_mem (Int.le_trans g1.start_le h)
  have a4 := g1.start
  have b4 := g2.start
  rcases Int.lt_trichotomy p1.line p2.line with hlt | heq | hgt
  · exact Or.inl hlt
  · right
    rw [heq] at a4
    rw [a4] at b4
    have := Option.some.inj b4
    exact ⟨heq, by omega⟩
  · have := g2.2.2.2.1
    have := sorted_get hwf.sorted
      (show (p2.line - 1).toNat < (p1.line - 1).toNat by omega) b4 a4
    omega

end CueVerif.TokenFile
