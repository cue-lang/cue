/-
The line table the scanner builds is the content-based one (C09): its entries are exactly
offset 0 and the offsets after the line feed bytes that lie inside the text.  Core Lean only.
-/
import CueVerif.Proofs.TokenFile
namespace CueVerif.TokenFile

theorem mem_newlineOffsets : ∀ (c : List Nat) (off x : Int),
    x ∈ newlineOffsets c off ↔ ∃ i : Nat, c[i]? = some 10 ∧ x = off + (i : Int) + 1 := by
  intro c
  induction c with
  | nil => intro off x; simp [newlineOffsets]
  | cons b rest ih =>
    intro off x
    unfold newlineOffsets
    rw [List.mem_append, ih, List.mem_ite_nil_right, List.mem_singleton, beq_iff_eq]
    constructor
    · rintro (⟨rfl, hx⟩ | ⟨i, hi, hx⟩)
      · exact ⟨0, rfl, by omega⟩
      · exact ⟨i + 1, hi, by omega⟩
    · rintro ⟨_ | i, hi, hx⟩
      · exact .inl ⟨Option.some.inj hi, by omega⟩
      · exact .inr ⟨i, hi, by omega⟩

theorem newlineOffsets_gt (c : List Nat) (off x : Int) (h : x ∈ newlineOffsets c off) : off < x := by
  obtain ⟨i, _, hx⟩ := (mem_newlineOffsets c off x).mp h
  omega

theorem newlineOffsets_sorted : ∀ (c : List Nat) (off : Int), (newlineOffsets c off).Pairwise (· < ·) := by
  intro c
  induction c with
  | nil => intro off; simp [newlineOffsets]
  | cons b rest ih =>
    intro off
    unfold newlineOffsets
    rw [List.pairwise_append]
    refine ⟨by split <;> simp, ih _, ?_⟩
    intro a ha y hy
    have := newlineOffsets_gt rest (off + 1) y hy
    rw [List.mem_ite_nil_right, List.mem_singleton] at ha
    omega

theorem lastLt_of_all (lines : List Int) (x : Int) (h : ∀ l ∈ lines, l < x) : lastLt lines x = true := by
  unfold lastLt
  split
  · rfl
  · rename_i l hl
    have : l ∈ lines := List.mem_of_getLast? hl
    simpa using h l this

theorem addLine_lines (f : File) (o : Int) (h : ∀ l ∈ f.lines, l < o) :
    (addLine f o).lines = f.lines ++ [o].filter (fun x => decide (x < f.size)) := by
  unfold addLine
  rw [lastLt_of_all f.lines o h, Bool.true_and]
  by_cases ho : o < f.size <;> simp [ho]

/-- `AddLine` calls with strictly increasing offsets above everything in the table append
exactly the offsets below the file size -/
theorem addLines_lines_of_sorted : ∀ (offs : List Int) (f : File), offs.Pairwise (· < ·) →
    (∀ x ∈ offs, ∀ l ∈ f.lines, l < x) →
    (addLines f offs).lines = f.lines ++ offs.filter (fun x => decide (x < f.size)) := by
  intro offs
  induction offs with
  | nil => intro f _ _; simp [addLines]
  | cons o rest ih =>
    intro f hs hgt
    rw [List.pairwise_cons] at hs
    have hl := addLine_lines f o (hgt o List.mem_cons_self)
    show (addLines (addLine f o) rest).lines = _
    rw [ih _ hs.2, addLine_size, hl, List.append_assoc, ← List.filter_append, List.singleton_append]
    intro x hx l hl'
    rw [hl] at hl'
    rcases List.mem_append.mp hl' with h | h
    · exact hgt x (List.mem_cons_of_mem _ hx) l h
    · rw [List.mem_singleton.mp (List.mem_filter.mp h).1]; exact hs.1 x hx

theorem scannedFile_lines (c : List Nat) :
    (scannedFile c).lines = 0 :: (newlineOffsets c 0).filter (fun x => decide (x < (c.length : Int))) := by
  unfold scannedFile
  rw [addLines_lines_of_sorted _ _ (newlineOffsets_sorted c 0)]
  · rfl
  · intro x hx l hl
    simp only [newFile, List.mem_singleton] at hl
    subst hl
    exact newlineOffsets_gt c 0 x hx

theorem mem_scannedFile_lines (c : List Nat) (x : Int) : x ∈ (scannedFile c).lines ↔ IsLineStart c x := by
  rw [scannedFile_lines]
  simp only [List.mem_cons, List.mem_filter, decide_eq_true_eq, mem_newlineOffsets]
  unfold IsLineStart
  constructor
  · rintro (h | ⟨⟨i, hi, hx⟩, hlt⟩)
    · exact Or.inl h
    · exact Or.inr ⟨i, hi, by omega, by omega⟩
  · rintro (h | ⟨i, hi, hx, hlt⟩)
    · exact Or.inl h
    · exact Or.inr ⟨⟨i, hi, by omega⟩, by omega⟩

theorem scannedFile_wf (c : List Nat) : WF (scannedFile c) :=
  addLines_wf _ _ (newFile_wf _ (by omega))

/-- `Position` on the table the scanner builds for the text `c`, characterised by the CONTENT:
the reported line starts at a line start of the text (offset 0 or just after a line feed), and
no line start of the text lies between it and the offset -/
theorem position_content (c : List Nat) (o rel : Int) (hr0 : 0 ≤ rel) (hr1 : rel < 64) :
    ∃ p, position (scannedFile c) (pos (scannedFile c) o rel) = .ok p ∧
      GoodPosition (scannedFile c) (fixOffset (scannedFile c) o) p ∧
      IsLineStart c (p.offset - (p.column - 1)) ∧
      (∀ x, IsLineStart c x → x ≤ p.offset → x ≤ p.offset - (p.column - 1)) := by
  obtain ⟨p, hp, hg⟩ := position_good (scannedFile c) (scannedFile_wf c) o rel hr0 hr1
  have h1 := hg.1
  refine ⟨p, hp, hg, ?_, fun x hx hxo => ?_⟩
  · rw [← mem_scannedFile_lines, h1]
    exact hg.start_mem
  · rw [h1] at hxo ⊢
    exact good_greatest _ (scannedFile_wf c) _ p hg x ((mem_scannedFile_lines c x).mpr hx) hxo

theorem linesForContentLoop_eq : ∀ (c : List Nat) (line off : Int), 0 ≤ off →
    linesForContentLoop c line off =
      (if c ≠ [] ∧ 0 ≤ line then [line] else []) ++
        (newlineOffsets c off).filter (fun x => decide (x < off + (c.length : Int))) := by
  intro c
  induction c with
  | nil => intro line off _; simp [linesForContentLoop, newlineOffsets]
  | cons b rest ih =>
    intro line off hoff
    unfold linesForContentLoop newlineOffsets
    dsimp only
    rw [ih _ (off + 1) (by omega)]
    have hf : ∀ x : Int, decide (x < off + 1 + (rest.length : Int)) = decide (x < off + ((b :: rest).length : Int)) := by
      intro x; rw [decide_eq_decide]; simp only [List.length_cons]; omega
    simp only [List.filter_append, hf]
    by_cases hb : b = 10
    · subst hb
      cases rest with
      | nil => simp [newlineOffsets]
      | cons r rs =>
        have : (0:Int) ≤ off + 1 := by omega
        simp [List.filter_cons, this]
        have h1 : (1 : Int) < (rs.length : Int) + 1 + 1 := by omega
        simp [h1]
    · have hb' : (b == 10) = false := by simpa using hb
      simp [hb']

theorem setLinesForContent_eq_scanned (f : File) (c : List Nat) (hc : c ≠ []) :
    (setLinesForContent f c).lines = (scannedFile c).lines := by
  rw [scannedFile_lines]
  unfold setLinesForContent
  dsimp only
  rw [linesForContentLoop_eq c 0 0 (by omega)]
  simp [hc]

end CueVerif.TokenFile
