/-
C12: every emission of the encoder model is valid TOML (reference semantics `tomlSpec`) with
the meaning of the tree (`emit_valid`).  The spec-side analogue of `roundtrip`: the store of
defined paths is tracked with a frame (`SFrame`: which paths a run may have (re)defined) and the
resolution of the header key stack (`Res`: `walkHeader` reaches the current position without
creating implicit tables).  The appended facts are literally `kvFacts`/`subFacts`/… of
TomlRoundFacts.
-/
import CueVerif.Spec.Toml
import CueVerif.Proofs.TomlPaths
import CueVerif.Proofs.TomlRoundFacts
open CueVerif.Toml CueVerif.Toml.Spec CueVerif.Toml.Round
namespace CueVerif.Toml.EmitValid

/-- the store is unchanged (as a function `kindAt`) outside `Q` -/
def SFrame (Q : Path → Prop) (σ σ' : Store) : Prop := ∀ r, ¬ Q r → kindAt σ' r = kindAt σ r

theorem SFrame.refl (Q : Path → Prop) (σ : Store) : SFrame Q σ σ := fun _ _ => rfl

theorem SFrame.trans {Q : Path → Prop} {a b c : Store} (h1 : SFrame Q a b) (h2 : SFrame Q b c) :
    SFrame Q a c := fun r hr => (h2 r hr).trans (h1 r hr)

theorem SFrame.mono {Q Q' : Path → Prop} {a b : Store} (hq : ∀ r, Q r → Q' r) (h : SFrame Q a b) :
    SFrame Q' a b := fun r hr => h r (fun h' => hr (hq r h'))

theorem sframe_define {Q : Path → Prop} {σ : Store} {p : Path} {k : Kind} (h : Q p) :
    SFrame Q σ (define σ p k) := fun r hr => by
  rw [kindAt_define, if_neg]
  rintro rfl
  exact hr h

theorem kindAt_define_self (σ : Store) (p : Path) (k : Kind) : kindAt (define σ p k) p = some k := by
  rw [kindAt_define, if_pos rfl]

theorem kindAt_define_sext {σ : Store} {p r : Path} {k : Kind} (h : SExt p r) :
    kindAt (define σ p k) r = kindAt σ r := by
  rw [kindAt_define, if_neg (fun e => SExt_irrefl _ (e ▸ h))]

/-- `walkHeader` resolves the key stack to `q` through explicit tables / last array elements -/
inductive Res (σ : Store) : Path → List Name → Path → Prop
  | nil (cur : Path) : Res σ cur [] cur
  | header {cur : Path} {k : Name} {ks : List Name} {q : Path} :
      kindAt σ (cur ++ [.key k]) = some .header → Res σ (cur ++ [.key k]) ks q →
      Res σ cur (k :: ks) q
  | aot {cur : Path} {k : Name} {ks : List Name} {q : Path} {n : Nat} :
      kindAt σ (cur ++ [.key k]) = some (.aot n) →
      Res σ (cur ++ [.key k] ++ [.idx (n - 1)]) ks q → Res σ cur (k :: ks) q

theorem Res.walk {σ : Store} {cur q : Path} {ks : List Name} (h : Res σ cur ks q) :
    walkHeader σ cur ks = .ok (σ, q) := by
  induction h with
  | nil cur => simp only [walkHeader]
  | header hk _ ih => simp only [walkHeader, hk, ih]
  | aot hk _ ih => simp only [walkHeader, hk, ih]

theorem Res.isPrefix {σ : Store} {cur q : Path} {ks : List Name} (h : Res σ cur ks q) :
    cur <+: q := by
  induction h with
  | nil cur => exact List.prefix_refl _
  | header _ _ ih => exact (List.prefix_append _ _).trans ih
  | aot _ _ ih =>
    refine List.IsPrefix.trans ?_ ih
    rw [List.append_assoc]
    exact List.prefix_append _ _

/-- the resolution reads the store only at prefixes of `q` -/
theorem Res.frame {Q : Path → Prop} {σ σ' : Store} {cur q : Path} {ks : List Name}
    (hf : SFrame Q σ σ') (hq : ∀ r, Q r → ¬ r <+: q) (h : Res σ cur ks q) : Res σ' cur ks q := by
  replace hq : ∀ r, r <+: q → kindAt σ' r = kindAt σ r := fun r hp => hf r fun h' => hq r h' hp
  induction h with
  | nil cur => exact .nil _
  | header hk hr ih =>
    exact .header (by rw [hq _ hr.isPrefix, hk]) (ih hq)
  | aot hk hr ih =>
    have hp : (_ ++ [Seg.key _] : Path) <+: _ := (List.prefix_append _ _).trans hr.isPrefix
    exact .aot (by rw [hq _ hp, hk]) (ih hq)

theorem Res.trans {σ : Store} {cur q q' : Path} {ks ks' : List Name} (h : Res σ cur ks q)
    (h' : Res σ q ks' q') : Res σ cur (ks ++ ks') q' := by
  induction h with
  | nil cur => exact h'
  | header hk _ ih => exact .header hk (ih h')
  | aot hk _ ih => exact .aot hk (ih h')

mutual
theorem toVal_facts : ∀ (t : Tree) (p : Path), t.toVal.facts p = t.facts p
  | .sc a, p => by simp only [Tree.toVal, Val.facts, Tree.facts]
  | .arr xs, p => by simp only [Tree.toVal, Val.facts, Tree.facts, toValElems_facts xs p 0]
  | .tbl fs, p => by simp only [Tree.toVal, Val.facts, Tree.facts, toValFields_facts fs p]
theorem toValElems_facts : ∀ (xs : List Tree) (p : Path) (i : Nat),
    factsElems p i (toValElems xs) = treeFactsElems p i xs
  | [], p, i => by simp only [toValElems, factsElems, treeFactsElems]
  | x :: xs, p, i => by
    simp only [toValElems, factsElems, treeFactsElems, toVal_facts x, toValElems_facts xs p (i + 1)]
theorem toValFields_facts : ∀ (fs : List (Name × Tree)) (p : Path),
    factsFields p (toValFields fs) = treeFactsFields p fs
  | [], p => by simp only [toValFields, factsFields, treeFactsFields]
  | f :: fs, p => by
    simp only [toValFields, factsFields, treeFactsFields, toVal_facts f.2, toValFields_facts fs p]
    rfl
end

mutual
theorem dv_ok : ∀ (t : Tree) (p : Path) (σ : Store), SafeTree t →
    (∀ r, SExt p r → kindAt σ r = none) →
    ∃ σ', defineVal p t.toVal σ = .ok σ' ∧ SFrame (fun r => p <+: r) σ σ'
  | .sc a, p, σ, _, _ =>
    ⟨define σ p .value, by simp only [Tree.toVal, defineVal], sframe_define (List.prefix_refl _)⟩
  | .arr xs, p, σ, hs, h => by
    simp only [SafeTree] at hs
    obtain ⟨σ', hr, hf⟩ := dv_elems xs p 0 (define σ p .value) hs (fun j _ r hp =>
      (kindAt_define_sext (sext_of_snoc_prefix hp)).trans (h r (sext_of_snoc_prefix hp)))
    refine ⟨σ', by simpa only [Tree.toVal, defineVal] using hr, ?_⟩
    exact (sframe_define (Q := fun r => p <+: r) (List.prefix_refl _)).trans
      (hf.mono (fun r hr => hr.isPrefix))
  | .tbl fs, p, σ, hs, h => by
    simp only [SafeTree] at hs
    obtain ⟨σ', hr, hf⟩ := dv_fields fs p (define σ p .value) hs.1 hs.2 (fun f _ r hp =>
      (kindAt_define_sext (sext_of_snoc_prefix hp)).trans (h r (sext_of_snoc_prefix hp)))
    refine ⟨σ', by simpa only [Tree.toVal, defineVal] using hr, ?_⟩
    exact (sframe_define (Q := fun r => p <+: r) (List.prefix_refl _)).trans
      (hf.mono (fun r hr => hr.isPrefix))
theorem dv_elems : ∀ (xs : List Tree) (p : Path) (i : Nat) (σ : Store), SafeElems xs →
    (∀ j, i ≤ j → ∀ r, (p ++ [.idx j]) <+: r → kindAt σ r = none) →
    ∃ σ', defineElems p i (toValElems xs) σ = .ok σ' ∧ SFrame (fun r => SExt p r) σ σ'
  | [], p, i, σ, _, _ => ⟨σ, by simp only [toValElems, defineElems], SFrame.refl _ _⟩
  | x :: xs, p, i, σ, hs, h => by
    simp only [SafeElems] at hs
    obtain ⟨σ1, hr1, hf1⟩ := dv_ok x (p ++ [.idx i]) σ hs.1
      (fun r hr => h i (Nat.le_refl _) r hr.isPrefix)
    obtain ⟨σ2, hr2, hf2⟩ := dv_elems xs p (i + 1) σ1 hs.2 (fun j hj r hp => by
      rw [hf1 r (fun hp' => by have := Seg.idx.inj (snoc_prefix_eq hp hp'); omega)]
      exact h j (by omega) r hp)
    refine ⟨σ2, by simp only [toValElems, defineElems, hr1, hr2], ?_⟩
    exact (hf1.mono (fun r hr => sext_of_snoc_prefix hr)).trans hf2
theorem dv_fields : ∀ (fs : List (Name × Tree)) (p : Path) (σ : Store),
    (fs.map (·.1)).Nodup → SafeFields fs →
    (∀ f ∈ fs, ∀ r, (p ++ [.key f.1]) <+: r → kindAt σ r = none) →
    ∃ σ', defineFields p (toValFields fs) σ = .ok σ' ∧ SFrame (fun r => SExt p r) σ σ'
  | [], p, σ, _, _, _ => ⟨σ, by simp only [toValFields, defineFields], SFrame.refl _ _⟩
  | f :: rest, p, σ, hn, hs, h => by
    simp only [SafeFields] at hs
    simp only [List.map_cons, List.nodup_cons] at hn
    have hleaf : kindAt σ (p ++ [.key f.1]) = none :=
      h f (List.mem_cons_self ..) _ (List.prefix_refl _)
    obtain ⟨σ1, hr1, hf1⟩ := dv_ok f.2 (p ++ [.key f.1]) σ hs.1
      (fun r hr => h f (List.mem_cons_self ..) r hr.isPrefix)
    obtain ⟨σ2, hr2, hf2⟩ := dv_fields rest p σ1 hn.2 hs.2 (fun f' hf' r hp => by
      rw [hf1 r (fun hp' => hn.1 (List.mem_map.mpr ⟨f', hf', Seg.key.inj (snoc_prefix_eq hp hp')⟩))]
      exact h f' (List.mem_cons_of_mem _ hf') r hp)
    refine ⟨σ2, ?_, ?_⟩
    · simp only [toValFields, defineFields, List.getLast?_singleton, List.dropLast_singleton,
        walkDotted, hleaf, hr1, hr2]
    · exact (hf1.mono (fun r hr => sext_of_snoc_prefix hr)).trans hf2
end

/-! ### the four kinds of steps -/

theorem sstep_kv {s : SSt} {P : Path} {k : Name} {v : Val} {σ' : Store} (hc : s.cur = P)
    (hleaf : kindAt s.store (P ++ [.key k]) = none)
    (hd : defineVal (P ++ [.key k]) v s.store = .ok σ') :
    sstep s (.kv [k] v) =
      .ok { s with store := σ', facts := s.facts ++ v.facts (P ++ [.key k]) } := by
  simp only [sstep, defineFields, List.getLast?_singleton, List.dropLast_singleton, walkDotted, hc,
    hleaf, hd]
  rfl

theorem sstep_table {s : SSt} {K : List Name} {k : Name} {P : Path} (hr : Res s.store [] K P)
    (hleaf : kindAt s.store (P ++ [.key k]) = none) :
    sstep s (.table (K ++ [k])) =
      .ok { store := define s.store (P ++ [.key k]) .header, cur := P ++ [.key k],
            facts := s.facts ++ [(P ++ [.key k], .tbl)] } := by
  simp only [sstep, List.getLast?_concat, List.dropLast_concat, hr.walk, hleaf]

theorem sstep_aot_first {s : SSt} {K : List Name} {k : Name} {P : Path}
    (hr : Res s.store [] K P) (hleaf : kindAt s.store (P ++ [.key k]) = none) :
    sstep s (.arrayTable (K ++ [k])) =
      .ok { store := define s.store (P ++ [.key k]) (.aot 1), cur := P ++ [.key k] ++ [.idx 0],
            facts := s.facts ++ [(P ++ [.key k], .arr), (P ++ [.key k] ++ [.idx 0], .tbl)] } := by
  simp only [sstep, List.getLast?_concat, List.dropLast_concat, hr.walk, hleaf]

theorem sstep_aot_next {s : SSt} {K : List Name} {k : Name} {P : Path} {n : Nat}
    (hr : Res s.store [] K P) (hleaf : kindAt s.store (P ++ [.key k]) = some (.aot n)) :
    sstep s (.arrayTable (K ++ [k])) =
      .ok { store := define s.store (P ++ [.key k]) (.aot (n + 1)), cur := P ++ [.key k] ++ [.idx n],
            facts := s.facts ++ [(P ++ [.key k] ++ [.idx n], .tbl)] } := by
  simp only [sstep, List.getLast?_concat, List.dropLast_concat, hr.walk, hleaf]

theorem srun_append {s s1 s2 : SSt} {a b : List Ev} (h1 : srun s a = .ok s1)
    (h2 : srun s1 b = .ok s2) : srun s (a ++ b) = .ok s2 := by
  induction a generalizing s with
  | nil => simp only [srun] at h1; cases h1; exact h2
  | cons e es ih =>
    simp only [List.cons_append, srun] at h1 ⊢
    cases hs : sstep s e with
    | error err => rw [hs] at h1; cases h1
    | ok s' => rw [hs] at h1; exact ih h1

theorem srun_cons {s s1 s2 : SSt} {e : Ev} {b : List Ev} (h1 : sstep s e = .ok s1)
    (h2 : srun s1 b = .ok s2) : srun s (e :: b) = .ok s2 := by
  simp only [srun, h1, h2]

/-- the postcondition of a run of a piece of the emission under the specification -/
structure SPost (Q : Path → Prop) (s s' : SSt) (facts : List Fact) : Prop where
  out : s'.facts = s.facts ++ facts
  frame : SFrame Q s.store s'.store

theorem SPost.trans {Q : Path → Prop} {s s1 s2 : SSt} {f1 f2 : List Fact} (h1 : SPost Q s s1 f1)
    (h2 : SPost Q s1 s2 f2) : SPost Q s s2 (f1 ++ f2) :=
  ⟨by rw [h2.out, h1.out, List.append_assoc], h1.frame.trans h2.frame⟩

theorem SPost.mono {Q Q' : Path → Prop} {s s' : SSt} {f : List Fact} (hq : ∀ r, Q r → Q' r)
    (h : SPost Q s s' f) : SPost Q' s s' f := ⟨h.out, h.frame.mono hq⟩

/-- nothing is defined at or below `p` -/
def Undef (σ : Store) (p : Path) : Prop := ∀ r, p <+: r → kindAt σ r = none

theorem Undef.frame {Q : Path → Prop} {σ σ' : Store} {p : Path} (hf : SFrame Q σ σ')
    (hq : ∀ r, Q r → ¬ p <+: r) (h : Undef σ p) : Undef σ' p :=
  fun r hp => by rw [hf r (fun h' => hq r h' hp)]; exact h r hp

theorem not_prefix_of_snoc_prefix {P r : Path} {x : Seg} (h : (P ++ [x]) <+: r) : ¬ r <+: P := by
  intro h'
  have := (h.trans h').length_le
  simp at this
  omega

/-- first pass of a table body under the specification; `Q` is any frame that covers the
`key = value` entries -/
theorem skv_phase (P : Path) (Q : Path → Prop) : ∀ (fs : List (Name × Tree)),
    (fs.map (·.1)).Nodup → SafeFields fs →
    (∀ f ∈ fs, f.2.entryIsTable = false → ∀ r, (P ++ [.key f.1]) <+: r → Q r) →
    ∀ s : SSt, s.cur = P → (∀ f ∈ fs, Undef s.store (P ++ [.key f.1])) →
    ∃ s', srun s (emitKVs fs) = .ok s' ∧ s'.cur = P ∧ SPost Q s s' (kvFacts P fs)
  | [], _, _, _, s, hc, _ => by
    refine ⟨s, by simp only [emitKVs, srun], hc, ?_, SFrame.refl _ _⟩
    simp [kvFacts]
  | f :: rest, hn, hs, hQ, s, hc, h => by
    simp only [SafeFields] at hs
    simp only [List.map_cons, List.nodup_cons] at hn
    have hrest := skv_phase P Q rest hn.2 hs.2 (fun f' hf' => hQ f' (List.mem_cons_of_mem _ hf'))
    cases hb : f.2.entryIsTable
    · have hu := h f (List.mem_cons_self ..)
      obtain ⟨σ1, hd, hf1⟩ := dv_ok f.2 (P ++ [.key f.1]) s.store hs.1
        (fun r hr => hu r hr.isPrefix)
      obtain ⟨s2, hr2, hc2, hp2⟩ := hrest
        { s with store := σ1, facts := s.facts ++ f.2.toVal.facts (P ++ [.key f.1]) } hc
        (fun f' hf' => Undef.frame hf1 (fun r hp hp' =>
          hn.1 (List.mem_map.mpr ⟨f', hf', Seg.key.inj (snoc_prefix_eq hp' hp)⟩))
          (h f' (List.mem_cons_of_mem _ hf')))
      refine ⟨s2, ?_, hc2, ?_⟩
      · simp only [emitKVs, hb, Bool.false_eq_true, if_false, List.singleton_append]
        exact srun_cons (sstep_kv hc (hu _ (List.prefix_refl _)) hd) hr2
      · have hp1 : SPost Q s
            { s with store := σ1, facts := s.facts ++ f.2.toVal.facts (P ++ [.key f.1]) }
            (f.2.facts (P ++ [.key f.1])) :=
          ⟨by rw [toVal_facts], hf1.mono (hQ f (List.mem_cons_self ..) hb)⟩
        simpa only [kvFacts, hb, Bool.false_eq_true, if_false] using hp1.trans hp2
    · obtain ⟨s2, hr2, hc2, hp2⟩ := hrest s hc (fun f' hf' => h f' (List.mem_cons_of_mem _ hf'))
      refine ⟨s2, ?_, hc2, ?_⟩
      · simpa only [emitKVs, hb, if_true, List.nil_append] using hr2
      · simpa only [kvFacts, hb, if_true, List.nil_append] using hp2

/-- the second pass over `fs` below the header key stack `K` at position `P` goes through from every
state in which `K` resolves to `P` and nothing is defined at the table-like entries -/
def SSubsOk (K : List Name) (P : Path) (fs : List (Name × Tree)) : Prop :=
  ∀ s : SSt, Res s.store [] K P →
    (∀ f ∈ fs, f.2.entryIsTable = true → Undef s.store (P ++ [.key f.1])) →
    ∃ s', srun s (emitSubs K fs) = .ok s' ∧ SPost (SExt P) s s' (subFacts P fs)

/-- a table body (both passes) under the specification, given the second pass -/
theorem sbody_ok {K : List Name} {P : Path} {fs : List (Name × Tree)} {s : SSt}
    (hsubs : SSubsOk K P fs)
    (hc : s.cur = P) (hr : Res s.store [] K P) (hu : ∀ r, SExt P r → kindAt s.store r = none)
    (hn : (fs.map (·.1)).Nodup) (hsafe : SafeFields fs) :
    ∃ s', srun s (emitKVs fs ++ emitSubs K fs) = .ok s' ∧
      SPost (SExt P) s s' (kvFacts P fs ++ subFacts P fs) := by
  obtain ⟨s1, hr1, _, hp1⟩ := skv_phase P
    (fun r => ∃ f ∈ fs, f.2.entryIsTable = false ∧ (P ++ [.key f.1]) <+: r) fs hn hsafe
    (fun f hf hb r hp => ⟨f, hf, hb, hp⟩) s hc (fun f _ r hp => hu r (sext_of_snoc_prefix hp))
  obtain ⟨s2, hr2, hp2⟩ := hsubs s1
    (Res.frame hp1.frame (fun r ⟨f, _, _, hp⟩ => not_prefix_of_snoc_prefix hp) hr)
    (fun f hf hb => Undef.frame hp1.frame (fun r ⟨f', hf', hb', hp'⟩ hp => by
        cases nodup_fst_eq hn hf hf' (Seg.key.inj (snoc_prefix_eq hp hp'))
        exact Bool.noConfusion (hb.symm.trans hb'))
      (fun r hp => hu r (sext_of_snoc_prefix hp)))
  exact ⟨s2, srun_append hr1 hr2,
    (hp1.mono (fun r ⟨f, _, _, hp⟩ => sext_of_snoc_prefix hp)).trans hp2⟩

theorem res_define_snoc {σ : Store} {K : List Name} {P : Path} {k : Name} (kd : Kind)
    (hr : Res σ [] K P) : Res (define σ (P ++ [.key k]) kd) [] K P :=
  Res.frame (Q := fun r => (P ++ [.key k]) <+: r) (sframe_define (List.prefix_refl _))
    (fun _ hp => not_prefix_of_snoc_prefix hp) hr

/-- besides the frame of the whole run the lemma keeps the finer one of the body, relative to the
store right after the header: the array-of-tables cases read the kind of `Q` through it -/
theorem sheader_body {K : List Name} {Q P : Path} {kd : Kind} {f1 : List Fact}
    {fs : List (Name × Tree)} {s : SSt} {ev : Ev}
    (hstep : sstep s ev = .ok { store := define s.store Q kd, cur := P, facts := s.facts ++ f1 })
    (hQ : Q <+: P) (hsubs : SSubsOk K P fs)
    (hr : Res (define s.store Q kd) [] K P) (hu : ∀ r, SExt P r → kindAt s.store r = none)
    (hn : (fs.map (·.1)).Nodup) (hsafe : SafeFields fs) :
    ∃ s', srun s (ev :: (emitKVs fs ++ emitSubs K fs)) = .ok s' ∧
      SPost (fun r => Q <+: r) s s' (f1 ++ (kvFacts P fs ++ subFacts P fs)) ∧
      SFrame (SExt P) (define s.store Q kd) s'.store := by
  obtain ⟨s', hr', hp'⟩ := sbody_ok
    (s := { store := define s.store Q kd, cur := P, facts := s.facts ++ f1 }) hsubs rfl hr
    (fun r hse => (kindAt_define_sext (sext_of_prefix_sext hQ hse)).trans (hu r hse)) hn hsafe
  exact ⟨s', srun_cons hstep hr', ⟨hp'.out.trans (List.append_assoc _ _ _),
    (sframe_define (List.prefix_refl _)).trans (hp'.frame.mono fun r h => hQ.trans h.isPrefix)⟩,
    hp'.frame⟩

/-- one element of an array of tables (`n = 0`: the array is new); the conclusion is what
`selems_ok` asks of the state in front of the next element -/
theorem selem_ok {K : List Name} {k : Name} {P : Path} {n : Nat} {f1 : List Fact}
    {fs : List (Name × Tree)} {s : SSt} {ev : Ev}
    (hstep : sstep s ev = .ok { store := define s.store (P ++ [Seg.key k]) (.aot (n + 1)),
                                cur := P ++ [Seg.key k] ++ [Seg.idx n], facts := s.facts ++ f1 })
    (hsubs : SSubsOk (K ++ [k]) (P ++ [Seg.key k] ++ [Seg.idx n]) fs)
    (hr : Res s.store [] K P) (hu : ∀ j, n ≤ j → Undef s.store (P ++ [Seg.key k] ++ [Seg.idx j]))
    (hn : (fs.map (·.1)).Nodup) (hsafe : SafeFields fs) :
    ∃ s', srun s (ev :: (emitKVs fs ++ emitSubs (K ++ [k]) fs)) = .ok s' ∧
      SPost (fun r => (P ++ [Seg.key k]) <+: r) s s'
        (f1 ++ (kvFacts (P ++ [Seg.key k] ++ [Seg.idx n]) fs ++ subFacts (P ++ [Seg.key k] ++ [Seg.idx n]) fs)) ∧
      Res s'.store [] K P ∧ kindAt s'.store (P ++ [Seg.key k]) = some (.aot (n + 1)) ∧
      ∀ j, n + 1 ≤ j → Undef s'.store (P ++ [Seg.key k] ++ [Seg.idx j]) := by
  have hk1 := kindAt_define_self s.store (P ++ [.key k]) (.aot (n + 1))
  have hr0 := res_define_snoc (k := k) (.aot (n + 1)) hr
  obtain ⟨s', hrun, hp, hf⟩ := sheader_body hstep (List.prefix_append _ _) hsubs
    (by simpa using hr0.trans (.aot hk1 (.nil _))) (fun r hse => hu n (Nat.le_refl _) r hse.isPrefix) hn hsafe
  refine ⟨s', hrun, hp, Res.frame hf (fun r hse =>
    not_prefix_of_snoc_prefix (sext_snoc_of_sext hse).isPrefix) hr0, ?_, fun j hj => ?_⟩
  · rw [hf _ (fun h => by have := h.isPrefix.length_le; simp at this)]
    exact hk1
  · refine Undef.frame hf (fun r hse hp => ?_) (fun r hp => ?_)
    · have := Seg.idx.inj (snoc_prefix_eq hp hse.isPrefix)
      omega
    · exact (kindAt_define_sext (sext_of_snoc_prefix hp)).trans (hu j (by omega) r hp)

mutual
theorem ssubs_ok : ∀ (fs : List (Name × Tree)) (K : List Name) (P : Path),
    (fs.map (·.1)).Nodup → SafeFields fs → SSubsOk K P fs
  | [], K, P, _, _, s, _, _ => by
    refine ⟨s, by simp only [emitSubs, srun], ?_, SFrame.refl _ _⟩
    simp [subFacts]
  | f :: rest, K, P, hn, hs, s, hr, hu => by
    simp only [SafeFields] at hs
    simp only [List.map_cons, List.nodup_cons] at hn
    cases hb : f.2.entryIsTable
    · obtain ⟨s2, hr2, hp2⟩ := ssubs_ok rest K P hn.2 hs.2 s hr
        (fun f' hf' => hu f' (List.mem_cons_of_mem _ hf'))
      refine ⟨s2, ?_, ?_⟩
      · simpa only [emitSubs, emitEntry_nil _ _ hb, List.nil_append] using hr2
      · simpa only [subFacts, entryFacts_nil _ _ hb, List.nil_append] using hp2
    · obtain ⟨s1, hr1, hp1⟩ := sentry_ok f.2 K f.1 P s hs.1 hb hr (hu f (List.mem_cons_self ..) hb)
      obtain ⟨s2, hr2, hp2⟩ := ssubs_ok rest K P hn.2 hs.2 s1
        (Res.frame hp1.frame (fun _ hp => not_prefix_of_snoc_prefix hp) hr)
        (fun f' hf' hb' => Undef.frame hp1.frame (fun r hp hp' =>
          hn.1 (List.mem_map.mpr ⟨f', hf', Seg.key.inj (snoc_prefix_eq hp' hp)⟩))
          (hu f' (List.mem_cons_of_mem _ hf') hb'))
      refine ⟨s2, ?_, ?_⟩
      · simp only [emitSubs]
        exact srun_append hr1 hr2
      · simp only [subFacts]
        exact (hp1.mono (fun r hp => sext_of_snoc_prefix hp)).trans hp2
theorem sentry_ok : ∀ (t : Tree) (K : List Name) (k : Name) (P : Path) (s : SSt),
    SafeTree t → t.entryIsTable = true → Res s.store [] K P → Undef s.store (P ++ [.key k]) →
    ∃ s', srun s (emitEntry (K ++ [k]) t) = .ok s' ∧
      SPost (fun r => (P ++ [.key k]) <+: r) s s' (entryFacts (P ++ [.key k]) t)
  | .tbl fs, K, k, P, s, hsafe, _, hr, hu => by
    simp only [SafeTree] at hsafe
    obtain ⟨s2, hr2, hp2, _⟩ := sheader_body (sstep_table (k := k) hr (hu _ (List.prefix_refl _)))
      (List.prefix_refl _) (ssubs_ok fs (K ++ [k]) (P ++ [.key k]) hsafe.1 hsafe.2)
      ((res_define_snoc _ hr).trans (.header (kindAt_define_self ..) (.nil _)))
      (fun r hse => hu r hse.isPrefix) hsafe.1 hsafe.2
    exact ⟨s2, by simpa only [emitEntry] using hr2,
      by simpa only [entryFacts, List.singleton_append] using hp2⟩
  | .sc _, _, _, _, _, _, hb, _, _ | .arr [], _, _, _, _, _, hb, _, _
  | .arr (.sc _ :: _), _, _, _, _, _, hb, _, _ | .arr (.arr _ :: _), _, _, _, _, _, hb, _, _ => by
    simp [Tree.entryIsTable, Tree.isTable, Tree.isAoT] at hb
  | .arr (.tbl fs :: xs), K, k, P, s, hsafe, hb, hr, hu => by
    simp only [SafeTree, SafeElems] at hsafe
    obtain ⟨⟨hn, hsf⟩, hsx⟩ := hsafe
    have haot : (Tree.arr (.tbl fs :: xs)).isAoT = true := by
      simpa [Tree.entryIsTable, Tree.isTable] using hb
    have hall : xs.all Tree.isTable = true := by
      simpa [Tree.isAoT, Tree.isTable] using haot
    obtain ⟨s2, hr2, hp2, hres2, hk2, hu2⟩ :=
      selem_ok (sstep_aot_first (k := k) hr (hu _ (List.prefix_refl _)))
        (ssubs_ok fs (K ++ [k]) (P ++ [.key k] ++ [.idx 0]) hn hsf) hr
        (fun j _ r hp => hu r ((List.prefix_append _ _).trans hp)) hn hsf
    obtain ⟨s3, hr3, hp3⟩ := selems_ok xs K k P 1 s2 hsx hall hres2 hk2 hu2
    refine ⟨s3, ?_, ?_⟩
    · simp only [emitEntry, haot, if_true, emitElems, emitElem]
      exact srun_append hr2 hr3
    · simpa only [entryFacts, haot, if_true, elemsFacts, elemFacts, List.cons_append,
        List.nil_append, List.append_assoc, Nat.zero_add] using hp2.trans hp3
theorem selems_ok : ∀ (xs : List Tree) (K : List Name) (k : Name) (P : Path) (n : Nat) (s : SSt),
    SafeElems xs → xs.all Tree.isTable = true → Res s.store [] K P →
    kindAt s.store (P ++ [.key k]) = some (.aot n) →
    (∀ j, n ≤ j → Undef s.store (P ++ [.key k] ++ [.idx j])) →
    ∃ s', srun s (emitElems (K ++ [k]) xs) = .ok s' ∧
      SPost (fun r => (P ++ [.key k]) <+: r) s s' (elemsFacts (P ++ [.key k]) n xs)
  | [], K, k, P, n, s, _, _, _, _, _ => by
    refine ⟨s, by simp only [emitElems, srun], ?_, SFrame.refl _ _⟩
    simp [elemsFacts]
  | .sc _ :: _, _, _, _, _, _, _, hall, _, _, _ | .arr _ :: _, _, _, _, _, _, _, hall, _, _, _ => by
    simp [Tree.isTable] at hall
  | .tbl fs :: xs, K, k, P, n, s, hsafe, hall, hr, hk, hu => by
    simp only [SafeElems, SafeTree] at hsafe
    obtain ⟨⟨hn, hsf⟩, hsx⟩ := hsafe
    have hall' : xs.all Tree.isTable = true := by simpa [Tree.isTable] using hall
    obtain ⟨s2, hr2, hp2, hres2, hk2, hu2⟩ := selem_ok (sstep_aot_next hr hk)
      (ssubs_ok fs (K ++ [k]) (P ++ [.key k] ++ [.idx n]) hn hsf) hr hu hn hsf
    obtain ⟨s3, hr3, hp3⟩ := selems_ok xs K k P (n + 1) s2 hsx hall' hres2 hk2 hu2
    refine ⟨s3, ?_, ?_⟩
    · simp only [emitElems, emitElem]
      exact srun_append hr2 hr3
    · simpa only [elemsFacts, elemFacts, List.cons_append, List.nil_append,
        List.append_assoc] using hp2.trans hp3
end

end CueVerif.Toml.EmitValid

namespace CueVerif.Toml
open EmitValid

theorem emit_valid (t : Tree) (evs : List Ev) (hs : SafeTree t) (he : emit t = some evs) :
    ∃ fs, tomlSpec evs = .ok fs ∧ SameData fs (t.facts []) := by
  cases t with
  | sc a => simp [emit] at he
  | arr xs => simp [emit] at he
  | tbl fs =>
    simp only [emit, Option.some.injEq] at he
    subst he
    simp only [SafeTree] at hs
    obtain ⟨s', hr, hp⟩ := sbody_ok (K := []) (P := []) (fs := fs) (s := SSt.init)
      (ssubs_ok fs [] [] hs.1 hs.2)
      rfl (.nil _) (fun r _ => rfl) hs.1 hs.2
    refine ⟨s'.facts, by simp only [tomlSpec, hr], ?_⟩
    rw [hp.out]
    exact bodyFacts_sameData fs

end CueVerif.Toml

