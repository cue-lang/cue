/-
C12: rooted keys as strings.  `rooted` (segments joined with '.') is injective and
`HasPrefix(rooted q, rooted p ++ ".")` is exactly "p is a strict path prefix of q", under the
contract `LabelQ.OK` of `quoteLabelIfNeeded`.

Route: a one-segment lexer `readSeg` recovers `(s.spell L, r)` from `s.spell L ++ r` whenever the
rest `r` is empty or starts with '.', and `Seg.spell L` is injective.

Core Lean only.
-/
import CueVerif.Model.Toml

namespace CueVerif.Toml

/-! ### the one-segment lexer -/

/-- scan a quoted body up to and including the first bare `"` (the automaton of `closedBody`) -/
def scanQ : List Nat → List Nat × List Nat
  | [] => ([], [])
  | [92] => ([92], [])
  | 92 :: b :: r => (92 :: b :: (scanQ r).1, (scanQ r).2)
  | 34 :: r => ([34], r)
  | b :: r => (b :: (scanQ r).1, (scanQ r).2)

/-- the maximal run of bytes other than '.' -/
def scanP : List Nat → List Nat × List Nat
  | [] => ([], [])
  | b :: r => if b = 46 then ([], b :: r) else (b :: (scanP r).1, (scanP r).2)

/-- read one spelled segment from the front: (token, rest) -/
def readSeg : List Nat → List Nat × List Nat
  | 34 :: r => (34 :: (scanQ r).1, (scanQ r).2)
  | l => scanP l

/-- what may follow a segment: end of string, or a '.' -/
def Sep (r : List Nat) : Prop := r = [] ∨ ∃ r', r = 46 :: r'

theorem scanQ_other (b : Nat) (x : List Nat) (h1 : b ≠ 92) (h2 : b ≠ 34) :
    scanQ (b :: x) = (b :: (scanQ x).1, (scanQ x).2) := by
  rw [scanQ.eq_5] <;> simp_all

theorem scanQ_closed (body r : List Nat) (h : closedBody body = true) :
    scanQ (body ++ 34 :: r) = (body ++ [34], r) := by
  fun_induction closedBody body with
  | case1 => simp [scanQ]
  | case2 => simp at h
  | case3 b t ih => simp [scanQ, ih h]
  | case4 t => simp at h
  | case5 b t h1 h2 h3 ih =>
    have hb : b ≠ 92 := by
      intro e; cases t with
      | nil => exact h1 e rfl
      | cons x t' => exact h2 x t' e rfl
    have hq : b ≠ 34 := fun e => h3 e
    rw [List.cons_append, scanQ_other _ _ hb hq, ih h]
    simp

theorem scanP_run (n r : List Nat) (hn : ∀ b ∈ n, b ≠ 46) (hr : Sep r) :
    scanP (n ++ r) = (n, r) := by
  induction n with
  | nil =>
    rcases hr with rfl | ⟨r', rfl⟩ <;> simp [scanP]
  | cons b t ih =>
    have hb : b ≠ 46 := hn b (by simp)
    have := ih (fun c hc => hn c (by simp [hc]))
    simp [scanP, hb, this]

/-- a non-empty run of bytes that are neither '.' nor '"' is read back as one token -/
theorem readSeg_run (n r : List Nat) (hne : n ≠ []) (hn : ∀ b ∈ n, b ≠ 46 ∧ b ≠ 34)
    (hr : Sep r) : readSeg (n ++ r) = (n, r) := by
  cases n with
  | nil => exact absurd rfl hne
  | cons b t =>
    have hb : b ≠ 34 := (hn b (by simp)).2
    rw [List.cons_append, readSeg.eq_2]
    · rw [← List.cons_append]; exact scanP_run _ _ (fun c hc => (hn c hc).1) hr
    · intro r' h; simp at h; exact hb h.1

theorem readSeg_quoted (body r : List Nat) (h : closedBody body = true) :
    readSeg (34 :: (body ++ [34]) ++ r) = (34 :: (body ++ [34]), r) := by
  have : 34 :: (body ++ [34]) ++ r = 34 :: (body ++ 34 :: r) := by simp
  rw [this, readSeg, scanQ_closed _ _ h]

/-! ### decimal digits -/

theorem isDigitByte_of_isDigit (c : Char) (h : c.isDigit = true) : isDigitByte c.toNat = true := by
  simp only [Char.isDigit, ge_iff_le, Bool.and_eq_true, decide_eq_true_eq, UInt32.le_iff_toNat_le] at h
  simp only [isDigitByte, Bool.and_eq_true, decide_eq_true_eq]
  exact h

theorem itoa_digits (i b : Nat) (h : b ∈ itoa i) : isDigitByte b = true := by
  simp only [itoa, List.mem_map] at h
  obtain ⟨c, hc, rfl⟩ := h
  exact isDigitByte_of_isDigit c (Nat.isDigit_of_mem_toDigits (by omega) (by omega) hc)

theorem itoa_ne_nil (i : Nat) : itoa i ≠ [] := by
  simp [itoa, Nat.toDigits_ne_nil]

theorem itoa_inj (i j : Nat) (h : itoa i = itoa j) : i = j := by
  have h' : Nat.toDigits 10 i = Nat.toDigits 10 j :=
    (List.map_inj_right (fun x y hxy => Char.toNat_inj.mp hxy)).mp h
  have := congrArg (fun l => Nat.ofDigitChars 10 l 0) h'
  simpa [Nat.ofDigitChars_toDigits] using this

/-! ### one segment -/

/-- a spelled segment is a non-empty run without '.' and '"', or a closed quoted token -/
theorem spell_cases (L : LabelQ) (hL : L.OK) (s : Seg) :
    (s.spell L ≠ [] ∧ ∀ b ∈ s.spell L, b ≠ 46 ∧ b ≠ 34) ∨
      ∃ body, s.spell L = 34 :: (body ++ [34]) ∧ closedBody body = true := by
  cases s with
  | key n =>
    simp only [Seg.spell, LabelQ.apply]
    cases hq : L.needsQuoting n with
    | false => exact .inl ⟨(hL.plain n hq).1, (hL.plain n hq).2.1⟩
    | true => exact .inr (hL.quoted n hq)
  | idx i =>
    refine .inl ⟨itoa_ne_nil i, fun b hb => ?_⟩
    have := itoa_digits i b hb
    simp only [isDigitByte, Bool.and_eq_true, decide_eq_true_eq] at this
    omega

theorem readSeg_spell (L : LabelQ) (hL : L.OK) (s : Seg) (r : List Nat) (hr : Sep r) :
    readSeg (s.spell L ++ r) = (s.spell L, r) := by
  rcases spell_cases L hL s with ⟨h1, h2⟩ | ⟨body, e, hc⟩
  · exact readSeg_run _ r h1 h2 hr
  · rw [e]; exact readSeg_quoted body r hc

theorem spell_ne_nil (L : LabelQ) (hL : L.OK) (s : Seg) : s.spell L ≠ [] := by
  rcases spell_cases L hL s with ⟨h1, _⟩ | ⟨body, e, _⟩
  · exact h1
  · rw [e]; exact List.cons_ne_nil _ _

theorem spell_head_ne_dot (L : LabelQ) (hL : L.OK) (s : Seg) (r : List Nat) :
    s.spell L ≠ 46 :: r := by
  rcases spell_cases L hL s with ⟨_, h2⟩ | ⟨body, e, _⟩
  · exact fun e => (h2 46 (e ▸ List.mem_cons_self ..)).1 rfl
  · rw [e]; exact fun h => absurd (List.head_eq_of_cons_eq h) (by decide)

theorem spell_inj (L : LabelQ) (hL : L.OK) (s t : Seg) (h : s.spell L = t.spell L) : s = t := by
  have key_idx : ∀ n i, (Seg.key n).spell L = (Seg.idx i).spell L → False := by
    intro n i h
    simp only [Seg.spell, LabelQ.apply] at h
    cases hq : L.needsQuoting n with
    | false =>
      simp only [hq, Bool.false_eq_true, if_false] at h
      obtain ⟨_, _, h3⟩ := hL.plain n hq
      have hne := itoa_ne_nil i
      cases hi : itoa i with
      | nil => exact hne hi
      | cons b r =>
        have hd := itoa_digits i b (by simp [hi])
        have := h3 b r (by rw [h, hi])
        simp [hd] at this
    | true =>
      obtain ⟨body, e, _⟩ := hL.quoted n hq
      simp only [hq, if_true, e] at h
      have := itoa_digits i 34 (by rw [← h]; simp)
      simp [isDigitByte] at this
  have plain_quoted : ∀ n m, L.needsQuoting n = false → L.needsQuoting m = true → n ≠ L.quote m := by
    intro n m hn hm h
    obtain ⟨body, e, _⟩ := hL.quoted m hm
    exact ((hL.plain n hn).2.1 34 (by rw [h, e]; simp)).2 rfl
  cases s with
  | key n =>
    cases t with
    | key m =>
      simp only [Seg.spell, LabelQ.apply] at h
      cases hn : L.needsQuoting n <;> cases hm : L.needsQuoting m <;>
        simp only [hn, hm, Bool.false_eq_true, if_false, if_true] at h
      · rw [h]
      · exact absurd h (plain_quoted n m hn hm)
      · exact absurd h.symm (plain_quoted m n hm hn)
      · rw [hL.inj n m hn hm h]
    | idx j => exact (key_idx n j h).elim
  | idx i =>
    cases t with
    | key m => exact (key_idx m i h.symm).elim
    | idx j =>
      simp only [Seg.spell] at h
      rw [itoa_inj i j h]

/-! ### paths -/

/-- what follows a segment in a rooted key: nothing, or '.' and the remaining segments -/
def tl (L : LabelQ) : Path → List Nat
  | [] => []
  | s :: rest => 46 :: (s.spell L ++ tl L rest)

theorem tl_sep (L : LabelQ) (p : Path) : Sep (tl L p) := by
  cases p with
  | nil => exact Or.inl rfl
  | cons s t => exact Or.inr ⟨_, rfl⟩

theorem rooted_cons (L : LabelQ) (s : Seg) (rest : Path) :
    rooted L (s :: rest) = s.spell L ++ tl L rest := by
  induction rest generalizing s with
  | nil => simp [rooted, tl]
  | cons t rest ih =>
    rw [rooted, ih t, tl]
    intro h; cases h

theorem tl_cons (L : LabelQ) (s : Seg) (rest : Path) :
    tl L (s :: rest) = 46 :: rooted L (s :: rest) := by
  rw [rooted_cons, tl]

/-- unique reading of the first segment -/
theorem spell_append_inj (L : LabelQ) (hL : L.OK) (s t : Seg) (r r' : List Nat)
    (hr : Sep r) (hr' : Sep r') (h : s.spell L ++ r = t.spell L ++ r') : s = t ∧ r = r' := by
  have h1 := readSeg_spell L hL s r hr
  have h2 := readSeg_spell L hL t r' hr'
  rw [h, h2] at h1
  have e1 : t.spell L = s.spell L := congrArg Prod.fst h1
  have e2 : r' = r := congrArg Prod.snd h1
  exact ⟨spell_inj L hL s t e1.symm, e2.symm⟩

theorem tl_inj (L : LabelQ) (hL : L.OK) (p q : Path) (h : tl L p = tl L q) : p = q := by
  induction p generalizing q with
  | nil =>
    cases q with
    | nil => rfl
    | cons t q' => simp [tl] at h
  | cons s p' ih =>
    cases q with
    | nil => simp [tl] at h
    | cons t q' =>
      simp only [tl, List.cons.injEq, true_and] at h
      obtain ⟨e1, e2⟩ := spell_append_inj L hL s t _ _ (tl_sep L p') (tl_sep L q') h
      rw [e1, ih q' e2]

theorem rooted_ne_nil (L : LabelQ) (hL : L.OK) (s : Seg) (rest : Path) :
    rooted L (s :: rest) ≠ [] := by
  rw [rooted_cons]
  intro h
  exact spell_ne_nil L hL s (List.append_eq_nil_iff.mp h).1

theorem rooted_injective (L : LabelQ) (hL : L.OK) (p q : Path)
    (h : rooted L p = rooted L q) : p = q := by
  cases p with
  | nil =>
    cases q with
    | nil => rfl
    | cons t q' => exact absurd h.symm (rooted_ne_nil L hL t q')
  | cons s p' =>
    cases q with
    | nil => exact absurd h (rooted_ne_nil L hL s p')
    | cons t q' =>
      apply tl_inj L hL
      rw [tl_cons, tl_cons, h]

theorem tl_prefix (L : LabelQ) (hL : L.OK) (p q : Path) :
    (tl L p ++ [46]) <+: tl L q ↔ strictPrefix p q = true := by
  induction p generalizing q with
  | nil => cases q <;> simp [tl, strictPrefix]
  | cons s p' ih =>
    cases q with
    | nil => simp [tl, strictPrefix]
    | cons t q' =>
      have hs : strictPrefix (s :: p') (t :: q') = true ↔ s = t ∧ strictPrefix p' q' = true := by
        simp [strictPrefix, and_assoc]
      rw [hs, ← ih q']
      simp only [tl, List.cons_append, List.cons_prefix_cons, true_and, List.append_assoc]
      constructor
      · rintro ⟨z, hz⟩
        rw [List.append_assoc] at hz
        have hsep : Sep ((tl L p' ++ [46]) ++ z) := by
          cases p' <;> exact Or.inr ⟨_, rfl⟩
        obtain ⟨e1, e2⟩ := spell_append_inj L hL s t _ _ hsep (tl_sep L q') hz
        exact ⟨e1, ⟨z, e2⟩⟩
      · rintro ⟨rfl, hp⟩
        exact (List.prefix_append_right_inj _).mpr hp

theorem rooted_prefix (L : LabelQ) (hL : L.OK) (p q : Path) (hp : p ≠ []) :
    (rooted L p ++ [46]).isPrefixOf (rooted L q) = strictPrefix p q := by
  rw [Bool.eq_iff_iff, List.isPrefixOf_iff_prefix, ← tl_prefix L hL]
  cases p with
  | nil => exact absurd rfl hp
  | cons s p' =>
    cases q with
    | nil => simp [rooted, tl]
    | cons t q' =>
      rw [tl_cons, tl_cons]
      simp [List.cons_prefix_cons]

end CueVerif.Toml
