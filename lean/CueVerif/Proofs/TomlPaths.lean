/-
C12 — path and list facts shared by the round trip and `emit_valid`.
-/
import CueVerif.Spec.Toml
open CueVerif.Toml CueVerif.Toml.Spec

namespace CueVerif.Toml

theorem kindAt_define (σ : Store) (p r : Path) (k : Kind) :
    kindAt (define σ p k) r = if p = r then some k else kindAt σ r := by
  unfold kindAt define
  by_cases h : p = r <;> simp [h]

theorem findArray_eq_none_iff {arrays : List OpenArr} {k : Path} :
    findArray arrays k = none ↔ ∀ a ∈ arrays, a.rkey ≠ k := by
  simp only [findArray, List.findIdx?_eq_none_iff, beq_eq_false_iff_ne, ne_eq]

end CueVerif.Toml

namespace CueVerif.Toml.Round

/-- strict extension of a path -/
def SExt (A k : Path) : Prop := ∃ x t, k = A ++ x :: t

theorem strictPrefix_iff {A k : Path} : strictPrefix A k = true ↔ SExt A k := by
  simp only [strictPrefix, Bool.and_eq_true, List.isPrefixOf_iff_prefix, decide_eq_true_eq]
  constructor
  · rintro ⟨⟨t, rfl⟩, hl⟩
    cases t with
    | nil => simp at hl
    | cons x t => exact ⟨x, t, rfl⟩
  · rintro ⟨x, t, rfl⟩
    exact ⟨⟨_, rfl⟩, by simp⟩

theorem strictPrefix_false_iff {A k : Path} : strictPrefix A k = false ↔ ¬ SExt A k := by
  rw [← strictPrefix_iff]; simp

theorem SExt.isPrefix {A k : Path} : SExt A k → A <+: k := by
  rintro ⟨x, t, rfl⟩; exact ⟨_, rfl⟩

theorem SExt_irrefl (A : Path) : ¬ SExt A A := by
  rintro ⟨x, t, h⟩
  have := congrArg List.length h
  simp at this

theorem sext_of_snoc_prefix {A k : Path} {x : Seg} : (A ++ [x]) <+: k → SExt A k := by
  rintro ⟨t, rfl⟩; exact ⟨x, t, by simp⟩

theorem sext_snoc_of_sext {A k : Path} {x : Seg} : SExt (A ++ [x]) k → SExt A k := by
  rintro ⟨y, t, rfl⟩; exact ⟨x, y :: t, by simp⟩

theorem sext_of_sext_prefix {A B k : Path} : SExt A B → B <+: k → SExt A k := by
  rintro ⟨x, t, rfl⟩ ⟨u, rfl⟩; exact ⟨x, t ++ u, by simp⟩

theorem sext_of_prefix_sext {A B k : Path} : A <+: B → SExt B k → SExt A k := by
  rintro ⟨u, rfl⟩ ⟨x, t, rfl⟩
  cases u with
  | nil => exact ⟨x, t, by simp⟩
  | cons y u => exact ⟨y, u ++ x :: t, by simp⟩

theorem prefix_seg_eq {A B C k : Path} {x y : Seg} :
    (A ++ x :: B) <+: k → (A ++ y :: C) <+: k → x = y := by
  rintro ⟨t, rfl⟩ ⟨u, h⟩
  simp only [List.append_assoc, List.cons_append] at h
  have := List.append_cancel_left h
  injection this with h1 _
  exact h1.symm

theorem snoc_prefix_eq {A k : Path} {x y : Seg} :
    (A ++ [x]) <+: k → (A ++ [y]) <+: k → x = y := prefix_seg_eq

theorem keyPath_snoc (K : List Name) (k : Name) : keyPath (K ++ [k]) = keyPath K ++ [.key k] := by
  simp [keyPath]

theorem keyPath_length (K : List Name) : (keyPath K).length = K.length := by simp [keyPath]

theorem contains_false {seen : List Path} {key : Path} (h : key ∉ seen) :
    seen.contains key = false :=
  Bool.eq_false_iff.mpr (h ∘ List.contains_iff_mem.mp)

theorem nodup_fst_eq : ∀ {fs : List (Name × Tree)}, (fs.map (·.1)).Nodup → ∀ {f f' : Name × Tree},
    f ∈ fs → f' ∈ fs → f.1 = f'.1 → f = f'
  | [], _, _, _, h, _, _ => by cases h
  | g :: fs, hn, f, f', hf, hf', he => by
    simp only [List.map_cons, List.nodup_cons] at hn
    rcases List.mem_cons.mp hf with e1 | h1 <;> rcases List.mem_cons.mp hf' with e2 | h2
    · rw [e1, e2]
    · subst e1
      exact absurd (List.mem_map.mpr ⟨f', h2, he.symm⟩) hn.1
    · subst e2
      exact absurd (List.mem_map.mpr ⟨f, h1, he⟩) hn.1
    · exact nodup_fst_eq hn.2 h1 h2 he

theorem emitEntry_nil (K' : List Name) : ∀ t : Tree, t.entryIsTable = false → emitEntry K' t = []
  | .sc _, _ => by simp [emitEntry]
  | .tbl _, h => by simp [Tree.entryIsTable, Tree.isTable] at h
  | .arr xs, h => by
    simp [Tree.entryIsTable, Tree.isTable] at h
    simp [emitEntry, h]

end CueVerif.Toml.Round
