/-
C12 round trip (encoder → decoder): for every TOML-safe tree the decoder model accepts the
emission of the encoder model and produces the facts of the tree (`roundtrip`).

This file: the simulation along `emit`; facts, inline values and header steps are in
TomlRoundFacts, TomlRoundInl, TomlRoundStep.
-/
import CueVerif.Spec.Toml
import CueVerif.Proofs.TomlRoundFacts
import CueVerif.Proofs.TomlRoundStep
open CueVerif.Toml.Spec
namespace CueVerif.Toml.Round
open CueVerif.Toml

/-- what a run may have changed: only open arrays / seen keys whose key satisfies `Q` -/
def Frame (Q : Path → Prop) (s s' : St) : Prop :=
  (∀ a, ¬ Q a.rkey → (a ∈ s'.arrays ↔ a ∈ s.arrays)) ∧ (∀ key ∈ s'.seen, key ∈ s.seen ∨ Q key)

theorem Frame.refl (Q : Path → Prop) (s : St) : Frame Q s s :=
  ⟨fun _ _ => Iff.rfl, fun _ h => .inl h⟩

theorem Frame.trans {Q : Path → Prop} {s s1 s2 : St} (h1 : Frame Q s s1) (h2 : Frame Q s1 s2) :
    Frame Q s s2 := by
  refine ⟨fun a ha => (h2.1 a ha).trans (h1.1 a ha), fun key hk => ?_⟩
  rcases h2.2 key hk with h | h
  · exact h1.2 key h
  · exact .inr h

theorem Frame.mono {Q Q' : Path → Prop} {s s' : St} (hq : ∀ k, Q k → Q' k) (h : Frame Q s s') :
    Frame Q' s s' :=
  ⟨fun a ha => h.1 a (fun hq' => ha (hq _ hq')), fun key hk => (h.2 key hk).imp id (hq _)⟩

theorem Encl.frame {Q : Path → Prop} {s s' : St} {K : List Name} {P : Path} (hf : Frame Q s s')
    (hq : ∀ k, Q k → ¬ k <+: keyPath K) (he : Encl s.arrays K P) : Encl s'.arrays K P := by
  have hiff : ∀ a : OpenArr, a.rkey <+: keyPath K → (a ∈ s'.arrays ↔ a ∈ s.arrays) :=
    fun a hp => hf.1 a (fun h => hq _ h hp)
  rcases he with ⟨a, ha, hp, hmax, rfl⟩ | ⟨hno, rfl⟩
  · exact .inl ⟨a, (hiff a hp).mpr ha, hp, fun b hb hpb => hmax b ((hiff b hpb).mp hb) hpb, rfl⟩
  · exact .inr ⟨fun b hb hpb => hno b ((hiff b hpb).mp hb) hpb, rfl⟩

theorem FreshAt.frame {Q : Path → Prop} {s s' : St} {K' : List Name} (hf : Frame Q s s')
    (hq : ∀ k, Q k → ¬ keyPath K' <+: k) (h : FreshAt K' s) : FreshAt K' s' := by
  refine ⟨fun key hk hp => ?_, fun a ha hp => ?_⟩
  · rcases hf.2 key hk with h' | h'
    · exact h.1 key h' hp
    · exact hq _ h' hp
  · exact h.2 a ((hf.1 a (fun h' => hq _ h' hp)).mp ha) hp

/-- the postcondition of a run of a piece of the emission -/
structure Post (Q : Path → Prop) (s s' : St) (facts : List Fact) : Prop where
  out : s'.out = s.out ++ facts
  wf : WF s'.arrays
  ord : ArrOrd s'.arrays
  frame : Frame Q s s'

theorem Post.trans {Q : Path → Prop} {s s1 s2 : St} {f1 f2 : List Fact} (h1 : Post Q s s1 f1)
    (h2 : Post Q s1 s2 f2) : Post Q s s2 (f1 ++ f2) :=
  ⟨by rw [h2.out, h1.out, List.append_assoc], h2.wf, h2.ord, h1.frame.trans h2.frame⟩

theorem Post.mono {Q Q' : Path → Prop} {s s' : St} {f : List Fact} (hq : ∀ k, Q k → Q' k)
    (h : Post Q s s' f) : Post Q' s s' f :=
  ⟨h.out, h.wf, h.ord, h.frame.mono hq⟩

theorem run_append {s s1 s2 : St} {a b : List Ev} (h1 : run s a = .ok s1) (h2 : run s1 b = .ok s2) :
    run s (a ++ b) = .ok s2 := by
  induction a generalizing s with
  | nil => simp only [run] at h1; cases h1; exact h2
  | cons e es ih =>
    simp only [List.cons_append, run] at h1 ⊢
    cases hs : step s e with
    | error err => rw [hs] at h1; cases h1
    | ok s' => rw [hs] at h1; exact ih h1

theorem run_cons {s s1 s2 : St} {e : Ev} {b : List Ev} (h1 : step s e = .ok s1)
    (h2 : run s1 b = .ok s2) : run s (e :: b) = .ok s2 := by
  simp only [run, h1, h2]

/-- the first pass of a table body: the `key = value` lines; `Q` is any set of keys that covers
what these lines mark as seen -/
theorem kv_phase (R P : Path) (Q : Path → Prop) : ∀ (fs : List (Name × Tree)),
    (fs.map (·.1)).Nodup → SafeFields fs →
    (∀ f ∈ fs, f.2.entryIsTable = false → ∀ key, (R ++ [.key f.1]) <+: key → Q key) →
    ∀ s : St, s.curKey = R → s.cur = P →
    (∀ f ∈ fs, ∀ key ∈ s.seen, ¬ (R ++ [.key f.1]) <+: key) →
    (∀ a ∈ s.arrays, ¬ SExt R a.rkey) →
    ∃ s', run s (emitKVs fs) = .ok s' ∧ s'.out = s.out ++ kvFacts P fs ∧
      s'.arrays = s.arrays ∧ s'.cur = P ∧ s'.curKey = R ∧
      ∀ key ∈ s'.seen, key ∈ s.seen ∨ Q key
  | [], _, _, _, s, hk, hc, _, _ => by
    refine ⟨s, by simp only [emitKVs, run], ?_, rfl, hc, hk, fun key h => .inl h⟩
    simp [kvFacts]
  | f :: rest, hn, hs, hQ, s, hk, hc, h1, h2 => by
    simp only [SafeFields] at hs
    simp only [List.map_cons, List.nodup_cons] at hn
    have hrest := kv_phase R P Q rest hn.2 hs.2 (fun f' hf' => hQ f' (List.mem_cons_of_mem _ hf'))
    cases hb : f.2.entryIsTable
    · -- a key-value line
      obtain ⟨s1, hr1, ho1, ha1, hc1, hk1, hse1⟩ :=
        inl_fields [f] R P s (by simp) (by simp only [SafeFields]; exact ⟨hs.1, trivial⟩)
          (List.forall_mem_singleton.2 (h1 f (List.mem_cons_self ..))) h2
      have hstep : step s (.kv [f.1] f.2.toVal) = .ok s1 := by
        simp only [step, hk, hc]
        simpa only [toValFields] using hr1
      have hse1' : ∀ key ∈ s1.seen, key ∈ s.seen ∨ (R ++ [.key f.1]) <+: key := by
        simpa using hse1
      obtain ⟨s2, hr2, ho2, ha2, hc2, hk2, hse2⟩ := hrest s1 (hk1.trans hk) (hc1.trans hc)
        (fun f' hf' key hkey hp => (hse1' key hkey).elim
          (fun h => h1 f' (List.mem_cons_of_mem _ hf') key h hp)
          (fun h => hn.1 (List.mem_map.mpr ⟨f', hf', Seg.key.inj (snoc_prefix_eq hp h)⟩)))
        (by rw [ha1]; exact h2)
      refine ⟨s2, ?_, ?_, ha2.trans ha1, hc2, hk2, fun key hkey => ?_⟩
      · simp only [emitKVs, hb, Bool.false_eq_true, if_false, List.singleton_append]
        exact run_cons hstep hr2
      · simp [ho2, ho1, kvFacts, hb, treeFactsFields]
      · rcases hse2 key hkey with h | h
        · exact (hse1' key h).imp_right (hQ f (List.mem_cons_self ..) hb key)
        · exact .inr h
    · -- a table-like entry: nothing in this pass
      obtain ⟨s2, hr2, ho2, ha2, hc2, hk2, hse2⟩ :=
        hrest s hk hc (fun f' hf' => h1 f' (List.mem_cons_of_mem _ hf')) h2
      refine ⟨s2, ?_, ?_, ha2, hc2, hk2, hse2⟩
      · simpa only [emitKVs, hb, if_true, List.nil_append] using hr2
      · simp [ho2, kvFacts, hb]

/-- the second pass over `fs` below the header key stack `K` at position `P` goes through from every
state in which the open arrays place `K` at `P` and nothing is seen or open at the table-like entries -/
def SubsOk (K : List Name) (P : Path) (fs : List (Name × Tree)) : Prop :=
  ∀ s : St, WF s.arrays → ArrOrd s.arrays → Encl s.arrays K P →
    (∀ f ∈ fs, f.2.entryIsTable = true → FreshAt (K ++ [f.1]) s) →
    ∃ s', run s (emitSubs K fs) = .ok s' ∧ Post (SExt (keyPath K)) s s' (subFacts P fs)

/-- a table body (both passes), given the second pass -/
theorem body_ok {K : List Name} {R P : Path} {fs : List (Name × Tree)} {s : St}
    (hsubs : SubsOk K P fs)
    (hR : R = keyPath K ∨ ∃ i, R = keyPath K ++ [.idx i]) (hck : s.curKey = R) (hc : s.cur = P)
    (hw : WF s.arrays) (ho : ArrOrd s.arrays) (he : Encl s.arrays K P)
    (hfs : ∀ key ∈ s.seen, ¬ SExt (keyPath K) key) (hfa : ∀ a ∈ s.arrays, ¬ SExt (keyPath K) a.rkey)
    (hn : (fs.map (·.1)).Nodup) (hsafe : SafeFields fs) :
    ∃ s', run s (emitKVs fs ++ emitSubs K fs) = .ok s' ∧
      Post (SExt (keyPath K)) s s' (kvFacts P fs ++ subFacts P fs) := by
  have hRs : ∀ {key : Path}, SExt R key → SExt (keyPath K) key := by
    rcases hR with rfl | ⟨i, rfl⟩
    · exact id
    · exact sext_snoc_of_sext
  obtain ⟨s1, hr1, ho1, ha1, hc1, hk1, hse1⟩ :=
    kv_phase R P (fun key => ∃ f ∈ fs, f.2.entryIsTable = false ∧ (R ++ [.key f.1]) <+: key)
      fs hn hsafe (fun f hf hb key hp => ⟨f, hf, hb, hp⟩) s hck hc
      (fun f _ key hkey hp => hfs key hkey (hRs (sext_of_snoc_prefix hp)))
      (fun a ha hp => hfa a ha (hRs hp))
  obtain ⟨s2, hr2, hp2⟩ := hsubs s1 (ha1 ▸ hw) (ha1 ▸ ho) (ha1 ▸ he) (by
    intro f hf hb
    refine ⟨fun key hkey hp => ?_, fun a ha hp => ?_⟩
    · rw [keyPath_snoc] at hp
      rcases hse1 key hkey with h | ⟨f', hf', hb', hp'⟩
      · exact hfs key h (sext_of_snoc_prefix hp)
      · rcases hR with rfl | ⟨i, rfl⟩
        · cases nodup_fst_eq hn hf hf' (Seg.key.inj (snoc_prefix_eq hp hp'))
          exact Bool.noConfusion (hb.symm.trans hb')
        · have := prefix_seg_eq (B := []) (C := [.key f'.1]) hp (by simpa using hp')
          cases this
    · rw [ha1] at ha
      rw [keyPath_snoc] at hp
      exact hfa a ha (sext_of_snoc_prefix hp))
  refine ⟨s2, run_append hr1 hr2, ?_⟩
  have hp1 : Post (SExt (keyPath K)) s s1 (kvFacts P fs) :=
    ⟨ho1, ha1 ▸ hw, ha1 ▸ ho, fun a _ => by rw [ha1], fun key hkey =>
      (hse1 key hkey).imp_right fun ⟨_, _, _, hp'⟩ => hRs (sext_of_snoc_prefix hp')⟩
  exact hp1.trans hp2

/-- `arrays'` is what a header `[[K']]` makes of the open arrays `arrays` when it starts element
`i` of the array whose list sits at `base` -/
structure Opened (K' : List Name) (base : Path) (i : Nat) (arrays arrays' : List OpenArr) : Prop where
  wf : WF arrays'
  ord : ArrOrd arrays'
  frame : ∀ a, ¬ keyPath K' <+: a.rkey → (a ∈ arrays' ↔ a ∈ arrays)
  below : ∀ a ∈ arrays', ¬ SExt (keyPath K') a.rkey
  mem : mkArr K' base (i + 1) ∈ arrays'

theorem fresh_arrays {arrays : List OpenArr} {K' : List Name} {base : Path} (hK : 0 < K'.length)
    (hw : WF arrays) (ho : ArrOrd arrays) (hf : ∀ a ∈ arrays, ¬ keyPath K' <+: a.rkey) :
    Opened K' base 0 arrays (arrays ++ [mkArr K' base 1]) := by
  have hmem : ∀ a, a ∈ arrays ++ [mkArr K' base 1] ↔ a ∈ arrays ∨ a = mkArr K' base 1 := fun a => by
    simp only [List.mem_append, List.mem_singleton]
  refine ⟨fun a ha => ?_, ?_, fun a hna => ?_, fun a ha hs => ?_, (hmem _).mpr (.inr rfl)⟩
  · rcases (hmem a).mp ha with ha | rfl
    · exact hw a ha
    · exact ⟨by simp only [mkArr, keyPath_length], hK⟩
  · rw [ArrOrd, List.pairwise_append]
    refine ⟨ho, List.pairwise_singleton _ _, fun b hb c hc => ?_⟩
    rw [List.mem_singleton.mp hc]
    exact hf b hb
  · rw [hmem]
    exact or_iff_left fun e => hna (e ▸ List.prefix_refl _)
  · rcases (hmem a).mp ha with ha | rfl
    · exact hf a ha hs.isPrefix
    · exact SExt_irrefl _ hs

theorem next_arrays {arrays pre post : List OpenArr} {K' : List Name} {base : Path} {i : Nat}
    (harr : arrays = pre ++ mkArr K' base i :: post) (hw : WF arrays) (ho : ArrOrd arrays) :
    Opened K' base i arrays (pre ++ mkArr K' base (i + 1) ::
      post.filter (fun a => !strictPrefix (keyPath K') a.rkey)) := by
  subst harr
  have hfilt : ∀ a, a ∈ post.filter (fun a => !strictPrefix (keyPath K') a.rkey) ↔
      a ∈ post ∧ ¬ SExt (keyPath K') a.rkey := by
    intro a
    simp only [List.mem_filter, Bool.not_eq_true', strictPrefix_false_iff]
  rw [ArrOrd, List.pairwise_append, List.pairwise_cons] at ho
  obtain ⟨hopre, ⟨ho0, hopost⟩, hocross⟩ := ho
  refine ⟨?_, ?_, ?_, ?_, ?_⟩
  · intro a ha
    simp only [List.mem_append, List.mem_cons, hfilt] at ha
    rcases ha with ha | rfl | ha
    · exact hw a (List.mem_append_left _ ha)
    · exact hw (mkArr K' base i) (List.mem_append_right _ (List.mem_cons_self ..))
    · exact hw a (List.mem_append_right _ (List.mem_cons_of_mem _ ha.1))
  · rw [ArrOrd, List.pairwise_append, List.pairwise_cons]
    refine ⟨hopre, ⟨fun c hc => ho0 c ((hfilt c).mp hc).1, hopost.filter _⟩, ?_⟩
    intro b hb c hc
    rcases List.mem_cons.mp hc with rfl | hc
    · exact hocross b hb (mkArr K' base i) (List.mem_cons_self ..)
    · exact hocross b hb c (List.mem_cons_of_mem _ ((hfilt c).mp hc).1)
  · intro a hna
    have hne : ∀ n, a ≠ mkArr K' base n := by
      intro n e
      apply hna
      rw [e]
      exact List.prefix_refl _
    simp only [List.mem_append, List.mem_cons, hfilt, hne, false_or]
    constructor
    · rintro (h | h)
      · exact .inl h
      · exact .inr h.1
    · rintro (h | h)
      · exact .inl h
      · exact .inr ⟨h, fun hs => hna hs.isPrefix⟩
  · intro a ha
    simp only [List.mem_append, List.mem_cons, hfilt] at ha
    rcases ha with ha | rfl | ha
    · exact fun hs => hocross a ha (mkArr K' base i) (List.mem_cons_self ..) hs.isPrefix
    · exact SExt_irrefl _
    · exact ha.2
  · simp

/-- one element of an array of tables, from the state `s1` after its header; both
`step_arrayTable_fresh` and `step_arrayTable_next` lead to such a state -/
theorem elem_ok {K' : List Name} {base : Path} {i : Nat} {fs : List (Name × Tree)} {s s1 : St}
    {ev : Ev} {f1 : List Fact}
    (hstep : step s ev = .ok s1) (hout : s1.out = s.out ++ f1)
    (hop : Opened K' base i s.arrays s1.arrays) (hsub : ∀ key ∈ s1.seen, key ∈ s.seen)
    (hseen : ∀ key ∈ s1.seen, ¬ keyPath K' <+: key)
    (hcur : s1.cur = base ++ [.idx i]) (hck : s1.curKey = keyPath K' ++ [.idx i])
    (hsubs : SubsOk K' (base ++ [.idx i]) fs)
    (hn : (fs.map (·.1)).Nodup) (hsafe : SafeFields fs) :
    ∃ s2, run s (ev :: (emitKVs fs ++ emitSubs K' fs)) = .ok s2 ∧
      Post (fun key => keyPath K' <+: key) s s2
        (f1 ++ (kvFacts (base ++ [.idx i]) fs ++ subFacts (base ++ [.idx i]) fs)) ∧
      mkArr K' base (i + 1) ∈ s2.arrays ∧ keyPath K' ∉ s2.seen := by
  have hp1 : Post (fun key => keyPath K' <+: key) s s1 f1 :=
    ⟨hout, hop.wf, hop.ord, hop.frame, fun key hk => .inl (hsub key hk)⟩
  obtain ⟨s2, hr2, hp2⟩ := body_ok (R := keyPath K' ++ [.idx i]) hsubs (.inr ⟨i, rfl⟩) hck hcur
    hop.wf hop.ord (Encl_self hop.wf hop.mem) (fun key hk hs => hseen key hk hs.isPrefix)
    hop.below hn hsafe
  refine ⟨s2, run_cons hstep hr2, hp1.trans (hp2.mono fun k hk => hk.isPrefix),
    (hp2.frame.1 _ (SExt_irrefl _)).mpr hop.mem, fun hmem => ?_⟩
  rcases hp2.frame.2 _ hmem with h | h
  · exact hseen _ h (List.prefix_refl _)
  · exact SExt_irrefl _ h

mutual
/-- the second pass of a table body under the header key stack `K` at position `P` -/
theorem subs_ok : ∀ (fs : List (Name × Tree)) (K : List Name) (P : Path),
    (fs.map (·.1)).Nodup → SafeFields fs → SubsOk K P fs
  | [], K, P, _, _, s, hw, ho, _, _ => by
    refine ⟨s, by simp only [emitSubs, run], ?_, hw, ho, Frame.refl _ _⟩
    simp [subFacts]
  | f :: rest, K, P, hn, hs, s, hw, ho, he, hfr => by
    simp only [SafeFields] at hs
    simp only [List.map_cons, List.nodup_cons] at hn
    cases hb : f.2.entryIsTable
    · obtain ⟨s2, hr2, hp2⟩ := subs_ok rest K P hn.2 hs.2 s hw ho he
        (fun f' hf' => hfr f' (List.mem_cons_of_mem _ hf'))
      refine ⟨s2, ?_, ?_⟩
      · simpa only [emitSubs, emitEntry_nil _ _ hb, List.nil_append] using hr2
      · simpa only [subFacts, entryFacts_nil _ _ hb, List.nil_append] using hp2
    · have hfr0 := hfr f (List.mem_cons_self ..) hb
      obtain ⟨s1, hr1, hp1⟩ := entry_ok f.2 K f.1 (P ++ [.key f.1]) s hs.1 hb hw ho
        (Encl_extend hw he hfr0.ne) hfr0
      obtain ⟨s2, hr2, hp2⟩ := subs_ok rest K P hn.2 hs.2 s1 hp1.wf hp1.ord
        (Encl.frame hp1.frame (fun k hk hk' => by
          have := (hk.trans hk').length_le
          simp [keyPath] at this
          omega) he)
        (fun f' hf' hb' => FreshAt.frame hp1.frame (fun k hk hk' => by
          rw [keyPath_snoc] at hk hk'
          exact hn.1 (List.mem_map.mpr ⟨f', hf', Seg.key.inj (snoc_prefix_eq hk' hk)⟩))
          (hfr f' (List.mem_cons_of_mem _ hf') hb'))
      refine ⟨s2, ?_, ?_⟩
      · simp only [emitSubs]
        exact run_append hr1 hr2
      · simp only [subFacts]
        refine (hp1.mono (fun k hk => ?_)).trans hp2
        rw [keyPath_snoc] at hk
        exact sext_of_snoc_prefix hk
/-- one table-like entry `K ++ [k]` whose data sits at `Q` -/
theorem entry_ok : ∀ (t : Tree) (K : List Name) (k : Name) (Q : Path) (s : St),
    SafeTree t → t.entryIsTable = true → WF s.arrays → ArrOrd s.arrays →
    Encl s.arrays (K ++ [k]) Q → FreshAt (K ++ [k]) s →
    ∃ s', run s (emitEntry (K ++ [k]) t) = .ok s' ∧
      Post (fun key => keyPath (K ++ [k]) <+: key) s s' (entryFacts Q t)
  | .tbl fs, K, k, Q, s, hsafe, _, hw, ho, he, hf => by
    simp only [SafeTree] at hsafe
    obtain ⟨s1, hstep, hseen1, harr1, hout1, hcur1, hck1⟩ := step_table hw ho he hf
    obtain ⟨s2, hr2, hp2⟩ := body_ok (K := K ++ [k]) (R := keyPath (K ++ [k])) (P := Q) (fs := fs)
      (s := s1) (subs_ok fs (K ++ [k]) Q hsafe.1 hsafe.2)
      (.inl rfl) hck1 hcur1 (harr1 ▸ hw) (harr1 ▸ ho) (harr1 ▸ he)
      (fun key hkey hs => by
        rw [hseen1] at hkey
        rcases List.mem_cons.mp hkey with rfl | hkey
        · exact SExt_irrefl _ hs
        · exact hf.1 key hkey hs.isPrefix)
      (fun a ha hs => hf.2 a (harr1 ▸ ha) hs.isPrefix) hsafe.1 hsafe.2
    have hp1 : Post (fun key => keyPath (K ++ [k]) <+: key) s s1 [(Q, .tbl)] :=
      ⟨hout1, harr1 ▸ hw, harr1 ▸ ho, fun a _ => by rw [harr1], fun key hkey => by
        rw [hseen1] at hkey
        rcases List.mem_cons.mp hkey with rfl | hkey
        · exact .inr (List.prefix_refl _)
        · exact .inl hkey⟩
    refine ⟨s2, ?_, ?_⟩
    · simp only [emitEntry]
      exact run_cons hstep hr2
    · have := hp1.trans (hp2.mono (fun k hk => hk.isPrefix))
      simpa only [entryFacts, List.singleton_append] using this
  | .sc _, _, _, _, _, _, hb, _, _, _, _ | .arr [], _, _, _, _, _, hb, _, _, _, _
  | .arr (.sc _ :: _), _, _, _, _, _, hb, _, _, _, _
  | .arr (.arr _ :: _), _, _, _, _, _, hb, _, _, _, _ => by
    simp [Tree.entryIsTable, Tree.isTable, Tree.isAoT] at hb
  | .arr (.tbl fs :: xs), K, k, Q, s, hsafe, hb, hw, ho, he, hf => by
    simp only [SafeTree, SafeElems] at hsafe
    obtain ⟨⟨hn, hsf⟩, hsx⟩ := hsafe
    have haot : (Tree.arr (.tbl fs :: xs)).isAoT = true := by
      simpa [Tree.entryIsTable, Tree.isTable] using hb
    have hall : xs.all Tree.isTable = true := by
      simpa [Tree.isAoT, Tree.isTable] using haot
    obtain ⟨s1, hstep, hseen1, harr1, hout1, hcur1, hck1⟩ := step_arrayTable_fresh hw ho he hf
    obtain ⟨s2, hr2, hp2, hm2, hns2⟩ := elem_ok (i := 0) hstep hout1
      (by rw [harr1]; exact fresh_arrays (by simp) hw ho hf.2) (fun key hkey => hseen1 ▸ hkey)
      (fun key hkey => hf.1 key (hseen1 ▸ hkey)) hcur1 hck1
      (subs_ok fs (K ++ [k]) (Q ++ [.idx 0]) hn hsf) hn hsf
    obtain ⟨s3, hr3, hp3, _, _⟩ := elems_ok xs (K ++ [k]) Q 1 s2 hsx hall hp2.wf hp2.ord hm2 hns2
    refine ⟨s3, ?_, ?_⟩
    · simp only [emitEntry, haot, if_true, emitElems, emitElem]
      exact run_append hr2 hr3
    · simpa only [entryFacts, haot, if_true, elemsFacts, elemFacts, List.cons_append,
        List.nil_append, List.append_assoc, Nat.zero_add] using hp2.trans hp3
/-- the elements after the first of an array of tables `[[K']]` whose list sits at `base` -/
theorem elems_ok : ∀ (xs : List Tree) (K' : List Name) (base : Path) (i : Nat) (s : St),
    SafeElems xs → xs.all Tree.isTable = true → WF s.arrays → ArrOrd s.arrays →
    mkArr K' base i ∈ s.arrays → keyPath K' ∉ s.seen →
    ∃ s', run s (emitElems K' xs) = .ok s' ∧
      Post (fun key => keyPath K' <+: key) s s' (elemsFacts base i xs) ∧
      mkArr K' base (i + xs.length) ∈ s'.arrays ∧ keyPath K' ∉ s'.seen
  | [], K', base, i, s, _, _, hw, ho, hm, hns => by
    refine ⟨s, by simp only [emitElems, run], ⟨?_, hw, ho, Frame.refl _ _⟩, by simpa using hm, hns⟩
    simp [elemsFacts]
  | .sc _ :: _, _, _, _, _, _, hall, _, _, _, _ | .arr _ :: _, _, _, _, _, _, hall, _, _, _, _ => by
    simp [Tree.isTable] at hall
  | .tbl fs :: xs, K', base, i, s, hsafe, hall, hw, ho, hm, hns => by
    simp only [SafeElems, SafeTree] at hsafe
    obtain ⟨⟨hn, hsf⟩, hsx⟩ := hsafe
    have hall' : xs.all Tree.isTable = true := by simpa [Tree.isTable] using hall
    obtain ⟨pre, post, harr⟩ := List.append_of_mem hm
    obtain ⟨s1, hstep, hseen1, harr1, hout1, hcur1, hck1⟩ := step_arrayTable_next harr ho hns
    obtain ⟨s2, hr2, hp2, hm2, hns2⟩ := elem_ok hstep hout1
      (by rw [harr1]; exact next_arrays harr hw ho)
      (fun key hkey => by rw [hseen1] at hkey; exact (List.mem_filter.mp hkey).1)
      (fun key hkey hp => by
        rw [hseen1, List.mem_filter] at hkey
        by_cases e : keyPath K' = key
        · exact hns (e ▸ hkey.1)
        · exact strictPrefix_false_iff.mp (by simpa using hkey.2) (prefix_ne_sext hp e))
      hcur1 hck1 (subs_ok fs K' (base ++ [.idx i]) hn hsf) hn hsf
    obtain ⟨s3, hr3, hp3, hm3, hns3⟩ :=
      elems_ok xs K' base (i + 1) s2 hsx hall' hp2.wf hp2.ord hm2 hns2
    refine ⟨s3, ?_, ?_, ?_, hns3⟩
    · simp only [emitElems, emitElem]
      exact run_append hr2 hr3
    · simpa only [elemsFacts, elemFacts, List.cons_append, List.nil_append,
        List.append_assoc] using hp2.trans hp3
    · have e : i + (Tree.tbl fs :: xs).length = i + 1 + xs.length := by
        simp only [List.length_cons]; omega
      rw [e]; exact hm3
end

end CueVerif.Toml.Round

namespace CueVerif.Toml
open Round

theorem roundtrip (t : Tree) (evs : List Ev) (hs : SafeTree t) (he : emit t = some evs) :
    ∃ fs, decode evs = .ok fs ∧ SameData fs (t.facts []) := by
  cases t with
  | sc a => simp [emit] at he
  | arr xs => simp [emit] at he
  | tbl fs =>
    simp only [emit, Option.some.injEq] at he
    subst he
    simp only [SafeTree] at hs
    have hw0 : WF St.init.arrays := fun a ha => by cases ha
    have ho0 : ArrOrd St.init.arrays := List.Pairwise.nil
    obtain ⟨s', hr, hp⟩ := body_ok (K := []) (R := []) (P := []) (fs := fs) (s := St.init)
      (subs_ok fs [] [] hs.1 hs.2)
      (.inl rfl) rfl rfl hw0 ho0 (.inr ⟨fun b hb => (by cases hb), rfl⟩)
      (fun key hkey => by cases hkey) (fun a ha => by cases ha) hs.1 hs.2
    refine ⟨([], .tbl) :: s'.out, by simp only [decode, hr], ?_⟩
    rw [hp.out]
    exact bodyFacts_sameData fs

end CueVerif.Toml

