/-
C12 round trip: the facts the decoder appends for an emission (`kvFacts`, `subFacts`,
`entryFacts`, …, mirroring `emit`) have the same members as the facts of the tree.
-/
import CueVerif.Spec.Toml
open CueVerif.Toml CueVerif.Toml.Spec
namespace CueVerif.Toml.Round

/-- facts appended by the key-value pass -/
def kvFacts (P : Path) : List (Name × Tree) → List Fact
  | [] => []
  | f :: rest => (if f.2.entryIsTable then [] else f.2.facts (P ++ [.key f.1])) ++ kvFacts P rest

mutual
def subFacts (P : Path) : List (Name × Tree) → List Fact
  | [] => []
  | f :: rest => entryFacts (P ++ [.key f.1]) f.2 ++ subFacts P rest
def entryFacts (Q : Path) : Tree → List Fact
  | .tbl fs => (Q, .tbl) :: (kvFacts Q fs ++ subFacts Q fs)
  | .arr xs => if (Tree.arr xs).isAoT then (Q, .arr) :: elemsFacts Q 0 xs else []
  | .sc _ => []
def elemsFacts (Q : Path) (i : Nat) : List Tree → List Fact
  | [] => []
  | x :: xs => elemFacts (Q ++ [.idx i]) x ++ elemsFacts Q (i + 1) xs
def elemFacts (Q : Path) : Tree → List Fact
  | .tbl fs => (Q, .tbl) :: (kvFacts Q fs ++ subFacts Q fs)
  | _ => []
end

theorem mem_kvFacts (P : Path) (x : Fact) : ∀ fs : List (Name × Tree),
    x ∈ kvFacts P fs ↔ ∃ f ∈ fs, f.2.entryIsTable = false ∧ x ∈ f.2.facts (P ++ [.key f.1])
  | [] => by simp [kvFacts]
  | f :: rest => by
    simp only [kvFacts, List.mem_append, mem_kvFacts P x rest, List.mem_cons, exists_eq_or_imp]
    cases h : f.2.entryIsTable <;> simp

theorem mem_treeFactsFields (P : Path) (x : Fact) : ∀ fs : List (Name × Tree),
    x ∈ treeFactsFields P fs ↔ ∃ f ∈ fs, x ∈ f.2.facts (P ++ [.key f.1])
  | [] => by simp [treeFactsFields]
  | f :: rest => by
    simp only [treeFactsFields, List.mem_append, mem_treeFactsFields P x rest, List.mem_cons,
      exists_eq_or_imp]

theorem entryFacts_nil (Q : Path) : ∀ t : Tree, t.entryIsTable = false → entryFacts Q t = []
  | .sc _, _ => by simp [entryFacts]
  | .tbl _, h => by simp [Tree.entryIsTable, Tree.isTable] at h
  | .arr xs, h => by
    simp [Tree.entryIsTable, Tree.isTable] at h
    simp [entryFacts, h]

theorem elemFacts_eq (Q : Path) : ∀ t : Tree, t.isTable = true → elemFacts Q t = entryFacts Q t
  | .sc _, h => by simp [Tree.isTable] at h
  | .tbl fs, _ => by simp [entryFacts, elemFacts]
  | .arr xs, h => by simp [Tree.isTable] at h

mutual
theorem mem_subFacts (P : Path) (x : Fact) : ∀ fs : List (Name × Tree),
    x ∈ subFacts P fs ↔ ∃ f ∈ fs, f.2.entryIsTable = true ∧ x ∈ f.2.facts (P ++ [.key f.1])
  | [] => by simp [subFacts]
  | f :: rest => by
    simp only [subFacts, List.mem_append, mem_subFacts P x rest, List.mem_cons, exists_eq_or_imp]
    cases h : f.2.entryIsTable
    · simp [entryFacts_nil _ _ h]
    · simp [mem_entryFacts _ x f.2 h]
theorem mem_entryFacts (Q : Path) (x : Fact) : ∀ t : Tree, t.entryIsTable = true →
    (x ∈ entryFacts Q t ↔ x ∈ t.facts Q)
  | .sc _, h => by simp [Tree.entryIsTable, Tree.isTable, Tree.isAoT] at h
  | .tbl fs, _ => by
    -- the key-value pass and the sub-table pass split the fields by `entryIsTable`
    simp only [entryFacts, Tree.facts, List.mem_cons, List.mem_append, mem_subFacts Q x fs,
      mem_kvFacts, mem_treeFactsFields, ← exists_or, ← and_or_left, ← or_and_right,
      Bool.eq_false_or_eq_true_self, true_and]
  | .arr xs, h => by
    have h' : (Tree.arr xs).isAoT = true := by
      simpa [Tree.entryIsTable, Tree.isTable] using h
    have hall : xs.all Tree.isTable = true := by
      simp only [Tree.isAoT, Bool.and_eq_true] at h'
      exact h'.2
    simp only [entryFacts, h', if_true, Tree.facts, List.mem_cons, mem_elemsFacts Q x 0 xs hall]
theorem mem_elemsFacts (Q : Path) (x : Fact) (i : Nat) : ∀ xs : List Tree,
    xs.all Tree.isTable = true → (x ∈ elemsFacts Q i xs ↔ x ∈ treeFactsElems Q i xs)
  | [], _ => by simp [elemsFacts, treeFactsElems]
  | t :: xs, h => by
    simp only [List.all_cons, Bool.and_eq_true] at h
    have ht : t.entryIsTable = true := by simp [Tree.entryIsTable, h.1]
    simp only [elemsFacts, treeFactsElems, List.mem_append, elemFacts_eq _ _ h.1,
      mem_entryFacts _ x t ht, mem_elemsFacts Q x (i + 1) xs h.2]
end

theorem sameData_of_mem {a b : List Fact} (h : ∀ x, x ∈ a ↔ x ∈ b) : SameData a b := by
  intro f
  simp only [closure, List.mem_append, List.mem_flatMap, h]

theorem bodyFacts_sameData (fs : List (Name × Tree)) :
    SameData (([], .tbl) :: (kvFacts [] fs ++ subFacts [] fs)) ((Tree.tbl fs).facts []) := by
  apply sameData_of_mem
  intro x
  have := mem_entryFacts [] x (.tbl fs) (by simp [Tree.entryIsTable, Tree.isTable])
  simpa only [entryFacts] using this

end CueVerif.Toml.Round
