/-
C12 round trip: an inline value `t.toVal` decodes to exactly `t.facts p`.
-/
import CueVerif.Proofs.TomlPaths
open CueVerif.Toml CueVerif.Toml.Spec
namespace CueVerif.Toml.Round

mutual
theorem inl_ok : ∀ (t : Tree) (rkey p : Path) (s : St), SafeTree t →
    (∀ key ∈ s.seen, ¬ SExt rkey key) → (∀ a ∈ s.arrays, ¬ SExt rkey a.rkey) →
    ∃ s', decodeExpr rkey p t.toVal s = .ok s' ∧ s'.out = s.out ++ t.facts p ∧
      s'.arrays = s.arrays ∧ s'.cur = s.cur ∧ s'.curKey = s.curKey ∧
      ∀ key ∈ s'.seen, key ∈ s.seen ∨ SExt rkey key
  | .sc a, rkey, p, s, _, _, _ => by
    refine ⟨{ s with out := s.out ++ [(p, .atom a)] }, by simp only [Tree.toVal, decodeExpr], ?_⟩
    simp only [Tree.facts, true_and]
    exact fun key h => .inl h
  | .arr xs, rkey, p, s, hs, h1, h2 => by
    simp only [SafeTree] at hs
    obtain ⟨s', hr, ho, ha, hc, hk, hse⟩ :=
      inl_elems xs rkey p 0 { s with out := s.out ++ [(p, .arr)] } hs
        (fun j _ key hk hp => h1 key hk (sext_of_snoc_prefix hp)) h2
    refine ⟨s', by simpa only [Tree.toVal, decodeExpr] using hr, ?_, ha, hc, hk, hse⟩
    simp [ho, Tree.facts]
  | .tbl fs, rkey, p, s, hs, h1, h2 => by
    simp only [SafeTree] at hs
    obtain ⟨s', hr, ho, ha, hc, hk, hse⟩ :=
      inl_fields fs rkey p { s with out := s.out ++ [(p, .tbl)] } hs.1 hs.2
        (fun f _ key hk hp => h1 key hk (sext_of_snoc_prefix hp)) h2
    refine ⟨s', by simpa only [Tree.toVal, decodeExpr] using hr, ?_, ha, hc, hk, ?_⟩
    · simp [ho, Tree.facts]
    · intro key hkey
      rcases hse key hkey with h | ⟨f, _, hp⟩
      · exact .inl h
      · exact .inr (sext_of_snoc_prefix hp)
theorem inl_elems : ∀ (xs : List Tree) (rkey p : Path) (i : Nat) (s : St), SafeElems xs →
    (∀ j, i ≤ j → ∀ key ∈ s.seen, ¬ (rkey ++ [.idx j]) <+: key) →
    (∀ a ∈ s.arrays, ¬ SExt rkey a.rkey) →
    ∃ s', decodeElems rkey p i (toValElems xs) s = .ok s' ∧
      s'.out = s.out ++ treeFactsElems p i xs ∧
      s'.arrays = s.arrays ∧ s'.cur = s.cur ∧ s'.curKey = s.curKey ∧
      ∀ key ∈ s'.seen, key ∈ s.seen ∨ SExt rkey key
  | [], rkey, p, i, s, _, _, _ => by
    refine ⟨s, by simp only [toValElems, decodeElems], ?_⟩
    simp only [treeFactsElems, List.append_nil, true_and]
    exact fun key h => .inl h
  | x :: xs, rkey, p, i, s, hs, h1, h2 => by
    simp only [SafeElems] at hs
    obtain ⟨s1, hr1, ho1, ha1, hc1, hk1, hse1⟩ :=
      inl_ok x (rkey ++ [.idx i]) (p ++ [.idx i]) s hs.1
        (fun key hk hp => h1 i (Nat.le_refl _) key hk hp.isPrefix)
        (fun a ha hp => h2 a ha (sext_snoc_of_sext hp))
    obtain ⟨s2, hr2, ho2, ha2, hc2, hk2, hse2⟩ :=
      inl_elems xs rkey p (i + 1) s1 hs.2
        (fun j hj key hk hp => by
          rcases hse1 key hk with h | h
          · exact h1 j (by omega) key h hp
          · have := snoc_prefix_eq hp h.isPrefix
            injection this with this
            omega)
        (by rw [ha1]; exact h2)
    refine ⟨s2, ?_, ?_, by rw [ha2, ha1], by rw [hc2, hc1], by rw [hk2, hk1], ?_⟩
    · simp only [toValElems, decodeElems, hr1, hr2]
    · simp [ho2, ho1, treeFactsElems]
    · intro key hkey
      rcases hse2 key hkey with h | h
      · rcases hse1 key h with h | h
        · exact .inl h
        · exact .inr (sext_snoc_of_sext h)
      · exact .inr h
theorem inl_fields : ∀ (fs : List (Name × Tree)) (rkey p : Path) (s : St),
    (fs.map (·.1)).Nodup → SafeFields fs →
    (∀ f ∈ fs, ∀ key ∈ s.seen, ¬ (rkey ++ [.key f.1]) <+: key) →
    (∀ a ∈ s.arrays, ¬ SExt rkey a.rkey) →
    ∃ s', decodeFields rkey p (toValFields fs) s = .ok s' ∧
      s'.out = s.out ++ treeFactsFields p fs ∧
      s'.arrays = s.arrays ∧ s'.cur = s.cur ∧ s'.curKey = s.curKey ∧
      ∀ key ∈ s'.seen, key ∈ s.seen ∨ ∃ f ∈ fs, (rkey ++ [.key f.1]) <+: key
  | [], rkey, p, s, _, _, _, _ => by
    refine ⟨s, by simp only [toValFields, decodeFields], ?_⟩
    simp only [treeFactsFields, List.append_nil, true_and]
    exact fun key h => .inl h
  | f :: rest, rkey, p, s, hn, hs, h1, h2 => by
    simp only [SafeFields] at hs
    simp only [List.map_cons, List.nodup_cons] at hn
    have hkp : keyPath [f.1] = [.key f.1] := rfl
    have hfa : findArray s.arrays (rkey ++ [.key f.1]) = none :=
      findArray_eq_none_iff.2 (fun a ha he => h2 a ha (he ▸ ⟨_, [], rfl⟩))
    have hsn : s.seen.contains (rkey ++ [.key f.1]) = false :=
      contains_false (fun hm => h1 f (List.mem_cons_self ..) _ hm (List.prefix_refl _))
    obtain ⟨s1, hr1, ho1, ha1, hc1, hk1, hse1⟩ :=
      inl_ok f.2 (rkey ++ [.key f.1]) (p ++ [.key f.1])
        { s with seen := (rkey ++ [.key f.1]) :: s.seen } hs.1
        (fun key hk hp => by
          rcases List.mem_cons.mp hk with rfl | hk
          · exact SExt_irrefl _ hp
          · exact h1 f (List.mem_cons_self ..) key hk hp.isPrefix)
        (fun a ha hp => h2 a ha (sext_snoc_of_sext hp))
    obtain ⟨s2, hr2, ho2, ha2, hc2, hk2, hse2⟩ :=
      inl_fields rest rkey p s1 hn.2 hs.2
        (fun f' hf' key hk hp => by
          rcases hse1 key hk with h | h
          · rcases List.mem_cons.mp h with rfl | h
            · have := snoc_prefix_eq hp (List.prefix_refl _)
              injection this with this
              exact hn.1 (List.mem_map.mpr ⟨f', hf', this⟩)
            · exact h1 f' (List.mem_cons_of_mem _ hf') key h hp
          · have := snoc_prefix_eq hp h.isPrefix
            injection this with this
            exact hn.1 (List.mem_map.mpr ⟨f', hf', this⟩))
        (by rw [ha1]; exact h2)
    refine ⟨s2, ?_, ?_, by rw [ha2, ha1], by rw [hc2, hc1], by rw [hk2, hk1], ?_⟩
    · simp only [toValFields, decodeFields, hkp, hfa, hsn, hr1, hr2]
      simp
    · simp [ho2, ho1, treeFactsFields]
    · intro key hkey
      rcases hse2 key hkey with h | ⟨f', hf', hp⟩
      · rcases hse1 key h with h | h
        · rcases List.mem_cons.mp h with rfl | h
          · exact .inr ⟨f, List.mem_cons_self .., List.prefix_refl _⟩
          · exact .inl h
        · exact .inr ⟨f, List.mem_cons_self .., h.isPrefix⟩
      · exact .inr ⟨f', List.mem_cons_of_mem _ hf', hp⟩
end

end CueVerif.Toml.Round
