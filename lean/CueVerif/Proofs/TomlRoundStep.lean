/-
C12 round trip: invariants of the open table arrays, the lookup of `findArrayPrefix`,
and what `step` does on the three kinds of headers the encoder emits.
-/
import CueVerif.Proofs.TomlRoundInl
import CueVerif.Proofs.TomlSem
open CueVerif.Toml CueVerif.Toml.Spec
namespace CueVerif.Toml.Round

/-- the record of the open array `[[K]]` whose list sits at `base` and has `n` elements -/
def mkArr (K : List Name) (base : Path) (n : Nat) : OpenArr :=
  { rkey := keyPath K, level := K.length, list := base, len := n, last := base ++ [.idx (n - 1)] }

def WF (arrays : List OpenArr) : Prop := ∀ a ∈ arrays, a.level = a.rkey.length ∧ 0 < a.level

/-- an earlier open array never sits at or below a later one -/
def ArrOrd (arrays : List OpenArr) : Prop := arrays.Pairwise (fun b a => ¬ a.rkey <+: b.rkey)

theorem ArrOrd.uniq : ∀ {l : List OpenArr}, ArrOrd l → ∀ {a b : OpenArr}, a ∈ l → b ∈ l →
    a.rkey = b.rkey → a = b
  | [], _, _, _, ha, _, _ => by cases ha
  | c :: l, h, a, b, ha, hb, he => by
    have h' := List.pairwise_cons.mp h
    rcases List.mem_cons.mp ha with ea | ha' <;> rcases List.mem_cons.mp hb with eb | hb'
    · rw [ea, eb]
    · subst ea
      exact absurd (he ▸ List.prefix_refl _) (h'.1 b hb')
    · subst eb
      exact absurd (he ▸ List.prefix_refl _) (h'.1 a ha')
    · exact ArrOrd.uniq h'.2 ha' hb' he

/-- `P` is the position the decoder computes for the header `K` from the open arrays -/
def Encl (arrays : List OpenArr) (K : List Name) (P : Path) : Prop :=
  (∃ a ∈ arrays, a.rkey <+: keyPath K ∧ (∀ b ∈ arrays, b.rkey <+: keyPath K → b.level ≤ a.level) ∧
     P = a.last ++ keyPath (K.drop a.level)) ∨
  ((∀ b ∈ arrays, ¬ b.rkey <+: keyPath K) ∧ P = keyPath K)

theorem prefix_ne_sext {A k : Path} (h : A <+: k) (hne : A ≠ k) : SExt A k := by
  obtain ⟨t, rfl⟩ := h
  cases t with
  | nil => simp at hne
  | cons x t => exact ⟨x, t, rfl⟩

/-- the lookup of a header that is not itself an open array: the innermost enclosing array -/
theorem lookup_encl {arrays : List OpenArr} {K : List Name} {P : Path}
    (hw : WF arrays) (ho : ArrOrd arrays) (he : Encl arrays K P)
    (hne : ∀ a ∈ arrays, a.rkey ≠ keyPath K) :
    (maxPrefixLoop (keyPath K) arrays 0 0 none = none ∧ P = keyPath K) ∨
    (∃ i a, maxPrefixLoop (keyPath K) arrays 0 0 none = some i ∧ arrays[i]? = some a ∧
      a.level < K.length ∧ a.rkey ≠ keyPath K ∧ a.last ++ keyPath (K.drop a.level) = P) := by
  have hsp : ∀ b ∈ arrays, (strictPrefix b.rkey (keyPath K) = true ↔ b.rkey <+: keyPath K) := fun b hb =>
    ⟨fun h => (strictPrefix_iff.mp h).isPrefix, fun h => strictPrefix_iff.mpr (prefix_ne_sext h (hne b hb))⟩
  cases hl : maxPrefixLoop (keyPath K) arrays 0 0 none with
  | none =>
    rcases he with ⟨a, ha, hp, _, _⟩ | ⟨_, rfl⟩
    · have := maxPrefixLoop_none hl a ha ((hsp a ha).mpr hp)
      have := (hw a ha).2
      omega
    · exact .inl ⟨rfl, rfl⟩
  | some i =>
    obtain ⟨a', hi, hs', hmax'⟩ := maxPrefixLoop_some hl
    have ha' : a' ∈ arrays := List.mem_of_getElem? hi
    have hp' := (hsp a' ha').mp hs'
    rcases he with ⟨a, ha, hp, hmax, rfl⟩ | ⟨hno, _⟩
    · -- both are prefixes of the key, of the same length: the same open array
      have hll : a'.rkey.length = a.rkey.length := by
        have := hmax a' ha' hp'
        have := hmax' a ha ((hsp a ha).mpr hp)
        have := (hw a ha).1
        have := (hw a' ha').1
        omega
      have := ho.uniq ha' ha ((List.prefix_of_prefix_length_le hp' hp (Nat.le_of_eq hll)).eq_of_length hll)
      subst this
      refine .inr ⟨i, a', rfl, hi, ?_, hne _ ha, rfl⟩
      obtain ⟨x, t, e⟩ := strictPrefix_iff.mp hs'
      have := congrArg List.length e
      rw [keyPath_length] at this
      simp at this
      have := (hw a' ha).1
      omega
    · exact absurd hp' (hno a' ha')

theorem Encl_self {arrays : List OpenArr} {K : List Name} {base : Path} {n : Nat}
    (hw : WF arrays) (hm : mkArr K base (n + 1) ∈ arrays) : Encl arrays K (base ++ [.idx n]) := by
  left
  refine ⟨_, hm, List.prefix_refl _, fun b hb hp => ?_, ?_⟩
  · have := (hw b hb).1
    have := hp.length_le
    rw [keyPath_length] at this
    simp only [mkArr]
    omega
  · simp [mkArr, keyPath]

theorem Encl_extend {arrays : List OpenArr} {K : List Name} {k : Name} {P : Path}
    (hw : WF arrays) (he : Encl arrays K P) (hne : ∀ a ∈ arrays, a.rkey ≠ keyPath (K ++ [k])) :
    Encl arrays (K ++ [k]) (P ++ [.key k]) := by
  have hdown : ∀ b ∈ arrays, b.rkey <+: keyPath (K ++ [k]) → b.rkey <+: keyPath K := by
    intro b hb hp
    rw [keyPath_snoc] at hp
    rcases List.prefix_concat_iff.mp hp with h | h
    · exact absurd (by rw [keyPath_snoc]; exact h) (hne b hb)
    · exact h
  rcases he with ⟨a, ha, hp, hmax, rfl⟩ | ⟨hno, rfl⟩
  · left
    refine ⟨a, ha, ?_, fun b hb hpb => hmax b hb (hdown b hb hpb), ?_⟩
    · rw [keyPath_snoc]; exact hp.trans (List.prefix_append _ _)
    · have hl : a.level ≤ K.length := by
        have := (hw a ha).1
        have := hp.length_le
        rw [keyPath_length] at this
        omega
      rw [List.drop_append_of_le_length hl]
      simp [keyPath]
  · right
    exact ⟨fun b hb hpb => hno b hb (hdown b hb hpb), by rw [keyPath_snoc]⟩

/-- nothing seen and no open array at or below the header `K'` -/
def FreshAt (K' : List Name) (s : St) : Prop :=
  (∀ key ∈ s.seen, ¬ keyPath K' <+: key) ∧ (∀ a ∈ s.arrays, ¬ keyPath K' <+: a.rkey)

theorem FreshAt.notSeen {K' : List Name} {s : St} (hf : FreshAt K' s) :
    s.seen.contains (keyPath K') = false :=
  contains_false (fun hm => hf.1 _ hm (List.prefix_refl _))

theorem FreshAt.ne {K' : List Name} {s : St} (hf : FreshAt K' s) : ∀ a ∈ s.arrays, a.rkey ≠ keyPath K' :=
  fun a ha e => hf.2 a ha (e ▸ List.prefix_refl _)

theorem FreshAt.noArray {K' : List Name} {s : St} (hf : FreshAt K' s) :
    findArray s.arrays (keyPath K') = none :=
  findArray_eq_none_iff.2 hf.ne

theorem step_table {s : St} {K' : List Name} {Q : Path} (hw : WF s.arrays) (ho : ArrOrd s.arrays)
    (he : Encl s.arrays K' Q) (hf : FreshAt K' s) :
    ∃ s1, step s (.table K') = .ok s1 ∧ s1.seen = keyPath K' :: s.seen ∧ s1.arrays = s.arrays ∧
      s1.out = s.out ++ [(Q, .tbl)] ∧ s1.cur = Q ∧ s1.curKey = keyPath K' := by
  refine ⟨{ s with seen := keyPath K' :: s.seen, out := s.out ++ [(Q, .tbl)], cur := Q, curKey := keyPath K' },
    ?_, rfl, rfl, rfl, rfl, rfl⟩
  simp only [step, hf.notSeen, findArrayPrefix, hf.noArray]
  rcases lookup_encl hw ho he hf.ne with ⟨h, rfl⟩ | ⟨i, a, h, hi, hl, hna, rfl⟩
  · simp [h]
  · have h1 : (a.rkey == keyPath K') = false := by simpa using hna
    have h2 : ¬ K'.length ≤ a.level := by omega
    simp [h, hi, h1, h2]

theorem step_arrayTable_fresh {s : St} {K' : List Name} {base : Path} (hw : WF s.arrays)
    (ho : ArrOrd s.arrays) (he : Encl s.arrays K' base) (hf : FreshAt K' s) :
    ∃ s1, step s (.arrayTable K') = .ok s1 ∧ s1.seen = s.seen ∧
      s1.arrays = s.arrays ++ [mkArr K' base 1] ∧
      s1.out = s.out ++ [(base, .arr), (base ++ [.idx 0], .tbl)] ∧ s1.cur = base ++ [.idx 0] ∧
      s1.curKey = keyPath K' ++ [.idx 0] := by
  refine ⟨{ s with out := s.out ++ [(base, .arr), (base ++ [.idx 0], .tbl)], cur := base ++ [.idx 0],
                   curKey := keyPath K' ++ [.idx 0], arrays := s.arrays ++ [mkArr K' base 1] },
    ?_, rfl, rfl, rfl, rfl, rfl⟩
  simp only [step, hf.notSeen, findArrayPrefix, hf.noArray]
  rcases lookup_encl hw ho he hf.ne with ⟨h, rfl⟩ | ⟨i, a, h, hi, hl, hna, rfl⟩
  · simp [h, mkArr]
  · have h1 : (a.level == K'.length) = false := by simp; omega
    have h2 : ¬ K'.length ≤ a.level := by omega
    simp [h, hi, h1, h2, mkArr]

theorem findIdx_append_cons {α : Type} (p : α → Bool) (a : α) (post : List α) :
    ∀ (pre : List α), (∀ b ∈ pre, p b = false) → p a = true →
    List.findIdx? p (pre ++ a :: post) = some pre.length := fun pre h ha => by
  simp [List.findIdx?_append, List.findIdx?_cons, ha, List.findIdx?_eq_none_iff.2 h]

theorem findArray_mid {pre post : List OpenArr} {a : OpenArr} {k : Path}
    (hpre : ∀ b ∈ pre, b.rkey ≠ k) (ha : a.rkey = k) : findArray (pre ++ a :: post) k = some pre.length :=
  findIdx_append_cons _ a post pre (fun b hb => by simpa using hpre b hb) (by simpa using ha)

theorem step_arrayTable_next {s : St} {K' : List Name} {base : Path} {i : Nat}
    {pre post : List OpenArr} (harr : s.arrays = pre ++ mkArr K' base i :: post)
    (ho : ArrOrd s.arrays) (hseen : keyPath K' ∉ s.seen) :
    ∃ s1, step s (.arrayTable K') = .ok s1 ∧
      s1.seen = s.seen.filter (fun k => !strictPrefix (keyPath K') k) ∧
      s1.arrays = pre ++ mkArr K' base (i + 1) ::
        post.filter (fun a => !strictPrefix (keyPath K') a.rkey) ∧
      s1.out = s.out ++ [(base ++ [.idx i], .tbl)] ∧ s1.cur = base ++ [.idx i] ∧
      s1.curKey = keyPath K' ++ [.idx i] := by
  refine ⟨{ s with
      seen := s.seen.filter (fun k => !strictPrefix (keyPath K') k),
      arrays := pre ++ mkArr K' base (i + 1) ::
        post.filter (fun a => !strictPrefix (keyPath K') a.rkey),
      out := s.out ++ [(base ++ [.idx i], .tbl)], cur := base ++ [.idx i],
      curKey := keyPath K' ++ [.idx i] }, ?_, rfl, rfl, rfl, rfl, rfl⟩
  have hsn : s.seen.contains (keyPath K') = false := contains_false hseen
  rw [ArrOrd, harr, List.pairwise_append] at ho
  have hpre : ∀ b ∈ pre, ¬ keyPath K' <+: b.rkey :=
    fun b hb => ho.2.2 b hb (mkArr K' base i) (List.mem_cons_self ..)
  have hne : ∀ b ∈ pre, b.rkey ≠ keyPath K' := fun b hb e => hpre b hb (e ▸ List.prefix_refl _)
  have hfa : findArray s.arrays (keyPath K') = some pre.length := by
    rw [harr]; exact findArray_mid hne rfl
  have hfilt : (pre ++ mkArr K' base i :: post).filter (fun a => !strictPrefix (keyPath K') a.rkey)
      = pre ++ mkArr K' base i :: post.filter (fun a => !strictPrefix (keyPath K') a.rkey) := by
    rw [List.filter_append, List.filter_cons]
    have h1 : pre.filter (fun a => !strictPrefix (keyPath K') a.rkey) = pre := by
      rw [List.filter_eq_self]
      intro b hb
      have := hpre b hb
      simp only [Bool.not_eq_true', strictPrefix_false_iff]
      exact fun h => this h.isPrefix
    have h2 : (!strictPrefix (keyPath K') (mkArr K' base i).rkey) = true := by
      simp only [Bool.not_eq_true', strictPrefix_false_iff, mkArr]
      exact SExt_irrefl _
    rw [h1, if_pos h2]
  have hfa2 : findArray (pre ++ mkArr K' base i ::
      post.filter (fun a => !strictPrefix (keyPath K') a.rkey)) (keyPath K') = some pre.length :=
    findArray_mid hne rfl
  simp only [step, hsn, findArrayPrefix, hfa]
  simp only [harr, hfilt, hfa2]
  simp [mkArr]

end CueVerif.Toml.Round
