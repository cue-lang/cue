/-
C12 — the TOML decoder model versus the reference semantics (Spec/Toml.lean).

Order: what a value decoding appends; what the walks and value definitions of the specification
do to the store (`Ext`); header resolution (`res`, `walkHeader_res`); the value-level simulation
`decExpr_sim` with its two readings; documents without `[[…]]` headers; list facts about the
lookups of `findArrayPrefix`.
-/
import CueVerif.Spec.Toml
import CueVerif.Proofs.TomlPaths
namespace CueVerif.Toml
open CueVerif.Toml.Spec

/-- The decoder is NOT the reference semantics: `a.b = 1` then `[a]` is rejected by the
specification and accepted by the decoder. -/
theorem sem_false : ¬ (∀ evs : List Ev,
    match tomlSpec evs, decode evs with
    | .ok a, .ok b => SameData a b
    | .error _, .error _ => True
    | _, _ => False) :=
  -- on this document the match evaluates to its last alternative
  fun h => h [.kv [[97],[98]] (.sc ⟨1,[49]⟩), .table [[97]]]

/-! ### what a value decoding appends (frame lemma) -/

/-- what a successful value decoding does to the state apart from the seen keys -/
def Post (s s' : St) (fs : List Fact) : Prop :=
  s'.out = s.out ++ fs ∧ s'.arrays = s.arrays ∧ s'.cur = s.cur ∧ s'.curKey = s.curKey

theorem Post.trans {s s1 s2 : St} {f1 f2 : List Fact} (h1 : Post s s1 f1) (h2 : Post s1 s2 f2) :
    Post s s2 (f1 ++ f2) :=
  ⟨by rw [h2.1, h1.1, List.append_assoc], h2.2.1.trans h1.2.1, h2.2.2.1.trans h1.2.2.1,
    h2.2.2.2.trans h1.2.2.2⟩

theorem Post.push (s : St) (f : Fact) : Post s { s with out := s.out ++ [f] } [f] :=
  ⟨rfl, rfl, rfl, rfl⟩

mutual
theorem decodeExpr_frame : ∀ (v : Val) (rkey p : Path) (s s' : St),
    decodeExpr rkey p v s = .ok s' → Post s s' (v.facts p)
  | .sc a, rkey, p, s, s', h => by
    rw [decodeExpr] at h
    cases h
    simp [Post, Val.facts]
  | .arr xs, rkey, p, s, s', h => by
    rw [decodeExpr] at h
    exact (Post.push s _).trans (decodeElems_frame xs rkey p 0 _ s' h)
  | .inl kvs, rkey, p, s, s', h => by
    rw [decodeExpr] at h
    exact (Post.push s _).trans (decodeFields_frame kvs rkey p _ s' h)
theorem decodeElems_frame : ∀ (xs : List Val) (rkey p : Path) (i : Nat) (s s' : St),
    decodeElems rkey p i xs s = .ok s' → Post s s' (factsElems p i xs)
  | [], rkey, p, i, s, s', h => by
    rw [decodeElems] at h
    cases h
    simp [Post, factsElems]
  | x :: xs, rkey, p, i, s, s', h => by
    rw [decodeElems] at h
    split at h
    · cases h
    · next s1 h1 =>
      exact (decodeExpr_frame x _ _ _ _ h1).trans (decodeElems_frame xs _ _ _ _ _ h)
theorem decodeFields_frame : ∀ (kvs : List (List Name × Val)) (rkey p : Path) (s s' : St),
    decodeFields rkey p kvs s = .ok s' → Post s s' (factsFields p kvs)
  | [], rkey, p, s, s', h => by
    rw [decodeFields] at h
    cases h
    simp [Post, factsFields]
  | kv :: rest, rkey, p, s, s', h => by
    rw [decodeFields] at h
    split at h
    · cases h
    · split at h
      · cases h
      · split at h
        · cases h
        · next s1 h1 =>
          exact (decodeExpr_frame kv.2 _ _ _ _ h1).trans (decodeFields_frame rest _ _ _ _ h)
end

theorem dropLast_getLast? {α} (l : List α) (a : α) (h : l.getLast? = some a) :
    l.dropLast ++ [a] = l := by
  have hne : l ≠ [] := by intro e; subst e; simp at h
  rw [List.getLast?_eq_some_getLast hne] at h
  cases h
  exact List.dropLast_concat_getLast hne

theorem keyPath_dropLast_snoc {ks : List Name} {k : Name} (h : ks.getLast? = some k) :
    keyPath ks.dropLast ++ [.key k] = keyPath ks := by
  rw [← dropLast_getLast? _ _ h]; simp [keyPath]

/-- no array of tables in the store -/
def NoAot (σ : Store) : Prop := ∀ r n, kindAt σ r ≠ some (.aot n)

/-- a path that is a header table or a value: what the decoder's `seen` keys are -/
def HV (σ : Store) (r : Path) : Prop := kindAt σ r = some .header ∨ kindAt σ r = some .value

def Stable (σ σ' : Store) : Prop := ∀ r, HV σ r → HV σ' r

theorem Stable.refl (σ : Store) : Stable σ σ := fun _ h => h
theorem Stable.trans {a b c : Store} (h1 : Stable a b) (h2 : Stable b c) : Stable a c :=
  fun r h => h2 r (h1 r h)

theorem hv_define (σ : Store) (p : Path) {k : Kind} (hk : k = .header ∨ k = .value) :
    HV (define σ p k) p := by
  unfold HV
  rw [kindAt_define, if_pos rfl]
  exact hk.imp (congrArg some) (congrArg some)

/-- a header or value stays one unless it is redefined as something else -/
theorem stable_define {σ : Store} {p : Path} {k : Kind} (h : HV σ p → k = .header ∨ k = .value) :
    Stable σ (define σ p k) := by
  intro r hr
  by_cases e : p = r
  · subst e; exact hv_define σ p (h hr)
  · unfold HV; rw [kindAt_define, if_neg e]; exact hr

theorem noAot_define (σ : Store) (p : Path) (k : Kind) (hk : ∀ n, k ≠ .aot n) (h : NoAot σ) :
    NoAot (define σ p k) := by
  intro r n
  rw [kindAt_define]
  split
  · exact fun e => hk n (Option.some.inj e)
  · exact h r n

def Dfd (σ : Store) (r : Path) : Prop := kindAt σ r ≠ none

theorem HV.dfd {σ : Store} {r : Path} (h : HV σ r) : Dfd σ r := by
  unfold Dfd
  rcases h with h | h <;> rw [h] <;> exact nofun

theorem dfd_define (σ : Store) (p : Path) (k : Kind) : Dfd (define σ p k) p := by
  unfold Dfd; rw [kindAt_define]; simp

/-! ### definedness only grows -/

def Mono (σ σ' : Store) : Prop := ∀ r, Dfd σ r → Dfd σ' r

theorem Mono.refl (σ : Store) : Mono σ σ := fun _ h => h
theorem Mono.trans {a b c : Store} (h1 : Mono a b) (h2 : Mono b c) : Mono a c :=
  fun r h => h2 r (h1 r h)

theorem mono_define (σ : Store) (p : Path) (k : Kind) : Mono σ (define σ p k) := by
  intro r h
  unfold Dfd
  rw [kindAt_define]
  by_cases e : p = r
  · simp [e]
  · simp [e]; exact h

/-! ### what the dotted-key walk and the definition of a value do to the store -/

/-- defined paths stay defined, headers and values stay what they are, no array of tables appears -/
structure Ext (σ σ' : Store) : Prop where
  mono : Mono σ σ'
  stable : Stable σ σ'
  noAot : NoAot σ → NoAot σ'

theorem Ext.refl (σ : Store) : Ext σ σ := ⟨Mono.refl _, Stable.refl _, id⟩

theorem Ext.trans {a b c : Store} (h1 : Ext a b) (h2 : Ext b c) : Ext a c :=
  ⟨h1.mono.trans h2.mono, h1.stable.trans h2.stable, h2.noAot ∘ h1.noAot⟩

theorem ext_define {σ : Store} {p : Path} {k : Kind} (hk : ∀ n, k ≠ .aot n)
    (h : HV σ p → k = .header ∨ k = .value) : Ext σ (define σ p k) :=
  ⟨mono_define _ _ _, stable_define h, noAot_define _ _ _ hk⟩

theorem ext_value (σ : Store) (p : Path) : Ext σ (define σ p .value) :=
  ext_define (fun _ => nofun) fun _ => .inr rfl

theorem walkDotted_ext : ∀ (ks : List Name) (σ : Store) (cur : Path) (σ1 : Store) (q : Path),
    walkDotted σ cur ks = .ok (σ1, q) → q = cur ++ keyPath ks ∧ Ext σ σ1
  | [], σ, cur, σ1, q, h => by
    rw [walkDotted] at h
    cases h
    simp [keyPath, Ext.refl]
  | k :: ks, σ, cur, σ1, q, h => by
    rw [walkDotted] at h
    split at h
    · next hk =>
      obtain ⟨a, b⟩ := walkDotted_ext ks _ _ _ _ h
      exact ⟨by simpa [keyPath] using a,
        (ext_define (k := .dotted) (fun _ => nofun) fun h => by simp [HV, hk] at h).trans b⟩
    · obtain ⟨a, b⟩ := walkDotted_ext ks _ _ _ _ h
      exact ⟨by simpa [keyPath] using a, b⟩
    · cases h
    · cases h

mutual
theorem defineVal_ext : ∀ (v : Val) (p : Path) (σ σ' : Store),
    defineVal p v σ = .ok σ' → Ext σ σ' ∧ HV σ' p
  | .sc a, p, σ, σ', h => by
    rw [defineVal] at h; cases h
    exact ⟨ext_value _ _, hv_define _ _ (.inr rfl)⟩
  | .arr xs, p, σ, σ', h => by
    rw [defineVal] at h
    have := defineElems_ext xs p 0 _ _ h
    exact ⟨(ext_value _ _).trans this, this.stable _ (hv_define _ _ (.inr rfl))⟩
  | .inl kvs, p, σ, σ', h => by
    rw [defineVal] at h
    have := defineFields_ext kvs p _ _ h
    exact ⟨(ext_value _ _).trans this, this.stable _ (hv_define _ _ (.inr rfl))⟩
theorem defineElems_ext : ∀ (xs : List Val) (p : Path) (i : Nat) (σ σ' : Store),
    defineElems p i xs σ = .ok σ' → Ext σ σ'
  | [], p, i, σ, σ', h => by
    rw [defineElems] at h; cases h; exact Ext.refl _
  | x :: xs, p, i, σ, σ', h => by
    rw [defineElems] at h
    split at h
    · cases h
    · next σ1 h1 =>
      exact (defineVal_ext x _ _ _ h1).1.trans (defineElems_ext xs _ _ _ _ h)
theorem defineFields_ext : ∀ (kvs : List (List Name × Val)) (p : Path) (σ σ' : Store),
    defineFields p kvs σ = .ok σ' → Ext σ σ'
  | [], p, σ, σ', h => by
    rw [defineFields] at h; cases h; exact Ext.refl _
  | kv :: rest, p, σ, σ', h => by
    rw [defineFields] at h
    split at h
    · cases h
    · cases h
    · next k σ1 q hl hw =>
      simp only [] at h
      split at h
      · cases h
      · split at h
        · cases h
        · next σ2 h2 =>
          exact ((walkDotted_ext _ _ _ _ _ hw).2.trans (defineVal_ext kv.2 _ _ _ h2).1).trans
            (defineFields_ext rest _ _ _ h)
end

/-! ### header resolution without store updates -/

/-- entering an array of tables at its last element -/
def enter (σ : Store) (p : Path) : Path :=
  match kindAt σ p with
  | some (.aot n) => p ++ [.idx (n - 1)]
  | _ => p

/-- the path a rooted key of the decoder designates in the store: labels enter arrays of
tables at their last element, explicit indices are literal -/
def res (σ : Store) : Path → Path → Path
  | p, [] => p
  | p, .key a :: k => res σ (enter σ p ++ [.key a]) k
  | p, .idx i :: k => res σ (p ++ [.idx i]) k

/-- the two stores have the same arrays of tables -/
def SameAot (σ σ' : Store) : Prop := ∀ r n, kindAt σ r = some (.aot n) ↔ kindAt σ' r = some (.aot n)

theorem SameAot.refl (σ : Store) : SameAot σ σ := fun _ _ => Iff.rfl
theorem SameAot.trans {a b c : Store} (h1 : SameAot a b) (h2 : SameAot b c) : SameAot a c :=
  fun r n => (h1 r n).trans (h2 r n)

theorem sameAot_define (σ : Store) (p : Path) (k : Kind) (hk : ∀ n, k ≠ .aot n)
    (hp : ∀ n, kindAt σ p ≠ some (.aot n)) : SameAot σ (define σ p k) := by
  intro r n
  rw [kindAt_define]
  by_cases e : p = r
  · subst e; simp [hp n, hk n]
  · simp [e]

theorem enter_aot {σ : Store} {p : Path} {n : Nat} (h : kindAt σ p = some (.aot n)) :
    enter σ p = p ++ [.idx (n - 1)] := by
  unfold enter; rw [h]

theorem enter_not {σ : Store} {p : Path} (h : ∀ n, kindAt σ p ≠ some (.aot n)) :
    enter σ p = p := by
  unfold enter
  split
  · next n hn => exact absurd hn (h n)
  · rfl

theorem enter_congr {σ σ' : Store} (h : SameAot σ σ') (p : Path) : enter σ p = enter σ' p := by
  by_cases ha : ∃ n, kindAt σ p = some (.aot n)
  · obtain ⟨n, hn⟩ := ha
    rw [enter_aot hn, enter_aot ((h p n).1 hn)]
  · rw [enter_not fun n hn => ha ⟨n, hn⟩, enter_not fun n hn => ha ⟨n, (h p n).2 hn⟩]

theorem res_congr {σ σ' : Store} (h : SameAot σ σ') : ∀ (k p : Path), res σ p k = res σ' p k
  | [], p => rfl
  | .key a :: k, p => by rw [res, res, enter_congr h, res_congr h k]
  | .idx i :: k, p => by rw [res, res, res_congr h k]

theorem res_append (σ : Store) : ∀ (k1 k2 p : Path), res σ p (k1 ++ k2) = res σ (res σ p k1) k2
  | [], k2, p => rfl
  | .key a :: k1, k2, p => by rw [List.cons_append, res, res, res_append σ k1 k2]
  | .idx i :: k1, k2, p => by rw [List.cons_append, res, res, res_append σ k1 k2]

/-- `walkHeader` resolves the leading parts of a header like `res`, and only adds implicit
tables at undefined paths -/
theorem walkHeader_res : ∀ (ks : List Name) (σ : Store) (p : Path) (σ1 : Store) (q : Path),
    walkHeader σ (enter σ p) ks = .ok (σ1, q) →
    q = enter σ (res σ p (keyPath ks)) ∧ SameAot σ σ1 ∧ Stable σ σ1
  | [], σ, p, σ1, q, h => by
    rw [walkHeader] at h
    cases h
    exact ⟨rfl, SameAot.refl _, Stable.refl _⟩
  | k :: ks, σ, p, σ1, q, h => by
    rw [walkHeader] at h
    simp only [keyPath, List.map_cons, res]
    split at h
    · next hk =>
      have hna : ∀ n, kindAt σ (enter σ p ++ [Seg.key k]) ≠ some (.aot n) := by intro n; simp [hk]
      have sa := sameAot_define σ _ .implicit (fun _ => nofun) hna
      have st : Stable σ (define σ (enter σ p ++ [Seg.key k]) .implicit) :=
        stable_define fun h => by simp [HV, hk] at h
      generalize define σ (enter σ p ++ [Seg.key k]) .implicit = σ' at h sa st
      rw [← enter_not hna, enter_congr sa] at h
      obtain ⟨a, b, c⟩ := walkHeader_res ks _ _ _ _ h
      refine ⟨?_, sa.trans b, st.trans c⟩
      rw [a, ← enter_congr sa, ← res_congr sa]; rfl
    · cases h
    · next n hk =>
      have he : enter σ (enter σ p ++ [Seg.key k]) = enter σ p ++ [Seg.key k] ++ [Seg.idx (n - 1)] :=
        enter_aot hk
      rw [← he] at h
      exact walkHeader_res ks _ _ _ _ h
    · next kd hk1 hk2 hk3 =>
      have he : enter σ (enter σ p ++ [Seg.key k]) = enter σ p ++ [Seg.key k] :=
        enter_not (by intro n hn; rw [hk3] at hn; cases hn; exact hk2 n rfl)
      rw [← he] at h
      exact walkHeader_res ks _ _ _ _ h

def isAotP (σ : Store) (r : Path) : Prop := ∃ n, kindAt σ r = some (.aot n)

theorem NoAot.not {σ : Store} (h : NoAot σ) (r : Path) : ¬ isAotP σ r := fun ⟨n, hn⟩ => h r n hn

theorem enter_of_not {σ : Store} {p : Path} (h : ¬ isAotP σ p) : enter σ p = p :=
  enter_not (fun n hn => h ⟨n, hn⟩)

theorem res_noaot (σ : Store) : ∀ (K p : Path),
    (∀ K' a K'', K = K' ++ Seg.key a :: K'' → ¬ isAotP σ (p ++ K')) → res σ p K = p ++ K
  | [], p, _ => by simp [res]
  | .key a :: K, p, h => by
    rw [res, enter_of_not (by simpa using h [] a K rfl), res_noaot σ K]
    · simp
    · intro K' b K'' e
      have := h (.key a :: K') b K'' (by rw [e]; rfl)
      simpa using this
  | .idx i :: K, p, h => by
    rw [res, res_noaot σ K]
    · simp
    · intro K' b K'' e
      have := h (.idx i :: K') b K'' (by rw [e]; rfl)
      simpa using this

/-- without arrays of tables `walkHeader` follows the key literally -/
theorem walkHeader_spec_na : ∀ (ks : List Name) (σ : Store) (cur : Path) (σ1 : Store) (q : Path),
    walkHeader σ cur ks = .ok (σ1, q) → NoAot σ →
    q = cur ++ keyPath ks ∧ Stable σ σ1 ∧ NoAot σ1 := by
  intro ks σ cur σ1 q h hn
  rw [← enter_of_not (hn.not cur)] at h
  obtain ⟨a, b, c⟩ := walkHeader_res ks σ cur σ1 q h
  refine ⟨?_, c, fun r n e => hn r n ((b r n).2 e)⟩
  rw [a, enter_of_not (hn.not _), res_noaot σ _ _ fun _ _ _ _ => hn.not _]

/-! ### value-level simulation

`Hx σ s rkey p`: every key strictly below `rkey` the decoder would reject (an open array or a
seen key) designates a defined path below `p`.  Under it the decoder accepts every value the
specification accepts at `p`, and the seen keys it adds are `rkey ++ K` with `p ++ K` a header
or value (`NewV`; `New` keeps only that `p ++ K` is defined). -/

def Hx (σ : Store) (s : St) (rkey p : Path) : Prop :=
  ∀ K, K ≠ [] → ((findArray s.arrays (rkey ++ K)).isSome = true ∨ rkey ++ K ∈ s.seen) →
    Dfd σ (p ++ K)

def Cls (s : St) (σ : Store) (rkey p k : Path) : Prop :=
  k ∈ s.seen ∨ ∃ K, K ≠ [] ∧ k = rkey ++ K ∧ Dfd σ (p ++ K)

def New (s s' : St) (σ' : Store) (rkey p : Path) : Prop :=
  s'.arrays = s.arrays ∧ ∀ k ∈ s'.seen, Cls s σ' rkey p k

/-- `Cls` with the kind recorded: the new key designates a header or value -/
def ClsV (s : St) (σ : Store) (rkey p k : Path) : Prop :=
  k ∈ s.seen ∨ ∃ K, K ≠ [] ∧ k = rkey ++ K ∧ HV σ (p ++ K)

def NewV (s s' : St) (σ' : Store) (rkey p : Path) : Prop :=
  s'.arrays = s.arrays ∧ ∀ k ∈ s'.seen, ClsV s σ' rkey p k

theorem ClsV.mono {s : St} {σ σ' : Store} {rkey p k : Path} (h : ClsV s σ rkey p k)
    (hm : Stable σ σ') : ClsV s σ' rkey p k :=
  h.imp_right fun ⟨K, hK, e, d⟩ => ⟨K, hK, e, hm _ d⟩

theorem ClsV.lift {s : St} {σ : Store} {rkey p E k : Path} (h : ClsV s σ (rkey ++ E) (p ++ E) k) :
    ClsV s σ rkey p k := by
  rcases h with h | ⟨K, hK, e, d⟩
  · exact .inl h
  · refine .inr ⟨E ++ K, ?_, by rw [e, List.append_assoc], by rw [← List.append_assoc]; exact d⟩
    intro h0; exact hK (List.append_eq_nil_iff.1 h0).2

theorem ClsV.cls {s : St} {σ : Store} {rkey p k : Path} (h : ClsV s σ rkey p k) : Cls s σ rkey p k :=
  h.imp_right fun ⟨K, hK, e, d⟩ => ⟨K, hK, e, d.dfd⟩

theorem NewV.new {s s' : St} {σ' : Store} {rkey p : Path} (h : NewV s s' σ' rkey p) :
    New s s' σ' rkey p := ⟨h.1, fun k hk => (h.2 k hk).cls⟩

theorem NewV.refl (s : St) (σ : Store) (rkey p : Path) : NewV s s σ rkey p :=
  ⟨rfl, fun _ hk => .inl hk⟩

theorem NewV.trans {s s1 s2 : St} {σ1 σ2 : Store} {rkey p : Path} (h1 : NewV s s1 σ1 rkey p)
    (h2 : NewV s1 s2 σ2 rkey p) (hm : Stable σ1 σ2) : NewV s s2 σ2 rkey p := by
  refine ⟨h2.1.trans h1.1, fun k hk => ?_⟩
  rcases h2.2 k hk with h | h
  · exact (h1.2 k h).mono hm
  · exact .inr h

theorem Hx.step {σ σ1 : Store} {s s1 : St} {rkey p : Path} (h : Hx σ s rkey p)
    (hm : Mono σ σ1) (hn : NewV s s1 σ1 rkey p) : Hx σ1 s1 rkey p := by
  intro K hK hb
  rcases hb with hb | hb
  · rw [hn.1] at hb; exact hm _ (h K hK (.inl hb))
  · rcases hn.2 _ hb with h1 | ⟨K0, _, e, d⟩
    · exact hm _ (h K hK (.inr h1))
    · rw [List.append_cancel_left e]; exact d.dfd

theorem Hx.nest {σ : Store} {s : St} {rkey p : Path} (h : Hx σ s rkey p) (E : Path) :
    Hx σ s (rkey ++ E) (p ++ E) := by
  intro K hK hb
  rw [List.append_assoc] at hb ⊢
  exact h (E ++ K) (fun h0 => hK (List.append_eq_nil_iff.1 h0).2) hb

mutual
theorem decExpr_sim : ∀ (v : Val) (rkey p : Path) (s : St) (σ σ' : Store),
    defineVal p v σ = .ok σ' → Hx σ s rkey p →
    ∃ s', decodeExpr rkey p v s = .ok s' ∧ NewV s s' σ' rkey p
  | .sc a, rkey, p, s, σ, σ', hd, hx => by
    rw [decodeExpr]
    exact ⟨_, rfl, rfl, fun _ hk => .inl hk⟩
  | .arr xs, rkey, p, s, σ, σ', hd, hx => by
    rw [defineVal] at hd
    rw [decodeExpr]
    exact decElems_sim xs rkey p 0 { s with out := s.out ++ [(p, Leaf.arr)] } _ _ hd
      fun K hK hb => mono_define _ _ _ _ (hx K hK hb)
  | .inl kvs, rkey, p, s, σ, σ', hd, hx => by
    rw [defineVal] at hd
    rw [decodeExpr]
    exact decFields_sim kvs rkey p { s with out := s.out ++ [(p, Leaf.tbl)] } _ _ hd
      fun K hK hb => mono_define _ _ _ _ (hx K hK hb)
theorem decElems_sim : ∀ (xs : List Val) (rkey p : Path) (i : Nat) (s : St) (σ σ' : Store),
    defineElems p i xs σ = .ok σ' → Hx σ s rkey p →
    ∃ s', decodeElems rkey p i xs s = .ok s' ∧ NewV s s' σ' rkey p
  | [], rkey, p, i, s, σ, σ', hd, hx => by
    rw [defineElems] at hd; cases hd
    rw [decodeElems]
    exact ⟨s, rfl, NewV.refl _ _ _ _⟩
  | x :: xs, rkey, p, i, s, σ, σ', hd, hx => by
    rw [defineElems] at hd
    split at hd
    · cases hd
    · next σ1 hd1 =>
      obtain ⟨s1, h1, n1⟩ := decExpr_sim x (rkey ++ [Seg.idx i]) (p ++ [Seg.idx i]) s σ σ1 hd1
        (hx.nest [Seg.idx i])
      have n1' : NewV s s1 σ1 rkey p := ⟨n1.1, fun k hk => (n1.2 k hk).lift⟩
      obtain ⟨s2, h2, n2⟩ := decElems_sim xs rkey p (i + 1) s1 σ1 σ' hd
        (hx.step (defineVal_ext x _ _ _ hd1).1.mono n1')
      refine ⟨s2, ?_, n1'.trans n2 (defineElems_ext _ _ _ _ _ hd).stable⟩
      rw [decodeElems, h1]; exact h2
theorem decFields_sim : ∀ (kvs : List (List Name × Val)) (rkey p : Path) (s : St) (σ σ' : Store),
    defineFields p kvs σ = .ok σ' → Hx σ s rkey p →
    ∃ s', decodeFields rkey p kvs s = .ok s' ∧ NewV s s' σ' rkey p
  | [], rkey, p, s, σ, σ', hd, hx => by
    rw [defineFields] at hd; cases hd
    rw [decodeFields]
    exact ⟨s, rfl, NewV.refl _ _ _ _⟩
  | kv :: rest, rkey, p, s, σ, σ', hd, hx => by
    rw [defineFields] at hd
    split at hd
    · cases hd
    · cases hd
    · next k σ1 q hl hw =>
      simp only [] at hd
      split at hd
      · cases hd
      · next hnone =>
        split at hd
        · cases hd
        · next σ2 hd2 =>
          obtain ⟨hq, e01⟩ := walkDotted_ext _ _ _ _ _ hw
          have m01 := e01.mono
          have hleaf : q ++ [Seg.key k] = p ++ keyPath kv.1 := by
            rw [hq, List.append_assoc, keyPath_dropLast_snoc hl]
          rw [hleaf] at hnone hd2
          have hE : keyPath kv.1 ≠ [] := by
            intro h0
            have : kv.1 = [] := by simpa [keyPath] using h0
            rw [this] at hl; cases hl
          have hbad : ∀ (_ : (findArray s.arrays (rkey ++ keyPath kv.1)).isSome = true ∨
              rkey ++ keyPath kv.1 ∈ s.seen), False := by
            intro hb
            exact m01 _ (hx _ hE hb) hnone
          have e12 := defineVal_ext kv.2 _ _ _ hd2
          have hx1 : Hx σ1 { s with seen := (rkey ++ keyPath kv.1) :: s.seen }
              (rkey ++ keyPath kv.1) (p ++ keyPath kv.1) := by
            intro K hK hb
            rcases hb with hb | hb
            · exact m01 _ ((hx.nest _) K hK (.inl hb))
            · rcases List.mem_cons.1 hb with e | e
              · exfalso
                have := congrArg List.length e
                simp at this
                exact hK this
              · exact m01 _ ((hx.nest _) K hK (.inr e))
          obtain ⟨s1, h1, n1⟩ := decExpr_sim kv.2 _ _ _ σ1 σ2 hd2 hx1
          have n1' : NewV s s1 σ2 rkey p := by
            refine ⟨n1.1, ?_⟩
            intro k' hk'
            rcases n1.2 k' hk' with h | h
            · rcases List.mem_cons.1 h with e | e
              · exact .inr ⟨keyPath kv.1, hE, e, e12.2⟩
              · exact .inl e
            · exact ClsV.lift (.inr h)
          obtain ⟨s2, h2, n2⟩ := decFields_sim rest rkey p s1 σ2 σ' hd
            (hx.step (m01.trans e12.1.mono) n1')
          refine ⟨s2, ?_, n1'.trans n2 (defineFields_ext _ _ _ _ hd).stable⟩
          rw [decodeFields]
          rw [if_neg (fun h => hbad (.inl h)),
            if_neg (fun h => hbad (.inr (by simpa using h)))]
          simp only [h1]
          exact h2
end

/-! ### documents without `[[array.of.tables]]` headers -/

def SeenInv (σ : Store) (seen : List Path) : Prop := ∀ k ∈ seen, HV σ k

theorem SeenInv.mono {σ σ' : Store} {seen : List Path} (h : SeenInv σ seen) (hs : Stable σ σ') :
    SeenInv σ' seen := fun k hk => hs k (h k hk)

theorem seenInv_define {σ : Store} {p : Path} {k : Kind} {seen : List Path}
    (hk : k = .header ∨ k = .value) (hs : ∀ r ∈ seen, r = p ∨ HV σ r) :
    SeenInv (define σ p k) seen := by
  intro r hr
  rcases hs r hr with e | e
  · subst e; exact hv_define _ _ hk
  · exact stable_define (fun _ => hk) _ e

/-- result of the value-level simulation -/
def Good (σ σ' : Store) (s' : St) : Prop :=
  SeenInv σ' s'.seen ∧ Stable σ σ' ∧ (NoAot σ → NoAot σ')

/-- without open arrays `Hx` only asks that the seen keys below `p` are defined, and seen keys
are headers or values -/
theorem hx_na {σ : Store} {s : St} {p : Path} (ha : s.arrays = [])
    (hs : ∀ k ∈ s.seen, k = p ∨ HV σ k) : Hx σ s p p := by
  intro K hK hb
  rw [ha] at hb
  rcases hb with hb | hb
  · cases hb
  · rcases hs _ hb with e | e
    · exact absurd (List.append_right_eq_self.1 e) hK
    · exact e.dfd

theorem good_na {σ σ' : Store} {s s' : St} {p : Path} (e : Ext σ σ')
    (hs : ∀ k ∈ s.seen, HV σ' k) (n : NewV s s' σ' p p) : Good σ σ' s' :=
  ⟨fun k hk => (n.2 k hk).elim (hs k) fun ⟨_, _, e, d⟩ => e ▸ d, e.stable, e.noAot⟩

theorem decExpr_na : ∀ (v : Val) (p : Path) (s : St) (σ σ' : Store),
    defineVal p v σ = .ok σ' → s.arrays = [] → (∀ k ∈ s.seen, k = p ∨ HV σ k) →
    ∃ s', decodeExpr p p v s = .ok s' ∧ Good σ σ' s' :=
  fun v p s σ σ' hd ha hs =>
    have e := defineVal_ext v p σ σ' hd
    (decExpr_sim v p p s σ σ' hd (hx_na ha hs)).imp fun _ h => ⟨h.1, good_na e.1
      (fun k hk => (hs k hk).elim (fun h => h ▸ e.2) (e.1.stable k)) h.2⟩

theorem decElems_na : ∀ (xs : List Val) (p : Path) (i : Nat) (s : St) (σ σ' : Store),
    defineElems p i xs σ = .ok σ' → s.arrays = [] → SeenInv σ s.seen →
    ∃ s', decodeElems p p i xs s = .ok s' ∧ Good σ σ' s' :=
  fun xs p i s σ σ' hd ha hs =>
    have e := defineElems_ext xs p i σ σ' hd
    (decElems_sim xs p p i s σ σ' hd (hx_na ha fun k hk => .inr (hs k hk))).imp fun _ h =>
      ⟨h.1, good_na e (hs.mono e.stable) h.2⟩

theorem decFields_na : ∀ (kvs : List (List Name × Val)) (p : Path) (s : St) (σ σ' : Store),
    defineFields p kvs σ = .ok σ' → s.arrays = [] → SeenInv σ s.seen →
    ∃ s', decodeFields p p kvs s = .ok s' ∧ Good σ σ' s' :=
  fun kvs p s σ σ' hd ha hs =>
    have e := defineFields_ext kvs p σ σ' hd
    (decFields_sim kvs p p s σ σ' hd (hx_na ha fun k hk => .inr (hs k hk))).imp fun _ h =>
      ⟨h.1, good_na e (hs.mono e.stable) h.2⟩

structure RelNA (σs : SSt) (s : St) : Prop where
  cur : s.cur = σs.cur
  curKey : s.curKey = σs.cur
  arrays : s.arrays = []
  out : ([], Leaf.tbl) :: s.out = σs.facts
  noAot : NoAot σs.store
  seen : SeenInv σs.store s.seen

theorem relNA_init : RelNA SSt.init St.init :=
  ⟨rfl, rfl, rfl, rfl, by intro r n; simp [SSt.init, kindAt], by intro k hk; simp [St.init] at hk⟩

theorem step_na (σs σs' : SSt) (s : St) (e : Ev) (hna : ∀ ks, e ≠ .arrayTable ks)
    (hr : RelNA σs s) (hs : sstep σs e = .ok σs') :
    ∃ s', step s e = .ok s' ∧ RelNA σs' s' := by
  cases e with
  | arrayTable ks => exact absurd rfl (hna ks)
  | kv ks v =>
    rw [sstep] at hs
    split at hs
    · cases hs
    · next σ hd =>
      cases hs
      obtain ⟨s', h1, g1, g2, g3⟩ := decFields_na _ _ s _ _ hd hr.arrays hr.seen
      have hf := decodeFields_frame _ _ _ _ _ h1
      refine ⟨s', ?_, ?_⟩
      · rw [step, hr.curKey, hr.cur]; exact h1
      · obtain ⟨o, a, c, ck⟩ := hf
        refine ⟨by rw [c]; exact hr.cur, by rw [ck]; exact hr.curKey, by rw [a]; exact hr.arrays,
          ?_, g3 hr.noAot, g1⟩
        simp only [o, factsFields, List.append_nil]
        rw [← List.cons_append, hr.out]
  | table ks =>
    rw [sstep] at hs
    split at hs
    · cases hs
    · cases hs
    · next k σ1 q hl hw =>
      obtain ⟨hq, st1, na1⟩ := walkHeader_spec_na _ _ _ _ _ hw hr.noAot
      have hp : q ++ [Seg.key k] = keyPath ks := by
        rw [hq, List.nil_append, keyPath_dropLast_snoc hl]
      simp only [hp] at hs
      -- both accepting branches of the specification (undefined, implicit) end here
      have fin : ¬ HV σ1 (keyPath ks) → σs' = SSt.mk (define σ1 (keyPath ks) Kind.header) (keyPath ks)
            (σs.facts ++ [(keyPath ks, Leaf.tbl)]) →
          ∃ s', step s (.table ks) = .ok s' ∧ RelNA σs' s' := by
        intro hnhv he
        have hn : keyPath ks ∉ s.seen := fun hm => hnhv (st1 _ (hr.seen _ hm))
        subst he
        refine ⟨{ s with seen := keyPath ks :: s.seen, out := s.out ++ [(keyPath ks, .tbl)],
                         cur := keyPath ks, curKey := keyPath ks }, ?_,
          rfl, rfl, hr.arrays, ?_, noAot_define _ _ _ (fun _ => nofun) na1,
          seenInv_define (.inl rfl) fun k' hk' =>
            (List.mem_cons.1 hk').imp_right fun e => st1 _ (hr.seen _ e)⟩
        · rw [step]
          simp only []
          rw [if_neg (by simpa using hn)]
          simp [findArrayPrefix, findArray, hr.arrays, maxPrefixLoop]
        · simp only []; rw [← List.cons_append, hr.out]
      split at hs
      · next hk => exact fin (by simp [HV, hk]) (by cases hs; rfl)
      · next hk => exact fin (by simp [HV, hk]) (by cases hs; rfl)
      · cases hs
      · cases hs

theorem sameData_refl (a : List Fact) : SameData a a := fun _ => Iff.rfl

theorem sim_run {R : SSt → St → Prop} {ok : Ev → Prop}
    (hstep : ∀ σs σs' s e, ok e → R σs s → sstep σs e = .ok σs' → ∃ s', step s e = .ok s' ∧ R σs' s') :
    ∀ (evs : List Ev) (σs σs' : SSt) (s : St), R σs s → (∀ e ∈ evs, ok e) → srun σs evs = .ok σs' →
      ∃ s', run s evs = .ok s' ∧ R σs' s'
  | [], σs, σs', s, hr, _, h => by
    rw [srun] at h; cases h
    exact ⟨s, rfl, hr⟩
  | e :: es, σs, σs', s, hr, hok, h => by
    rw [srun] at h
    split at h
    · cases h
    · next σ1 h1 =>
      obtain ⟨s1, g1, r1⟩ := hstep _ _ _ _ (hok e (List.mem_cons_self ..)) hr h1
      obtain ⟨s2, g2, r2⟩ := sim_run hstep es _ _ _ r1 (fun e' he' => hok e' (List.mem_cons_of_mem _ he')) h
      refine ⟨s2, ?_, r2⟩
      rw [run, g1]; exact g2

/-- a simulation relation over the events satisfying `ok` carries acceptance and data over -/
theorem sim_decode {R : SSt → St → Prop} {ok : Ev → Prop}
    (hstep : ∀ σs σs' s e, ok e → R σs s → sstep σs e = .ok σs' → ∃ s', step s e = .ok s' ∧ R σs' s')
    (hinit : R SSt.init St.init) (hout : ∀ σs s, R σs s → ([], Leaf.tbl) :: s.out = σs.facts)
    (evs : List Ev) (fs : List Fact) (hok : ∀ e ∈ evs, ok e) (h : tomlSpec evs = .ok fs) :
    ∃ fs', decode evs = .ok fs' ∧ SameData fs fs' := by
  unfold tomlSpec at h
  split at h
  · cases h
  · next σs hs =>
    cases h
    obtain ⟨s', g, r⟩ := sim_run hstep evs _ _ _ hinit hok hs
    refine ⟨([], .tbl) :: s'.out, ?_, ?_⟩
    · unfold decode; rw [g]
    · rw [hout _ _ r]; exact sameData_refl _

/-- `C12_toml_sem_partial_stmt` restricted to documents without array-of-tables headers -/
theorem sem_partial_noarrays (evs : List Ev) (fs : List Fact)
    (hna : ∀ e ∈ evs, ∀ ks, e ≠ .arrayTable ks) (h : tomlSpec evs = .ok fs) :
    ∃ fs', decode evs = .ok fs' ∧ SameData fs fs' :=
  sim_decode step_na relNA_init (fun _ _ r => r.out) evs fs hna h

/-! ### list-level facts about `findArray`, `maxPrefixLoop` and the slot of `findArrayPrefix`
(independent of the specification; ingredients of the general simulation) -/

theorem findArray_none {arrays : List OpenArr} {k : Path} (h : findArray arrays k = none) :
    ∀ a ∈ arrays, a.rkey ≠ k :=
  findArray_eq_none_iff.1 h

theorem findArray_some {arrays : List OpenArr} {k : Path} {i : Nat}
    (h : findArray arrays k = some i) :
    ∃ a, arrays[i]? = some a ∧ a.rkey = k ∧
      ∀ j, j < i → ∀ b, arrays[j]? = some b → b.rkey ≠ k := by
  unfold findArray at h
  rw [List.findIdx?_eq_some_iff_getElem] at h
  obtain ⟨hi, hp, hlt⟩ := h
  refine ⟨arrays[i], by simp [hi], by simpa using hp, ?_⟩
  intro j hj b hb e
  have hjl : j < arrays.length := Nat.lt_trans hj hi
  have := hlt j hj
  rw [List.getElem?_eq_getElem hjl] at hb
  cases hb
  simp [e] at this

/-- the compaction of `findArrayPrefix` when nothing at or before a slot is deleted -/
theorem filter_slot {α} (f : α → Bool) : ∀ (l : List α) (i : Nat),
    (∀ j, j ≤ i → ∀ b, l[j]? = some b → f b = true) → (l.filter f)[i]? = l[i]?
  | [], i, _ => by simp
  | a :: l, 0, h => by
    have := h 0 (Nat.le_refl _) a (by simp)
    simp [this]
  | a :: l, i + 1, h => by
    have h0 := h 0 (Nat.zero_le _) a (by simp)
    simp only [List.filter_cons, h0, if_true, List.getElem?_cons_succ]
    exact filter_slot f l i (fun j hj b hb => h (j + 1) (Nat.succ_le_succ hj) b (by simpa using hb))

/-- state of the second loop of `findArrayPrefix` after scanning `pre`: `m` bounds the levels of
the strict prefixes seen, and `best` is where it is attained -/
def BestOk (key : Path) (pre : List OpenArr) (m : Nat) (best : Option Nat) : Prop :=
  (∀ b ∈ pre, strictPrefix b.rkey key = true → b.level ≤ m) ∧
  match best with
  | none => m = 0
  | some j => ∃ a, pre[j]? = some a ∧ strictPrefix a.rkey key = true ∧ a.level = m

theorem maxPrefixLoop_spec (key : Path) : ∀ (l pre : List OpenArr) (m : Nat) (best : Option Nat),
    BestOk key pre m best →
    ∃ m', BestOk key (pre ++ l) m' (maxPrefixLoop key l pre.length m best)
  | [], pre, m, best, h => by
    rw [maxPrefixLoop]; exact ⟨m, by simpa using h⟩
  | a :: l, pre, m, best, ⟨hall, hbest⟩ => by
    rw [maxPrefixLoop]
    have hlen : pre.length + 1 = (pre ++ [a]).length := by simp
    have happ : pre ++ a :: l = (pre ++ [a]) ++ l := by simp
    rw [happ, hlen]
    split
    · next hc =>
      simp only [Bool.and_eq_true, decide_eq_true_eq] at hc
      apply maxPrefixLoop_spec key l (pre ++ [a]) a.level (some pre.length)
      refine ⟨fun b hb hsp => ?_, a, by simp, hc.1, rfl⟩
      rcases List.mem_append.1 hb with hb | hb
      · have := hall b hb hsp; omega
      · simp at hb; subst hb; exact Nat.le_refl _
    · next hc =>
      simp only [Bool.and_eq_true, decide_eq_true_eq, not_and, Nat.not_lt] at hc
      apply maxPrefixLoop_spec key l (pre ++ [a]) m best
      refine ⟨fun b hb hsp => ?_, ?_⟩
      · rcases List.mem_append.1 hb with hb | hb
        · exact hall b hb hsp
        · simp at hb; subst hb; exact hc hsp
      · cases best with
        | none => exact hbest
        | some j =>
          obtain ⟨a0, g0, s0, e0⟩ := hbest
          obtain ⟨hj, _⟩ := List.getElem?_eq_some_iff.1 g0
          exact ⟨a0, by rw [List.getElem?_append_left hj]; exact g0, s0, e0⟩

theorem maxPrefixLoop_none {key : Path} {l : List OpenArr}
    (h : maxPrefixLoop key l 0 0 none = none) :
    ∀ b ∈ l, strictPrefix b.rkey key = true → b.level = 0 := by
  obtain ⟨m', hb, hm⟩ := maxPrefixLoop_spec key l [] 0 none ⟨by simp, rfl⟩
  simp only [List.length_nil, List.nil_append] at hb hm
  rw [h] at hm
  subst hm
  exact fun b hbl hsp => Nat.le_zero.1 (hb b hbl hsp)

theorem maxPrefixLoop_some {key : Path} {l : List OpenArr} {i : Nat}
    (h : maxPrefixLoop key l 0 0 none = some i) :
    ∃ a, l[i]? = some a ∧ strictPrefix a.rkey key = true ∧
      ∀ b ∈ l, strictPrefix b.rkey key = true → b.level ≤ a.level := by
  obtain ⟨m', hb, hm⟩ := maxPrefixLoop_spec key l [] 0 none ⟨by simp, rfl⟩
  simp only [List.length_nil, List.nil_append] at hb hm
  rw [h] at hm
  obtain ⟨a, g, sp, e⟩ := hm
  exact ⟨a, g, sp, by rw [e]; exact hb⟩

end CueVerif.Toml
