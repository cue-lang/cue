/-
C12 — towards `C12_toml_sem_partial_stmt` for all documents (arrays of tables included): the
simulation relation `Rel`, the reduction of the statement to the step simulation, the general form
of the value level (readings of `decExpr_sim`), and the transport of the relation along store
extensions.
-/
import CueVerif.Proofs.TomlSem
namespace CueVerif.Toml
open CueVerif.Toml.Spec

/-- a position that may have children: the root, a defined non-array path, or an existing
element of an array of tables -/
def Occ (σ : Store) (r : Path) : Prop :=
  r = [] ∨ (Dfd σ r ∧ ¬ isAotP σ r) ∨
    ∃ r' i n, r = r' ++ [Seg.idx i] ∧ kindAt σ r' = some (.aot n) ∧ i < n

/-- definedness is prefix closed -/
def PC (σ : Store) : Prop := ∀ r s, Dfd σ (r ++ [s]) → Occ σ r

/-- arrays of tables sit at label-ending paths -/
def AotKey (σ : Store) : Prop := ∀ r, isAotP σ r → ∃ r0 a, r = r0 ++ [Seg.key a]

def PureKey (k : Path) : Prop := ∃ hs : List Name, k = keyPath hs

structure ArrOk (σ : Store) (a : OpenArr) : Prop where
  pure : ∃ hs : List Name, a.rkey = keyPath hs ∧ a.level = hs.length
  list : a.list = res σ [] a.rkey
  kind : kindAt σ a.list = some (.aot a.len)
  pos : 1 ≤ a.len
  last : a.last = a.list ++ [Seg.idx (a.len - 1)]

structure Rel (σs : SSt) (s : St) : Prop where
  cur : s.cur = σs.cur
  out : ([], Leaf.tbl) :: s.out = σs.facts
  curRes : res σs.store [] s.curKey = σs.cur
  curNA : ¬ isAotP σs.store σs.cur
  curOcc : Occ σs.store σs.cur
  arrOk : ∀ a ∈ s.arrays, ArrOk σs.store a
  arrAll : ∀ hs : List Name, isAotP σs.store (res σs.store [] (keyPath hs)) →
    ∃ a ∈ s.arrays, a.rkey = keyPath hs
  arrOrd : s.arrays.Pairwise (fun a b => strictPrefix b.rkey a.rkey = false ∧ a.rkey ≠ b.rkey)
  seenHV : ∀ k ∈ s.seen, HV σs.store (res σs.store [] k)
  seenPure : ∀ k ∈ s.seen, ∀ k1 a k2, k = k1 ++ Seg.key a :: k2 →
    isAotP σs.store (res σs.store [] k1) → PureKey k1
  pc : PC σs.store
  aotKey : AotKey σs.store

theorem kindAt_nil (r : Path) : kindAt [] r = none := rfl

theorem rel_init : Rel SSt.init St.init where
  cur := rfl
  out := rfl
  curRes := rfl
  curNA := by rintro ⟨n, h⟩; cases h
  curOcc := .inl rfl
  arrOk := by intro a h; cases h
  arrAll := by rintro hs ⟨n, h⟩; cases h
  arrOrd := List.Pairwise.nil
  seenHV := by intro k h; cases h
  seenPure := by intro k h; cases h
  pc := by intro r s h; exact absurd rfl h
  aotKey := by rintro r ⟨n, h⟩; cases h

/-- `C12_toml_sem_partial_stmt` follows from the step simulation -/
theorem sem_partial_of_step
    (hstep : ∀ σs σs' s e, Rel σs s → sstep σs e = .ok σs' → ∃ s', step s e = .ok s' ∧ Rel σs' s')
    (evs : List Ev) (fs : List Fact) (h : tomlSpec evs = .ok fs) :
    ∃ fs', decode evs = .ok fs' ∧ SameData fs fs' :=
  sim_decode (ok := fun _ => True) (fun σs σs' s e _ => hstep σs σs' s e) rel_init (fun _ _ r => r.out)
    evs fs (fun _ _ => trivial) h

/-! ### value-level simulation, general form: `decExpr_sim` with the kinds forgotten -/

theorem decExpr_gen : ∀ (v : Val) (rkey p : Path) (s : St) (σ σ' : Store),
    defineVal p v σ = .ok σ' → Hx σ s rkey p →
    ∃ s', decodeExpr rkey p v s = .ok s' ∧ New s s' σ' rkey p :=
  fun v rkey p s σ σ' hd hx => (decExpr_sim v rkey p s σ σ' hd hx).imp fun _ h => ⟨h.1, h.2.new⟩

theorem decElems_gen : ∀ (xs : List Val) (rkey p : Path) (i : Nat) (s : St) (σ σ' : Store),
    defineElems p i xs σ = .ok σ' → Hx σ s rkey p →
    ∃ s', decodeElems rkey p i xs s = .ok s' ∧ New s s' σ' rkey p :=
  fun xs rkey p i s σ σ' hd hx => (decElems_sim xs rkey p i s σ σ' hd hx).imp fun _ h => ⟨h.1, h.2.new⟩

theorem decFields_gen : ∀ (kvs : List (List Name × Val)) (rkey p : Path) (s : St) (σ σ' : Store),
    defineFields p kvs σ = .ok σ' → Hx σ s rkey p →
    ∃ s', decodeFields rkey p kvs s = .ok s' ∧ New s s' σ' rkey p :=
  fun kvs rkey p s σ σ' hd hx => (decFields_sim kvs rkey p s σ σ' hd hx).imp fun _ h => ⟨h.1, h.2.new⟩

/-! ### transport of the relation -/

theorem isAotP_congr {σ σ' : Store} (h : SameAot σ σ') (r : Path) : isAotP σ r ↔ isAotP σ' r :=
  ⟨fun ⟨n, hn⟩ => ⟨n, (h r n).1 hn⟩, fun ⟨n, hn⟩ => ⟨n, (h r n).2 hn⟩⟩

theorem ArrOk.transport {σ σ' : Store} {a : OpenArr} (h : ArrOk σ a) (sa : SameAot σ σ') :
    ArrOk σ' a :=
  ⟨h.pure, by rw [← res_congr sa]; exact h.list, (sa _ _).1 h.kind, h.pos, h.last⟩

/-- the components of `Rel` that depend on the store only through its arrays of tables and
its header/value paths survive every store extension that keeps those -/
theorem Rel.transport {σs : SSt} {s : St} (hr : Rel σs s) {σ' : Store}
    (sa : SameAot σs.store σ') (st : Stable σs.store σ') :
    res σ' [] s.curKey = σs.cur ∧ ¬ isAotP σ' σs.cur ∧
    (∀ a ∈ s.arrays, ArrOk σ' a) ∧
    (∀ hs : List Name, isAotP σ' (res σ' [] (keyPath hs)) → ∃ a ∈ s.arrays, a.rkey = keyPath hs) ∧
    (∀ k ∈ s.seen, HV σ' (res σ' [] k)) ∧
    (∀ k ∈ s.seen, ∀ k1 a k2, k = k1 ++ Seg.key a :: k2 → isAotP σ' (res σ' [] k1) → PureKey k1) ∧
    AotKey σ' := by
  refine ⟨by rw [← res_congr sa]; exact hr.curRes, fun h => hr.curNA ((isAotP_congr sa _).2 h),
    fun a ha => (hr.arrOk a ha).transport sa, ?_, ?_, ?_, ?_⟩
  · intro hs h
    rw [← res_congr sa] at h
    exact hr.arrAll hs ((isAotP_congr sa _).2 h)
  · intro k hk
    rw [← res_congr sa]; exact st _ (hr.seenHV k hk)
  · intro k hk k1 a k2 e h
    rw [← res_congr sa] at h
    exact hr.seenPure k hk k1 a k2 e ((isAotP_congr sa _).2 h)
  · intro r h
    exact hr.aotKey r ((isAotP_congr sa _).2 h)

end CueVerif.Toml
