/-
C02 — the comparisons of toposort.Graph.Sort: `compareNodeByName` and `compareComponentsByNodes`
are lexicographic combinations of core comparisons, hence total preorders; the one of the code
tells all labels apart; sorting a list whose members the comparison tells apart has one result,
whatever the (conforming) sort and the order of the input.
-/
import CueVerif.Proofs.SanitizeOrder
import CueVerif.Spec.Toposort
namespace CueVerif.Toposort
open CueVerif.Sanitize (TotalPreorder SortedBy cmpBytes cmpNat insertionSort Bytes)
open Std (TransCmp)

/-! ### the comparisons -/

theorem stableSort_contract : stableSort.Contract :=
  ⟨fun cmp l => Sanitize.insertionSort_perm cmp l, fun _ l h => Sanitize.insertionSort_sorted h l⟩

/-- rank of a label for `compareNodeByName`: integers first -/
def Label.isNamed : Label → Bool
  | .int _ => false
  | .named _ _ => true

def Label.idx : Label → Nat | .int i => i | .named _ _ => 0
def Label.str : Label → Bytes | .int _ => [] | .named _ s => s
def Label.typ : Label → Nat | .int _ => 0 | .named t _ => t
def cTyp (fixed : Bool) (a b : Label) : Ordering := if fixed then compare a.typ b.typ else .eq

theorem cmpLabel_eq_lex (fixed : Bool) : cmpLabel fixed = compareLex (compareOn Label.isNamed)
    (compareLex (compareOn Label.idx) (compareLex (compareOn Label.str) (cTyp fixed))) := by
  funext a b
  cases a <;> cases b <;>
    simp only [cmpLabel, compareLex, compareOn, cTyp, Label.isNamed, Label.idx, Label.str, Label.typ,
      Sanitize.cmpNat_eq, Sanitize.cmpBytes_eq]
  · rename_i i j; cases fixed <;> cases compare i j <;> rfl
  · rfl
  · rfl
  · rename_i t s u r; cases compare s r <;> rfl

instance (fixed : Bool) : TransCmp (cTyp fixed) := by
  cases fixed
  · exact { eq_swap := rfl, isLE_trans := fun _ _ => rfl }
  · exact inferInstanceAs (TransCmp (compareOn Label.typ))

instance (fixed : Bool) : TransCmp (cmpLabel fixed) := cmpLabel_eq_lex fixed ▸ inferInstance

theorem cmpLabel_tp (fixed : Bool) : TotalPreorder (cmpLabel fixed) := Sanitize.totalPreorder _

/-- with the tie-break the comparison tells all labels apart -/
theorem cmpLabel_fixed_eq (a b : Label) : cmpLabel true a b = .eq → a = b := by
  cases a <;> cases b <;> simp [cmpLabel]
  · exact (Sanitize.cmpNat_eq_iff _ _).1
  · rename_i t s u r
    cases h : cmpBytes s r <;> simp
    intro h2
    exact ⟨(Sanitize.cmpNat_eq_iff _ _).1 h2, (Sanitize.cmpBytes_eq_iff _ _).1 h⟩

theorem cmpComp_eq_lex (fixed : Bool) : cmpComp fixed = List.compareLex (cmpLabel fixed) := by
  funext a b
  induction a generalizing b with
  | nil => cases b <;> rfl
  | cons x xs ih =>
    cases b with
    | nil => rfl
    | cons y ys =>
      rw [cmpComp, ih, List.compareLex_cons_cons]
      cases cmpLabel fixed x y <;> rfl

instance (fixed : Bool) : TransCmp (cmpComp fixed) := cmpComp_eq_lex fixed ▸ inferInstance

theorem cmpComp_tp (fixed : Bool) : TotalPreorder (cmpComp fixed) := Sanitize.totalPreorder _

/-! ### sorting with an injective comparison has one result -/

theorem sort_unique {α : Type} {cmp : α → α → Ordering} (h : TotalPreorder cmp) (S S' : SortFn)
    (hS : S.Contract) (hS' : S'.Contract) (l l' : List α) (hp : l.Perm l')
    (hinj : ∀ a ∈ l, ∀ b ∈ l, cmp a b = .eq → a = b) :
    S.sort cmp l = S'.sort cmp l' := by
  have p := hS.perm cmp l
  have p' := (hS'.perm cmp l').trans hp.symm
  refine List.Perm.eq_of_pairwise (fun a b ha hb hab hba => hinj a (p.mem_iff.1 ha) b (p'.mem_iff.1 hb) ?_)
    (hS.sorted cmp l h) (hS'.sorted cmp l' h) (p.trans p'.symm)
  -- a ≤ b; were it a < b, then b > a
  refine Classical.byContradiction fun hne => hba ?_
  rw [h.swap, Sanitize.Ordering.eq_lt_of_ne hab hne]; rfl

end CueVerif.Toposort
