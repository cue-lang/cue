/-
C02 — the graph notions of Spec/Toposort.lean, before any algorithm: reachability sees the edge set
only; what a partition into strongly connected components (`IsSCC`) provides, that it may be
presented in any order, and that it is determined by the vertex and edge sets; edges between
components (`cedge`, `incoming`, `outgoing`) and the order they generate (`CReach`), which is
antisymmetric on a partition — so every non-empty set of components has a source.
-/
import CueVerif.Spec.Toposort
namespace CueVerif.Toposort

/-! ### reachability -/

theorem Reach.trans {g : Graph} {u v w : Label} (h1 : Reach g u v) (h2 : Reach g v w) : Reach g u w := by
  induction h1 with
  | refl => exact h2
  | step hw _ ih => exact .step hw (ih h2)

theorem Reach.edge {g : Graph} {u v : Label} (h : v ∈ g.out u) : Reach g u v := .step h (.refl v)

theorem reach_edgeless {g : Graph} (h : ∀ u, g.out u = []) {u v : Label} (r : Reach g u v) : u = v := by
  induction r with
  | refl => rfl
  | step hw _ _ => rw [h] at hw; cases hw

theorem reach_congr {g g' : Graph} (h : ∀ u v, v ∈ g.out u ↔ v ∈ g'.out u) {u v : Label}
    (r : Reach g u v) : Reach g' u v := by
  induction r with
  | refl => exact .refl _
  | step hw _ ih => exact .step ((h _ _).1 hw) ih

theorem Graph.Same.symm {g g' : Graph} (h : g.Same g') : g'.Same g :=
  ⟨h.nodes.symm, fun u v => (h.edges u v).symm⟩

/-! ### partitions into strongly connected components -/

theorem IsSCC.unique {g : Graph} {comps : List Comp} (h : IsSCC g comps) {c d : Comp} {u : Label}
    (hc : c ∈ comps) (hd : d ∈ comps) (huc : u ∈ c) (hud : u ∈ d) : c = d :=
  (h.scc c hc d hd u huc u hud).2 ⟨.refl u, .refl u⟩

theorem IsSCC.intra {g : Graph} {comps : List Comp} (h : IsSCC g comps) {c : Comp} {u v : Label}
    (hc : c ∈ comps) (hu : u ∈ c) (hv : v ∈ c) : Reach g u v :=
  ((h.scc c hc c hc u hu v hv).1 rfl).1

/-- distinct components are disjoint and none is empty -/
theorem IsSCC.comps_nodup {g : Graph} {comps : List Comp} (h : IsSCC g comps) : comps.Nodup :=
  (List.pairwise_flatten.1 h.nodup).2.imp_of_mem fun {c _} hc _ hcd e => by
    obtain ⟨a, ha⟩ := List.exists_mem_of_ne_nil c (h.nonempty c hc)
    exact hcd a ha a (e ▸ ha) rfl

theorem IsSCC.comp_nodup {g : Graph} {comps : List Comp} (h : IsSCC g comps) {c : Comp}
    (hc : c ∈ comps) : c.Nodup :=
  (List.pairwise_flatten.1 h.nodup).1 c hc

theorem flatten_map_perm (f : Comp → Comp) (hf : ∀ c, (f c).Perm c) :
    ∀ l : List Comp, (l.map f).flatten.Perm l.flatten
  | [] => List.Perm.refl _
  | c :: rest => by
    simp only [List.map_cons, List.flatten_cons]
    exact List.Perm.append (hf c) (flatten_map_perm f hf rest)

theorem IsSCC.map {g : Graph} {comps : List Comp} (h : IsSCC g comps) (f : Comp → Comp)
    (hf : ∀ c, (f c).Perm c) : IsSCC g (comps.map f) := by
  refine ⟨?_, ?_, ?_, ?_⟩
  · exact (flatten_map_perm f hf comps).nodup_iff.2 h.nodup
  · intro c' hc'
    rcases List.mem_map.1 hc' with ⟨c, hc, rfl⟩
    exact fun hnil => h.nonempty c hc (List.nil_perm.1 (hnil ▸ hf c))
  · intro v
    rw [h.cover v]
    constructor
    · rintro ⟨c, hc, hv⟩
      exact ⟨f c, List.mem_map.2 ⟨c, hc, rfl⟩, (hf c).mem_iff.2 hv⟩
    · rintro ⟨c', hc', hv⟩
      rcases List.mem_map.1 hc' with ⟨c, hc, rfl⟩
      exact ⟨c, hc, (hf c).mem_iff.1 hv⟩
  · intro c' hc' d' hd' u hu v hv
    rcases List.mem_map.1 hc' with ⟨c, hc, rfl⟩
    rcases List.mem_map.1 hd' with ⟨d, hd, rfl⟩
    have hu' := (hf c).mem_iff.1 hu
    have hv' := (hf d).mem_iff.1 hv
    constructor
    · intro hEq
      have hud : u ∈ d := (hf d).mem_iff.1 (hEq ▸ hu)
      have hcd : c = d := h.unique hc hd hu' hud
      exact (h.scc c hc d hd u hu' v hv').1 hcd
    · intro hr
      rw [(h.scc c hc d hd u hu' v hv').2 hr]

theorem flatten_perm_nodes {g : Graph} {cs : List Comp} (hg : g.WF) (hc : IsSCC g cs) :
    cs.flatten.Perm g.nodes := by
  refine (List.perm_ext_iff_of_nodup hc.nodup hg.nodup).2 ?_
  intro v
  rw [List.mem_flatten, hc.cover v]

/-- the partition into strongly connected components is a matter of the vertex and edge SETS:
components of two presentations that share a node have the same members -/
theorem IsSCC.sub_of_same {g g' : Graph} {comps comps' : List Comp} (hsame : g.Same g') (hc : IsSCC g comps)
    (hc' : IsSCC g' comps') {c d : Comp} (hcc : c ∈ comps) (hdc : d ∈ comps') {u : Label} (hu : u ∈ c)
    (hud : u ∈ d) : ∀ x ∈ c, x ∈ d := by
  intro x hx
  obtain ⟨e, he, hxe⟩ := (hc'.cover x).1 (hsame.nodes.mem_iff.1 ((hc.cover x).2 ⟨c, hcc, hx⟩))
  rw [(hc'.scc d hdc e he u hud x hxe).2
    ⟨reach_congr hsame.edges (hc.intra hcc hu hx), reach_congr hsame.edges (hc.intra hcc hx hu)⟩]
  exact hxe

theorem IsSCC.perm_of_same {g g' : Graph} {comps comps' : List Comp} (hsame : g.Same g') (hc : IsSCC g comps)
    (hc' : IsSCC g' comps') {c : Comp} (hcc : c ∈ comps) : ∃ d ∈ comps', c.Perm d := by
  obtain ⟨u, hu⟩ := List.exists_mem_of_ne_nil c (hc.nonempty c hcc)
  obtain ⟨d, hdc, hud⟩ := (hc'.cover u).1 (hsame.nodes.mem_iff.1 ((hc.cover u).2 ⟨c, hcc, hu⟩))
  exact ⟨d, hdc, (List.perm_ext_iff_of_nodup (hc.comp_nodup hcc) (hc'.comp_nodup hdc)).2 fun x =>
    ⟨hc.sub_of_same hsame hc' hcc hdc hu hud x, hc'.sub_of_same hsame.symm hc hdc hcc hud hu x⟩⟩

theorem isSCC_singletons (g : Graph) (h : ∀ u, g.out u = []) (hn : g.nodes.Nodup) :
    IsSCC g (g.nodes.map fun v => [v]) := by
  refine ⟨?_, ?_, ?_, ?_⟩
  · have : (g.nodes.map fun v => [v]).flatten = g.nodes := by
      induction g.nodes with
      | nil => rfl
      | cons a l ih => simp [ih]
    rw [this]; exact hn
  · intro c hc; rcases List.mem_map.1 hc with ⟨v, _, rfl⟩; simp
  · intro v
    constructor
    · intro hv; exact ⟨[v], List.mem_map.2 ⟨v, hv, rfl⟩, by simp⟩
    · rintro ⟨c, hc, hvc⟩
      rcases List.mem_map.1 hc with ⟨w, hw, rfl⟩
      exact List.mem_singleton.1 hvc ▸ hw
  · intro c hc d hd u hu v hv
    rcases List.mem_map.1 hc with ⟨a, _, rfl⟩
    rcases List.mem_map.1 hd with ⟨b, _, rfl⟩
    obtain rfl := List.mem_singleton.1 hu
    obtain rfl := List.mem_singleton.1 hv
    exact ⟨fun hEq => by cases hEq; exact ⟨.refl _, .refl _⟩, fun hr => by rw [reach_edgeless h hr.1]⟩

/-! ### edges between components -/

theorem cedge_iff (g : Graph) (c d : Comp) :
    cedge g c d = true ↔ c ≠ d ∧ ∃ u ∈ c, ∃ v ∈ g.out u, v ∈ d := by
  simp [cedge, List.any_eq_true]

theorem cedge_congr {g g' : Graph} (h : ∀ u v, v ∈ g.out u ↔ v ∈ g'.out u) (c d : Comp) :
    cedge g c d = cedge g' c d := by
  rw [Bool.eq_iff_iff]
  simp only [cedge_iff, h]

theorem mem_incoming (g : Graph) (cs : List Comp) (c d : Comp) :
    d ∈ incoming g cs c ↔ d ∈ cs ∧ cedge g d c = true := by
  simp [incoming, List.mem_filter]

theorem mem_outgoing (g : Graph) (cs : List Comp) (c d : Comp) :
    d ∈ outgoing g cs c ↔ d ∈ cs ∧ cedge g c d = true := by
  simp [outgoing, List.mem_filter]

/-- component-level reachability -/
def CReach (g : Graph) (c d : Comp) : Prop := ∃ u ∈ c, ∃ v ∈ d, Reach g u v

theorem CReach.trans {g : Graph} {comps : List Comp} (h : IsSCC g comps) {c d e : Comp}
    (hd : d ∈ comps) (h1 : CReach g c d) (h2 : CReach g d e) : CReach g c e := by
  rcases h1 with ⟨u, hu, v, hv, r1⟩
  rcases h2 with ⟨v', hv', w, hw, r2⟩
  exact ⟨u, hu, w, hw, r1.trans ((h.intra hd hv hv').trans r2)⟩

theorem CReach.antisymm {g : Graph} {comps : List Comp} (h : IsSCC g comps) {c d : Comp}
    (hc : c ∈ comps) (hd : d ∈ comps) (h1 : CReach g c d) (h2 : CReach g d c) : c = d := by
  rcases h1 with ⟨u, hu, v, hv, r1⟩
  rcases h2 with ⟨v', hv', u', hu', r2⟩
  exact (h.scc c hc d hd u hu v hv).2 ⟨r1, (h.intra hd hv hv').trans (r2.trans (h.intra hc hu' hu))⟩

theorem cedge_creach {g : Graph} {c d : Comp} (h : cedge g c d = true) : CReach g c d ∧ c ≠ d := by
  rcases (cedge_iff g c d).1 h with ⟨hne, u, hu, v, hv, hvd⟩
  exact ⟨⟨u, hu, v, hvd, Reach.edge hv⟩, hne⟩

/-- a non-empty set of components has one without a predecessor inside the set: the
condensation is acyclic -/
theorem exists_source {g : Graph} {comps : List Comp} (h : IsSCC g comps) :
    ∀ U : List Comp, U ≠ [] → (∀ c ∈ U, c ∈ comps) →
      ∃ m ∈ U, ∀ d ∈ U, ¬ (CReach g d m ∧ d ≠ m)
  | [], hne, _ => absurd rfl hne
  | [a], _, _ => ⟨a, List.mem_singleton_self a, fun d hd h' => h'.2 (List.mem_singleton.1 hd)⟩
  | a :: b :: U, _, hsub => by
    have ih := exists_source h (b :: U) (by simp) (fun c hc => hsub c (List.mem_cons_of_mem _ hc))
    rcases ih with ⟨m, hm, hmin⟩
    have ha : a ∈ comps := hsub a (by simp)
    have hmc : m ∈ comps := hsub m (List.mem_cons_of_mem _ hm)
    by_cases ham : CReach g a m ∧ a ≠ m
    · refine ⟨a, by simp, ?_⟩
      intro d hd hda
      rcases List.mem_cons.1 hd with rfl | hd'
      · exact hda.2 rfl
      · -- d < a < m, so d < m
        have hdc : d ∈ comps := hsub d (List.mem_cons_of_mem _ hd')
        have hdm : CReach g d m := CReach.trans h ha hda.1 ham.1
        refine hmin d hd' ⟨hdm, ?_⟩
        intro hEq
        subst hEq
        exact hda.2 (CReach.antisymm h hdc ha hda.1 ham.1)
    · refine ⟨m, List.mem_cons_of_mem _ hm, ?_⟩
      intro d hd
      rcases List.mem_cons.1 hd with rfl | hd'
      · exact ham
      · exact hmin d hd'

end CueVerif.Toposort
