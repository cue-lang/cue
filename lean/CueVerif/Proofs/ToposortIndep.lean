/-
C02 — toposort.Graph.Sort does not depend on the presentation of the graph (node order =
Go map iteration order, edge insertion order, the order in which Tarjan's algorithm delivers
the components and their nodes, the tie behaviour of the unstable sort), PROVIDED the
comparison tells the labels of the graph apart: two runs proceed in lock step.  The comparison of
the code does; the one before commit 2c855f1 does not, and the statement fails on a witness.
-/
import CueVerif.Proofs.Toposort
import CueVerif.Proofs.ToposortKahn
import CueVerif.Proofs.ToposortTarjan
namespace CueVerif.Toposort
open CueVerif.Sanitize (TotalPreorder SortedBy)

/-! ### the two runs work on the same sorted components -/

variable (fixed : Bool)

theorem sorted_comps_sub (S S' : SortFn) (hS : S.Contract) (hS' : S'.Contract)
    (g g' : Graph) (comps comps' : List Comp) (hsame : g.Same g')
    (hc : IsSCC g comps) (hc' : IsSCC g' comps') (hd : LabelsDistinct fixed g) (c : Comp)
    (hcc : c ∈ comps.map (fun c => S.sort (cmpLabel fixed) c)) :
    c ∈ comps'.map (fun c => S'.sort (cmpLabel fixed) c) := by
  rcases List.mem_map.1 hcc with ⟨c0, hc0, rfl⟩
  obtain ⟨d0, hd0, hp⟩ := hc.perm_of_same hsame hc' hc0
  rw [sort_unique (cmpLabel_tp fixed) S S' hS hS' c0 d0 hp fun a ha b hb =>
    hd a ((hc.cover a).2 ⟨c0, hc0, ha⟩) b ((hc.cover b).2 ⟨c0, hc0, hb⟩)]
  exact List.mem_map.2 ⟨d0, hd0, rfl⟩

theorem labelsDistinct_same {g g' : Graph} (hsame : g.Same g') (hd : LabelsDistinct fixed g) :
    LabelsDistinct fixed g' :=
  fun a ha b hb => hd a (hsame.nodes.mem_iff.2 ha) b (hsame.nodes.mem_iff.2 hb)

theorem cmpComp_inj {g : Graph} {cs : List Comp} (hc : IsSCC g cs) (hd : LabelsDistinct fixed g)
    (c d : Comp) (hcc : c ∈ cs) (hdc : d ∈ cs) (h : cmpComp fixed c d = .eq) : c = d := by
  rw [cmpComp_eq_lex] at h
  refine Sanitize.compareLex_eq_inj c d h ?_
  intro a ha b hb
  exact hd a ((hc.cover a).2 ⟨c, hcc, ha⟩) b ((hc.cover b).2 ⟨d, hdc, hb⟩)

/-! ### the two runs proceed in lock step -/

theorem isEmpty_congr {α : Type} : ∀ {l l' : List α}, (∀ x, x ∈ l ↔ x ∈ l') → l.isEmpty = l'.isEmpty
  | [], [], _ => rfl
  | [], a :: _, h => absurd ((h a).2 List.mem_cons_self) List.not_mem_nil
  | a :: _, [], h => absurd ((h a).1 List.mem_cons_self) List.not_mem_nil
  | _ :: _, _ :: _, _ => rfl

structure Rel (st st' : St) : Prop where
  ready : st.ready = st'.ready
  sorted : st.sorted = st'.sorted
  vis : ∀ c, c ∈ st.visited ↔ c ∈ st'.visited

section
variable (S S' : SortFn) (hS : S.Contract) (hS' : S'.Contract) (g g' : Graph) (cs cs' : List Comp)
  (hedges : ∀ u v, v ∈ g.out u ↔ v ∈ g'.out u) (hcs : ∀ c, c ∈ cs ↔ c ∈ cs')
  (hscc : IsSCC g cs) (hscc' : IsSCC g' cs') (hd : LabelsDistinct fixed g)
include hS hS' hedges hcs hscc hscc' hd

omit hS hS' hscc hscc' hd in
theorem incoming_mem_congr (c d : Comp) : d ∈ incoming g cs c ↔ d ∈ incoming g' cs' c := by
  rw [mem_incoming, mem_incoming, hcs d, cedge_congr hedges]

theorem rel_next (st st' : St) (cur : Comp) (rest : List Comp) (hinv : Inv g cs st) (hinv' : Inv g' cs' st')
    (hr : st.ready = cur :: rest) (hr' : st'.ready = cur :: rest) (hrel : Rel st st') :
    Rel (next fixed S g cs st cur rest) (next fixed S' g' cs' st' cur rest) := by
  have hn := inv_next fixed S hS g cs hscc.comps_nodup st cur rest hinv hr
  have hn' := inv_next fixed S' hS' g' cs' hscc'.comps_nodup st' cur rest hinv' hr'
  have hvis : ∀ c, c ∈ cur :: st.visited ↔ c ∈ cur :: st'.visited := by
    intro c; simp only [List.mem_cons, hrel.vis c]
  have hnewly : ∀ c, c ∈ newly g cs (cur :: st.visited) cur ↔ c ∈ newly g' cs' (cur :: st'.visited) cur :=
    fun c => by
      simp only [mem_newly, hcs c, cedge_congr hedges, incoming_mem_congr g g' cs cs' hedges hcs, hvis]
  refine ⟨?_, ?_, hvis⟩
  · -- both ready lists are sorted or both are not
    have p := next_ready_perm fixed S hS g cs st cur rest
    have p' := next_ready_perm fixed S' hS' g' cs' st' cur rest
    show (if (newly g cs (cur :: st.visited) cur).isEmpty then rest else _) =
      (if (newly g' cs' (cur :: st'.visited) cur).isEmpty then rest else _)
    rw [isEmpty_congr hnewly]
    split
    · rfl
    · refine sort_unique (cmpComp_tp fixed) S S' hS hS' _ _
        ((List.perm_ext_iff_of_nodup (p.nodup_iff.1 hn.rdy_nodup) (p'.nodup_iff.1 hn'.rdy_nodup)).2
          fun x => by simp only [List.mem_append, hnewly x]) ?_
      intro a ha b hb
      exact cmpComp_inj fixed hscc hd a b ((hn.rdy a).1 (p.mem_iff.2 ha)).mem ((hn.rdy b).1 (p.mem_iff.2 hb)).mem
  · show st.sorted ++ cur = st'.sorted ++ cur
    rw [hrel.sorted]

theorem kahn_lockstep :
    ∀ (fuel : Nat) (st st' : St), Inv g cs st → Inv g' cs' st' → Rel st st' →
      fuel + st.visited.length = cs.length → fuel + st'.visited.length = cs'.length →
      kahn fixed S g cs fuel st = kahn fixed S' g' cs' fuel st' := by
  intro fuel
  induction fuel with
  | zero =>
    intro st st' _ _ hrel h1 h2
    rw [kahn_done fixed S g cs 0 st (by omega), kahn_done fixed S' g' cs' 0 st' (by omega), hrel.sorted]
  | succ fuel ih =>
    intro st st' hinv hinv' hrel h1 h2
    have hl : st.visited.length ≠ cs.length := by omega
    have hl' : st'.visited.length ≠ cs'.length := by omega
    cases hr : st.ready with
    | nil =>
      have hr' : st'.ready = [] := by rw [← hrel.ready, hr]
      rw [kahn_panic fixed S g cs fuel st hl hr, kahn_panic fixed S' g' cs' fuel st' hl' hr']
    | cons cur rest =>
      have hr' : st'.ready = cur :: rest := by rw [← hrel.ready, hr]
      rw [kahn_step fixed S g cs fuel st cur rest hinv hl hr,
        kahn_step fixed S' g' cs' fuel st' cur rest hinv' hl' hr']
      refine ih _ _ (inv_next fixed S hS g cs hscc.comps_nodup st cur rest hinv hr)
        (inv_next fixed S' hS' g' cs' hscc'.comps_nodup st' cur rest hinv' hr')
        (rel_next fixed S S' hS hS' g g' cs cs' hedges hcs hscc hscc' hd st st' cur rest hinv hinv' hr hr' hrel) ?_ ?_
      · show fuel + (cur :: st.visited).length = cs.length
        simp only [List.length_cons]; omega
      · show fuel + (cur :: st'.visited).length = cs'.length
        simp only [List.length_cons]; omega

end

theorem sortWith_indep (S S' : SortFn) (hS : S.Contract) (hS' : S'.Contract)
    (g g' : Graph) (comps comps' : List Comp) (hsame : g.Same g')
    (hc : IsSCC g comps) (hc' : IsSCC g' comps') (hd : LabelsDistinct fixed g) :
    sortWith fixed S g comps = sortWith fixed S' g' comps' := by
  have hscc : IsSCC g (comps.map fun c => S.sort (cmpLabel fixed) c) := hc.map _ (fun c => hS.perm _ c)
  have hscc' : IsSCC g' (comps'.map fun c => S'.sort (cmpLabel fixed) c) := hc'.map _ (fun c => hS'.perm _ c)
  have hd' := labelsDistinct_same fixed hsame hd
  have hcs : ∀ c, c ∈ comps.map (fun c => S.sort (cmpLabel fixed) c) ↔ c ∈ comps'.map (fun c => S'.sort (cmpLabel fixed) c) :=
    fun c => ⟨sorted_comps_sub fixed S S' hS hS' g g' comps comps' hsame hc hc' hd c,
      sorted_comps_sub fixed S' S hS' hS g' g comps' comps hsame.symm hc' hc hd' c⟩
  have hperm := (List.perm_ext_iff_of_nodup hscc.comps_nodup hscc'.comps_nodup).2 hcs
  have hlen := hperm.length_eq
  unfold sortWith
  simp only
  rw [← hlen]
  have hinit := inv_init fixed S hS g _ hscc.comps_nodup
  have hinit' := inv_init fixed S' hS' g' _ hscc'.comps_nodup
  refine kahn_lockstep fixed S S' hS hS' g g' _ _ hsame.edges hcs hscc hscc' hd _ _ _ hinit hinit' ?_ (by simp) (by simp [hlen])
  refine ⟨?_, rfl, fun c => Iff.rfl⟩
  show S.sort (cmpComp fixed) _ = S'.sort (cmpComp fixed) _
  refine sort_unique (cmpComp_tp fixed) S S' hS hS' _ _
    ((List.perm_ext_iff_of_nodup (hscc.comps_nodup.filter _) (hscc'.comps_nodup.filter _)).2 ?_) ?_
  · intro x
    simp only [List.mem_filter, hcs x]
    rw [isEmpty_congr (incoming_mem_congr g g' _ _ hsame.edges hcs x)]
  · intro a ha b hb
    exact cmpComp_inj fixed hscc hd a b (List.mem_filter.1 ha).1 (List.mem_filter.1 hb).1

theorem perm_fixed : ∀ (S S' : SortFn), S.Contract → S'.Contract →
    ∀ (g g' : Graph) (comps comps' : List Comp), g.WF → g'.WF → g.Same g' →
      IsSCC g comps → IsSCC g' comps' → sortWith true S g comps = sortWith true S' g' comps' :=
  fun S S' hS hS' g g' comps comps' _ _ hsame hc hc' =>
    sortWith_indep true S S' hS hS' g g' comps comps' hsame hc hc'
      (fun a _ b _ h => cmpLabel_fixed_eq a b h)

/-! ### the full independence statement is false of the old comparison (`fixed = false`) -/

def wS : Label := .named 1 [35, 97]   -- the regular field "#a"
def wD : Label := .named 3 [35, 97]   -- the definition #a
def wG : Graph := ⟨[wS, wD], fun _ => []⟩
def wG' : Graph := ⟨[wD, wS], fun _ => []⟩

theorem wG_wf : wG.WF := ⟨by decide, by intro u _ v hv; cases hv⟩
theorem wG'_wf : wG'.WF := ⟨by decide, by intro u _ v hv; cases hv⟩

theorem wG_same : wG.Same wG' := ⟨List.Perm.swap _ _ _, fun _ _ => Iff.rfl⟩

theorem perm_false : ¬ (∀ (S S' : SortFn), S.Contract → S'.Contract →
    ∀ (g g' : Graph) (comps comps' : List Comp), g.WF → g'.WF → g.Same g' →
      IsSCC g comps → IsSCC g' comps' →
      sortWith false S g comps = sortWith false S' g' comps') := by
  intro h
  have := h stableSort stableSort stableSort_contract stableSort_contract wG wG' _ _ wG_wf wG'_wf wG_same
    (isSCC_singletons wG (fun _ => rfl) wG_wf.nodup) (isSCC_singletons wG' (fun _ => rfl) wG'_wf.nodup)
  revert this; decide

/-! ### end to end: `Graph.Sort` with the components Tarjan's algorithm delivers -/

theorem sortG_ok (S : SortFn) (hS : S.Contract) (g : Graph) (hg : g.WF) :
    ∃ l, sortG true S g = .ok l ∧ l.Perm g.nodes :=
  sortWith_ok true S hS g (tarjan g) hg (tarjan_isSCC g hg)

theorem sortG_indep (S S' : SortFn) (hS : S.Contract) (hS' : S'.Contract) (g g' : Graph)
    (hg : g.WF) (hg' : g'.WF) (hsame : g.Same g') : sortG true S g = sortG true S' g' :=
  perm_fixed S S' hS hS' g g' (tarjan g) (tarjan g') hg hg' hsame (tarjan_isSCC g hg) (tarjan_isSCC g' hg')

theorem sortG_respects (S : SortFn) (hS : S.Contract) (g : Graph) (hg : g.WF) (l : List Label)
    (hl : sortG true S g = .ok l) (u v : Label) (hu : u ∈ g.nodes) (huv : v ∈ g.out u)
    (hacyc : ¬ Reach g v u) : Before l u v :=
  sortWith_respects true S hS g (tarjan g) hg (tarjan_isSCC g hg) l hl u v hu huv hacyc

end CueVerif.Toposort
