/-
C02 — the Kahn loop of toposort.Graph.Sort: it never indexes an empty ready list, the fuel
suffices, the output is a permutation of the nodes and respects every edge between different
strongly connected components.
-/
import CueVerif.Proofs.ToposortGraph
namespace CueVerif.Toposort

theorem perm_of_nodup_subset_length {α : Type} {l1 l2 : List α} (hn : l1.Nodup) (hn2 : l2.Nodup)
    (hs : ∀ x ∈ l1, x ∈ l2) (hl : l2.length ≤ l1.length) : l1.Perm l2 := by
  refine (List.perm_ext_iff_of_nodup hn hn2).2 fun a => ⟨hs a, fun ha => ?_⟩
  apply Classical.byContradiction
  intro hna
  have := (List.nodup_cons.2 ⟨hna, hn⟩).length_le_of_subset (List.cons_subset.2 ⟨ha, hs⟩)
  simp only [List.length_cons] at this
  omega

/-! ### the invariant of the loop -/

/-- `visited` (newest first): every component was visited after all its predecessors -/
def Good (g : Graph) (cs : List Comp) : List Comp → Prop
  | [] => True
  | c :: older => (∀ d ∈ incoming g cs c, d ∈ older) ∧ Good g cs older

theorem Good.split {g : Graph} {cs : List Comp} : ∀ {vis : List Comp}, Good g cs vis →
    ∀ d ∈ vis, ∀ c ∈ incoming g cs d, ∃ q older, vis = q ++ d :: older ∧ c ∈ older
  | [], _, d, hd, _, _ => by cases hd
  | a :: rest, hg, d, hd, c, hc => by
    rcases List.mem_cons.1 hd with rfl | hd'
    · exact ⟨[], rest, rfl, hg.1 c hc⟩
    · obtain ⟨q, older, rfl, hco⟩ := Good.split hg.2 d hd' c hc
      exact ⟨a :: q, older, rfl, hco⟩

theorem Good.closed {g : Graph} {cs : List Comp} : ∀ {vis : List Comp}, Good g cs vis →
    ∀ c ∈ vis, ∀ d ∈ incoming g cs c, d ∈ vis := by
  intro vis hg c hc d hd
  obtain ⟨q, older, e, h⟩ := Good.split hg c hc d hd
  rw [e]
  exact List.mem_append_right _ (List.mem_cons_of_mem _ h)

/-- `c` can be visited next: it has not been visited, all its predecessors have -/
structure Ready (g : Graph) (cs vis : List Comp) (c : Comp) : Prop where
  mem : c ∈ cs
  fresh : c ∉ vis
  preds : ∀ d ∈ incoming g cs c, d ∈ vis

structure Inv (g : Graph) (cs : List Comp) (st : St) : Prop where
  vis_nodup : st.visited.Nodup
  vis_sub : ∀ c ∈ st.visited, c ∈ cs
  good : Good g cs st.visited
  rdy_nodup : st.ready.Nodup
  rdy : ∀ c, c ∈ st.ready ↔ Ready g cs st.visited c
  sorted_eq : st.sorted = st.visited.reverse.flatten

theorem kahn_done (fixed : Bool) (S : SortFn) (g : Graph) (cs : List Comp) (fuel : Nat) (st : St)
    (h : st.visited.length = cs.length) : kahn fixed S g cs fuel st = .ok st.sorted := by
  cases fuel <;> simp [kahn, h]

def newly (g : Graph) (cs visited : List Comp) (cur : Comp) : List Comp :=
  (outgoing g cs cur).filter (fun nx => (incoming g cs nx).all (fun rq => visited.contains rq))

/-- the state after visiting `cur` -/
def next (fixed : Bool) (S : SortFn) (g : Graph) (cs : List Comp) (st : St) (cur : Comp) (rest : List Comp) : St :=
  { ready := if (newly g cs (cur :: st.visited) cur).isEmpty then rest
      else S.sort (cmpComp fixed) (rest ++ newly g cs (cur :: st.visited) cur),
    visited := cur :: st.visited, sorted := st.sorted ++ cur }

theorem kahn_step (fixed : Bool) (S : SortFn) (g : Graph) (cs : List Comp) (fuel : Nat) (st : St)
    (cur : Comp) (rest : List Comp) (hinv : Inv g cs st) (h : st.visited.length ≠ cs.length)
    (hr : st.ready = cur :: rest) :
    kahn fixed S g cs (fuel + 1) st = kahn fixed S g cs fuel (next fixed S g cs st cur rest) := by
  have hv : st.visited.contains cur = false := by
    simpa using ((hinv.rdy cur).1 (hr ▸ List.mem_cons_self)).fresh
  rw [kahn]
  simp only [h, if_false, hr, hv, next]
  rfl

theorem kahn_panic (fixed : Bool) (S : SortFn) (g : Graph) (cs : List Comp) (fuel : Nat) (st : St)
    (h : st.visited.length ≠ cs.length) (hr : st.ready = []) :
    kahn fixed S g cs (fuel + 1) st = .panic := by
  rw [kahn]; simp [h, hr]

theorem mem_newly (g : Graph) (cs : List Comp) (visited : List Comp) (cur c : Comp) :
    c ∈ newly g cs visited cur ↔
      c ∈ cs ∧ cedge g cur c = true ∧ ∀ d ∈ incoming g cs c, d ∈ visited := by
  simp [newly, List.mem_filter, mem_outgoing, List.all_eq_true, and_assoc]

theorem next_ready_perm (fixed : Bool) (S : SortFn) (hS : S.Contract) (g : Graph) (cs : List Comp)
    (st : St) (cur : Comp) (rest : List Comp) :
    (next fixed S g cs st cur rest).ready.Perm (rest ++ newly g cs (cur :: st.visited) cur) := by
  unfold next
  split
  · rename_i he; rw [List.isEmpty_iff.1 he, List.append_nil]
  · exact hS.perm _ _

/-- visiting the ready component `cur` makes ready those of its successors that were waiting for it only -/
theorem ready_cons {g : Graph} {cs vis : List Comp} {cur : Comp} (hg : Good g cs vis) (hcur : Ready g cs vis cur)
    (c : Comp) :
    Ready g cs (cur :: vis) c ↔ (Ready g cs vis c ∧ c ≠ cur) ∨ c ∈ newly g cs (cur :: vis) cur := by
  rw [mem_newly]
  constructor
  · intro ⟨hc, hcv, hin⟩
    have hcv' : c ∉ vis := fun h => hcv (List.mem_cons_of_mem _ h)
    have hne : c ≠ cur := fun h => hcv (h ▸ List.mem_cons_self)
    by_cases hall : ∀ d ∈ incoming g cs c, d ∈ vis
    · exact Or.inl ⟨⟨hc, hcv', hall⟩, hne⟩
    · refine Or.inr ⟨hc, ?_, hin⟩
      -- some predecessor is not in the old visited set: it must be cur
      apply Classical.byContradiction
      intro hnot
      apply hall
      intro d hd
      rcases List.mem_cons.1 (hin d hd) with rfl | h
      · exact absurd ((mem_incoming g cs c d).1 hd).2 hnot
      · exact h
  · rintro (⟨h, hne⟩ | ⟨hc, he, hin⟩)
    · exact ⟨h.mem, List.not_mem_cons_of_ne_of_not_mem hne h.fresh, fun d hd => List.mem_cons_of_mem _ (h.preds d hd)⟩
    · refine ⟨hc, List.not_mem_cons_of_ne_of_not_mem ((cedge_iff g cur c).1 he).1.symm ?_, hin⟩
      -- c was visited before its predecessor cur: impossible
      exact fun h' => hcur.fresh (Good.closed hg c h' cur ((mem_incoming g cs c cur).2 ⟨hcur.mem, he⟩))

theorem inv_next (fixed : Bool) (S : SortFn) (hS : S.Contract) (g : Graph) (cs : List Comp) (hcs : cs.Nodup)
    (st : St) (cur : Comp) (rest : List Comp) (hinv : Inv g cs st) (hr : st.ready = cur :: rest) :
    Inv g cs (next fixed S g cs st cur rest) := by
  have hcur := (hinv.rdy cur).1 (hr ▸ List.mem_cons_self)
  have hrn := List.nodup_cons.1 (hr ▸ hinv.rdy_nodup)
  have hrest : ∀ c, c ∈ rest ↔ Ready g cs st.visited c ∧ c ≠ cur := fun c => by
    rw [← hinv.rdy, hr, List.mem_cons]
    exact ⟨fun h => ⟨Or.inr h, fun e => hrn.1 (e ▸ h)⟩, fun h => h.1.resolve_left h.2⟩
  have hready := next_ready_perm fixed S hS g cs st cur rest
  refine ⟨List.nodup_cons.2 ⟨hcur.fresh, hinv.vis_nodup⟩, List.forall_mem_cons.2 ⟨hcur.mem, hinv.vis_sub⟩,
    ⟨hcur.preds, hinv.good⟩, ?_, fun c => ?_, ?_⟩
  · refine hready.nodup_iff.2 (List.nodup_append.2 ⟨hrn.2, (hcs.filter _).filter _, fun a ha b hb hab => ?_⟩)
    -- a member of `newly` waits for `cur`, a member of `rest` does not
    have := ((mem_newly g cs _ cur b).1 hb).2.1
    exact hcur.fresh (((hrest a).1 ha).1.preds cur ((mem_incoming g cs a cur).2 ⟨hcur.mem, hab ▸ this⟩))
  · rw [hready.mem_iff, List.mem_append, hrest]
    exact (ready_cons hinv.good hcur c).symm
  · show st.sorted ++ cur = (cur :: st.visited).reverse.flatten
    rw [hinv.sorted_eq]; simp

/-- while components remain unvisited one of them is ready: a source among the unvisited ones -/
theorem Inv.ready_ne_nil {g : Graph} {cs : List Comp} {st : St} (hinv : Inv g cs st) (hc : IsSCC g cs)
    (hlen : st.visited.length ≠ cs.length) : st.ready ≠ [] := by
  let U := cs.filter (fun c => !st.visited.contains c)
  have hU : U ≠ [] := fun hnil =>
    hlen (Nat.le_antisymm (hinv.vis_nodup.length_le_of_subset hinv.vis_sub)
      (hc.comps_nodup.length_le_of_subset fun c hcc => by
        simpa using List.filter_eq_nil_iff.1 hnil c hcc))
  rcases exists_source hc U hU (fun c h => (List.mem_filter.1 h).1) with ⟨m, hmU, hmin⟩
  have hm := List.mem_filter.1 hmU
  refine List.ne_nil_of_mem ((hinv.rdy m).2 ⟨hm.1, by simpa using hm.2, fun d hd => ?_⟩)
  have hd' := (mem_incoming g cs m d).1 hd
  apply Classical.byContradiction
  intro hdv
  exact hmin d (List.mem_filter.2 ⟨hd'.1, by simpa using hdv⟩) (cedge_creach hd'.2)

theorem kahn_ok (fixed : Bool) (S : SortFn) (hS : S.Contract) (g : Graph) (cs : List Comp) (hc : IsSCC g cs) :
    ∀ (fuel : Nat) (st : St), Inv g cs st → fuel + st.visited.length = cs.length →
      ∃ st', kahn fixed S g cs fuel st = .ok st'.sorted ∧ Inv g cs st' ∧ st'.visited.length = cs.length := by
  intro fuel
  induction fuel with
  | zero =>
    intro st hinv hf
    exact ⟨st, kahn_done fixed S g cs 0 st (by omega), hinv, by omega⟩
  | succ fuel ih =>
    intro st hinv hf
    have hlen : st.visited.length ≠ cs.length := by omega
    cases hr : st.ready with
    | nil => exact absurd hr (hinv.ready_ne_nil hc hlen)
    | cons cur rest =>
      rw [kahn_step fixed S g cs fuel st cur rest hinv hlen hr]
      refine ih _ (inv_next fixed S hS g cs hc.comps_nodup st cur rest hinv hr) ?_
      show fuel + (cur :: st.visited).length = cs.length
      simp only [List.length_cons]; omega

/-! ### Graph.Sort as a whole -/

theorem inv_init (fixed : Bool) (S : SortFn) (hS : S.Contract) (g : Graph) (cs : List Comp) (hcs : cs.Nodup) :
    Inv g cs { ready := S.sort (cmpComp fixed) (cs.filter (fun c => (incoming g cs c).isEmpty)),
               visited := [], sorted := [] } := by
  refine ⟨List.nodup_nil, by simp, trivial, (hS.perm _ _).nodup_iff.2 (hcs.filter _), fun c => ?_, by simp⟩
  rw [(hS.perm _ _).mem_iff, List.mem_filter, List.isEmpty_iff, List.eq_nil_iff_forall_not_mem]
  exact ⟨fun h => ⟨h.1, List.not_mem_nil, fun d hd => absurd hd (h.2 d)⟩,
    fun h => ⟨h.mem, fun d hd => List.not_mem_nil (h.preds d hd)⟩⟩

theorem sortWith_run (fixed : Bool) (S : SortFn) (hS : S.Contract) (g : Graph) (comps : List Comp)
    (hc : IsSCC g comps) :
    let cs := comps.map (fun c => S.sort (cmpLabel fixed) c)
    IsSCC g cs ∧ ∃ st', sortWith fixed S g comps = .ok st'.sorted ∧ Inv g cs st' ∧ st'.visited.Perm cs := by
  intro cs
  have hcs : IsSCC g cs := hc.map _ (fun c => hS.perm _ c)
  obtain ⟨st', hrun, hinv, hlen⟩ :=
    kahn_ok fixed S hS g cs hcs cs.length _ (inv_init fixed S hS g cs hcs.comps_nodup) (by simp)
  exact ⟨hcs, st', hrun, hinv,
    perm_of_nodup_subset_length hinv.vis_nodup hcs.comps_nodup hinv.vis_sub (by omega)⟩

theorem sortWith_ok (fixed : Bool) (S : SortFn) (hS : S.Contract) (g : Graph) (comps : List Comp)
    (hg : g.WF) (hc : IsSCC g comps) :
    ∃ l, sortWith fixed S g comps = .ok l ∧ l.Perm g.nodes := by
  rcases sortWith_run fixed S hS g comps hc with ⟨hcs, st', hrun, hinv, h2⟩
  refine ⟨st'.sorted, hrun, ?_⟩
  rw [hinv.sorted_eq]
  exact ((List.reverse_perm _).flatten.trans h2.flatten).trans (flatten_perm_nodes hg hcs)

theorem sortWith_respects (fixed : Bool) (S : SortFn) (hS : S.Contract) (g : Graph) (comps : List Comp)
    (hg : g.WF) (hc : IsSCC g comps) (l : List Label) (hl : sortWith fixed S g comps = .ok l)
    (u v : Label) (hu : u ∈ g.nodes) (huv : v ∈ g.out u) (hacyc : ¬ Reach g v u) :
    Before l u v := by
  rcases sortWith_run fixed S hS g comps hc with ⟨hcs, st', hrun, hinv, hperm⟩
  have hl' : l = st'.sorted := by
    rw [hrun] at hl; exact (Res.ok.inj hl).symm
  rcases (hcs.cover u).1 hu with ⟨c, hcc, huc⟩
  rcases (hcs.cover v).1 (hg.closed u hu v huv) with ⟨d, hdc, hvd⟩
  have hne : c ≠ d := by
    intro h; subst h
    exact hacyc (hcs.intra hcc hvd huc)
  have hedge : cedge g c d = true := (cedge_iff g c d).2 ⟨hne, u, huc, v, huv, hvd⟩
  have hin : c ∈ incoming g _ d := (mem_incoming g _ d c).2 ⟨hcc, hedge⟩
  have hdv : d ∈ st'.visited := hperm.mem_iff.2 hdc
  rcases Good.split hinv.good d hdv c hin with ⟨q, older, hvis, hco⟩
  rcases List.append_of_mem (List.mem_reverse.2 hco) with ⟨o1, o2, ho⟩
  rcases List.append_of_mem huc with ⟨c1, c2, hcsplit⟩
  rcases List.append_of_mem hvd with ⟨d1, d2, hdsplit⟩
  refine ⟨o1.flatten ++ c1, c2 ++ o2.flatten ++ d1, d2 ++ q.reverse.flatten, ?_⟩
  rw [hl', hinv.sorted_eq, hvis, List.reverse_append, List.reverse_cons, ho]
  conv => lhs; rw [hcsplit, hdsplit]
  simp [List.flatten_append, List.append_assoc]

end CueVerif.Toposort
