/-
C02 — Tarjan's algorithm as transcribed in Model/Toposort.lean (`findSCC`/`visitOut`/`tarjan`,
scc.go) computes the strongly connected components of every well-formed graph, topologically sorted.
Invariant proof over the fuelled mutual recursion; the fuel is never exhausted because it starts
above the measure `mu`.  Core Lean only.
-/
import CueVerif.Proofs.ToposortGraph
namespace CueVerif.Toposort
namespace Tarjan

theorem look_cons (a : Label) (n : Nat) (m : List (Label × Nat)) (v : Label) :
    look ((a, n) :: m) v = if a = v then some n else look m v := by
  simp [look, List.find?_cons]
  split <;> simp_all

theorem look_cons_self (a : Label) (n : Nat) (m : List (Label × Nat)) : look ((a, n) :: m) a = some n := by
  rw [look_cons, if_pos rfl]

theorem look_cons_ne {a v : Label} (h : a ≠ v) (n : Nat) (m : List (Label × Nat)) :
    look ((a, n) :: m) v = look m v := by
  rw [look_cons, if_neg h]

/-- index of a node (0 when not visited) -/
def idxOf (s : TS) (v : Label) : Nat := (look s.index v).getD 0
/-- low link of a node (0 when not set) -/
def lowOf (s : TS) (v : Label) : Nat := (look s.low v).getD 0

theorem popUntil_append (cur : Label) (X st : List Label) (h : cur ∉ X) :
    popUntil cur (X ++ cur :: st) = (X ++ [cur], st) := by
  induction X with
  | nil => simp [popUntil]
  | cons x X ih =>
    have hx : x ≠ cur := by intro e; apply h; simp [e]
    have h' : cur ∉ X := fun hm => h (List.mem_cons_of_mem _ hm)
    simp [popUntil, hx, ih h']

/-! ### the steps of the algorithm as state transformers -/

def push (s : TS) (cur : Label) : TS :=
  { counter := s.counter + 1, index := (cur, s.counter) :: s.index, low := (cur, s.counter) :: s.low,
    stack := cur :: s.stack, onStack := cur :: s.onStack, comps := s.comps }

def popSt (s : TS) (cur : Label) : TS :=
  { s with stack := (popUntil cur s.stack).2,
           onStack := s.onStack.filter (fun v => !(popUntil cur s.stack).1.contains v),
           comps := s.comps ++ [(popUntil cur s.stack).1] }

def finish (s : TS) (cur : Label) (num : Nat) : TS :=
  if (look s.low cur).getD num = num then popSt s cur else s

theorem findSCC_succ (g : Graph) (fuel : Nat) (cur : Label) (s : TS) :
    findSCC g (fuel + 1) cur s = finish (visitOut g fuel cur (g.out cur) (push s cur)) cur s.counter := by
  rfl

theorem visitOut_nil (g : Graph) (fuel : Nat) (cur : Label) (s : TS) :
    visitOut g fuel cur [] s = s := by
  cases fuel <;> rfl

theorem visitOut_cons_none (g : Graph) (fuel : Nat) (cur nx : Label) (rest : List Label) (s : TS)
    (h : look s.index nx = none) :
    visitOut g (fuel + 1) cur (nx :: rest) s =
      visitOut g fuel cur rest
        (setLow (findSCC g fuel nx s) cur
          (min (lowOf (findSCC g fuel nx s) cur) (lowOf (findSCC g fuel nx s) nx))) := by
  simp only [visitOut, h, lowOf]

theorem visitOut_cons_on (g : Graph) (fuel : Nat) (cur nx : Label) (rest : List Label) (s : TS) (i : Nat)
    (h : look s.index nx = some i) (ho : nx ∈ s.onStack) :
    visitOut g (fuel + 1) cur (nx :: rest) s =
      visitOut g fuel cur rest (setLow s cur (min (lowOf s cur) i)) := by
  simp [visitOut, h, lowOf, ho]

theorem visitOut_cons_off (g : Graph) (fuel : Nat) (cur nx : Label) (rest : List Label) (s : TS) (i : Nat)
    (h : look s.index nx = some i) (ho : nx ∉ s.onStack) :
    visitOut g (fuel + 1) cur (nx :: rest) s = visitOut g fuel cur rest s := by
  simp [visitOut, h, ho]

/-- a list of components, newest first (reverse completion order), is topologically sorted: every
edge out of a component ends in the component or in a later one of the list, i.e. an older one -/
def TopoRev (g : Graph) : List Comp → Prop
  | [] => True
  | c :: older => (∀ u ∈ c, ∀ v ∈ g.out u, v ∈ c ∨ v ∈ older.flatten) ∧ TopoRev g older

structure Inv (g : Graph) (s : TS) : Prop where
  nodupAll : (s.comps.flatten ++ s.stack).Nodup
  vis_iff : ∀ v, look s.index v ≠ none ↔ (v ∈ s.comps.flatten ∨ v ∈ s.stack)
  in_nodes : ∀ v, look s.index v ≠ none → v ∈ g.nodes
  nonempty : ∀ c ∈ s.comps, c ≠ []
  onStack_iff : ∀ v, v ∈ s.onStack ↔ v ∈ s.stack
  idx_lt : ∀ v ∈ s.stack, idxOf s v < s.counter
  sorted : s.stack.Pairwise (fun a b => idxOf s b < idxOf s a)
  lowlink : ∀ v ∈ s.stack, ∃ w ∈ s.stack, look s.low v = some (idxOf s w) ∧ idxOf s w ≤ idxOf s v ∧ Reach g v w
  sc : ∀ c ∈ s.comps, ∀ u ∈ c, ∀ v ∈ c, Reach g u v
  topo : TopoRev g s.comps.reverse

/-- what a call leaves alone -/
structure Ext (s out : TS) : Prop where
  index : ∀ v, look s.index v ≠ none → look out.index v = look s.index v
  comps : ∃ n, out.comps = s.comps ++ n
  counter : s.counter ≤ out.counter

theorem Ext.refl (s : TS) : Ext s s := ⟨fun _ _ => rfl, ⟨[], by simp⟩, Nat.le_refl _⟩

theorem Ext.trans {a b c : TS} (h1 : Ext a b) (h2 : Ext b c) : Ext a c := by
  refine ⟨?_, ?_, Nat.le_trans h1.counter h2.counter⟩
  · intro v hv
    have e1 := h1.index v hv
    have : look b.index v ≠ none := by rw [e1]; exact hv
    rw [h2.index v this, e1]
  · obtain ⟨n1, e1⟩ := h1.comps
    obtain ⟨n2, e2⟩ := h2.comps
    exact ⟨n1 ++ n2, by rw [e2, e1, List.append_assoc]⟩

theorem Ext.vis {a b : TS} (h : Ext a b) {v : Label} (hv : look a.index v ≠ none) : look b.index v ≠ none := by
  rw [h.index v hv]; exact hv

theorem Ext.idx {a b : TS} (h : Ext a b) {v : Label} (hv : look a.index v ≠ none) : idxOf b v = idxOf a v := by
  unfold idxOf; rw [h.index v hv]

theorem Ext.mem_comps {a b : TS} (h : Ext a b) {v : Label} (hv : v ∈ a.comps.flatten) : v ∈ b.comps.flatten := by
  obtain ⟨n, e⟩ := h.comps
  rw [e]; simp only [List.flatten_append, List.mem_append]; exact Or.inl hv

/-- a finished node `v` above `root` on the stack, relative to a bound `m` on low links -/
structure Finished (g : Graph) (s : TS) (m : Nat) (root v : Label) : Prop where
  lt : lowOf s v < idxOf s v
  le : m ≤ lowOf s v
  reach : Reach g root v
  succ : ∀ u ∈ g.out v, u ∈ s.comps.flatten ∨ (u ∈ s.stack ∧ m ≤ idxOf s u)

/-- postcondition of `findSCC g fuel cur s` -/
structure FP (g : Graph) (s : TS) (cur : Label) (out : TS) : Prop where
  inv : Inv g out
  ext : Ext s out
  lowframe : ∀ v, look s.index v ≠ none → look out.low v = look s.low v
  viscur : look out.index cur ≠ none
  cases : (out.stack = s.stack ∧ s.counter ≤ lowOf out cur) ∨
     (∃ X, out.stack = X ++ cur :: s.stack ∧ ∀ v ∈ X ++ [cur], Finished g out (lowOf out cur) cur v)

/-- invariant of the loop over the successors of `cur` (`s0`: the state `findSCC` was entered in) -/
structure VI (g : Graph) (s0 : TS) (cur : Label) (rest : List Label) (s : TS) : Prop where
  inv : Inv g s
  ext : Ext s0 s
  lowframe : ∀ v, look s0.index v ≠ none → look s.low v = look s0.low v
  new : look s0.index cur = none
  idxcur : look s.index cur = some s0.counter
  stk : ∃ X, s.stack = X ++ cur :: s0.stack ∧ ∀ v ∈ X, Finished g s (lowOf s cur) cur v
  succ : ∀ u ∈ g.out cur, u ∈ rest ∨ u ∈ s.comps.flatten ∨ (u ∈ s.stack ∧ lowOf s cur ≤ idxOf s u)
  sub : ∀ u ∈ rest, u ∈ g.out cur

/-- the low link of a stack node, read through `lowOf` -/
theorem Inv.low {g : Graph} {s : TS} (h : Inv g s) {v : Label} (hv : v ∈ s.stack) :
    ∃ w ∈ s.stack, lowOf s v = idxOf s w ∧ idxOf s w ≤ idxOf s v ∧ Reach g v w := by
  obtain ⟨w, hw, e, le, r⟩ := h.lowlink v hv
  exact ⟨w, hw, by simp [lowOf, e], le, r⟩

theorem Inv.look_low {g : Graph} {s : TS} (h : Inv g s) {v : Label} (hv : v ∈ s.stack) :
    look s.low v = some (lowOf s v) := by
  obtain ⟨w, _, e, _⟩ := h.lowlink v hv
  simp [lowOf, e]

theorem Inv.low_le {g : Graph} {s : TS} (h : Inv g s) {v : Label} (hv : v ∈ s.stack) : lowOf s v ≤ idxOf s v := by
  obtain ⟨w, _, e, le, _⟩ := h.low hv
  omega

theorem Inv.vis_stack {g : Graph} {s : TS} (h : Inv g s) {v : Label} (hv : v ∈ s.stack) : look s.index v ≠ none :=
  (h.vis_iff v).2 (Or.inr hv)

theorem idxOf_push (s : TS) (cur v : Label) : idxOf (push s cur) v = if cur = v then s.counter else idxOf s v := by
  simp only [idxOf, push, look_cons]; split <;> simp

theorem lowOf_push (s : TS) (cur v : Label) : lowOf (push s cur) v = if cur = v then s.counter else lowOf s v := by
  simp only [lowOf, push, look_cons]; split <;> simp

theorem lowOf_setLow (s : TS) (cur v : Label) (m : Nat) : lowOf (setLow s cur m) v = if cur = v then m else lowOf s v := by
  simp only [lowOf, setLow, look_cons]; split <;> simp

theorem idxOf_setLow (s : TS) (cur v : Label) (m : Nat) : idxOf (setLow s cur m) v = idxOf s v := rfl

theorem Inv_push {g : Graph} {s : TS} {cur : Label} (h : Inv g s) (hn : look s.index cur = none)
    (hc : cur ∈ g.nodes) : Inv g (push s cur) := by
  have hnot : cur ∉ s.comps.flatten ∧ cur ∉ s.stack := by
    constructor <;> intro hm
    · exact (h.vis_iff cur).2 (Or.inl hm) hn
    · exact (h.vis_iff cur).2 (Or.inr hm) hn
  have hidx : ∀ v ∈ s.stack, idxOf (push s cur) v = idxOf s v := by
    intro v hv; rw [idxOf_push]; split
    · subst_vars; exact absurd hv hnot.2
    · rfl
  have hidc : idxOf (push s cur) cur = s.counter := by rw [idxOf_push]; simp
  refine ⟨?_, ?_, ?_, h.nonempty, ?_, ?_, ?_, ?_, h.sc, h.topo⟩
  · show (s.comps.flatten ++ cur :: s.stack).Nodup
    rw [List.perm_middle.nodup_iff, List.nodup_cons]
    exact ⟨by simp [hnot.1, hnot.2], h.nodupAll⟩
  · intro v
    show look ((cur, s.counter) :: s.index) v ≠ none ↔ (v ∈ s.comps.flatten ∨ v ∈ cur :: s.stack)
    rw [look_cons]
    by_cases e : cur = v
    · simp [e]
    · simp [e, Ne.symm e, h.vis_iff v]
  · intro v
    show look ((cur, s.counter) :: s.index) v ≠ none → _
    rw [look_cons]
    by_cases e : cur = v
    · subst e; intro _; exact hc
    · simp only [e, if_false]; exact h.in_nodes v
  · intro v
    show v ∈ cur :: s.onStack ↔ v ∈ cur :: s.stack
    simp only [List.mem_cons, h.onStack_iff]
  · intro v hv
    show idxOf (push s cur) v < s.counter + 1
    rcases List.mem_cons.1 hv with e | hv
    · rw [e, hidc]; omega
    · rw [hidx v hv]; have := h.idx_lt v hv; omega
  · show (cur :: s.stack).Pairwise _
    rw [List.pairwise_cons]
    refine ⟨fun v hv => ?_, h.sorted.imp_of_mem ?_⟩
    · rw [hidc, hidx v hv]; exact h.idx_lt v hv
    · intro a b ha hb hab; rw [hidx a ha, hidx b hb]; exact hab
  · intro v hv
    rcases List.mem_cons.1 hv with e | hv
    · subst e
      exact ⟨v, List.mem_cons_self, hidc ▸ look_cons_self v _ _, Nat.le_refl _, .refl _⟩
    · obtain ⟨w, hw, e, le, r⟩ := h.lowlink v hv
      refine ⟨w, List.mem_cons_of_mem _ hw, ?_, ?_, r⟩
      · rw [hidx w hw, ← e]
        exact look_cons_ne (fun e : cur = v => hnot.2 (e ▸ hv)) _ _
      · rw [hidx w hw, hidx v hv]; exact le

theorem Ext_push (s : TS) (cur : Label) (hn : look s.index cur = none) : Ext s (push s cur) :=
  ⟨fun v hv => look_cons_ne (fun e : cur = v => hv (e ▸ hn)) _ _, ⟨[], by simp [push]⟩, by simp [push]⟩

theorem VI_push {g : Graph} {s : TS} {cur : Label} (h : Inv g s) (hn : look s.index cur = none)
    (hc : cur ∈ g.nodes) : VI g s cur (g.out cur) (push s cur) :=
  ⟨Inv_push h hn hc, Ext_push s cur hn, fun v hv => look_cons_ne (fun e : cur = v => hv (e ▸ hn)) _ _, hn,
    look_cons_self cur _ _, ⟨[], rfl, by simp⟩, fun u hu => Or.inl hu, fun u hu => hu⟩

theorem Inv_setLow {g : Graph} {s : TS} {cur : Label} {m : Nat} (h : Inv g s)
    (hm : ∃ w ∈ s.stack, m = idxOf s w ∧ idxOf s w ≤ idxOf s cur ∧ Reach g cur w) : Inv g (setLow s cur m) := by
  refine ⟨h.nodupAll, h.vis_iff, h.in_nodes, h.nonempty, h.onStack_iff, h.idx_lt, h.sorted, ?_, h.sc, h.topo⟩
  intro v hv
  by_cases e : cur = v
  · subst e
    obtain ⟨w, hw, e, le, r⟩ := hm
    exact ⟨w, hw, e ▸ look_cons_self cur _ _, le, r⟩
  · obtain ⟨w, hw, e', le, r⟩ := h.lowlink v hv
    exact ⟨w, hw, e' ▸ look_cons_ne e _ _, le, r⟩

theorem nodup_split {X st : List Label} {c : Label} (h : (X ++ c :: st).Nodup) :
    c ∉ X ∧ c ∉ st ∧ ∀ v ∈ X, v ∉ st := by
  rw [List.perm_middle.nodup_iff, List.nodup_cons, List.nodup_append] at h
  refine ⟨fun hc => h.1 (List.mem_append_left _ hc), fun hc => h.1 (List.mem_append_right _ hc), ?_⟩
  intro v hv hv'
  exact h.2.2.2 v hv v hv' rfl

theorem Inv.stack_nodup {g : Graph} {s : TS} (h : Inv g s) : s.stack.Nodup :=
  (List.nodup_append.1 h.nodupAll).2.1

theorem VI.cur_mem {g : Graph} {s0 s : TS} {cur : Label} {rest : List Label}
    (h : VI g s0 cur rest s) : cur ∈ s.stack := by
  obtain ⟨X, e, _⟩ := h.stk; rw [e]; simp

theorem VI.idxOf_cur {g : Graph} {s0 s : TS} {cur : Label} {rest : List Label}
    (h : VI g s0 cur rest s) : idxOf s cur = s0.counter := by simp [idxOf, h.idxcur]

theorem lowOf_frame {s out : TS} (hl : ∀ v, look s.index v ≠ none → look out.low v = look s.low v)
    {v : Label} (hv : look s.index v ≠ none) : lowOf out v = lowOf s v := by
  unfold lowOf; rw [hl v hv]

theorem Finished.weaken {g : Graph} {s : TS} {m m' : Nat} {r r' v : Label} (h : Finished g s m r v)
    (hm : m' ≤ m) (hr : Reach g r' r) : Finished g s m' r' v :=
  ⟨h.lt, Nat.le_trans hm h.le, hr.trans h.reach,
    fun u hu => (h.succ u hu).imp_right fun a => ⟨a.1, Nat.le_trans hm a.2⟩⟩

theorem Finished.frame {g : Graph} {s out : TS} {m : Nat} {r v : Label} (h : Finished g s m r v) (hi : Inv g s)
    (he : Ext s out) (hl : ∀ v, look s.index v ≠ none → look out.low v = look s.low v)
    (hst : ∀ u ∈ s.stack, u ∈ out.stack) (hv : look s.index v ≠ none) : Finished g out m r v := by
  have e1 := lowOf_frame hl hv
  have e2 := he.idx hv
  exact ⟨by rw [e1, e2]; exact h.lt, by rw [e1]; exact h.le, h.reach, fun u hu =>
    (h.succ u hu).imp he.mem_comps fun a => ⟨hst u a.1, by rw [he.idx (hi.vis_stack a.1)]; exact a.2⟩⟩

theorem Finished.setLow_ne {g : Graph} {s : TS} {m k : Nat} {r v cur : Label} (h : Finished g s m r v)
    (hne : cur ≠ v) : Finished g (setLow s cur k) m r v := by
  have e : lowOf (setLow s cur k) v = lowOf s v := by rw [lowOf_setLow, if_neg hne]
  exact ⟨by rw [e]; exact h.lt, by rw [e]; exact h.le, h.reach, h.succ⟩

theorem VI_off {g : Graph} {s0 s : TS} {cur nx : Label} {rest : List Label}
    (h : VI g s0 cur (nx :: rest) s) (hv : look s.index nx ≠ none) (ho : nx ∉ s.onStack) :
    VI g s0 cur rest s := by
  refine ⟨h.inv, h.ext, h.lowframe, h.new, h.idxcur, h.stk, fun u hu => ?_,
    fun u hu => h.sub u (List.mem_cons_of_mem _ hu)⟩
  rcases h.succ u hu with a | a
  · rcases List.mem_cons.1 a with e | a
    · exact Or.inr (Or.inl (e ▸ ((h.inv.vis_iff nx).1 hv).resolve_right
        fun a => ho ((h.inv.onStack_iff nx).2 a)))
    · exact Or.inl a
  · exact Or.inr a

/-- The one transition that lowers the low link of `cur`: `nx` has been dealt with in a state `out`
that frames `s` (`out = s` when `nx` was on the stack, the state after `findSCC` otherwise). -/
theorem VI.absorb {g : Graph} {s0 s out : TS} {cur nx : Label} {rest Y : List Label} {k : Nat}
    (h : VI g s0 cur (nx :: rest) s) (hinv : Inv g out) (hext : Ext s out)
    (hlow : ∀ v, look s.index v ≠ none → look out.low v = look s.low v)
    (est : out.stack = Y ++ s.stack) (hY : ∀ v ∈ Y, Finished g out k nx v)
    (hnx : nx ∈ out.comps.flatten ∨ (nx ∈ out.stack ∧ k ≤ idxOf out nx))
    (hk : k < lowOf s cur → ∃ w ∈ out.stack, k = idxOf out w ∧ Reach g cur w) :
    VI g s0 cur rest (setLow out cur (min (lowOf out cur) k)) := by
  have hcs := h.cur_mem
  have hvc := h.inv.vis_stack hcs
  have hlc : lowOf out cur = lowOf s cur := lowOf_frame hlow hvc
  have hic : idxOf out cur = idxOf s cur := hext.idx hvc
  have hsub : ∀ u ∈ s.stack, u ∈ out.stack := fun u hu => est ▸ List.mem_append_right _ hu
  have hedge := h.sub nx List.mem_cons_self
  obtain ⟨X, e, hX⟩ := h.stk
  generalize hm : min (lowOf out cur) k = m
  have hm1 : m ≤ lowOf s cur := by omega
  have hm2 : m ≤ k := by omega
  have hw : ∃ w ∈ out.stack, m = idxOf out w ∧ idxOf out w ≤ idxOf out cur ∧ Reach g cur w := by
    have hle := h.inv.low_le hcs
    by_cases hlt : k < lowOf s cur
    · obtain ⟨w, hw, e1, r⟩ := hk hlt
      exact ⟨w, hw, by omega, by omega, r⟩
    · obtain ⟨w, hw, e1, le, r⟩ := hinv.low (hsub cur hcs)
      exact ⟨w, hw, by omega, le, r⟩
  have hlm : lowOf (setLow out cur m) cur = m := by rw [lowOf_setLow, if_pos rfl]
  have hne : ∀ v ∈ Y ++ X, cur ≠ v := by
    intro v hv e'
    have hnd := hinv.stack_nodup
    rw [est, e, ← List.append_assoc] at hnd
    exact (nodup_split hnd).1 (e' ▸ hv)
  have hx := h.ext.trans hext
  refine ⟨Inv_setLow hinv hw, ⟨hx.index, hx.comps, hx.counter⟩, fun v hv => ?_, h.new,
    (hext.index cur hvc).trans h.idxcur, ⟨Y ++ X, by rw [List.append_assoc, ← e]; exact est, ?_⟩, ?_,
    fun u hu => h.sub u (List.mem_cons_of_mem _ hu)⟩
  · exact (look_cons_ne (fun e : cur = v => hv (e ▸ h.new)) _ _).trans
      ((hlow v (h.ext.vis hv)).trans (h.lowframe v hv))
  · rw [hlm]
    intro v hv
    refine Finished.setLow_ne ?_ (hne v hv)
    rcases List.mem_append.1 hv with a | a
    · exact (hY v a).weaken hm2 (Reach.edge hedge)
    · have hvs : v ∈ s.stack := e ▸ List.mem_append_left _ a
      exact ((hX v a).frame h.inv hext hlow hsub (h.inv.vis_stack hvs)).weaken hm1 (.refl _)
  · rw [hlm]
    intro u hu
    rcases h.succ u hu with a | a | ⟨a, b⟩
    · rcases List.mem_cons.1 a with e' | a
      · exact Or.inr (e' ▸ hnx.imp_right fun b => ⟨b.1, Nat.le_trans hm2 b.2⟩)
      · exact Or.inl a
    · exact Or.inr (Or.inl (hext.mem_comps a))
    · refine Or.inr (Or.inr ⟨hsub u a, ?_⟩)
      show m ≤ idxOf out u
      rw [hext.idx (h.inv.vis_stack a)]; omega

theorem VI_on {g : Graph} {s0 s : TS} {cur nx : Label} {rest : List Label} {i : Nat}
    (h : VI g s0 cur (nx :: rest) s) (hv : look s.index nx = some i) (ho : nx ∈ s.onStack) :
    VI g s0 cur rest (setLow s cur (min (lowOf s cur) i)) := by
  have hi : idxOf s nx = i := by simp [idxOf, hv]
  have hst : nx ∈ s.stack := (h.inv.onStack_iff nx).1 ho
  exact h.absorb h.inv (Ext.refl s) (fun _ _ => rfl) (Y := []) rfl (by simp)
    (Or.inr ⟨hst, Nat.le_of_eq hi.symm⟩)
    fun _ => ⟨nx, hst, hi.symm, Reach.edge (h.sub nx List.mem_cons_self)⟩

theorem VI_call {g : Graph} {s0 s out : TS} {cur nx : Label} {rest : List Label}
    (h : VI g s0 cur (nx :: rest) s) (hn : look s.index nx = none) (hp : FP g s nx out) :
    VI g s0 cur rest (setLow out cur (min (lowOf out cur) (lowOf out nx))) := by
  rcases hp.cases with ⟨est, hle⟩ | ⟨Xn, est, hXn⟩
  · -- the component of `nx` was popped: its low link is beyond anything on the stack of `s`
    have := h.inv.low_le h.cur_mem
    have := h.inv.idx_lt cur h.cur_mem
    refine h.absorb hp.inv hp.ext hp.lowframe (Y := []) est (by simp) (Or.inl ?_)
      (fun hk => absurd hk (by omega))
    exact ((hp.inv.vis_iff nx).1 hp.viscur).resolve_right fun a => h.inv.vis_stack (est ▸ a) hn
  · have hnx : nx ∈ out.stack := by rw [est]; simp
    refine h.absorb hp.inv hp.ext hp.lowframe (Y := Xn ++ [nx]) (by simp [est]) hXn
      (Or.inr ⟨hnx, Nat.le_of_lt (hXn nx (by simp)).lt⟩) fun _ => ?_
    obtain ⟨w, hw, e2, _, r⟩ := hp.inv.low hnx
    exact ⟨w, hw, e2, (Reach.edge (h.sub nx List.mem_cons_self)).trans r⟩

theorem mem_top_of_le {s : TS} {C st : List Label} {cur w : Label}
    (hs : (C ++ st).Pairwise (fun a b => idxOf s b < idxOf s a)) (hc : cur ∈ C)
    (hw : w ∈ C ++ st) (hle : idxOf s cur ≤ idxOf s w) : w ∈ C :=
  (List.mem_append.1 hw).resolve_right fun a => by
    have := (List.pairwise_append.1 hs).2.2 cur hc w a
    omega

/-- follow the low links: they lead to smaller indices inside `X ++ [cur]` -/
theorem reach_root {g : Graph} {s : TS} {X st : List Label} {cur : Label} (hinv : Inv g s)
    (e : s.stack = (X ++ [cur]) ++ st) (hl : lowOf s cur = idxOf s cur)
    (hX : ∀ v ∈ X, Finished g s (lowOf s cur) cur v) :
    ∀ n, ∀ u ∈ X, idxOf s u ≤ n → Reach g u cur
  | 0, u, a, hn => by have := (hX u a).lt; omega
  | n + 1, u, a, hn => by
    have h1 := (hX u a).lt
    have h2 := (hX u a).le
    obtain ⟨w, hw, e1, _, r⟩ := hinv.low (e ▸ List.mem_append_left st (List.mem_append_left _ a))
    rcases List.mem_append.1 (mem_top_of_le (e ▸ hinv.sorted) (cur := cur) (by simp) (e ▸ hw) (by omega))
      with b | b
    · exact r.trans (reach_root hinv e hl hX n w b (by omega))
    · exact List.mem_singleton.1 b ▸ r

theorem mem_flatten_reverse {l : List Comp} {v : Label} : v ∈ l.reverse.flatten ↔ v ∈ l.flatten := by
  simp [List.mem_flatten]

theorem popSt_eq {g : Graph} {s : TS} {X rest : List Label} {cur : Label} (h : Inv g s)
    (e : s.stack = X ++ cur :: rest) :
    popSt s cur = { s with stack := rest, onStack := s.onStack.filter (fun v => !List.contains (X ++ [cur]) v),
                           comps := s.comps ++ [X ++ [cur]] } := by
  simp only [popSt, e, popUntil_append cur X rest (nodup_split (e ▸ h.stack_nodup)).1]

/-- popping a top segment `C` of the stack as a component keeps the invariant, provided `C` is strongly
connected and every edge out of it stays inside or leads into a finished component -/
theorem Inv_pop {g : Graph} {s : TS} {C rest : List Label} (h : Inv g s) (e : s.stack = C ++ rest) (hne : C ≠ [])
    (hsc : ∀ u ∈ C, ∀ v ∈ C, Reach g u v) (hout : ∀ u ∈ C, ∀ v ∈ g.out u, v ∈ C ∨ v ∈ s.comps.flatten) :
    Inv g { s with stack := rest, onStack := s.onStack.filter (fun v => !C.contains v), comps := s.comps ++ [C] } := by
  have hnd := h.stack_nodup
  have hs := h.sorted
  have hall := h.nodupAll
  rw [e] at hnd hs hall
  obtain ⟨_, _, hdisj⟩ := List.nodup_append.1 hnd
  obtain ⟨_, hs0, hcross⟩ := List.pairwise_append.1 hs
  have hsub : ∀ v ∈ rest, v ∈ s.stack := fun v hv => e ▸ List.mem_append_right _ hv
  refine ⟨?_, ?_, h.in_nodes, ?_, ?_, fun v hv => h.idx_lt v (hsub v hv), hs0, ?_, ?_, ?_⟩
  · show ((s.comps ++ [C]).flatten ++ rest).Nodup
    simpa using hall
  · intro v
    show look s.index v ≠ none ↔ (v ∈ (s.comps ++ [C]).flatten ∨ v ∈ rest)
    rw [h.vis_iff v, e]
    simp [or_assoc]
  · intro c hc
    rcases List.mem_append.1 hc with a | a
    · exact h.nonempty c a
    · rw [List.mem_singleton.1 a]; exact hne
  · intro v
    show v ∈ s.onStack.filter (fun v => !C.contains v) ↔ v ∈ rest
    rw [List.mem_filter, h.onStack_iff, e, List.mem_append]
    constructor
    · rintro ⟨a | a, b⟩
      · simp [a] at b
      · exact a
    · exact fun a => ⟨Or.inr a, by simpa using fun hv => hdisj v hv v a rfl⟩
  · -- the low link of a node that stays points below it, so not into the popped segment
    intro v hv
    obtain ⟨w, hw, e1, le, r⟩ := h.lowlink v (hsub v hv)
    refine ⟨w, (List.mem_append.1 (e ▸ hw)).resolve_left fun a => ?_, e1, le, r⟩
    have := hcross w a v hv
    omega
  · intro c hc u hu v hv
    rcases List.mem_append.1 hc with a | a
    · exact h.sc c a u hu v hv
    · rw [List.mem_singleton.1 a] at hu hv
      exact hsc u hu v hv
  · show TopoRev g (s.comps ++ [C]).reverse
    rw [List.reverse_append]
    exact ⟨fun u hu v hv => (hout u hu v hv).imp_right mem_flatten_reverse.2, h.topo⟩

theorem VI_finish {g : Graph} {s0 s : TS} {cur : Label} (h : VI g s0 cur [] s) :
    FP g s0 cur (finish s cur s0.counter) := by
  obtain ⟨X, e, hX⟩ := h.stk
  have hcs : cur ∈ s.stack := h.cur_mem
  have hic : idxOf s cur = s0.counter := h.idxOf_cur
  have hvis : look s.index cur ≠ none := by rw [h.idxcur]; simp
  have hle : lowOf s cur ≤ idxOf s cur := h.inv.low_le hcs
  have hP : ∀ v ∈ X ++ [cur], (∀ u ∈ g.out v, u ∈ s.comps.flatten ∨
      (u ∈ s.stack ∧ lowOf s cur ≤ idxOf s u)) ∧ Reach g cur v :=
    List.forall_mem_append.2 ⟨fun v hv => ⟨(hX v hv).succ, (hX v hv).reach⟩,
      List.forall_mem_singleton.2 ⟨fun u hu => (h.succ u hu).resolve_left List.not_mem_nil, .refl _⟩⟩
  unfold finish
  rw [h.inv.look_low hcs, Option.getD_some]
  by_cases ht : lowOf s cur = s0.counter
  · -- `cur` is the root of its component `X ++ [cur]`
    rw [if_pos ht, popSt_eq h.inv e]
    have e' : s.stack = (X ++ [cur]) ++ s0.stack := by rw [e]; simp
    refine ⟨Inv_pop h.inv e' (by simp) (fun u hu v hv => ?_) (fun u hu v hv => ?_),
      ⟨h.ext.index, ?_, h.ext.counter⟩, h.lowframe, hvis, Or.inl ⟨rfl, ?_⟩⟩
    · -- up to the root along the low links, down from the root
      refine Reach.trans ?_ (hP v hv).2
      rcases List.mem_append.1 hu with b | b
      · exact reach_root h.inv e' (by omega) hX _ u b (Nat.le_refl _)
      · exact List.mem_singleton.1 b ▸ .refl _
    · -- a successor on the stack has an index ≥ that of `cur`: it lies in the segment
      exact ((hP u hu).1 v hv).symm.imp_left fun b =>
        mem_top_of_le (e' ▸ h.inv.sorted) (cur := cur) (by simp) (e' ▸ b.1) (by omega)
    · obtain ⟨n, en⟩ := h.ext.comps
      exact ⟨n ++ [X ++ [cur]], by show s.comps ++ _ = _; rw [en, List.append_assoc]⟩
    · show s0.counter ≤ lowOf s cur
      omega
  · rw [if_neg ht]
    exact ⟨h.inv, h.ext, h.lowframe, hvis, Or.inr ⟨X, e, List.forall_mem_append.2
      ⟨hX, List.forall_mem_singleton.2 ⟨by omega, Nat.le_refl _, .refl _, (hP cur (by simp)).1⟩⟩⟩⟩

/-! ### fuel -/

/-- the work that is left: one unit per unvisited node plus one per edge out of it -/
def mu (g : Graph) (s : TS) : Nat :=
  ((g.nodes.filter (fun v => (look s.index v).isNone)).map (fun v => 1 + (g.out v).length)).sum

theorem sum_filter_le (w : Label → Nat) (p q : Label → Bool) (l : List Label)
    (hpq : ∀ v, q v = true → p v = true) :
    ((l.filter q).map w).sum ≤ ((l.filter p).map w).sum := by
  induction l with
  | nil => simp
  | cons a l ih =>
    simp only [List.filter_cons]
    cases hq : q a
    · cases hp : p a <;> simp <;> omega
    · rw [hpq a hq]; simp; omega

theorem sum_filter_lt (w : Label → Nat) (p q : Label → Bool) (l : List Label)
    (hpq : ∀ v, q v = true → p v = true) (c : Label) (hc : c ∈ l) (hp : p c = true) (hq : q c = false) :
    ((l.filter q).map w).sum + w c ≤ ((l.filter p).map w).sum := by
  induction l with
  | nil => cases hc
  | cons a l ih =>
    simp only [List.filter_cons]
    by_cases e : a = c
    · subst e
      have := sum_filter_le w p q l hpq
      rw [hp, hq]; simp; omega
    · have hc' : c ∈ l := by
        rcases List.mem_cons.1 hc with h | h
        · exact absurd h.symm e
        · exact h
      have := ih hc'
      cases hq' : q a
      · cases hp' : p a <;> simp <;> omega
      · rw [hpq a hq']; simp; omega

theorem Ext.isNone {s out : TS} (h : Ext s out) (v : Label) (hv : (look out.index v).isNone = true) :
    (look s.index v).isNone = true := by
  cases e : look s.index v
  · rfl
  · rw [h.index v (by rw [e]; simp), e] at hv; cases hv

theorem mu_mono {g : Graph} {s out : TS} (h : Ext s out) : mu g out ≤ mu g s :=
  sum_filter_le _ _ _ _ h.isNone

theorem mu_push {g : Graph} {s : TS} {cur : Label} (hn : look s.index cur = none) (hc : cur ∈ g.nodes) :
    mu g (push s cur) + (1 + (g.out cur).length) ≤ mu g s := by
  unfold mu
  apply sum_filter_lt (fun v => 1 + (g.out v).length) _ _ g.nodes _ cur hc
  · simp [hn]
  · show (look ((cur, s.counter) :: s.index) cur).isNone = false
    rw [look_cons_self]; rfl
  · exact (Ext_push s cur hn).isNone

theorem mu_setLow (g : Graph) (s : TS) (c : Label) (m : Nat) : mu g (setLow s c m) = mu g s := rfl

theorem findSCC_visitOut_spec (g : Graph) (hg : g.WF) : ∀ fuel,
    (∀ cur s, Inv g s → look s.index cur = none → cur ∈ g.nodes → mu g s ≤ fuel →
      FP g s cur (findSCC g fuel cur s)) ∧
    (∀ cur rest s0 s, VI g s0 cur rest s → mu g s + rest.length ≤ fuel →
      VI g s0 cur [] (visitOut g fuel cur rest s)) := by
  intro fuel
  induction fuel with
  | zero =>
    constructor
    · intro cur s _ hn hc hf
      have := mu_push (g := g) hn hc
      omega
    · intro cur rest s0 s h hf
      have : rest = [] := List.eq_nil_of_length_eq_zero (by omega)
      subst this
      rw [visitOut_nil]; exact h
  | succ fuel ih =>
    constructor
    · intro cur s hi hn hc hf
      rw [findSCC_succ]
      have hm := mu_push (g := g) hn hc
      exact VI_finish (ih.2 cur (g.out cur) s (push s cur) (VI_push hi hn hc) (by omega))
    · intro cur rest s0 s h hf
      cases rest with
      | nil => rw [visitOut_nil]; exact h
      | cons nx rest =>
        have hlen : (nx :: rest).length = rest.length + 1 := rfl
        cases hnx : look s.index nx with
        | none =>
          rw [visitOut_cons_none _ _ _ _ _ _ hnx]
          have hcn : cur ∈ g.nodes := h.inv.in_nodes cur (h.inv.vis_stack h.cur_mem)
          have hnn : nx ∈ g.nodes := hg.closed cur hcn nx (h.sub nx List.mem_cons_self)
          have hp := ih.1 nx s h.inv hnx hnn (by omega)
          have hmu := mu_mono (g := g) hp.ext
          exact ih.2 cur rest s0 _ (VI_call h hnx hp) (by rw [mu_setLow]; omega)
        | some i =>
          by_cases ho : nx ∈ s.onStack
          · rw [visitOut_cons_on _ _ _ _ _ _ i hnx ho]
            exact ih.2 cur rest s0 _ (VI_on h hnx ho) (by rw [mu_setLow]; omega)
          · rw [visitOut_cons_off _ _ _ _ _ _ i hnx ho]
            exact ih.2 cur rest s0 s (VI_off h (by rw [hnx]; simp) ho) (by omega)

/-! ### the driver -/

theorem sum_map_succ (f : Label → Nat) (l : List Label) :
    (l.map (fun v => 1 + f v)).sum = l.length + (l.map f).sum := by
  induction l with
  | nil => rfl
  | cons a l ih => simp [ih]; omega

theorem mu_le_fuel (g : Graph) (s : TS) : mu g s ≤ tarjanFuel g := by
  have h1 := sum_filter_le (fun v => 1 + (g.out v).length) (fun _ => true)
    (fun v => (look s.index v).isNone) g.nodes (fun _ _ => rfl)
  have h2 := sum_map_succ (fun v => (g.out v).length) g.nodes
  have h3 : g.nodes.filter (fun _ => true) = g.nodes := by simp
  rw [h3] at h1
  unfold mu tarjanFuel
  omega

/-- one iteration of the loop in `StronglyConnectedComponents` -/
def topStep (g : Graph) (s : TS) (v : Label) : TS :=
  if (look s.index v).isNone then findSCC g (tarjanFuel g) v s else s

theorem tarjan_eq (g : Graph) : tarjan g = (g.nodes.foldl (topStep g) ({} : TS)).comps.reverse := rfl

theorem Inv_init (g : Graph) : Inv g ({} : TS) := by
  refine ⟨by simp, ?_, ?_, by simp, by simp, by simp, by simp, by simp, by simp, trivial⟩
  · intro v; simp [look]
  · intro v; simp [look]

theorem top_step {g : Graph} (hg : g.WF) {s : TS} {v : Label} (hi : Inv g s) (hs : s.stack = [])
    (hv : v ∈ g.nodes) :
    Inv g (topStep g s v) ∧ (topStep g s v).stack = [] ∧ Ext s (topStep g s v) ∧
      look (topStep g s v).index v ≠ none := by
  unfold topStep
  cases e : look s.index v with
  | some i => simp only [Option.isNone_some, Bool.false_eq_true, ↓reduceIte]; exact ⟨hi, hs, Ext.refl s, by rw [e]; simp⟩
  | none =>
    simp only [Option.isNone_none, ↓reduceIte]
    have hp := (findSCC_visitOut_spec g hg (tarjanFuel g)).1 v s hi e hv (mu_le_fuel g s)
    refine ⟨hp.inv, ?_, hp.ext, hp.viscur⟩
    rcases hp.cases with ⟨est, _⟩ | ⟨X, est, hX⟩
    · rw [est, hs]
    · exfalso
      have hvs : v ∈ (findSCC g (tarjanFuel g) v s).stack := by rw [est]; simp
      obtain ⟨w, hw, e1, _⟩ := hp.inv.low hvs
      have hlt := (hX v (by simp)).lt
      have hsrt := hp.inv.sorted
      rw [est, hs] at hsrt hw
      rcases List.mem_append.1 hw with a | a
      · have := (List.pairwise_append.1 hsrt).2.2 w a v (by simp); omega
      · rw [List.mem_singleton.1 a] at e1; omega

theorem top_fold {g : Graph} (hg : g.WF) : ∀ (l : List Label) (s : TS), (∀ v ∈ l, v ∈ g.nodes) →
    Inv g s → s.stack = [] →
    Inv g (l.foldl (topStep g) s) ∧ (l.foldl (topStep g) s).stack = [] ∧ Ext s (l.foldl (topStep g) s) ∧
      ∀ v ∈ l, look (l.foldl (topStep g) s).index v ≠ none := by
  intro l
  induction l with
  | nil => intro s _ hi hs; exact ⟨hi, hs, Ext.refl s, by simp⟩
  | cons a l ih =>
    intro s hl hi hs
    obtain ⟨h1, h2, h3, h4⟩ := top_step hg hi hs (hl a List.mem_cons_self)
    obtain ⟨k1, k2, k3, k4⟩ := ih (topStep g s a) (fun v hv => hl v (List.mem_cons_of_mem _ hv)) h1 h2
    refine ⟨k1, k2, h3.trans k3, ?_⟩
    intro v hv
    rcases List.mem_cons.1 hv with e | hv
    · rw [e]; exact k3.vis h4
    · exact k4 v hv

theorem final_state {g : Graph} (hg : g.WF) :
    ∃ s : TS, tarjan g = s.comps.reverse ∧ Inv g s ∧ s.stack = [] ∧ ∀ v ∈ g.nodes, look s.index v ≠ none := by
  obtain ⟨h1, h2, _, h4⟩ := top_fold hg g.nodes ({} : TS) (fun _ h => h) (Inv_init g) rfl
  exact ⟨_, tarjan_eq g, h1, h2, h4⟩

theorem TopoRev.closed {g : Graph} : ∀ (l : List Comp), TopoRev g l →
    ∀ u ∈ l.flatten, ∀ v ∈ g.out u, v ∈ l.flatten
  | [], _, u, hu, _, _ => by cases hu
  | c :: l, h, u, hu, v, hv => by
    rw [List.flatten_cons, List.mem_append] at hu ⊢
    rcases hu with a | a
    · exact h.1 u a v hv
    · exact Or.inr (TopoRev.closed l h.2 u a v hv)

theorem TopoRev.reach {g : Graph} {l : List Comp} (h : TopoRev g l) {u v : Label} (r : Reach g u v) :
    u ∈ l.flatten → v ∈ l.flatten := by
  induction r with
  | refl => exact id
  | step e _ ih => intro hu; exact ih (TopoRev.closed l h _ hu _ e)

/-- with distinct nodes, a topologically sorted list has no path from a later component back into
an earlier one -/
theorem TopoRev.noBack {g : Graph} : ∀ (l : List Comp), TopoRev g l → l.flatten.Nodup →
    l.Pairwise fun c d => ∀ x ∈ d, ∀ y ∈ c, ¬ Reach g x y
  | [], _, _ => .nil
  | c :: l, h, hnd => by
    rw [List.flatten_cons, List.nodup_append] at hnd
    exact .cons (fun d hd x hx y hy r =>
        hnd.2.2 y hy y (h.2.reach r (List.mem_flatten.2 ⟨d, hd, hx⟩)) rfl)
      (noBack l h.2 hnd.2.1)

end Tarjan
open Tarjan

theorem tarjan_partition (g : Graph) (hg : g.WF) :
    (tarjan g).flatten.Nodup ∧ (∀ c ∈ tarjan g, c ≠ []) ∧ (∀ v, v ∈ g.nodes ↔ ∃ c ∈ tarjan g, v ∈ c) := by
  obtain ⟨s, e, hi, hs, hv⟩ := final_state hg
  rw [e]
  have hnd : s.comps.flatten.Nodup := by
    have := hi.nodupAll; rw [hs, List.append_nil] at this; exact this
  refine ⟨((List.reverse_perm s.comps).flatten.nodup_iff).2 hnd, ?_, ?_⟩
  · intro c hc; exact hi.nonempty c (List.mem_reverse.1 hc)
  · intro v
    constructor
    · intro hm
      rcases (hi.vis_iff v).1 (hv v hm) with a | a
      · obtain ⟨c, hc, hvc⟩ := List.mem_flatten.1 a
        exact ⟨c, List.mem_reverse.2 hc, hvc⟩
      · rw [hs] at a; cases a
    · rintro ⟨c, hc, hvc⟩
      exact hi.in_nodes v ((hi.vis_iff v).2 (Or.inl (List.mem_flatten.2 ⟨c, List.mem_reverse.1 hc, hvc⟩)))

theorem tarjan_strongly_connected (g : Graph) (hg : g.WF) :
    ∀ c ∈ tarjan g, ∀ u ∈ c, ∀ v ∈ c, Reach g u v ∧ Reach g v u := by
  obtain ⟨s, e, hi, _, _⟩ := final_state hg
  rw [e]
  intro c hc u hu v hv
  have hc' := List.mem_reverse.1 hc
  exact ⟨hi.sc c hc' u hu v hv, hi.sc c hc' v hv u hu⟩

theorem tarjan_noBack (g : Graph) (hg : g.WF) :
    (tarjan g).Pairwise fun c d => ∀ x ∈ d, ∀ y ∈ c, ¬ Reach g x y := by
  obtain ⟨s, e, hi, _, _⟩ := final_state hg
  exact TopoRev.noBack _ (e ▸ hi.topo) (tarjan_partition g hg).1

theorem tarjan_topological (g : Graph) (hg : g.WF) :
    ∀ l1 c l2 d l3, tarjan g = l1 ++ c :: l2 ++ d :: l3 → ∀ u ∈ d, ∀ v ∈ g.out u, v ∉ c := by
  intro l1 c l2 d l3 e u hu v hv hvc
  have h := tarjan_noBack g hg
  rw [e] at h
  exact (List.pairwise_append.1 h).2.2 c (by simp) d (by simp) u hu v hvc (Reach.edge hv)

theorem tarjan_isSCC (g : Graph) (hg : g.WF) : IsSCC g (tarjan g) := by
  obtain ⟨h1, h2, h3⟩ := tarjan_partition g hg
  refine ⟨h1, h2, h3, fun c hc d hd u hu v hv =>
    ⟨fun e => tarjan_strongly_connected g hg c hc u hu v (e ▸ hv), fun hr => ?_⟩⟩
  -- a path there and back between two different components goes back once, whichever comes first
  have h := tarjan_noBack g hg
  refine Classical.byContradiction fun hne => List.Pairwise.forall_of_forall_of_flip
    (R := fun c d => c ≠ d → ∀ x ∈ c, ∀ y ∈ d, ¬ (Reach g x y ∧ Reach g y x))
    (fun c _ h => absurd rfl h) (h.imp fun h _ x hx y hy r => h y hy x hx r.2)
    (h.imp fun h _ x hx y hy r => h x hx y hy r.1) hc hd hne u hu v hv hr

namespace Tarjan

/-! ### non-vacuity: a cycle 0 → 1 → 2 → 0 with a tail 2 → 3, and an isolated node 4 -/

def exG : Graph :=
  ⟨[.int 0, .int 1, .int 2, .int 3, .int 4], fun
    | .int 0 => [.int 1]
    | .int 1 => [.int 2]
    | .int 2 => [.int 0, .int 3]
    | _ => []⟩

theorem exG_wf : exG.WF := ⟨by decide, by decide⟩

example : tarjan exG = [[.int 4], [.int 2, .int 1, .int 0], [.int 3]] := by decide +kernel

example : (tarjan exG).flatten.Nodup ∧ (∀ c ∈ tarjan exG, c ≠ []) ∧
    (∀ v, v ∈ exG.nodes ↔ ∃ c ∈ tarjan exG, v ∈ c) := tarjan_partition exG exG_wf
example : ∀ c ∈ tarjan exG, ∀ u ∈ c, ∀ v ∈ c, Reach exG u v ∧ Reach exG v u :=
  tarjan_strongly_connected exG exG_wf
/-- the instance `c = {2,1,0}`, `d = {3}` of `tarjan_topological`: no edge from `3` into the cycle -/
example : ∀ u ∈ [Label.int 3], ∀ v ∈ exG.out u, v ∉ [Label.int 2, .int 1, .int 0] :=
  tarjan_topological exG exG_wf [[.int 4]] [.int 2, .int 1, .int 0] [] [.int 3] [] (by decide +kernel)
example : IsSCC exG (tarjan exG) := tarjan_isSCC exG exG_wf

end Tarjan
end CueVerif.Toposort
