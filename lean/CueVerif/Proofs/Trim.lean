/-
C20 — lemmas about the removal criterion (for every meet-semilattice).
-/
import CueVerif.Spec.Trim
namespace CueVerif.Trim

variable {S : Type} {K : Type}

/-! ### semilattice algebra -/

theorem SL.meet_top (L : SL S) (a : S) : L.meet a L.top = a := by
  rw [L.comm]; exact L.top_meet a

theorem SL.left_comm (L : SL S) (a b c : S) : L.meet a (L.meet b c) = L.meet b (L.meet a c) := by
  rw [← L.assoc, L.comm a b, L.assoc]

theorem SL.meet_meet_self (L : SL S) (a b : S) : L.meet a (L.meet a b) = L.meet a b := by
  rw [← L.assoc, L.idem]

theorem unifyAll_nil (L : SL S) : unifyAll L [] = L.top := rfl

theorem unifyAll_cons (L : SL S) (a : S) (C : List S) :
    unifyAll L (a :: C) = L.meet a (unifyAll L C) := rfl

theorem unifyAll_append (L : SL S) (A B : List S) :
    unifyAll L (A ++ B) = L.meet (unifyAll L A) (unifyAll L B) := by
  induction A with
  | nil => simp [unifyAll_nil, L.top_meet]
  | cons a A ih => simp only [List.cons_append, unifyAll_cons, ih, L.assoc]

/-- the designated occurrence can be pulled to the front -/
theorem unifyAll_mid (L : SL S) (A : List S) (c : S) (B : List S) :
    unifyAll L (A ++ c :: B) = L.meet c (unifyAll L (A ++ B)) := by
  rw [unifyAll_append, unifyAll_cons, unifyAll_append, L.left_comm]

theorem unifyAll_pi (L : SL S) (P : Type) (C : List (P → S)) (p : P) :
    unifyAll (L.pi P) C p = unifyAll L (C.map (· p)) := by
  induction C with
  | nil => rfl
  | cons f C ih =>
    show L.meet (f p) (unifyAll (L.pi P) C p) = _
    rw [ih]; rfl

/-! ### the order -/

theorem le_antisymm (L : SL S) {a b : S} (h1 : le L a b) (h2 : le L b a) : a = b := by
  unfold le at h1 h2
  rw [← h1, L.comm, h2]

theorem le_trans (L : SL S) {a b c : S} (h1 : le L a b) (h2 : le L b c) : le L a c := by
  unfold le at *
  rw [← h1, L.assoc, h2]

/-- fewer conjuncts: a less specific value -/
theorem le_of_sublist (L : SL S) {A' A : List S} (h : A'.Sublist A) : le L (unifyAll L A) (unifyAll L A') := by
  unfold le
  induction h with
  | slnil => exact L.idem _
  | cons a _ ih => rw [unifyAll_cons, L.assoc, ih]
  | cons_cons a _ ih => rw [unifyAll_cons, unifyAll_cons, L.assoc, L.left_comm _ a, L.meet_meet_self, ih]

theorem le_of_mem (L : SL S) {w : S} {C : List S} (h : w ∈ C) : le L (unifyAll L C) w := by
  have := le_of_sublist L (List.singleton_sublist.mpr h)
  rwa [unifyAll_cons, unifyAll_nil, L.meet_top] at this

/-! ### removal of redundant conjuncts -/

/-- `c` is redundant in `A ++ c :: B` iff what is left is at least as specific as `c` -/
theorem redundant_iff_le (L : SL S) (A : List S) (c : S) (B : List S) :
    redundant L A c B ↔ le L (unifyAll L (A ++ B)) c := by
  unfold redundant le
  rw [unifyAll_mid, L.comm]
  exact eq_comm

/-- adding conjuncts keeps a conjunct redundant (so removing some keeps it non-redundant) -/
theorem redundant_mono (L : SL S) {A' A B' B : List S} {c : S} (hA : A'.Sublist A) (hB : B'.Sublist B)
    (h : redundant L A' c B') : redundant L A c B :=
  (redundant_iff_le ..).mpr (le_trans L (le_of_sublist L (hA.append hB)) ((redundant_iff_le ..).mp h))

theorem removal_sound (L : SLB V) [DecidableEq V] {P : Type} (A : List (PkgConj P V))
    (c : PkgConj P V) (B : List (PkgConj P V)) (h : redundant (pkgSL L P) A c B) (p : P) :
    finalAt L (A ++ B) p = finalAt L (A ++ c :: B) p := by
  unfold finalAt
  unfold redundant at h
  rw [h]

theorem removal_unify (L : SL S) (val : K → S) (ok : K → Prop) {C C' : List K}
    (h : Removal L val ok C C') : unifyAll L (C'.map val) = unifyAll L (C.map val) := by
  induction h with
  | refl C => rfl
  | step A c B C' _ hred _ ih =>
    rw [ih]
    unfold redundant at hred
    simpa [List.map_append] using hred

theorem removal_final (L : SLB V) [DecidableEq V] {P : Type} (val : K → PkgConj P V)
    (ok : K → Prop) {C C' : List K} (h : Removal (pkgSL L P) val ok C C') (p : P) :
    finalAt L (C'.map val) p = finalAt L (C.map val) p := by
  unfold finalAt
  rw [removal_unify (pkgSL L P) val ok h]

/-- a maximal multiset admits no removal -/
theorem Removal.eq_of_maximal {L : SL S} {val : K → S} {ok : K → Prop} {C C' : List K}
    (hm : Maximal L val ok C) (h : Removal L val ok C C') : C' = C := by
  cases h with
  | refl => rfl
  | step A c B _ hok hred _ => exact absurd hred (hm A c B rfl hok)

/-! ### the greedy trimmer -/

section greedy
variable (L : SL S) [DecidableEq S] (val : K → S) (ok : K → Bool)

theorem greedy_removal (pre rest : List K) :
    Removal L val (fun k => ok k = true) (pre ++ rest) (greedy L val ok pre rest) := by
  induction rest generalizing pre with
  | nil => rw [List.append_nil]; exact .refl pre
  | cons c rest ih =>
    unfold greedy
    split
    · rename_i h
      exact .step pre c rest _ h.1 (by simpa [redundant] using h.2) (ih pre)
    · simpa [List.append_assoc] using ih (pre ++ [c])

/-- invariant of the scan: every removable conjunct already kept is non-redundant in what
is currently left -/
def ScanInv (pre rest : List K) : Prop :=
  ∀ A c B, pre = A ++ c :: B → ok c = true → ¬ redundant L (A.map val) (val c) ((B ++ rest).map val)

theorem greedy_maximal_aux (pre rest : List K) (inv : ScanInv L val ok pre rest) :
    Maximal L val (fun k => ok k = true) (greedy L val ok pre rest) := by
  induction rest generalizing pre with
  | nil =>
    intro A c B hT hok
    simpa using inv A c B hT hok
  | cons x rest ih =>
    unfold greedy
    split
    · -- `x` goes: what was non-redundant with it is non-redundant without it
      refine ih pre fun A c B hpre hok hred => inv A c B hpre hok ?_
      exact redundant_mono L (.refl _) (((List.sublist_cons_self x rest).append_left B).map val) hred
    · rename_i h
      refine ih (pre ++ [x]) fun A c B hpre hok => ?_
      rcases List.eq_nil_or_concat B with rfl | ⟨B', b, rfl⟩
      · -- the conjunct just kept
        obtain ⟨rfl, hx⟩ := List.append_inj' (t₁ := [x]) (t₂ := [c]) (by simpa using hpre) rfl
        cases hx
        exact fun hred => h ⟨hok, by simpa [redundant] using hred⟩
      · obtain ⟨hp, hb⟩ := List.append_inj' (s₁ := pre) (t₁ := [x]) (s₂ := A ++ c :: B') (t₂ := [b])
          (by simpa [List.concat_eq_append, List.append_assoc] using hpre) rfl
        cases hb
        simpa [List.concat_eq_append, List.append_assoc] using inv A c B' hp hok

theorem greedy_maximal (C : List K) :
    Maximal L val (fun k => ok k = true) (trimModel L val ok C) := by
  apply greedy_maximal_aux
  intro A c B h
  cases A <;> cases h

theorem greedy_idem (C : List K) :
    trimModel L val ok (trimModel L val ok C) = trimModel L val ok C :=
  (greedy_removal L val ok [] _).eq_of_maximal (greedy_maximal L val ok C)

end greedy

theorem pattern_sound (L : SL S) (Kp R : List (Cj S))
    (hplain : Kp.any (fun c => !c.pattern) = true)
    (h : unifyAll L (Kp.map Cj.val) = unifyAll L ((Kp ++ R).map Cj.val)) :
    vertexValue L Kp = vertexValue L (Kp ++ R) := by
  unfold vertexValue
  have : (Kp ++ R).any (fun c => !c.pattern) = true := by
    rw [List.any_append, hplain]; rfl
  rw [hplain, this, h]

/-! ### winners per path (hitting set) -/

/-- a part of the conjuncts that holds one as specific as the whole has the value of the whole:
it is below its winner, hence below the whole; the converse holds of any part -/
theorem unifyAll_eq_of_winner (L : SL S) {A C : List S} (hs : A.Sublist C) {w : S} (hw : w ∈ A)
    (hle : le L w (unifyAll L C)) : unifyAll L A = unifyAll L C :=
  le_antisymm L (le_trans L (le_of_mem L hw) hle) (le_of_sublist L hs)

theorem winners_per_path (L : SL S) {P : Type} (Kp R : List (P → S)) (p : P)
    (h : ∃ w ∈ Kp, le L (w p) (unifyAll (L.pi P) (Kp ++ R) p)) :
    unifyAll (L.pi P) Kp p = unifyAll (L.pi P) (Kp ++ R) p := by
  obtain ⟨w, hw, hle⟩ := h
  simp only [unifyAll_pi] at hle ⊢
  exact unifyAll_eq_of_winner L ((List.sublist_append_left Kp R).map _) (List.mem_map.mpr ⟨w, hw, rfl⟩) hle

/-! ### defaults -/

section defaults
variable {V : Type} (L : SLB V) [DecidableEq V]

theorem SLB.meet_bot (a : V) : L.meet a L.bot = L.bot := by
  rw [L.comm]; exact L.bot_meet a

omit [DecidableEq V] in
theorem dv_meet_v (a b : DV V) : (L.dv.meet a b).v = L.meet a.v b.v := rfl
omit [DecidableEq V] in
theorem dv_meet_d (a b : DV V) : (L.dv.meet a b).d = L.meet a.d b.d := rfl

theorem resolve_bot {x : DV V} (h : x.d = L.bot) : resolve L x = x.v := by
  unfold resolve; rw [if_pos h]

theorem resolve_ne {x : DV V} (h : x.d ≠ L.bot) : resolve L x = x.d := by
  unfold resolve; rw [if_neg h]

/-- `k` is what is kept, `r` what is removed; `hreg` excludes: the whole vertex has no default but
the kept part has -/
theorem winner_partial (k r : DV V)
    (hreg : ¬ ((L.dv.meet k r).d = L.bot ∧ k.d ≠ L.bot))
    (h : equallySpecific L (L.dv.meet k r) k) : resolve L k = resolve L (L.dv.meet k r) := by
  unfold equallySpecific le at h
  by_cases hc : (L.dv.meet k r).d = L.bot
  · have hk : k.d = L.bot := Decidable.byContradiction fun hk => hreg ⟨hc, hk⟩
    rw [resolve_bot L hk, resolve_bot L hc, dv_meet_v] at h ⊢
    rw [L.toSL.meet_meet_self] at h
    exact h.symm
  · have hk : k.d ≠ L.bot := by
      intro hk
      apply hc
      rw [dv_meet_d, hk, L.bot_meet]
    rw [resolve_ne L hk, resolve_ne L hc, dv_meet_d] at h ⊢
    rw [L.toSL.meet_meet_self] at h
    exact h.symm

omit [DecidableEq V] in
theorem unmarked_unifyAll (R : List (DV V)) (h : ∀ r ∈ R, r.unmarked) :
    (unifyAll L.dv R).unmarked := by
  induction R with
  | nil => rfl
  | cons a R ih =>
    have ha := h a (List.mem_cons_self ..)
    have hr := ih (fun r hr => h r (List.mem_cons_of_mem _ hr))
    unfold DV.unmarked at *
    show L.meet a.d (unifyAll L.dv R).d = L.meet a.v (unifyAll L.dv R).v
    rw [ha, hr]

/-- when what is removed carries no default mark the excluded region is unreachable -/
theorem winner_unmarked (k r : DV V) (hr : r.unmarked)
    (h : equallySpecific L (L.dv.meet k r) k) : resolve L k = resolve L (L.dv.meet k r) := by
  apply winner_partial L k r _ h
  intro ⟨hcd, hkd⟩
  unfold DV.unmarked at hr
  unfold equallySpecific le at h
  rw [resolve_ne L hkd, resolve_bot L hcd, dv_meet_v] at h
  rw [dv_meet_d, hr] at hcd
  -- h : k.d ⊓ (k.v ⊓ r.v) = k.d ; hcd : k.d ⊓ r.v = ⊥
  apply hkd
  have : L.meet k.d r.v = k.d := by
    calc L.meet k.d r.v = L.meet (L.meet k.d (L.meet k.v r.v)) r.v := by rw [h]
      _ = L.meet k.d (L.meet k.v (L.meet r.v r.v)) := by rw [L.assoc, L.assoc]
      _ = k.d := by rw [L.idem, h]
  rw [← this, hcd]

end defaults

end CueVerif.Trim
