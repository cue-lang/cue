/-
C05 — lemmas about the transcribed evidence algorithm (Model/Typo.lean, Layer A).
Every statement quantifies over ALL requirement sets / conjunct infos / containment
functions; nothing here depends on how the scheduler (Layer B) produced them.
-/
import CueVerif.Model.Typo
import CueVerif.Proofs.Lib
namespace CueVerif.Typo
open CueVerif.Closed

variable {contains : Nat → Nat → Bool}

/-! ### hasEvidenceForAll / hasEvidenceForOne -/

theorem hasEvidenceForAll_inactive (a : List ReqSet) (conj : List ConjInfo)
    (h : ∀ rs ∈ a, rs.ignored = true ∨ rs.removed = true) :
    hasEvidenceForAll contains a conj = true := by
  unfold hasEvidenceForAll
  rw [List.all_eq_true]
  intro rs hrs
  rcases h rs hrs with h | h <;> simp [h]

theorem hasEvidenceForOne_direct (all : List ReqSet) (a : ReqSet) (conj : List ConjInfo)
    (h : conj.any (fun x => contains a.id x.id) = true) :
    hasEvidenceForOne contains all a conj = true := by
  unfold hasEvidenceForOne
  simp only [h, if_true]

theorem lookupSet_zero (all : List ReqSet) : lookupSet all 0 = none := by
  simp [lookupSet]

theorem hasEvidenceForOne_no_embed (all : List ReqSet) (a : ReqSet) (conj : List ConjInfo)
    (h : a.embed = 0) :
    hasEvidenceForOne contains all a conj = conj.any (fun x => contains a.id x.id) := by
  unfold hasEvidenceForOne
  rw [h, lookupSet_zero]
  cases hc : conj.any (fun x => contains a.id x.id) <;> simp

theorem hasEvidenceForOne_in_scope (all : List ReqSet) (a es o : ReqSet) (conj : List ConjInfo)
    (hs : lookupSet all a.embed = some es) (hp : a.parent ≠ 0)
    (ho : lookupSet all a.parent = some o) :
    hasEvidenceForOne contains all a conj =
      (conj.any (fun x => contains a.id x.id) ||
       conj.any (fun c => !(contains es.id c.embed) && (o.removed || contains o.id c.id))) := by
  unfold hasEvidenceForOne
  rw [hs, ho]
  have hp' : (a.parent == 0) = false := by simpa using hp
  cases hc : conj.any (fun x => contains a.id x.id)
  · simp [hp']
  · simp

theorem hasEvidenceForOne_embedded (all : List ReqSet) (a es o : ReqSet) (conj : List ConjInfo)
    (hs : lookupSet all a.embed = some es) (hp : a.parent ≠ 0)
    (ho : lookupSet all a.parent = some o) (hr : o.removed = false) :
    hasEvidenceForOne contains all a conj =
      (conj.any (fun x => contains a.id x.id) ||
       conj.any (fun c => !(contains es.id c.embed) && contains o.id c.id)) := by
  rw [hasEvidenceForOne_in_scope all a es o conj hs hp ho, hr]; rfl

theorem hasEvidenceForOne_embedded_outer_removed (all : List ReqSet) (a es o : ReqSet)
    (conj : List ConjInfo)
    (hs : lookupSet all a.embed = some es) (hp : a.parent ≠ 0)
    (ho : lookupSet all a.parent = some o) (hr : o.removed = true) :
    hasEvidenceForOne contains all a conj =
      (conj.any (fun x => contains a.id x.id) ||
       conj.any (fun c => !(contains es.id c.embed))) := by
  rw [hasEvidenceForOne_in_scope all a es o conj hs hp ho, hr]
  simp only [Bool.true_or, Bool.and_true]

theorem hasEvidenceForAll_flat (a : List ReqSet) (conj : List ConjInfo)
    (h : ∀ rs ∈ a, rs.ignored = false ∧ rs.removed = false ∧ rs.embed = 0) :
    hasEvidenceForAll contains a conj = a.all (fun rs => conj.any (fun x => contains rs.id x.id)) :=
  all_congr_mem fun rs hrs => by
    obtain ⟨h1, h2, h3⟩ := h rs hrs
    rw [h1, h2, hasEvidenceForOne_no_embed a rs conj h3]; rfl

theorem hasEvidenceForAll_denied (a : List ReqSet) (conj : List ConjInfo) (rs : ReqSet)
    (hm : rs ∈ a) (hi : rs.ignored = false) (hr : rs.removed = false) (he : rs.embed = 0)
    (hn : conj.any (fun x => contains rs.id x.id) = false) :
    hasEvidenceForAll contains a conj = false := by
  unfold hasEvidenceForAll
  rw [List.all_eq_false]
  exact ⟨rs, hm, by simp [hi, hr, hasEvidenceForOne_no_embed a rs conj he, hn]⟩

/-! ### markIgnored: close() closes one level -/

theorem markIgnored_once (a : List ReqSet) (e : ReqSet) (he : e ∈ markIgnored a)
    (h : e.once = true) : e.ignored = true := by
  obtain ⟨x, _, rfl⟩ := List.mem_map.1 he
  by_cases hxo : x.once = true
  · simp [hxo]
  · simp [hxo] at h

theorem markIgnored_keep (a : List ReqSet) (e : ReqSet) (he : e ∈ a) (h : e.once = false) :
    e ∈ markIgnored a :=
  List.mem_map.2 ⟨e, he, by simp [h]⟩

theorem markIgnored_idem (a : List ReqSet) : markIgnored (markIgnored a) = markIgnored a := by
  unfold markIgnored
  rw [List.map_map]
  apply List.map_congr_left
  intro e _
  by_cases h : e.once = true <;> simp [h]

theorem markIgnored_ids (a : List ReqSet) : (markIgnored a).map (·.id) = a.map (·.id) := by
  unfold markIgnored
  rw [List.map_map]
  apply List.map_congr_left
  intro e _
  by_cases h : e.once = true <;> simp [h]

/-- what `filterTop` may do to a set `s0`: drop it, keep it, or mark it removed -/
def Kept (s0 : ReqSet) (o : Option ReqSet) : Prop :=
  ∀ s, o = some s → s.ignored = s0.ignored ∧ s.id = s0.id ∧ (s0.removed = true → s.removed = true)

theorem Kept.none (s0 : ReqSet) : Kept s0 none := fun _ h => nomatch h
theorem Kept.same (s0 : ReqSet) : Kept s0 (some s0) := fun _ h => by cases h; exact ⟨rfl, rfl, id⟩
theorem Kept.removed (s0 : ReqSet) : Kept s0 (some { s0 with removed := true }) :=
  fun _ h => by cases h; exact ⟨rfl, rfl, fun _ => rfl⟩
theorem Kept.ite {s0 : ReqSet} {c : Prop} [Decidable c] {a b : Option ReqSet}
    (ha : Kept s0 a) (hb : Kept s0 b) : Kept s0 (if c then a else b) := by
  split
  · exact ha
  · exact hb

/-- `filterTop` never re-activates a set.  The proof term follows its `if` tree leaf by leaf. -/
theorem filterTop_mem (own parentConj : List ConjInfo) (a : List ReqSet) (s : ReqSet)
    (h : s ∈ filterTop contains own parentConj a) :
    ∃ s0 ∈ a, s.ignored = s0.ignored ∧ s.id = s0.id ∧ (s0.removed = true → s.removed = true) := by
  obtain ⟨s0, hs0, hf⟩ := List.mem_filterMap.1 h
  exact ⟨s0, hs0, Kept.ite (.none _) (.ite (.same _) (.ite (.same _) (.ite (.removed _)
    (.ite (.same _) (.ite (.same _) (.removed _)))))) s hf⟩

/-- a node without closing references of its own, below requirement sets that all close one
level only (`once`, i.e. they come from `close()`), admits every field -/
theorem getReqSets_all_once (n : NodeSt) (parentReqs : List ReqSet) (parentConj conj : List ConjInfo)
    (hidden : Bool) (hn : n.reqDefIDs = [])
    (h : ∀ e ∈ parentReqs, e.once = true) :
    hasEvidenceForAll contains (getReqSets contains n parentReqs parentConj hidden) conj = true := by
  apply hasEvidenceForAll_inactive
  intro rs hrs
  unfold getReqSets at hrs
  simp only [hn, addOwn] at hrs
  obtain ⟨s0, hs0, hig, _, _⟩ := filterTop_mem _ _ _ _ hrs
  have hs0' : s0 ∈ markIgnored parentReqs := by
    split at hs0
    · exact (List.mem_filter.mp hs0).1
    · exact hs0
  obtain ⟨x, hx, rfl⟩ := List.mem_map.1 hs0'
  exact .inl (hig.trans (by simp [h x hx]))

/-! ### containsDefID -/

theorem containsDefID_refl (cont flat : List (Nat × Nat)) (n : Nat) (h : n ≠ 0) :
    containsDefID cont flat n n = true := by
  unfold containsDefID
  have : (n == 0) = false := by simpa using h
  simp [containsRec, this]

theorem containsDefID_parent (cont : List (Nat × Nat)) (p c : Nat) (hc : c ≠ 0) (hp : p ≠ 0)
    (hne : p ≠ c) (h : contOf cont c = p) : containsDefID cont [] p c = true := by
  unfold containsDefID
  have h1 : (c == 0) = false := by simpa using hc
  have h2 : (c == p) = false := by simpa using (Ne.symm hne)
  have h3 : (p == c) = false := by simpa using hne
  have h4 : (p == 0) = false := by simpa using hp
  -- two units of fuel: the step from `c` to its container `p`, then `p == node`
  show containsRec cont [] ((cont.length + 2) * 2 + 1 + 1) p c c c = true
  rw [containsRec]
  simp only [h1, h2, Bool.false_eq_true, if_false, List.filter_nil, List.any_nil, h, h3]
  rw [containsRec]
  simp [h4]

/-! ### the per-arc decision of checkTypos -/

theorem arcDenied_nonreg (cN cA : Nat → Nat → Bool) (base : List ReqSet) (nodeConj arcConj : List ConjInfo)
    (l : Label) (b : Bool) (h : l.isReg = false) :
    arcDenied cN cA base nodeConj l b arcConj = false := by
  unfold arcDenied
  cases b <;> simp [h]

theorem arcDenied_bottom (cN cA : Nat → Nat → Bool) (base : List ReqSet) (nodeConj arcConj : List ConjInfo)
    (l : Label) : arcDenied cN cA base nodeConj l true arcConj = false := by
  unfold arcDenied
  simp

theorem arcDenied_of_inactive (cN cA : Nat → Nat → Bool) (base : List ReqSet)
    (nodeConj arcConj : List ConjInfo) (l : Label) (b : Bool)
    (h : ∀ rs ∈ base, rs.ignored = true ∨ rs.removed = true ∨ hasParentEllipsis cN rs nodeConj ≠ 0) :
    arcDenied cN cA base nodeConj l b arcConj = false := by
  simp only [arcDenied]
  rw [hasEvidenceForAll_inactive]
  · cases b <;> cases l.isReg <;> rfl
  · intro rs hrs
    obtain ⟨x, hx, rfl⟩ := List.mem_map.1 hrs
    rcases h x hx with h1 | h1 | h1
    · left; split <;> exact h1
    · right; split <;> simp [h1]
    · right; simp [h1]

theorem arcDenied_inactive (cN cA : Nat → Nat → Bool) (base : List ReqSet) (nodeConj arcConj : List ConjInfo)
    (l : Label) (b : Bool) (h : ∀ rs ∈ base, rs.ignored = true ∨ rs.removed = true) :
    arcDenied cN cA base nodeConj l b arcConj = false :=
  arcDenied_of_inactive cN cA base nodeConj arcConj l b fun rs hrs =>
    (h rs hrs).imp_right Or.inl

/-- an ellipsis conjunct of the node that lies inside every requirement set opens the node -/
theorem arcDenied_ellipsis (cN cA : Nat → Nat → Bool) (base : List ReqSet) (nodeConj arcConj : List ConjInfo)
    (l : Label) (b : Bool) (h : ∀ rs ∈ base, hasParentEllipsis cN rs nodeConj ≠ 0) :
    arcDenied cN cA base nodeConj l b arcConj = false :=
  arcDenied_of_inactive cN cA base nodeConj arcConj l b fun rs hrs => .inr (.inr (h rs hrs))

/-- the decision for a regular, non-erroneous arc when every requirement set is active and
outside any embedding scope: denied iff some set has no direct evidence and no ellipsis -/
theorem arcDenied_flat (cN cA : Nat → Nat → Bool) (base : List ReqSet) (nodeConj arcConj : List ConjInfo)
    (l : Label) (hl : l.isReg = true)
    (h : ∀ rs ∈ base, rs.ignored = false ∧ rs.removed = false ∧ rs.embed = 0) :
    arcDenied cN cA base nodeConj l false arcConj =
      !(base.all fun rs => hasParentEllipsis cN rs nodeConj != 0 ||
          arcConj.any (fun x => cA rs.id x.id)) := by
  unfold arcDenied hasEvidenceForAll
  simp only [Bool.false_eq_true, if_false, hl, Bool.not_true]
  rw [List.all_map]
  congr 1
  refine all_congr_mem fun rs hrs => ?_
  obtain ⟨h1, h2, h3⟩ := h rs hrs
  cases he : hasParentEllipsis cN rs nodeConj != 0
  · simp only [Function.comp, he, Bool.false_eq_true, if_false, h1, h2, Bool.false_or]
    exact hasEvidenceForOne_no_embed _ rs arcConj h3
  · simp only [Function.comp, he, if_true, Bool.or_true, Bool.true_or]

end CueVerif.Typo
