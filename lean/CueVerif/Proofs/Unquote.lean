/-
C09, the reader: what `literal.Unquote` (`unquote`, `parseQuotes`, `QuoteInfo.unquote`, `unquoteLoop`,
`unquoteChar`) does on well-formed text, without reference to how the text was produced.
`Reads q T sn s` says that the main loop reads `T`, a body with its closing delimiter, as `s`; it is
built piece by piece with `Reads.step`, one iteration of the loop per piece.  `unquote_single` is
`Unquote` on a single-line literal with any number of hashes.  Used for what `Form.Append` writes
(Proofs/Quote*.lean) and for JSON string tokens (Proofs/JsonString.lean).
-/
import CueVerif.Model.Quote
import CueVerif.Proofs.Utf8
namespace CueVerif.Quote

theorem hashes_isPrefixOf (h : Nat) (t : Bytes) : (hashes h).isPrefixOf (hashes h ++ t) = true := by
  simp [List.isPrefixOf_iff_prefix]

theorem drop_hashes (h : Nat) (t : Bytes) : (hashes h ++ t).drop h = t := by
  have : (hashes h).length = h := by simp [hashes]
  rw [List.drop_append_of_le_length (by omega)]
  simp [this]

/-! ### `unquoteChar` -/

theorem uc_backslash (q : QuoteInfo) (hq : q.char = 0x22 ∨ q.char = 0x27) (e : Nat) (t : Bytes) :
    unquoteChar (0x5C :: (hashes q.numHash ++ e :: t)) q = unquoteEscape q e t := by
  have h1 : ((0x5C : Nat) == q.char) = false := by rcases hq with h | h <;> simp [h]
  have hl : (hashes q.numHash).length = q.numHash := by simp [hashes]
  have h4 : ¬ ((0x5C :: (hashes q.numHash ++ e :: t)).length ≤ 1 + q.numHash) := by
    simp only [List.length_cons, List.length_append, hl]; omega
  have h5 : (0x5C :: (hashes q.numHash ++ e :: t)).drop (1 + q.numHash) = e :: t := by
    rw [Nat.add_comm, List.drop_succ_cons, drop_hashes]
  simp only [unquoteChar, h1, h4, h5, hashes_isPrefixOf, Bool.false_and, Bool.false_eq_true, if_false,
    Bool.not_true, show ¬ (0x80 ≤ (0x5C : Nat)) by decide, show ((0x5C : Nat) != 0x5C) = false by decide]

theorem uc_plain (q : QuoteInfo) (c : Nat) (t : Bytes) (h1 : c < 0x80) (h2 : c ≠ 0) (h3 : c ≠ 0x5C)
    (h4 : c ≠ q.char) : unquoteChar (c :: t) q = .ok (.char c false, t) := by
  have e1 : (c == q.char) = false := by simpa using h4
  have e2 : ¬ (0x80 ≤ c) := by omega
  have e3 : (c != 0x5C) = true := by simpa using h3
  have e4 : (c == 0) = false := by simpa using h2
  simp [unquoteChar, e1, e2, e3, e4]

theorem uc_multibyte (q : QuoteInfo) (hq : q.char = 0x22 ∨ q.char = 0x27) (r : Nat) (t : Bytes)
    (h1 : 0x80 ≤ r) (h2 : r ≤ 0x10FFFF) (h3 : ¬ (0xD800 ≤ r ∧ r < 0xE000)) :
    unquoteChar (encodeRune r ++ t) q = .ok (.char r true, t) := by
  obtain ⟨c, cs, he, hc⟩ := encodeRune_cons r h1
  have hd := decodeRune_encodeRune r t h1 h2 h3
  have hl := encodeRune_length r h1
  rw [he] at hd hl ⊢
  have e1 : (c == q.char) = false := by
    rcases hq with h | h <;> rw [h] <;> simp <;> omega
  have e5 : ((r == 0xFFFD) && ((c :: cs).length == 1)) = false := by
    simp only [Bool.and_eq_false_iff, beq_eq_false_iff_ne]; right; omega
  simp only [List.cons_append, unquoteChar, e1, Bool.false_and, Bool.false_eq_true, if_false, hc,
    if_true, show decodeRune (c :: (cs ++ t)) = (r, (c :: cs).length) from hd, e5]
  rw [show c :: (cs ++ t) = (c :: cs) ++ t from rfl, List.drop_left]

theorem uc_closing (q : QuoteInfo) (hq : q.char = 0x22 ∨ q.char = 0x27) (X : Bytes)
    (hX : q.closing = q.char :: X) : unquoteChar (q.char :: X) q = .ok (.termQuote, []) := by
  have h0 : (q.char != 0) = true := by rcases hq with h | h <;> simp [h]
  simp [unquoteChar, h0, hX, List.isPrefixOf_iff_prefix]

/-- the arm of `unquoteEscape` that `\\u` (n = 4) and `\\U` (n = 8) reach; the guard is Go's
`v < 0 || v > utf8.MaxRune` on an int32 -/
def unicodeEscape (n : Nat) (t : Bytes) : Except Err (UC × Bytes) :=
  if t.length < n then .error .syntax
  else match hexVal (t.take n) 0 with
    | none => .error .syntax
    | some v =>
      if decide (v ≥ 2147483648) || decide (v > 0x10FFFF) then .error .syntax
      else .ok (.char v true, t.drop n)

theorem unquoteEscape_u (q : QuoteInfo) (t : Bytes) : unquoteEscape q 0x75 t = unicodeEscape 4 t := rfl

theorem unquoteEscape_U (q : QuoteInfo) (t : Bytes) : unquoteEscape q 0x55 t = unicodeEscape 8 t := rfl

theorem unicodeEscape_ok (n : Nat) (ds t : Bytes) (r : Nat) (hl : ds.length = n)
    (hv : hexVal ds 0 = some r) (hr : r ≤ 0x10FFFF) :
    unicodeEscape n (ds ++ t) = .ok (.char r true, t) := by
  have h1 : ¬ (r ≥ 2147483648) := by omega
  have h2 : ¬ (r > 0x10FFFF) := by omega
  simp [unicodeEscape, ← hl, hv, h1, h2]

theorem unicodeEscape_total (n : Nat) (t : Bytes) :
    (∃ v t', unicodeEscape n t = .ok (.char v true, t') ∧ v ≤ 0x10FFFF) ∨
    unicodeEscape n t = .error .syntax := by
  unfold unicodeEscape
  split
  · exact .inr rfl
  split
  · exact .inr rfl
  · next v _ =>
    split
    · exact .inr rfl
    · next hc =>
      simp only [Bool.or_eq_true, decide_eq_true_eq, not_or] at hc
      exact .inl ⟨v, _, rfl, by omega⟩

/-- `\\u` / `\\U` escapes: the result is a rune ≤ MaxRune or a syntax error — never one of the
loop's sentinels, never a panic (the int32 overflow repaired by /repo 4627158) -/
theorem unquoteEscape_U_total (q : QuoteInfo) (e : Nat) (he : e = 0x75 ∨ e = 0x55) (t : Bytes) :
    (∃ v t', unquoteEscape q e t = .ok (.char v true, t') ∧ v ≤ 0x10FFFF) ∨
    unquoteEscape q e t = .error .syntax := by
  rcases he with rfl | rfl
  · rw [unquoteEscape_u]; exact unicodeEscape_total 4 t
  · rw [unquoteEscape_U]; exact unicodeEscape_total 8 t

/-! ### one iteration of the main loop -/

/-- a decoded unit: its rune and the bytes it was decoded from -/
def GoodUnit (r : Nat) (orig : Bytes) : Prop :=
  (r < 0x80 ∧ orig = [r]) ∨
  (0x80 ≤ r ∧ r ≤ 0x10FFFF ∧ ¬ (0xD800 ≤ r ∧ r < 0xE000) ∧ encodeRune r = orig)

theorem GoodUnit.le {r : Nat} {orig : Bytes} (h : GoodUnit r orig) : r ≤ 0x10FFFF := by
  rcases h with h | h <;> omega

theorem GoodUnit.notSur {r : Nat} {orig : Bytes} (h : GoodUnit r orig) : ¬ (0xD800 ≤ r ∧ r < 0xE000) := by
  rcases h with h | h
  · omega
  · exact h.2.2.1

theorem GoodUnit.encode {r : Nat} {orig : Bytes} (h : GoodUnit r orig) : encodeRune r = orig := by
  rcases h with ⟨h1, rfl⟩ | h
  · exact encodeRune_ascii r h1
  · exact h.2.2.2

theorem encodeRune_ne_nil (r : Nat) : 1 ≤ (encodeRune r).length := by
  by_cases h : r < 0x80
  · rw [encodeRune_ascii r h]; exact Nat.le_refl 1
  · have := encodeRune_length r (by omega); omega

theorem pushChar_good {r : Nat} {orig : Bytes} (hu : GoodUnit r orig) (buf : Bytes) (mb : Bool)
    (h : mb = false → r < 0x80) : pushChar buf r mb = buf ++ orig := by
  unfold pushChar
  rcases hu with ⟨h1, h2⟩ | ⟨h1, _, _, h4⟩
  · subst h2
    cases mb
    · simp; omega
    · simp [encodeRune_ascii r h1]
  · cases mb
    · have := h rfl; omega
    · simp [h4]

theorem loop_step_char (q : QuoteInfo) (c : Nat) (rest : Bytes) (hc13 : c ≠ 13) (hc10 : c ≠ 10)
    (v : Nat) (mb : Bool) (ss : Bytes) (huc : unquoteChar (c :: rest) q = .ok (.char v mb, ss))
    (hv : ¬ (0xD800 ≤ v ∧ v < 0xE000)) (fuel : Nat) (buf : Bytes) (sn we : Bool) :
    unquoteLoop q (fuel + 1) (c :: rest) buf sn we = unquoteLoop q fuel ss (pushChar buf v mb) false false := by
  have e13 : (c == 13) = false := by simpa using hc13
  have e10 : (c == 10) = false := by simpa using hc10
  have hs : (decide (0xD800 ≤ v) && decide (v < 0xE000)) = false := by
    simp only [Bool.and_eq_false_iff, decide_eq_false_iff_not]; omega
  simp [unquoteLoop, unquoteCharSur, huc, e13, e10, hs]

theorem loop_step_term (q : QuoteInfo) (hq : q.char = 0x22 ∨ q.char = 0x27) (X : Bytes)
    (hX : q.closing = q.char :: X) (fuel : Nat) (buf : Bytes) (sn : Bool) :
    unquoteLoop q (fuel + 1) (q.char :: X) buf sn false = if sn then .ok buf.dropLast else .ok buf := by
  have e13 : (q.char == 13) = false := by rcases hq with h | h <;> simp [h]
  have e10 : (q.char == 10) = false := by rcases hq with h | h <;> simp [h]
  simp [unquoteLoop, unquoteCharSur, uc_closing q hq X hX, e13, e10]

theorem loop_step_close (q : QuoteInfo) (hq : q.char = 0x22 ∨ q.char = 0x27) (hm : q.multiline = false)
    (fuel : Nat) (buf : Bytes) :
    unquoteLoop q (fuel + 1) (q.char :: hashes q.numHash) buf false false = .ok buf :=
  loop_step_term q hq _ (by simp [QuoteInfo.closing, QuoteInfo.numChar, hm]) fuel buf false

/-- A unit copied raw is read back by one iteration.  The quote character and the backslash are
read as themselves only in front of certain tails: that is `hraw`. -/
theorem step_unit (q : QuoteInfo) (hq : q.char = 0x22 ∨ q.char = 0x27) {r : Nat} {orig : Bytes}
    (hu : GoodUnit r orig) (h0 : r ≠ 0) (h10 : r ≠ 10) (h13 : r ≠ 13) (tail : Bytes)
    (hraw : r = q.char ∨ r = 0x5C → unquoteChar (r :: tail) q = .ok (.char r false, tail))
    (fuel : Nat) (buf : Bytes) (sn we : Bool) :
    unquoteLoop q (fuel + 1) (orig ++ tail) buf sn we = unquoteLoop q fuel tail (buf ++ orig) false false := by
  rcases hu with ⟨h1, rfl⟩ | ⟨h1, h2, h3, rfl⟩
  · have huc : unquoteChar (r :: tail) q = .ok (.char r false, tail) := by
      by_cases hr : r = q.char ∨ r = 0x5C
      · exact hraw hr
      · exact uc_plain q r tail h1 h0 (fun h => hr (.inr h)) (fun h => hr (.inl h))
    show unquoteLoop q (fuel + 1) (r :: tail) buf sn we = _
    rw [loop_step_char q r tail h13 h10 r false tail huc (by omega)]
    simp [pushChar, Nat.mod_eq_of_lt (show r < 256 by omega)]
  · obtain ⟨c, cs, he, hc⟩ := encodeRune_cons r h1
    have huc := uc_multibyte q hq r tail h1 h2 h3
    rw [he] at huc ⊢
    rw [List.cons_append, loop_step_char q c (cs ++ tail) (by omega) (by omega) r true tail huc h3]
    simp [pushChar, he]

/-! ### bodies, piece by piece -/

/-- The main loop, entered with the strip-newline flag `sn`, reads `T` (a body with its closing
delimiter) as `s`. -/
def Reads (q : QuoteInfo) (T : Bytes) (sn : Bool) (s : Bytes) : Prop :=
  ∀ (fuel : Nat) (buf : Bytes), T.length + 1 ≤ fuel → unquoteLoop q fuel T buf sn false = .ok (buf ++ s)

/-- with the fuel `QuoteInfo.unquote` gives the loop, and its empty buffer -/
theorem Reads.run {q : QuoteInfo} {T s : Bytes} {sn : Bool} (h : Reads q T sn s) :
    unquoteLoop q (T.length + 1) T [] sn false = .ok s :=
  h _ [] (Nat.le_refl _)

/-- a piece `X` that one iteration reads as `orig` -/
theorem Reads.step {q : QuoteInfo} {X T orig s : Bytes} {sn sn' : Bool} (hX : 1 ≤ X.length)
    (hstep : ∀ fuel buf, unquoteLoop q (fuel + 1) (X ++ T) buf sn false =
      unquoteLoop q fuel T (buf ++ orig) sn' false)
    (h : Reads q T sn' s) : Reads q (X ++ T) sn (orig ++ s) := by
  intro fuel buf hf
  obtain ⟨k, rfl⟩ : ∃ k, fuel = k + 1 := ⟨fuel - 1, by omega⟩
  rw [hstep, h k _ (by simp only [List.length_append] at hf; omega), List.append_assoc]

theorem Reads.close (q : QuoteInfo) (hq : q.char = 0x22 ∨ q.char = 0x27) (hm : q.multiline = false) :
    Reads q (q.char :: hashes q.numHash) false [] := by
  intro fuel buf hf
  obtain ⟨k, rfl⟩ : ∃ k, fuel = k + 1 := ⟨fuel - 1, by omega⟩
  simp [loop_step_close q hq hm]

/-! ### the shortcut for simple bodies -/

theorem isSimple_backslash (q : Nat) (t : Bytes) : isSimple q (0x5C :: t) = false := by
  unfold isSimple
  simp [decodeRune_ascii 0x5C t (by decide)]

/-- `isSimple` on a unit -/
theorem isSimple_unit (q : Nat) {r : Nat} {orig : Bytes} (hu : GoodUnit r orig) (t : Bytes) :
    isSimple q (orig ++ t) = (!(r == q || r == 0x5C || r == 0 || r == 0xFFFD) && isSimple q t) := by
  have hsur : (decide (0xD800 ≤ r) && decide (r < 0xE000)) = false := by
    have := hu.notSur
    simp only [Bool.and_eq_false_iff, decide_eq_false_iff_not]; omega
  rcases hu with ⟨h1, rfl⟩ | ⟨h1, h2, h3, rfl⟩
  · show isSimple q (r :: t) = _
    rw [isSimple]
    simp only [decodeRune_ascii r t h1, hsur, List.drop_zero, Nat.sub_self]
    cases (r == q || r == 0x5C || r == 0 || r == 0xFFFD) <;> rfl
  · obtain ⟨c, cs, he, _⟩ := encodeRune_cons r h1
    have hd := decodeRune_encodeRune r t h1 h2 h3
    rw [he] at hd ⊢
    replace hd : decodeRune (c :: (cs ++ t)) = (r, (c :: cs).length) := hd
    rw [List.cons_append, isSimple]
    simp only [hd, hsur, List.length_cons, Nat.add_sub_cancel, List.drop_left]
    cases (r == q || r == 0x5C || r == 0 || r == 0xFFFD) <;> rfl

/-- The shortcut of `QuoteInfo.unquote` for simple bodies agrees with the main loop, provided the
body holds no CR (the loop drops a raw CR, the shortcut keeps it) and no LF. -/
theorem isSimple_reads (c : Nat) (hc : c = 0x22 ∨ c = 0x27) (body : Bytes)
    (hs : isSimple c body = true) (hcr : ∀ b ∈ body, b ≠ 10 ∧ b ≠ 13) :
    Reads { char := c, numHash := 0, multiline := false, whitespace := [] } (body ++ [c]) false body := by
  generalize hn : body.length = n
  induction n using Nat.strongRecOn generalizing body with
  | ind n ih =>
  subst hn
  match body with
  | [] => exact Reads.close _ hc rfl
  | b0 :: rest =>
    -- the head of the body as a unit
    obtain ⟨r, orig, t', hu, e⟩ : ∃ r orig t', GoodUnit r orig ∧ b0 :: rest = orig ++ t' := by
      rcases decodeRune_cases b0 rest with ⟨hb, _⟩ | ⟨_, e⟩ | ⟨r, t', h1, h2, h3, e⟩
      · exact ⟨b0, [b0], rest, .inl ⟨hb, rfl⟩, rfl⟩
      · rw [isSimple, e] at hs; simp at hs
      · exact ⟨r, _, t', .inr ⟨h1, h2, h3, rfl⟩, e⟩
    have hlen : 1 ≤ orig.length := hu.encode ▸ encodeRune_ne_nil r
    rw [e] at hs hcr ⊢
    rw [isSimple_unit c hu] at hs
    simp only [Bool.and_eq_true, Bool.not_eq_true', Bool.or_eq_false_iff, beq_eq_false_iff_ne] at hs
    obtain ⟨⟨⟨⟨hrc, hr5c⟩, hr0⟩, _⟩, hs'⟩ := hs
    have hr : r ≠ 10 ∧ r ≠ 13 := by
      rcases hu with ⟨_, rfl⟩ | ⟨h1, _⟩
      · exact hcr r (by simp)
      · omega
    rw [List.append_assoc]
    refine (ih _ ?_ t' hs' (fun b hb => hcr b (List.mem_append_right _ hb)) rfl).step hlen fun fuel buf =>
      step_unit _ hc hu hr0 hr.1 hr.2 _ (fun h => absurd h (not_or.2 ⟨hrc, hr5c⟩)) fuel buf false false
    have := congrArg List.length e
    simp only [List.length_append, List.length_cons] at this ⊢
    omega

/-! ### a single-line literal, any number of hashes -/

/-- s begins with two quote characters and the next byte (if any) is not '#' -/
def startsTwoQuotes (q : Nat) (s : Bytes) : Bool :=
  match s with
  | a :: b :: rest => a == q && b == q && rest.head? != some 0x23
  | _ => false

theorem startsTwoQuotes_of_head {q : Nat} {s : Bytes} (h : s.head? ≠ some q) : startsTwoQuotes q s = false := by
  match s with
  | [] | [_] => rfl
  | a :: b :: r =>
    have : (a == q) = false := by simpa using h
    simp [startsTwoQuotes, this]

theorem hashes_succ (n : Nat) : hashes (n + 1) = 0x23 :: hashes n := List.replicate_succ

theorem hashRun_nil : hashRun [] = 0 := by simp [hashRun]

theorem hashRun_cons_hash (t : Bytes) : hashRun (0x23 :: t) = hashRun t + 1 := by simp [hashRun]

theorem hashRun_cons_ne (a : Nat) (t : Bytes) (h : a ≠ 0x23) : hashRun (a :: t) = 0 := by
  unfold hashRun
  split
  · next heq => simp at heq; omega
  · rfl

theorem hashRun_hashes (h c : Nat) (X : Bytes) (hc : c ≠ 0x23) : hashRun (hashes h ++ c :: X) = h := by
  induction h with
  | zero => simpa [hashes] using hashRun_cons_ne c X hc
  | succ n ih => rw [hashes_succ, List.cons_append, hashRun_cons_hash, ih]

theorem take_hashes (h k : Nat) (X : Bytes) : (hashes h ++ X).take (k + h) = hashes h ++ X.take k := by
  have hl : (hashes h).length = h := by simp [hashes]
  rw [List.take_append, hl, Nat.add_sub_cancel, List.take_of_length_le (by omega)]

theorem reverse_hashes (h : Nat) : (hashes h).reverse = hashes h := by simp [hashes]

theorem not_multi_opener (q : Nat) (hq23 : q ≠ 0x23) (s : Bytes) (h : Nat)
    (h2 : startsTwoQuotes q s = false) :
    (decide ((q :: (s ++ q :: hashes h)).length > 3) && (q :: (s ++ q :: hashes h))[1]? == some q &&
      (q :: (s ++ q :: hashes h))[2]? == some q && (q :: (s ++ q :: hashes h))[3]? != some 0x23) = false := by
  match s with
  | [] =>
    cases h with
    | zero => simp [hashes]
    | succ j =>
      have : ((0x23 : Nat) == q) = false := by simp; omega
      simp [hashes_succ, this]
  | [a] => cases h <;> simp [hashes]
  | a :: b :: [] =>
    simp only [startsTwoQuotes, List.head?_nil] at h2
    have h2' : (a == q && b == q) = false := by simpa using h2
    simp only [Bool.and_eq_false_iff, beq_eq_false_iff_ne] at h2'
    rcases h2' with h | h <;> simp [h]
  | a :: b :: c :: r =>
    simp only [startsTwoQuotes, List.head?_cons] at h2
    simp only [Bool.and_eq_false_iff, beq_eq_false_iff_ne, bne_eq_false_iff_eq] at h2
    rcases h2 with (h | h) | h
    · simp [h]
    · simp [h]
    · simp at h; simp [h]

theorem parseQuotes_hashes (q : Nat) (hq : q = 0x22 ∨ q = 0x27) (s : Bytes) (h : Nat)
    (h2 : startsTwoQuotes q s = false) :
    parseQuotes (hashes h ++ q :: (s ++ q :: hashes h))
      = .ok ({ char := q, numHash := h, multiline := false, whitespace := [] }, 1 + h) := by
  have hq23 : q ≠ 0x23 := by rcases hq with g | g <;> simp [g]
  have hrun := hashRun_hashes h q (s ++ q :: hashes h) hq23
  have hdrop := drop_hashes h (q :: (s ++ q :: hashes h))
  have hmulti := not_multi_opener q hq23 s h h2
  have hc : (q != 0x22 && q != 0x27) = false := by rcases hq with g | g <;> simp [g]
  have htake : (hashes h ++ q :: (s ++ q :: hashes h)).take (1 + h) = hashes h ++ [q] :=
    take_hashes h 1 _
  have hpre : (hashes h ++ [q]).isPrefixOf
      (hashes h ++ q :: (s ++ q :: hashes h)).reverse = true := by
    simp [List.isPrefixOf_iff_prefix, reverse_hashes]
  unfold parseQuotes
  simp only [hrun, hdrop, hc, hmulti, Bool.false_eq_true, if_false, htake, hpre, Bool.not_true,
    Bool.not_false, if_true]

theorem parseQuotes_single (q : Nat) (hq : q = 0x22 ∨ q = 0x27) (body : Bytes)
    (hh : body.head? ≠ some q) :
    parseQuotes (q :: (body ++ [q])) =
      .ok ({ char := q, numHash := 0, multiline := false, whitespace := [] }, 1) :=
  parseQuotes_hashes q hq body 0 (startsTwoQuotes_of_head hh)

/-- What `Unquote` does on a single-line literal `#…#"body"#…#` whose body does not make the
opener look like a multi-line one and holds no line feed: what the main loop reads (the shortcut
for simple bodies agrees with it, `isSimple_reads`). -/
theorem unquote_single (c : Nat) (hc : c = 0x22 ∨ c = 0x27) (h : Nat) (body s : Bytes)
    (h2 : startsTwoQuotes c body = false) (hnl : ∀ b ∈ body, b ≠ 10 ∧ b ≠ 13)
    (hr : Reads { char := c, numHash := h, multiline := false, whitespace := [] }
      (body ++ c :: hashes h) false s) :
    unquote (hashes h ++ c :: (body ++ c :: hashes h)) = .ok s := by
  have hdrop : (hashes h ++ c :: (body ++ c :: hashes h)).drop (1 + h) = body ++ c :: hashes h := by
    rw [Nat.add_comm, ← List.drop_drop, drop_hashes]; rfl
  have hc10 : c ≠ 10 := by rcases hc with g | g <;> simp [g]
  have hnl' : (body ++ c :: hashes h).contains 10 = false := by
    simpa [hashes] using ⟨fun h => (hnl 10 h).1 rfl, hc10.symm⟩
  unfold unquote
  rw [parseQuotes_hashes c hc body h h2]
  simp only [hdrop]
  unfold QuoteInfo.unquote
  simp only [hnl', Bool.and_false, Bool.false_eq_true, if_false, Bool.false_and]
  have hloop := hr.run
  split
  · next hcond =>
    simp only [Bool.and_eq_true, beq_iff_eq] at hcond
    obtain ⟨⟨_, rfl⟩, hs⟩ := hcond
    simp only [hashes, List.replicate, List.dropLast_concat] at hs hloop ⊢
    exact (isSimple_reads c hc body hs hnl).run.symm.trans hloop
  · simpa using hloop

end CueVerif.Quote
