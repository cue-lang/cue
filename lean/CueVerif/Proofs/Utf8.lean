/-
UTF-8 and hex-digit facts about Model/Quote.lean.  A well-formed multi-byte sequence is written
additively, `0xE0 + x, 0x80 + y, 0x80 + z`: decoding and encoding are then visibly inverse and
`omega` meets no truncated subtraction.
-/
import CueVerif.Model.Quote
namespace CueVerif.Quote

theorem decodeRune_ascii (b : Nat) (t : Bytes) (h : b < 0x80) : decodeRune (b :: t) = (b, 1) := by
  simp only [decodeRune, if_pos h]

theorem encodeRune_ascii (r : Nat) (h : r < 0x80) : encodeRune r = [r] := by
  simp only [encodeRune, if_pos h]

theorem decodeRune_two (x y : Nat) (t : Bytes) (hx : 2 ≤ x) (hx' : x < 32) (hy : y < 64) :
    decodeRune ((0xC0 + x) :: (0x80 + y) :: t) = (x * 64 + y, 2) := by
  rw [decodeRune, if_neg (by omega), if_neg (by omega), if_pos (by omega)]
  refine (if_pos ?_).trans (by simp only [Nat.add_sub_cancel_left])
  simp only [isCont, Bool.and_eq_true, decide_eq_true_eq]
  omega

/-- `hlo` excludes overlong forms, `hhi` the surrogates -/
theorem decodeRune_three (x y z : Nat) (t : Bytes) (hx : x < 16) (hy : y < 64) (hz : z < 64)
    (hlo : x = 0 → 32 ≤ y) (hhi : x = 13 → y < 32) :
    decodeRune ((0xE0 + x) :: (0x80 + y) :: (0x80 + z) :: t) = (x * 4096 + y * 64 + z, 3) := by
  rw [decodeRune, if_neg (by omega), if_neg (by omega), if_neg (by omega), if_pos (by omega)]
  refine (if_pos ?_).trans (by simp only [Nat.add_sub_cancel_left])
  simp only [isCont, Bool.and_eq_true, decide_eq_true_eq]
  refine ⟨⟨?_, ?_⟩, by omega⟩ <;> split <;> omega

/-- `hlo` excludes overlong forms, `hhi` values above MaxRune -/
theorem decodeRune_four (x y z w : Nat) (t : Bytes) (hx : x < 5) (hy : y < 64) (hz : z < 64)
    (hw : w < 64) (hlo : x = 0 → 16 ≤ y) (hhi : x = 4 → y < 16) :
    decodeRune ((0xF0 + x) :: (0x80 + y) :: (0x80 + z) :: (0x80 + w) :: t) =
      (x * 262144 + y * 4096 + z * 64 + w, 4) := by
  rw [decodeRune, if_neg (by omega), if_neg (by omega), if_neg (by omega), if_neg (by omega),
    if_pos (by omega)]
  refine (if_pos ?_).trans (by simp only [Nat.add_sub_cancel_left])
  simp only [isCont, Bool.and_eq_true, decide_eq_true_eq]
  refine ⟨⟨⟨?_, ?_⟩, by omega⟩, by omega⟩ <;> split <;> omega

theorem encodeRune_two (x y : Nat) (hx : 2 ≤ x) (hx' : x < 32) (hy : y < 64) :
    encodeRune (x * 64 + y) = [0xC0 + x, 0x80 + y] := by
  rw [encodeRune, if_neg (by omega), if_pos (by omega)]
  congr <;> omega

theorem encodeRune_three (x y z : Nat) (hx : x < 16) (hy : y < 64) (hz : z < 64)
    (hlo : x = 0 → 32 ≤ y) (hhi : x = 13 → y < 32) :
    encodeRune (x * 4096 + y * 64 + z) = [0xE0 + x, 0x80 + y, 0x80 + z] := by
  rw [encodeRune, if_neg (by omega), if_neg (by omega), if_neg, if_pos (by omega)]
  · congr <;> omega
  · simp only [Bool.or_eq_true, Bool.and_eq_true, decide_eq_true_eq]; omega

theorem encodeRune_four (x y z w : Nat) (hx : x < 5) (hy : y < 64) (hz : z < 64) (hw : w < 64)
    (hlo : x = 0 → 16 ≤ y) (hhi : x = 4 → y < 16) :
    encodeRune (x * 262144 + y * 4096 + z * 64 + w) = [0xF0 + x, 0x80 + y, 0x80 + z, 0x80 + w] := by
  rw [encodeRune, if_neg (by omega), if_neg (by omega), if_neg, if_neg (by omega)]
  · congr <;> omega
  · simp only [Bool.or_eq_true, Bool.and_eq_true, decide_eq_true_eq]; omega

theorem decodeRune_encodeRune (r : Nat) (t : Bytes) (h1 : 0x80 ≤ r) (h2 : r ≤ 0x10FFFF)
    (h3 : ¬ (0xD800 ≤ r ∧ r < 0xE000)) :
    decodeRune (encodeRune r ++ t) = (r, (encodeRune r).length) := by
  unfold encodeRune
  split
  · omega
  split
  · refine (decodeRune_two _ _ t (by omega) (by omega) (by omega)).trans ?_
    congr 1; omega
  split
  · rename_i hc
    simp only [Bool.or_eq_true, Bool.and_eq_true, decide_eq_true_eq] at hc
    omega
  split
  · refine (decodeRune_three _ _ _ t (by omega) (by omega) (by omega) (by omega) (by omega)).trans ?_
    congr 1; omega
  · refine (decodeRune_four _ _ _ _ t (by omega) (by omega) (by omega) (by omega) (by omega)
      (by omega)).trans ?_
    congr 1; omega

theorem encodeRune_length (r : Nat) (h1 : 0x80 ≤ r) :
    2 ≤ (encodeRune r).length ∧ (encodeRune r).length ≤ 4 := by
  unfold encodeRune
  rw [if_neg (by omega)]
  repeat' split
  all_goals simp only [List.length_cons, List.length_nil]; omega

theorem encodeRune_bytes_high (r : Nat) (h1 : 0x80 ≤ r) : ∀ b ∈ encodeRune r, 0x80 ≤ b ∧ b < 256 := by
  unfold encodeRune
  rw [if_neg (by omega)]
  repeat' split
  all_goals simp only [List.forall_mem_cons, List.not_mem_nil, false_imp_iff, implies_true, and_true,
    Bool.or_eq_true, Bool.and_eq_true, decide_eq_true_eq] at *
  all_goals omega

theorem encodeRune_cons (r : Nat) (h : 0x80 ≤ r) : ∃ c cs, encodeRune r = c :: cs ∧ 0x80 ≤ c := by
  have hl := encodeRune_length r h
  have hb := encodeRune_bytes_high r h
  match he : encodeRune r with
  | [] => rw [he] at hl; simp at hl
  | c :: cs => exact ⟨c, cs, rfl, (hb c (by rw [he]; simp)).1⟩

theorem encodeRune_FFFD : encodeRune 0xFFFD = [0xEF, 0xBF, 0xBD] := by decide

theorem decodeRune_FFFD (t : Bytes) : decodeRune (0xEF :: 0xBF :: 0xBD :: t) = (0xFFFD, 3) :=
  decodeRune_three 15 63 61 t (by omega) (by omega) (by omega) (by omega) (by omega)

theorem ite_le_imp {c : Prop} [Decidable c] {a b x : Nat} (h : (if c then a else b) ≤ x) :
    (c → a ≤ x) ∧ (¬ c → b ≤ x) := by
  split at h <;> simp [*]

theorem le_ite_imp {c : Prop} [Decidable c] {a b x : Nat} (h : x ≤ if c then a else b) :
    (c → x ≤ a) ∧ (¬ c → x ≤ b) := by
  split at h <;> simp [*]

/-- the one walk through `decodeRune`'s decision tree; the third case is decoded by
`decodeRune_encodeRune` -/
theorem decodeRune_cases (b0 : Nat) (t : Bytes) :
    (b0 < 0x80 ∧ decodeRune (b0 :: t) = (b0, 1)) ∨
    (0x80 ≤ b0 ∧ decodeRune (b0 :: t) = (0xFFFD, 1)) ∨
    ∃ r t', 0x80 ≤ r ∧ r ≤ 0x10FFFF ∧ ¬ (0xD800 ≤ r ∧ r < 0xE000) ∧ b0 :: t = encodeRune r ++ t' := by
  by_cases ha : b0 < 0x80
  · exact .inl ⟨ha, decodeRune_ascii b0 t ha⟩
  refine .inr (Or.imp_left (And.intro (Nat.le_of_not_lt ha)) ?_)
  simp only [decodeRune, Bool.and_eq_true, decide_eq_true_eq, isCont]
  rw [if_neg ha]
  by_cases h2 : b0 < 0xC2
  · rw [if_pos h2]; exact .inl rfl
  rw [if_neg h2]
  by_cases h3 : b0 < 0xE0
  · rw [if_pos h3]
    split
    · split
      · rename_i b1 t' hc
        obtain ⟨x, rfl⟩ := Nat.exists_eq_add_of_le (show 0xC0 ≤ b0 by omega)
        obtain ⟨y, rfl⟩ := Nat.exists_eq_add_of_le hc.1
        refine .inr ⟨x * 64 + y, t', by omega, by omega, by omega, ?_⟩
        rw [encodeRune_two x y (by omega) (by omega) (by omega)]
        rfl
      · exact .inl rfl
    · exact .inl rfl
  rw [if_neg h3]
  by_cases h4 : b0 < 0xF0
  · rw [if_pos h4]
    split
    · rename_i b1 b2 t'
      -- `split` would go for the `if`s inside the test first
      by_cases hc : ((if b0 = 0xE0 then 0xA0 else 0x80) ≤ b1 ∧ b1 ≤ if b0 = 0xED then 0x9F else 0xBF) ∧
          0x80 ≤ b2 ∧ b2 ≤ 0xBF
      · have hlo := ite_le_imp hc.1.1
        have hhi := le_ite_imp hc.1.2
        obtain ⟨x, rfl⟩ := Nat.exists_eq_add_of_le (Nat.le_of_not_lt h3)
        obtain ⟨y, rfl⟩ := Nat.exists_eq_add_of_le (show 0x80 ≤ b1 by omega)
        obtain ⟨z, rfl⟩ := Nat.exists_eq_add_of_le hc.2.1
        refine .inr ⟨x * 4096 + y * 64 + z, t', by omega, by omega, by omega, ?_⟩
        rw [encodeRune_three x y z (by omega) (by omega) (by omega) (by omega) (by omega)]
        rfl
      · rw [if_neg hc]; exact .inl rfl
    · exact .inl rfl
  rw [if_neg h4]
  by_cases h5 : b0 < 0xF5
  · rw [if_pos h5]
    split
    · rename_i b1 b2 b3 t'
      by_cases hc : (((if b0 = 0xF0 then 0x90 else 0x80) ≤ b1 ∧ b1 ≤ if b0 = 0xF4 then 0x8F else 0xBF) ∧
          0x80 ≤ b2 ∧ b2 ≤ 0xBF) ∧ 0x80 ≤ b3 ∧ b3 ≤ 0xBF
      · have hlo := ite_le_imp hc.1.1.1
        have hhi := le_ite_imp hc.1.1.2
        obtain ⟨x, rfl⟩ := Nat.exists_eq_add_of_le (Nat.le_of_not_lt h4)
        obtain ⟨y, rfl⟩ := Nat.exists_eq_add_of_le (show 0x80 ≤ b1 by omega)
        obtain ⟨z, rfl⟩ := Nat.exists_eq_add_of_le hc.1.2.1
        obtain ⟨w, rfl⟩ := Nat.exists_eq_add_of_le hc.2.1
        refine .inr ⟨x * 262144 + y * 4096 + z * 64 + w, t', by omega, by omega, by omega, ?_⟩
        rw [encodeRune_four x y z w (by omega) (by omega) (by omega) (by omega) (by omega) (by omega)]
        rfl
      · rw [if_neg hc]; exact .inl rfl
    · exact .inl rfl
  rw [if_neg h5]; exact .inl rfl

theorem decodeRune_width_pos (b : Nat) (t : Bytes) :
    1 ≤ (decodeRune (b :: t)).2 ∧ (decodeRune (b :: t)).2 ≤ 4 := by
  rcases decodeRune_cases b t with ⟨_, e⟩ | ⟨_, e⟩ | ⟨r, t', h1, h2, h3, e⟩
  · simp [e]
  · simp [e]
  · have := encodeRune_length r h1
    rw [e, decodeRune_encodeRune r t' h1 h2 h3]
    exact ⟨by omega, this.2⟩

theorem decodeRune_width_one (b : Nat) (t : Bytes) (h : (decodeRune (b :: t)).2 = 1) :
    (decodeRune (b :: t)).1 = b ∧ b < 0x80 ∨ (decodeRune (b :: t)).1 = 0xFFFD ∧ 0x80 ≤ b := by
  rcases decodeRune_cases b t with ⟨hb, e⟩ | ⟨hb, e⟩ | ⟨r, t', h1, h2, h3, e⟩
  · rw [e]; exact .inl ⟨rfl, hb⟩
  · rw [e]; exact .inr ⟨rfl, hb⟩
  · have := encodeRune_length r h1
    rw [e, decodeRune_encodeRune r t' h1 h2 h3] at h
    omega

theorem encodeRune_decodeRune (s : Bytes) (h : 2 ≤ (decodeRune s).2) :
    encodeRune (decodeRune s).1 = s.take (decodeRune s).2 ∧ (decodeRune s).2 ≤ s.length ∧
    0x80 ≤ (decodeRune s).1 ∧ (decodeRune s).1 ≤ 0x10FFFF ∧
    ¬ (0xD800 ≤ (decodeRune s).1 ∧ (decodeRune s).1 < 0xE000) := by
  match s with
  | [] => simp [decodeRune] at h
  | b :: t =>
    rcases decodeRune_cases b t with ⟨_, e⟩ | ⟨_, e⟩ | ⟨r, t', h1, h2, h3, e⟩
    · rw [e] at h; omega
    · rw [e] at h; omega
    · rw [e, decodeRune_encodeRune r t' h1 h2 h3]
      exact ⟨List.take_left.symm, by simp, h1, h2, h3⟩

/-! ### hex digits -/

theorem hexDigit_range (d : Nat) (h : d < 16) :
    (48 ≤ hexDigit d ∧ hexDigit d ≤ 57) ∨ (97 ≤ hexDigit d ∧ hexDigit d ≤ 102) := by
  unfold hexDigit
  split <;> omega

theorem hexDigit_bounds (d : Nat) (h : d < 16) : 48 ≤ hexDigit d ∧ hexDigit d < 0x80 := by
  have := hexDigit_range d h
  omega

theorem unhexByte_hexDigit (d : Nat) (h : d < 16) : unhexByte (hexDigit d) = some d := by
  unfold hexDigit unhexByte
  repeat' split
  all_goals simp only [Option.some.injEq, reduceCtorEq]
  all_goals omega

theorem unhexByte_hexDigit_mod (x : Nat) : unhexByte (hexDigit (x % 16)) = some (x % 16) :=
  unhexByte_hexDigit _ (Nat.mod_lt _ (by decide))

theorem hexVal_two (v : Nat) (h : v < 256) :
    hexVal [hexDigit (v / 16 % 16), hexDigit (v % 16)] 0 = some v := by
  simp only [hexVal, unhexByte_hexDigit_mod, Option.some.injEq]
  omega

theorem hexVal_four (r : Nat) (h : r < 65536) :
    hexVal [hexDigit (r / 4096 % 16), hexDigit (r / 256 % 16), hexDigit (r / 16 % 16),
      hexDigit (r % 16)] 0 = some r := by
  simp only [hexVal, unhexByte_hexDigit_mod, Option.some.injEq]
  omega

theorem hexVal_eight (r : Nat) (h : r < 4294967296) :
    hexVal [hexDigit (r / 268435456 % 16), hexDigit (r / 16777216 % 16), hexDigit (r / 1048576 % 16),
      hexDigit (r / 65536 % 16), hexDigit (r / 4096 % 16), hexDigit (r / 256 % 16),
      hexDigit (r / 16 % 16), hexDigit (r % 16)] 0 = some r := by
  simp only [hexVal, unhexByte_hexDigit_mod, Option.some.injEq]
  -- with every divisor written as an iterated division by 16 each quotient is the next one
  -- divided by 16, and `omega` only has to substitute
  simp only [show (268435456 : Nat) = 16 * 16 * 16 * 16 * 16 * 16 * 16 from rfl,
    show (16777216 : Nat) = 16 * 16 * 16 * 16 * 16 * 16 from rfl,
    show (1048576 : Nat) = 16 * 16 * 16 * 16 * 16 from rfl,
    show (65536 : Nat) = 16 * 16 * 16 * 16 from rfl, show (4096 : Nat) = 16 * 16 * 16 from rfl,
    show (256 : Nat) = 16 * 16 from rfl, ← Nat.div_div_eq_div_mul]
  omega

/-- a byte ≥ 0x80 starts a rune ≥ 0x80, and every byte that rune spans is ≥ 0x80 -/
theorem decodeRune_high (c : Nat) (t : Bytes) (h : 0x80 ≤ c) :
    0x80 ≤ (decodeRune (c :: t)).1 ∧ ∀ x ∈ (c :: t).take (decodeRune (c :: t)).2, 0x80 ≤ x := by
  rcases decodeRune_cases c t with ⟨hc, _⟩ | ⟨_, e⟩ | ⟨r, t', h1, h2, h3, e⟩
  · omega
  · rw [e]; exact ⟨by decide, by simpa using h⟩
  · rw [e, decodeRune_encodeRune r t' h1 h2 h3]
    exact ⟨h1, fun x hx => (encodeRune_bytes_high r h1 x (by simpa using hx)).1⟩

end CueVerif.Quote
