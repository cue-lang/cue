import CueVerif.Model.VersionsMax
import CueVerif.Proofs.Semver
/-!
`module.Versions.Max` meets the contract `mvs.Reqs.Max` states, and the comparison mvs derives
from it is: "none" below everything, "" (the main module) above everything, `semver.Compare`
in between, as long as versions that compare equal are equal strings (canonical versions
without build metadata, which `module.NewVersion` enforces).
-/
namespace CueVerif.Semver

theorem versionsMax_mem (a b : Str) : versionsMax a b = a ∨ versionsMax a b = b := by
  unfold versionsMax
  split
  · exact Or.inr rfl
  · split
    · exact Or.inl rfl
    · split
      · exact Or.inl rfl
      · exact Or.inr rfl

/-- "For all versions v, Max(v, "none") must be v" -/
theorem versionsMax_none_right (v : Str) : versionsMax v noneStr = v := by
  unfold versionsMax
  by_cases h : v = noneStr
  · subst h; simp
  · have h2 : noneStr.isEmpty = false := rfl
    simp [h, h2]

theorem versionsMax_none_left (v : Str) : versionsMax noneStr v = v := by
  unfold versionsMax
  simp

/-- "for the target passed as the first argument to MVS functions, Max(target, v) must be
target": the main module has version "" -/
theorem versionsMax_main_left (v : Str) : versionsMax [] v = [] := by
  unfold versionsMax
  by_cases h : v = []
  · subst h; simp
  · have h2 : (([] : Str) == noneStr) = false := rfl
    simp [List.isEmpty_eq_false_iff.mpr h, h2]

theorem versionsMax_main_right (v : Str) : versionsMax v [] = [] := by
  unfold versionsMax
  simp

/-- on ordinary versions `Max` is the maximum under `Compare` (ties: the second argument) -/
theorem versionsMax_ordinary (a b : Str) (ha : a ≠ noneStr) (ha' : a ≠ []) (hb : b ≠ noneStr)
    (hb' : b ≠ []) : versionsMax a b = if compare' a b = .gt then a else b := by
  simp only [versionsMax, beq_eq_false_iff_ne.mpr ha, beq_eq_false_iff_ne.mpr hb,
    List.isEmpty_eq_false_iff.mpr ha', List.isEmpty_eq_false_iff.mpr hb', Bool.or_self,
    Bool.false_eq_true, if_false, beq_iff_eq]

/-- the comparison mvs derives is `semver.Compare` on ordinary versions that are equal
whenever they compare equal -/
theorem mvsCmp_ordinary (a b : Str) (ha : a ≠ noneStr) (ha' : a ≠ []) (hb : b ≠ noneStr)
    (hb' : b ≠ []) (hcanon : compare' a b = .eq → a = b) : mvsCmp a b = compare' a b := by
  unfold mvsCmp
  rw [versionsMax_ordinary a b ha ha' hb hb', versionsMax_ordinary b a hb hb' ha ha']
  have hsw := compare'_swap a b
  have hne : compare' a b ≠ .eq → a ≠ b := fun h e => h (e ▸ compare'_refl a)
  cases hc : compare' a b with
  | lt => simp [(hne (by simp [hc])).symm]
  | eq =>
    rw [hc] at hsw
    have := hcanon hc
    subst this
    simp [hsw]
  | gt =>
    rw [hc] at hsw
    simp [hsw, hne (by simp [hc])]

/-- "none" is below every other version -/
theorem mvsCmp_none (v : Str) (hv : v ≠ noneStr) :
    mvsCmp v noneStr = .gt ∧ mvsCmp noneStr v = .lt := by
  unfold mvsCmp
  rw [versionsMax_none_right, versionsMax_none_left]
  have h1 : (v != noneStr) = true := by simpa using hv
  simp [h1]

/-- the main module's version "" is above every other version -/
theorem mvsCmp_main (v : Str) (hv : v ≠ []) :
    mvsCmp [] v = .gt ∧ mvsCmp v [] = .lt := by
  unfold mvsCmp
  rw [versionsMax_main_left, versionsMax_main_right]
  have h1 : (([] : Str) != v) = true := by
    have : ([] : Str) ≠ v := fun e => hv e.symm
    simpa using this
  simp [h1]

end CueVerif.Semver
