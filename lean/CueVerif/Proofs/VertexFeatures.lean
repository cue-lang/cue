/-
C02 — proofs about the graph construction of `toposort.VertexFeatures`
(Model/VertexFeatures.lean): whatever the struct literals are, the builder ends with distinct
node keys and with edges between nodes, so EVERY presentation `Build` can produce (any
permutation of the keys: Go map iteration) is a well-formed graph, any two of them are
presentations of the same graph, and `Graph.Sort` returns the same order for all of them.
-/
import CueVerif.Proofs.ToposortIndep
import CueVerif.Model.VertexFeatures
namespace CueVerif.Toposort
open CueVerif.Sanitize (Bytes Pos)

/-- the representation invariant of the builder: `nodesByFeature` is a map (distinct keys);
every edge joins two nodes -/
structure B.WF (b : B) : Prop where
  nodup : b.keys.Nodup
  closed : ∀ e ∈ b.edges, e.1 ∈ b.keys ∧ e.2 ∈ b.keys

/-- `b'` is a later state of the builder: the invariant is kept, no node is lost -/
structure Step (b b' : B) : Prop where
  wf : b.WF → b'.WF
  mono : ∀ l ∈ b.keys, l ∈ b'.keys

theorem Step.refl (b : B) : Step b b := ⟨id, fun _ h => h⟩

theorem Step.trans {a b c : B} (h1 : Step a b) (h2 : Step b c) : Step a c :=
  ⟨fun h => h2.wf (h1.wf h), fun l h => h2.mono l (h1.mono l h)⟩

theorem empty_wf : ({} : B).WF := ⟨List.nodup_nil, by intro e he; cases he⟩

theorem ensureNode_keys (b : B) (l : Label) :
    (ensureNode b l).keys = if b.keys.contains l then b.keys else b.keys ++ [l] := by
  unfold ensureNode
  split <;> simp [B.keys]

theorem ensureNode_edges (b : B) (l : Label) : (ensureNode b l).edges = b.edges := by
  unfold ensureNode
  split <;> rfl

theorem ensureNode_mem (b : B) (l : Label) : l ∈ (ensureNode b l).keys := by
  rw [ensureNode_keys]
  split
  · rename_i h; simpa using h
  · simp

/-- the edges play no part in this: `addEdge` records the edge before it ensures the end points -/
theorem ensureNode_nodup {b : B} (l : Label) (h : b.keys.Nodup) : (ensureNode b l).keys.Nodup := by
  rw [ensureNode_keys]
  split
  · exact h
  · rename_i hc
    have hc' : l ∉ b.keys := by simpa using hc
    exact List.nodup_append.mpr ⟨h, by simp, fun a ha c hcm hac =>
      hc' (List.mem_singleton.1 hcm ▸ hac ▸ ha)⟩

theorem ensureNode_mono (b : B) (l x : Label) (hx : x ∈ b.keys) : x ∈ (ensureNode b l).keys := by
  rw [ensureNode_keys]
  split
  · exact hx
  · exact List.mem_append_left _ hx

theorem ensureNode_step (b : B) (l : Label) : Step b (ensureNode b l) :=
  ⟨fun h => ⟨ensureNode_nodup l h.nodup, fun e he =>
      have := h.closed e (ensureNode_edges b l ▸ he)
      ⟨ensureNode_mono b l _ this.1, ensureNode_mono b l _ this.2⟩⟩,
    ensureNode_mono b l⟩

theorem setMeta_keys (b : B) (l : Label) (m : Nat × Bytes) : (setMeta b l m).keys = b.keys := by
  unfold setMeta B.keys
  simp only [List.map_map]
  apply List.map_congr_left
  intro e _
  simp only [Function.comp]
  split <;> rfl

theorem setMeta_step (b : B) (l : Label) (m : Nat × Bytes) : Step b (setMeta b l m) := by
  refine ⟨fun h => ⟨?_, ?_⟩, ?_⟩
  · rw [setMeta_keys]; exact h.nodup
  · intro e he
    rw [setMeta_keys]
    exact h.closed e he
  · intro x hx; rw [setMeta_keys]; exact hx

theorem addEdge_step (b : B) (u v : Label) : Step b (addEdge b u v) := by
  unfold addEdge
  split
  · exact Step.refl b
  · -- the new edge is recorded first, then both end points are ensured
    let b1 : B := { b with edges := b.edges ++ [(u, v)] }
    have hmono : ∀ x ∈ b.keys, x ∈ (ensureNode (ensureNode b1 u) v).keys := fun x hx =>
      ensureNode_mono _ v x (ensureNode_mono b1 u x hx)
    refine ⟨fun h => ⟨ensureNode_nodup v (ensureNode_nodup (b := b1) u h.nodup), ?_⟩, hmono⟩
    intro e he
    rw [ensureNode_edges, ensureNode_edges] at he
    rcases List.mem_append.mp he with he | he
    · exact ⟨hmono _ (h.closed e he).1, hmono _ (h.closed e he).2⟩
    · rw [List.mem_singleton.1 he]
      exact ⟨ensureNode_mono _ v u (ensureNode_mem b1 u), ensureNode_mem _ v⟩

/-- folds whose state carries the builder in the component `p` -/
theorem foldl_step {α σ : Type} (p : σ → B) (f : σ → α → σ) (hf : ∀ st x, Step (p st) (p (f st x))) :
    ∀ (l : List α) (st : σ), Step (p st) (p (l.foldl f st))
  | [], st => Step.refl (p st)
  | x :: xs, st => (hf st x).trans (foldl_step p f hf xs (f st x))

theorem addDecl_step (r : Root) (explicit : Bool) (st : B × List Label) (l : Label) :
    Step st.1 (addDecl r explicit st l).1 := by
  obtain ⟨b, previous⟩ := st
  have hadd : Step b ((previous.foldl (fun b p => addEdge b p l)
      (setMeta (ensureNode b l) l (r.id, r.pos.filename)))) :=
    ((ensureNode_step b l).trans (setMeta_step _ l _)).trans
      (foldl_step id (fun b p => addEdge b p l) (fun b p => addEdge_step b p l) previous _)
  unfold addDecl
  simp only
  split
  · split
    · exact Step.refl b
    · split
      · exact Step.refl b
      · exact hadd
  · exact hadd

theorem addEdges_step (b : B) (previous : List Label) (r : Root) (explicit : Bool) :
    Step b (addEdges b previous r explicit).1 :=
  foldl_step Prod.fst (addDecl r explicit) (addDecl_step r explicit) r.labels (b, previous)

theorem runBatch_step (b : B) (previous : List Label) (explicit : Bool) (batch : List Root) :
    Step b (runBatch b previous explicit batch).1 :=
  foldl_step Prod.fst (fun (acc : B × List Label) root =>
      ((addEdges acc.1 previous root explicit).1, acc.2 ++ (addEdges acc.1 previous root explicit).2))
    (fun acc root => addEdges_step acc.1 previous root explicit) batch (b, [])

theorem stepBatch_step (st : BS) (batch : List Root) : Step st.b (stepBatch st batch).b :=
  runBatch_step st.b _ _ batch

theorem runBatches_step (b : B) (batches : List (List Root)) : Step b (runBatches b batches) :=
  foldl_step BS.b stepBatch stepBatch_step batches { b := b }

theorem buildVF_wf (S : SortFn) (arcs : List Label) (roots : List Root) : (buildVF S arcs roots).WF := by
  unfold buildVF
  exact (runBatches_step _ _).wf ((foldl_step id ensureNode ensureNode_step arcs {}).wf empty_wf)

theorem buildVF_arcs (S : SortFn) (arcs : List Label) (roots : List Root) :
    ∀ a ∈ arcs, a ∈ (buildVF S arcs roots).keys := by
  intro a ha
  unfold buildVF
  refine (runBatches_step _ _).mono a ?_
  -- `a` is a key once it has been ensured, and stays one for the rest of the fold
  obtain ⟨l1, l2, rfl⟩ := List.append_of_mem ha
  rw [List.foldl_append, List.foldl_cons]
  exact (foldl_step id ensureNode ensureNode_step l2 _).mono a (ensureNode_mem _ a)

theorem out_mem_edges (b : B) (u v : Label) : v ∈ b.out u ↔ (u, v) ∈ b.edges := by
  unfold B.out
  simp only [List.mem_map, List.mem_filter, beq_iff_eq]
  constructor
  · rintro ⟨e, ⟨he, h1⟩, h2⟩
    obtain ⟨a, c⟩ := e
    simp only at h1 h2
    subst h1; subst h2; exact he
  · intro h; exact ⟨(u, v), ⟨h, rfl⟩, rfl⟩

theorem graph_wf (b : B) (h : b.WF) (ns : List Label) (hp : ns.Perm b.keys) : (b.graph ns).WF := by
  refine ⟨hp.nodup_iff.mpr h.nodup, ?_⟩
  intro u _ v hv
  have := (out_mem_edges b u v).mp hv
  exact hp.symm.subset (h.closed _ this).2

theorem graph_same (b : B) (ns ns' : List Label) (hp : ns.Perm b.keys) (hp' : ns'.Perm b.keys) :
    (b.graph ns).Same (b.graph ns') :=
  ⟨hp.trans hp'.symm, fun _ _ => Iff.rfl⟩

/-- `VertexFeatures`: the order of the fields is the same for every presentation of the graph
that `Build` can produce (every order of Go's map iteration), every conforming sort, every
component list meeting the SCC contract. -/
theorem vertexFeatures_indep (S0 S S' : SortFn) (hS : S.Contract) (hS' : S'.Contract)
    (arcs : List Label) (roots : List Root) (ns ns' : List Label) (comps comps' : List Comp)
    (hp : ns.Perm (buildVF S0 arcs roots).keys) (hp' : ns'.Perm (buildVF S0 arcs roots).keys)
    (hc : IsSCC ((buildVF S0 arcs roots).graph ns) comps)
    (hc' : IsSCC ((buildVF S0 arcs roots).graph ns') comps') :
    sortWith true S ((buildVF S0 arcs roots).graph ns) comps
      = sortWith true S' ((buildVF S0 arcs roots).graph ns') comps' :=
  perm_fixed S S' hS hS' _ _ comps comps'
    (graph_wf _ (buildVF_wf S0 arcs roots) ns hp) (graph_wf _ (buildVF_wf S0 arcs roots) ns' hp')
    (graph_same _ ns ns' hp hp') hc hc'

/-- … and it is a permutation of the builder's node set (which contains every arc: `buildVF_arcs`),
never the `sccReady[0]` panic -/
theorem vertexFeatures_ok (S0 S : SortFn) (hS : S.Contract)
    (arcs : List Label) (roots : List Root) (ns : List Label) (comps : List Comp)
    (hp : ns.Perm (buildVF S0 arcs roots).keys)
    (hc : IsSCC ((buildVF S0 arcs roots).graph ns) comps) :
    ∃ l, sortWith true S ((buildVF S0 arcs roots).graph ns) comps = .ok l ∧
      l.Perm (buildVF S0 arcs roots).keys := by
  obtain ⟨l, h1, h2⟩ := sortWith_ok true S hS _ comps (graph_wf _ (buildVF_wf S0 arcs roots) ns hp) hc
  exact ⟨l, h1, h2.trans hp⟩

/-! ### `VertexFeatures` end to end -/

/-- `VertexFeatures` end to end: the same field order for every order in which `Build` may
list the nodes (Go map iteration) and every conforming sort used by `Graph.Sort` -/
theorem vertexFeatures_sortG_indep (S0 S S' : SortFn) (hS : S.Contract) (hS' : S'.Contract)
    (arcs : List Label) (roots : List Root) (ns ns' : List Label)
    (hp : ns.Perm (buildVF S0 arcs roots).keys) (hp' : ns'.Perm (buildVF S0 arcs roots).keys) :
    sortG true S ((buildVF S0 arcs roots).graph ns) = sortG true S' ((buildVF S0 arcs roots).graph ns') :=
  sortG_indep S S' hS hS' _ _
    (graph_wf _ (buildVF_wf S0 arcs roots) ns hp) (graph_wf _ (buildVF_wf S0 arcs roots) ns' hp')
    (graph_same _ ns ns' hp hp')

theorem vertexFeatures_sortG_ok (S0 S : SortFn) (hS : S.Contract)
    (arcs : List Label) (roots : List Root) (ns : List Label)
    (hp : ns.Perm (buildVF S0 arcs roots).keys) :
    ∃ l, sortG true S ((buildVF S0 arcs roots).graph ns) = .ok l ∧ l.Perm (buildVF S0 arcs roots).keys := by
  obtain ⟨l, h1, h2⟩ := sortG_ok S hS _ (graph_wf _ (buildVF_wf S0 arcs roots) ns hp)
  exact ⟨l, h1, h2.trans hp⟩

end CueVerif.Toposort
