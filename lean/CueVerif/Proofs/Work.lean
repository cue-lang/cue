/-
Proofs about the runner protocol model of `CueVerif/Model/Work.lean`
(/repo/internal/par/work.go): when some runner has returned the work list is empty and
every other runner has returned or is about to (`return_safe`); the only states without
an enabled step are the ones where every runner has returned (`no_deadlock`).
Core Lean only.
-/
import CueVerif.Model.Work

namespace CueVerif.Work

/-- phases that are counted in `w.waiting` -/
def isW : Phase → Bool
  | .sleeping => true
  | .woken => true
  | .done => true
  | _ => false

/-! ### list helpers -/

theorem countP_set_of {p : Phase → Bool} {l : List Phase} {i : Nat} {q : Phase} (a : Phase)
    (h : l[i]? = some q) :
    List.countP p (l.set i a) + (if p q then 1 else 0)
      = List.countP p l + (if p a then 1 else 0) := by
  obtain ⟨hi, rfl⟩ := List.getElem?_eq_some_iff.mp h
  rw [List.countP_set hi]
  split
  · have := List.countP_pos_iff.mpr ⟨l[i], List.getElem_mem hi, ‹_›⟩
    omega
  · omega

theorem not_done_mem_set {X : List Phase} {i : Nat} {a : Phase} (hX : Phase.done ∉ X)
    (ha : a ≠ .done) : Phase.done ∉ X.set i a := fun hd =>
  (List.mem_or_eq_of_mem_set hd).elim hX fun h => ha h.symm

/-! ### broadcast -/

theorem countP_broadcast (l : List Phase) : List.countP isW (broadcast l) = List.countP isW l := by
  rw [broadcast, List.countP_map]
  congr 1
  funext p
  cases p <;> rfl

theorem getElem?_broadcast {l : List Phase} {i : Nat} {q : Phase} (h : l[i]? = some q)
    (hq : q ≠ .sleeping) : (broadcast l)[i]? = some q := by
  simp [broadcast, h, hq]

theorem ne_sleeping_of_mem_broadcast {l : List Phase} {p : Phase} (h : p ∈ broadcast l) :
    p ≠ .sleeping := by
  obtain ⟨a, _, rfl⟩ := List.mem_map.mp h
  split
  · nofun
  · assumption

/-! ### signal -/

/-- all that is used of `Signal`: it does nothing or wakes one parked runner -/
theorem signal_cases (l : List Phase) :
    signal l = l ∨ ∃ j, l[j]? = some .sleeping ∧ signal l = l.set j .woken := by
  induction l with
  | nil => exact .inl rfl
  | cons x xs ih =>
    by_cases hx : x = .sleeping
    · exact .inr ⟨0, by simp [hx], by simp [signal, hx]⟩
    · rcases ih with h | ⟨j, hj, h⟩
      · exact .inl (by simp [signal, hx, h])
      · exact .inr ⟨j + 1, by simpa using hj, by simp [signal, hx, h]⟩

theorem length_signal (l : List Phase) : (signal l).length = l.length := by
  rcases signal_cases l with h | ⟨j, _, h⟩ <;> simp [h]

theorem countP_signal (l : List Phase) : List.countP isW (signal l) = List.countP isW l := by
  rcases signal_cases l with h | ⟨j, hj, h⟩
  · rw [h]
  · rw [h]
    simpa [isW] using countP_set_of (p := isW) .woken hj

theorem getElem?_signal {l : List Phase} {i : Nat} {q : Phase} (h : l[i]? = some q)
    (hq : q ≠ .sleeping) : (signal l)[i]? = some q := by
  rcases signal_cases l with e | ⟨j, hj, e⟩
  · rw [e]; exact h
  · have hji : j ≠ i := fun e' => hq (Option.some.inj (h.symm.trans (e' ▸ hj)))
    rw [e, List.getElem?_set_ne hji]; exact h

theorem mem_signal {l : List Phase} {p : Phase} (h : p ∈ signal l) : p ∈ l ∨ p = .woken := by
  rcases signal_cases l with e | ⟨j, _, e⟩ <;> rw [e] at h
  · exact .inl h
  · exact List.mem_or_eq_of_mem_set h

/-! ### the invariant -/

structure Inv (s : St) : Prop where
  /-- `waiting` counts the runners between `waiting++` and the matching `waiting--`
  (or that returned after `waiting++`) -/
  cnt : s.waiting = List.countP isW s.phases
  /-- while nobody has returned, not every runner is waiting -/
  lt : Phase.done ∉ s.phases → 0 < s.phases.length → s.waiting < s.phases.length
  /-- once somebody has returned there is nothing left to do and nobody works or sleeps -/
  fin : Phase.done ∈ s.phases → s.todo = 0 ∧ ∀ p ∈ s.phases, p = .done ∨ p = .woken

theorem inv_init (n m : Nat) : Inv (init n m) := by
  refine ⟨?_, ?_, ?_⟩
  · simp [init, List.countP_replicate, isW]
  · intro _ h; simpa [init] using h
  · intro h
    simp [init, List.mem_replicate] at h

/-- the part of the loop from the test `len(w.todo) == 0` on, entered by a runner whose
own `waiting` contribution is not counted -/
theorem inv_enter {s : St} {i : Nat} {q : Phase} (hi : s.phases[i]? = some q)
    (hq : q = .idle ∨ q = .woken) (h0 : s.todo = 0)
    (hW : s.waiting + (if isW q then 1 else 0) = List.countP isW s.phases)
    (hB : Phase.done ∈ s.phases → ∀ p ∈ s.phases, p = .done ∨ p = .woken) :
    Inv (enter s i) := by
  have hil : i < s.phases.length := (List.getElem?_eq_some_iff.mp hi).1
  have hqs : q ≠ .sleeping := by rcases hq with h | h <;> simp [h]
  unfold enter
  simp only [h0, if_true]
  by_cases hw : s.waiting + 1 = s.phases.length
  · simp only [hw, if_true]
    have hc := countP_set_of (p := isW) .done (getElem?_broadcast hi hqs)
    rw [countP_broadcast] at hc
    have hcnt : s.phases.length = List.countP isW ((broadcast s.phases).set i .done) := by
      simp only [show isW Phase.done = true from rfl, if_true] at hc
      omega
    refine ⟨hcnt, ?_, ?_⟩
    · intro hnd
      exact absurd (List.mem_set (by rw [broadcast, List.length_map]; exact hil) _) hnd
    · intro _
      refine ⟨rfl, ?_⟩
      intro p hp
      have hpW := List.countP_eq_length.mp
        (hcnt.symm.trans (by rw [List.length_set, broadcast, List.length_map])) p hp
      have hps : p = .done ∨ p ≠ .sleeping := by
        rcases List.mem_or_eq_of_mem_set hp with h | h
        · exact .inr (ne_sleeping_of_mem_broadcast h)
        · exact .inl h
      cases p with
      | done => exact .inl rfl
      | woken => exact .inr rfl
      | sleeping => exact hps.elim (fun h => nomatch h) (absurd rfl)
      | idle => exact absurd hpW Bool.false_ne_true
      | working k => exact absurd hpW Bool.false_ne_true
  · simp only [hw, if_false]
    have hc := countP_set_of (p := isW) .sleeping hi
    have hcnt : s.waiting + 1 = List.countP isW (s.phases.set i .sleeping) := by
      simp only [show isW Phase.sleeping = true from rfl, if_true] at hc
      omega
    have hnd : Phase.done ∉ s.phases := by
      intro hd
      have hall := hB hd
      have hlen : List.countP isW s.phases = s.phases.length :=
        List.countP_eq_length.mpr (by
          intro a ha
          rcases hall a ha with h | h <;> simp [h, isW])
      rcases hq with h | h
      · have := hall q (List.mem_of_getElem? hi)
        simp [h] at this
      · subst h
        simp [isW] at hW
        omega
    refine ⟨hcnt, ?_, ?_⟩
    · intro _ _
      have := List.countP_le_length (p := isW) (l := s.phases.set i .sleeping)
      simp only [List.length_set] at this ⊢
      show s.waiting + 1 < s.phases.length
      omega
    · exact fun hd => absurd hd (not_done_mem_set hnd (by simp))

/-- a step that rewrites slot `i` of a list `X` (the phases, possibly after a `Signal`)
with a phase that is not `done`, while nobody has returned -/
theorem inv_set {s : St} {X : List Phase} {i : Nat} {q a : Phase} {t w : Nat}
    (hX : X[i]? = some q) (ha : a ≠ .done)
    (hlen : X.length = s.phases.length)
    (hXd : Phase.done ∉ X)
    (hcnt : w + (if isW q then 1 else 0) = s.waiting + (if isW a then 1 else 0))
    (hXc : List.countP isW X = List.countP isW s.phases)
    (hnd : Phase.done ∉ s.phases)
    (hs : Inv s) (hw : w ≤ s.waiting) :
    Inv { todo := t, waiting := w, phases := X.set i a } := by
  have hc := countP_set_of (p := isW) a hX
  have hil : i < X.length := (List.getElem?_eq_some_iff.mp hX).1
  refine ⟨?_, ?_, ?_⟩
  · show w = List.countP isW (X.set i a)
    have := hs.cnt
    omega
  · intro _ _
    have := hs.lt hnd (by omega)
    show w < (X.set i a).length
    rw [List.length_set]
    omega
  · exact fun hd => absurd hd (not_done_mem_set hXd ha)

theorem Inv.not_done_of_working {s : St} (hs : Inv s) {i k : Nat}
    (h : s.phases[i]? = some (.working k)) : Phase.done ∉ s.phases := fun hd => by
  have := (hs.fin hd).2 _ (List.mem_of_getElem? h)
  simp at this

theorem Inv.waiting_pos {s : St} (hs : Inv s) {i : Nat} {q : Phase}
    (h : s.phases[i]? = some q) (hq : isW q = true) : 0 < s.waiting := by
  rw [hs.cnt]
  exact List.countP_pos_iff.mpr ⟨q, List.mem_of_getElem? h, hq⟩

theorem inv_step {s t : St} (hs : Inv s) (h : Step s t) : Inv t := by
  cases h with
  | idleEmpty i h h0 =>
    refine inv_enter h (.inl rfl) h0 ?_ (fun hd => (hs.fin hd).2)
    simpa [isW] using hs.cnt
  | wokenEmpty i h h0 =>
    have := hs.waiting_pos h rfl
    have := hs.cnt
    refine inv_enter (s := { s with waiting := s.waiting - 1 }) h (.inr rfl) h0 ?_
      (fun hd => (hs.fin hd).2)
    simp [isW]
    omega
  | idleTake i k h h0 =>
    have hnd : Phase.done ∉ s.phases := fun hd => h0 (hs.fin hd).1
    exact inv_set h (by simp) rfl hnd (by simp [isW]) rfl hnd hs (Nat.le_refl _)
  | wokenTake i k h h0 =>
    have hnd : Phase.done ∉ s.phases := fun hd => h0 (hs.fin hd).1
    have := hs.waiting_pos h rfl
    refine inv_set h (by simp) rfl hnd ?_ rfl hnd hs (Nat.sub_le _ _)
    simp [isW]
    omega
  | add i k h =>
    have hnd := hs.not_done_of_working h
    by_cases hw : s.waiting > 0
    · simp only [hw, if_true]
      refine inv_set (getElem?_signal h (by simp)) (by simp) (length_signal _) ?_
        (by simp [isW]) (countP_signal _) hnd hs (Nat.le_refl _)
      intro hd
      rcases mem_signal hd with h' | h'
      · exact hnd h'
      · cases h'
    · simp only [hw, if_false]
      exact inv_set h (by simp) rfl hnd (by simp [isW]) rfl hnd hs (Nat.le_refl _)
  | finish i h =>
    have hnd := hs.not_done_of_working h
    exact inv_set h (by simp) rfl hnd (by simp [isW]) rfl hnd hs (Nat.le_refl _)

theorem length_enter (s : St) (i : Nat) : (enter s i).phases.length = s.phases.length := by
  unfold enter
  split
  · simp only
    split <;> simp [broadcast]
  · rfl

theorem length_step {s t : St} (h : Step s t) : t.phases.length = s.phases.length := by
  cases h with
  | idleEmpty i h h0 => exact length_enter s i
  | wokenEmpty i h h0 => exact length_enter _ i
  | idleTake i k h h0 => simp
  | wokenTake i k h h0 => simp
  | add i k h =>
    simp only [List.length_set]
    split
    · exact length_signal _
    · rfl
  | finish i h => simp

theorem run_inv {n m : Nat} {s : St} (h : Run n m s) : Inv s ∧ s.phases.length = n := by
  induction h with
  | init => exact ⟨inv_init n m, by simp [init]⟩
  | step _ hst ih => exact ⟨inv_step ih.1 hst, by rw [length_step hst]; exact ih.2⟩

/-- When some runner has returned from `runner`, the work list is empty and every other
runner has returned or has been woken by the final Broadcast (and will return, see
`no_deadlock`): nobody is still running `f`, nobody is parked. -/
theorem return_safe (n m : Nat) (s : St) (h : Run n m s) (hd : Phase.done ∈ s.phases) :
    s.todo = 0 ∧ ∀ p ∈ s.phases, p = .done ∨ p = .woken :=
  (run_inv h).1.fin hd

/-- every runner that is not parked and has not returned has an enabled step -/
theorem stuck_phases {s : St} (hs : Stuck s) : ∀ p ∈ s.phases, p = .sleeping ∨ p = .done := by
  intro p hp
  obtain ⟨i, hi⟩ := List.mem_iff_getElem?.mp hp
  cases p with
  | sleeping => exact .inl rfl
  | done => exact .inr rfl
  | idle =>
    by_cases h0 : s.todo = 0
    · exact absurd (Step.idleEmpty s i hi h0) (hs _)
    · exact absurd (Step.idleTake s i 0 hi h0) (hs _)
  | woken =>
    by_cases h0 : s.todo = 0
    · exact absurd (Step.wokenEmpty s i hi h0) (hs _)
    · exact absurd (Step.wokenTake s i 0 hi h0) (hs _)
  | working k =>
    cases k with
    | zero => exact absurd (Step.finish s i hi) (hs _)
    | succ k => exact absurd (Step.add s i k hi) (hs _)

/-- The protocol cannot deadlock: a reachable state (with at least one runner) in which no
step is enabled is one where every runner has returned, with an empty work list. -/
theorem no_deadlock (n m : Nat) (s : St) (h : Run n m s) (hn : 0 < n) (hs : Stuck s) :
    (∀ p ∈ s.phases, p = .done) ∧ s.todo = 0 := by
  obtain ⟨hinv, hlen⟩ := run_inv h
  have hsd := stuck_phases hs
  by_cases hd : Phase.done ∈ s.phases
  · obtain ⟨h0, hall⟩ := hinv.fin hd
    refine ⟨fun p hp => ?_, h0⟩
    rcases hsd p hp with rfl | h1
    · exact (hall _ hp).elim id nofun
    · exact h1
  · exfalso
    have hcl : List.countP isW s.phases = s.phases.length :=
      List.countP_eq_length.mpr (by
        intro a ha
        rcases hsd a ha with h1 | h1 <;> simp [h1, isW])
    have := hinv.lt hd (by omega)
    have := hinv.cnt
    omega

end CueVerif.Work
