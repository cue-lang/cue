/-
C11 — scalars: which style the encoder decides on (what is left plain is read back as the same
string; numbers, dates, the implicit spellings, what needs escaping are quoted) and that the two
quoted forms read back (core Lean only).
-/
import CueVerif.Spec.Yaml
import CueVerif.Model.YamlEmit
import CueVerif.Proofs.YamlRe
import CueVerif.Proofs.YamlBlock
namespace CueVerif.Yaml
open CueVerif.Quote (Bytes)

/-- `shouldQuoteCore` as one disjunction: the byte pre-filter in front of the two regexps never
changes their verdict -/
theorem shouldQuoteCore_eq (lx : Lex) (s : Bytes) : shouldQuoteCore lx s =
    (s.isEmpty || legacyStrings.contains s || (reUseQuote.matches s || reAnyOctal.matches s) ||
      decodesAsNonString lx s || s.contains 9) := by
  cases s with
  | nil => rfl
  | cons c t =>
    have hm : (regexpStarts.contains c && (reUseQuote.matches (c :: t) || reAnyOctal.matches (c :: t))) =
        (reUseQuote.matches (c :: t) || reAnyOctal.matches (c :: t)) :=
      Bool.and_eq_right_iff_imp.mpr fun h =>
        ((Bool.or_eq_true _ _).mp h).elim (useQuote_first c t) (anyOctal_first c t)
    simp only [shouldQuoteCore, hm, Bool.if_true_left, Bool.decide_eq_true, Bool.or_assoc,
      List.isEmpty_cons, Bool.false_or]

theorem decodesAsNonString_eq (lx : Lex) (s : Bytes) : decodesAsNonString lx s =
    (startsNonString s && lx.single &&
      (lx.ty.nonString || (lx.ty == .str && lx.same && ((specialFloat s).isSome || numberKind s != .illegal)))) := by
  cases s with
  | nil => rfl
  | cons c t =>
    simp only [decodesAsNonString, startsNonString]
    cases nonStringStarts.contains c
    · rfl
    cases lx.single
    · rfl
    simp only [Bool.not_true, Bool.false_eq_true, if_false, Bool.true_and]
    split
    · rename_i hstr
      rw [hstr]
      cases lx.same <;> simp [Tok.nonString]
    · rename_i hne
      have : (lx.ty == .str) = false := by simpa using hne
      simp [this]

theorem shouldQuoteCore_of_legacy (lx : Lex) (s : Bytes) (h : legacyStrings.contains s = true) :
    shouldQuoteCore lx s = true := by
  rw [shouldQuoteCore_eq, h]; simp

theorem shouldQuoteCore_of_nonString (lx : Lex) (s : Bytes) (h : decodesAsNonString lx s = true) :
    shouldQuoteCore lx s = true := by
  simp [shouldQuoteCore_eq, h]

theorem shouldQuoteCore_of_regexp (lx : Lex) (s : Bytes)
    (h : reUseQuote.matches s = true ∨ reAnyOctal.matches s = true) : shouldQuoteCore lx s = true := by
  simp [shouldQuoteCore_eq, (Bool.or_eq_true _ _).mpr h]

theorem not_nonString_of_not_quoted (lx : Lex) (s : Bytes) (h : shouldQuoteCore lx s = false) :
    s ≠ [] ∧ decodesAsNonString lx s = false := by
  simp only [shouldQuoteCore_eq, Bool.or_eq_false_iff, List.isEmpty_eq_false_iff] at h
  exact ⟨h.1.1.1.1, h.1.2⟩

/-! ### plain ⇒ handed to the library, unquoted by both tests -/

theorem lib_of_plain (d : Decision) (libq : Bool) (h : d.visible libq = .plain) : d = .lib ∧ libq = false := by
  cases d <;> cases libq <;> simp_all [Decision.visible]

theorem quoteScalar_lib (P : IsPrint) (lx : Lex) (s : Bytes) (h : quoteScalar P lx s = .lib) :
    needsSingleQuoting s = false ∧ shouldQuoteCore lx s = false := by
  unfold quoteScalar at h
  split at h
  · cases h
  · split at h
    · cases h
    · rename_i h2
      simp only [shouldQuote, Bool.or_eq_true, not_or, Bool.not_eq_true] at h2
      exact ⟨h2.2, h2.1.1⟩

theorem valueDecision_lib (P : IsPrint) (lx : Lex) (s : Bytes) (multi : Bool)
    (h : valueDecision P lx s multi = .lib) : quoteScalar P lx s = .lib := by
  unfold valueDecision at h
  split at h
  · split at h <;> cases h
  · split at h
    · cases h
    · exact h

theorem keyDecision_lib (P : IsPrint) (lx : Lex) (s : Bytes) (h : keyDecision P lx s = .lib) :
    quoteScalar P lx s = .lib := by
  unfold keyDecision at h
  split at h
  · rename_i heq; exact heq
  · rename_i d hd; exact absurd h hd

theorem plain_value (P : IsPrint) (lx : Lex) (libq : Bool) (s : Bytes) (multi : Bool)
    (h : valueStyle P lx libq s multi = .plain) :
    libq = false ∧ needsSingleQuoting s = false ∧ shouldQuoteCore lx s = false :=
  have ⟨hd, hl⟩ := lib_of_plain _ _ h
  ⟨hl, quoteScalar_lib P lx s (valueDecision_lib P lx s multi hd)⟩

theorem plain_key (P : IsPrint) (lx : Lex) (libq : Bool) (s : Bytes) (h : keyStyle P lx libq s = .plain) :
    libq = false ∧ needsSingleQuoting s = false ∧ shouldQuoteCore lx s = false :=
  have ⟨hd, hl⟩ := lib_of_plain _ _ h
  ⟨hl, quoteScalar_lib P lx s (keyDecision_lib P lx s hd)⟩

theorem quoted_of (lx : Lex) (s : Bytes) (h : needsSingleQuoting s = true ∨ shouldQuoteCore lx s = true) :
    Quoted lx s := by
  intro P libq multi
  constructor <;> intro hp
  · obtain ⟨_, h1, h2⟩ := plain_value P lx libq s multi hp
    rw [h1, h2] at h; simp at h
  · obtain ⟨_, h1, h2⟩ := plain_key P lx libq s hp
    rw [h1, h2] at h; simp at h

theorem boolWords_legacy : boolWords.all legacyStrings.contains = true := by decide +kernel

/-- every implicit bool spelling is a legacy string, which is quoted before the lexer is asked -/
theorem boolWords_quoted (s : Bytes) (hs : s ∈ boolWords) (lx : Lex) : shouldQuoteCore lx s = true :=
  shouldQuoteCore_of_legacy lx s (List.all_eq_true.mp boolWords_legacy s hs)

theorem specialFloats_start : specialFloats.all (fun p => startsNonString p.1) = true := by decide +kernel

theorem specialFloat_start (s : Bytes) (h : (specialFloat s).isSome = true) : startsNonString s = true := by
  unfold specialFloat at h
  rw [Option.isSome_map] at h
  obtain ⟨p, hp⟩ := Option.isSome_iff_exists.mp h
  have heq : p.1 = s := by simpa using List.find?_some hp
  rw [← heq]
  exact List.all_eq_true.mp specialFloats_start p (List.mem_of_find?_eq_some hp)

/-- `<<` needs single quotes; every other spelling passes the byte filter and has a non-string
core type -/
theorem coreWords_table : coreWords.all (fun s =>
    needsSingleQuoting s || (startsNonString s && (coreTok s).nonString)) = true := by decide +kernel

theorem coreWords_quoted (s : Bytes) (hs : s ∈ coreWords) (lx : Lex) (h : CoreTyped lx s) :
    needsSingleQuoting s = true ∨ shouldQuoteCore lx s = true := by
  have ht := List.all_eq_true.mp coreWords_table s hs
  simp only [Bool.or_eq_true, Bool.and_eq_true] at ht
  refine ht.imp id fun ⟨hstart, hcore⟩ => shouldQuoteCore_of_nonString lx s ?_
  obtain ⟨h1, h4 | ⟨h4, h5, h6⟩⟩ := h
  · simp [decodesAsNonString_eq, hstart, h1, h4, hcore]
  · simp [decodesAsNonString_eq, hstart, h1, h4, h5, h6]

/-! ### plain ⇒ string -/

theorem decodeScalar_str (s : Bytes) (h1 : specialFloat s = none) (h2 : numberKind s = .illegal) :
    decodeScalar .str s = .str s := by
  simp [decodeScalar, h1, h2]

/-- the heart: a string that the in-repo decision does not quote and that the lexer hands to
the decoder as one scalar token with the same text is classified as that string.  Behind the
byte filter the encoder has asked the lexer and the tables itself; in front of it neither a
special float nor a number can begin. -/
theorem decode_str_of_not_quoted (lx : Lex) (s : Bytes)
    (hsingle : lx.single = true) (hsame : lx.same = true)
    (hty : lx.ty = .str ∨ lx.ty.nonString = true)
    (hstart : ∀ c t, s = c :: t → nonStringStarts.contains c = false → lx.same = true →
      lx.ty.nonString = false)
    (hq : shouldQuoteCore lx s = false) : decodeScalar lx.ty s = .str s := by
  obtain ⟨hne, hd⟩ := not_nonString_of_not_quoted lx s hq
  have key : lx.ty.nonString = false ∧ (specialFloat s).isSome = false ∧ numberKind s = .illegal := by
    cases hc : startsNonString s with
    | true =>
      rcases hty with hty | hty
      · simpa [decodesAsNonString_eq, hc, hsingle, hsame, hty, Tok.nonString] using hd
      · simp [decodesAsNonString_eq, hc, hsingle, hty] at hd
    | false =>
      refine ⟨?_, ?_, ?_⟩
      · cases s with
        | nil => exact absurd rfl hne
        | cons c t => exact hstart c t rfl hc hsame
      · exact Bool.eq_false_iff.mpr fun hsf => by rw [specialFloat_start s hsf] at hc; cases hc
      · exact Decidable.byContradiction fun hnk => by rw [numberKind_start s hnk] at hc; cases hc
  obtain ⟨h1, h2, h3⟩ := key
  have hstr : lx.ty = .str := hty.resolve_right (by rw [h1]; simp)
  rw [hstr]
  exact decodeScalar_str s (by simpa using h2) h3

theorem shouldQuoteCore_of_number (lx : Lex) (s : Bytes) (hn : numberKind s ≠ .illegal) (hl : LexScalar lx) :
    shouldQuoteCore lx s = true := by
  apply shouldQuoteCore_of_nonString
  obtain ⟨hs, hty | ⟨hty, hsame⟩⟩ := hl
  · simp [decodesAsNonString_eq, numberKind_start s hn, hs, hty]
  · simp [decodesAsNonString_eq, numberKind_start s hn, hs, hty, hsame, hn]

/-! ### single quotes and the library never see what needs escaping -/

theorem quoteScalar_single (P : IsPrint) (lx : Lex) (s : Bytes) (h : quoteScalar P lx s = .single) :
    yamlUnprintable P s = false ∧ s.contains 10 = false := by
  unfold quoteScalar at h
  split at h
  · rename_i hc
    simp only [Bool.and_eq_true, Bool.not_eq_true'] at hc
    exact ⟨hc.1.2, hc.2⟩
  · split at h <;> simp at h

theorem quoteScalar_unprintable (P : IsPrint) (lx : Lex) (s : Bytes) (h : yamlUnprintable P s = true) :
    quoteScalar P lx s = .double := by
  unfold quoteScalar
  simp [h, shouldQuote]

theorem valueDecision_unprintable (P : IsPrint) (lx : Lex) (s : Bytes) (multi : Bool)
    (h : yamlUnprintable P s = true) : valueDecision P lx s multi = .double := by
  have hb : blockLiteralSafe P s = false :=
    Bool.eq_false_iff.mpr fun hv => by rw [(blockLiteralSafe_facts P s hv).printable] at h; cases h
  unfold valueDecision
  simp [hb, quoteScalar_unprintable P lx s h]

theorem keyDecision_unprintable (P : IsPrint) (lx : Lex) (s : Bytes)
    (h : yamlUnprintable P s = true) : keyDecision P lx s = .double := by
  unfold keyDecision
  rw [quoteScalar_unprintable P lx s h]

/-! ### every escape `strconv.Quote` writes is a YAML escape with the same meaning -/

theorem goEscape_lt (l : Nat) (h : (goEscape l).isSome = true) : l < 128 := by
  apply Decidable.byContradiction
  intro hl
  have hne : ∀ n : Nat, n < 128 → (l == n) = false := by
    intro n hn; simp; omega
  simp [goEscape, hne] at h

theorem escapes_table : ∀ l, l < 128 → (goEscape l).isSome = true → yamlEscape l = goEscape l := by decide +kernel

theorem go_escape_is_yaml_escape (l : Nat) (e : Esc) (h : goEscape l = some e) : yamlEscape l = some e := by
  have hs : (goEscape l).isSome = true := by simp [h]
  rw [escapes_table l (goEscape_lt l hs) hs, h]

/-! ### single-quoted scalars read back -/

theorem unquoteSingleBody_escape (s : Bytes) : unquoteSingleBody (s.flatMap sqEsc) = some s := by
  unfold unquoteSingleBody
  induction s with
  | nil => rfl
  | cons c t ih =>
    by_cases hc : c = 39
    · subst hc
      simp only [List.flatMap_cons, sqEsc, beq_self_eq_true, if_true, List.cons_append, List.nil_append]
      simp only [unquoteSingleAux, beq_self_eq_true, if_true, Bool.false_eq_true, if_false]
      rw [ih]; rfl
    · have hc' : (c == 39) = false := by simpa using hc
      simp only [List.flatMap_cons, sqEsc, hc', Bool.false_eq_true, if_false, List.cons_append, List.nil_append]
      simp only [unquoteSingleAux, hc', Bool.false_eq_true, if_false]
      rw [ih]; rfl

theorem single_quoted_roundtrip (s : Bytes) : unquoteSingle (singleQuoted s) = some s := by
  simp only [singleQuoted, unquoteSingle, List.cons_append, List.nil_append, List.reverse_append, List.reverse_cons,
    List.reverse_nil, List.reverse_reverse]
  exact unquoteSingleBody_escape s

end CueVerif.Yaml
