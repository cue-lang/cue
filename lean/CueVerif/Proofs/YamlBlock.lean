/-
C11 — round trip of literal block scalars: what `emitBlock` writes for a string accepted by
`blockLiteralSafe` is read back by `parseBlock` as the same string (core Lean only).

The only fact about `s` the proof uses is that the first byte that is not a line break exists
and is not a blank (`FirstByteOK`): the block's indentation is detected from that line.
-/
import CueVerif.Spec.Yaml
import CueVerif.Proofs.YamlLines
namespace CueVerif.Yaml
open CueVerif.Quote (Bytes)

/-! ### the first non-empty line -/

/-- the first non-empty line exists and does not start with a blank -/
def firstOK : List Bytes → Prop
  | [] => False
  | [] :: r => firstOK r
  | (c :: _) :: _ => c ≠ 32

/-- the first byte of `s` that is not a line break exists and is not a blank -/
def FirstByteOK (s : Bytes) : Prop := ∃ f r, s.dropWhile (· == 10) = f :: r ∧ f ≠ 32

theorem not_firstByteOK_nil : ¬ FirstByteOK [] := by
  intro ⟨f, r, h, _⟩; simp at h

theorem firstOK_splitLines (s : Bytes) : FirstByteOK s → firstOK (splitLines s) := by
  refine splitLines_rec (motive := fun s ls => FirstByteOK s → firstOK ls) not_firstByteOK_nil ?_ ?_ s
  · intro t l ls ih ⟨f, r, h1, h2⟩
    exact ih ⟨f, r, by simpa using h1, h2⟩
  · intro c t l ls hc _ ⟨f, r, h1, h2⟩
    rw [List.dropWhile_cons_of_neg (by simpa using hc)] at h1
    injection h1 with h1
    exact h1 ▸ h2

theorem firstOK_of_snoc_nil (ls : List Bytes) (h : firstOK (ls ++ [[]])) : firstOK ls := by
  induction ls with
  | nil => simp [firstOK] at h
  | cons l r ih =>
    cases l with
    | nil => simp only [List.cons_append, firstOK] at h ⊢; exact ih h
    | cons c l => simpa [firstOK] using h

/-! ### reading the emitted lines back -/

/-- how the emitter writes one line -/
def padLine (ind : Nat) (l : Bytes) : Bytes := if l.isEmpty then [] else List.replicate ind 32 ++ l

theorem leadingSpaces_replicate (ind : Nat) (c : Nat) (l : Bytes) (hc : c ≠ 32) :
    leadingSpaces (List.replicate ind 32 ++ c :: l) = ind := by
  induction ind with
  | zero =>
    simp only [List.replicate_zero, List.nil_append]
    unfold leadingSpaces
    split
    · rename_i heq; injection heq with h1 _; exact absurd h1 hc
    · rfl
  | succ n ih =>
    simp only [List.replicate_succ, List.cons_append, leadingSpaces, ih]

theorem drop_padLine (ind : Nat) (l : Bytes) : (padLine ind l).drop ind = l := by
  unfold padLine
  cases l with
  | nil => simp
  | cons c l =>
    simp only [List.isEmpty_cons, Bool.false_eq_true, if_false]
    rw [List.drop_append_of_le_length (by simp)]
    simp

theorem map_drop_padLine (ind : Nat) (ls : List Bytes) :
    (ls.map (padLine ind)).map (fun l => l.drop ind) = ls := by
  rw [List.map_map]; exact List.map_id'' (drop_padLine ind) ls

theorem indent_detected (ind : Nat) (ls : List Bytes) (h : firstOK ls) :
    ∃ l, (ls.map (padLine ind)).find? (fun l => l.any (· != 32)) = some l ∧
      leadingSpaces l = ind := by
  induction ls with
  | nil => exact absurd h (by simp [firstOK])
  | cons l r ih =>
    cases l with
    | nil =>
      simp only [firstOK] at h
      simp only [List.map_cons, padLine, List.isEmpty_nil, if_true, List.find?_cons, List.any_nil]
      exact ih h
    | cons c l =>
      simp only [firstOK] at h
      have hany : (List.replicate ind 32 ++ c :: l).any (· != 32) = true := by
        simp only [List.any_append, List.any_cons, Bool.or_eq_true]
        right; left; simpa using h
      refine ⟨List.replicate ind 32 ++ c :: l, ?_, leadingSpaces_replicate ind c l h⟩
      simp only [List.map_cons, padLine, List.isEmpty_cons, Bool.false_eq_true, if_false,
        List.find?_cons, hany]

/-- what `parseBlock` does with the content once the indentation is taken off -/
def chomp (c : Chomp) (content : Bytes) : Bytes :=
  match c with
  | .keep => content
  | .strip => dropTrailingNL content
  | .clip => let t := dropTrailingNL content; if t.isEmpty then [] else t ++ [10]

theorem parseBlock_padded (ind : Nat) (c : Chomp) (ls : List Bytes) (h : firstOK ls) :
    parseBlock c (ls.map (padLine ind)) = chomp c (joinLines ls ++ [10]) := by
  obtain ⟨l, hl, hn⟩ := indent_detected ind ls h
  cases c <;> simp only [parseBlock, chomp, hl, hn, map_drop_padLine]

/-- the lines of the block body: a final line break does not open a last, empty line -/
def blockLines (s : Bytes) : List Bytes :=
  if hasSuffix [10] s then (splitLines s).dropLast else splitLines s

theorem emitBlock_eq (ind : Nat) (s : Bytes) :
    emitBlock ind s = (blockHeader s, (blockLines s).map (padLine ind)) := rfl

/-- `blockLines` by its graph: they are the lines of the text without its final line break, if it
has one -/
theorem blockLines_cases {motive : Bytes → List Bytes → Prop}
    (nl : ∀ t, motive (t ++ [10]) (splitLines t))
    (other : ∀ s, hasSuffix [10] s = false → motive s (splitLines s)) : ∀ s, motive s (blockLines s) := by
  intro s
  unfold blockLines
  split
  · rename_i h
    obtain ⟨t, rfl⟩ := List.isSuffixOf_iff_suffix.mp h
    rw [splitLines_snoc_nl, List.dropLast_concat]
    exact nl t
  · rename_i h
    exact other s (by simpa using h)

theorem lines_blockLines (s : Bytes) : Lines (blockLines s) :=
  blockLines_cases (motive := fun _ ls => Lines ls) lines_splitLines (fun s _ => lines_splitLines s) s

theorem mem_body (s : Bytes) : ∀ l ∈ blockLines s, l ∈ splitLines s :=
  blockLines_cases (motive := fun s ls => ∀ l ∈ ls, l ∈ splitLines s)
    (fun t l hl => by rw [splitLines_snoc_nl]; exact List.mem_append_left _ hl) (fun _ _ _ hl => hl) s

theorem firstOK_blockLines (s : Bytes) : FirstByteOK s → firstOK (blockLines s) := by
  refine blockLines_cases (motive := fun s ls => FirstByteOK s → firstOK ls) ?_ ?_ s
  · intro t h
    exact firstOK_of_snoc_nil _ (splitLines_snoc_nl t ▸ firstOK_splitLines _ h)
  · intro s _
    exact firstOK_splitLines s

/-- the body lines joined and closed: the text, with a final line break if it had none -/
theorem blockBody (s : Bytes) :
    joinLines (blockLines s) ++ [10] = if hasSuffix [10] s then s else s ++ [10] := by
  refine blockLines_cases
    (motive := fun s ls => joinLines ls ++ [10] = if hasSuffix [10] s then s else s ++ [10]) ?_ ?_ s
  · intro t
    rw [joinLines_splitLines, if_pos (by simp [hasSuffix])]
  · intro s h
    rw [joinLines_splitLines, h]; rfl

/-- the header records how many line breaks end the text (none, one, more), and that is what
chomping puts back; the one text this fails on is a lone line break.  Header, suffix tests and
`dropTrailingNL` all look at the text from its end: stated on the reversed text they compute. -/
theorem chomp_header (s : Bytes) (h : s ≠ [10]) :
    chomp (blockHeader s) (if hasSuffix [10] s then s else s ++ [10]) = s := by
  obtain ⟨r, rfl⟩ : ∃ r, s = r.reverse := ⟨s.reverse, (List.reverse_reverse s).symm⟩
  have hs : ∀ p : Bytes, hasSuffix p r.reverse = p.reverse.isPrefixOf r := fun p => by
    simp [hasSuffix, List.isSuffixOf]
  have hd : ∀ x, x ≠ 10 → (10 == x) = false ∧ (x == 10) = false := fun x hx => by
    simp [hx, Ne.symm hx]
  simp only [blockHeader, hs]
  rcases r with _ | ⟨x, r⟩
  · rfl
  by_cases hx : x = 10
  · subst hx
    rcases r with _ | ⟨y, r⟩
    · exact absurd rfl h
    by_cases hy : y = 10
    · -- two line breaks or more: keep
      subst hy; simp [chomp, List.isPrefixOf]
    · -- exactly one: clip
      simp [chomp, List.isPrefixOf, dropTrailingNL, List.dropWhile, hd y hy]
  · -- none: strip
    simp [chomp, List.isPrefixOf, dropTrailingNL, List.dropWhile, hd x hx]

theorem block_roundtrip_of_firstByteOK (s : Bytes) (h : FirstByteOK s) : BlockRoundTrips s := fun ind => by
  have hne : s ≠ [10] := by
    rintro rfl; obtain ⟨f, r, h, _⟩ := h; simp at h
  rw [emitBlock_eq]
  simp only
  rw [parseBlock_padded ind _ _ (firstOK_blockLines s h), blockBody, chomp_header s hne]

/-- the text contains ` \n` or ends in a blank: the fast-path test of `stripBlankLinePadding`
and the fourth test of `blockLiteralSafe` -/
abbrev trailingBlank (s : Bytes) : Bool := containsSub [32, 10] s || hasSuffix [32] s

/-- what the tests of `blockLiteralSafe` say about an admitted string; each guards one step: reading
the indentation back, stripping the printer's padding, the reader's line break normalisation -/
structure BlockSafe (P : IsPrint) (s : Bytes) : Prop where
  firstByteOK : FirstByteOK s
  noTrailingBlank : trailingBlank s = false
  printable : yamlUnprintable P s = false

theorem blockLiteralSafe_facts (P : IsPrint) (s : Bytes) (h : blockLiteralSafe P s = true) : BlockSafe P s := by
  unfold blockLiteralSafe at h
  split at h
  · cases h
  split at h
  · cases h
  split at h
  · cases h
  rename_i f r heq
  split at h
  · cases h
  rename_i hf
  split at h
  · cases h
  rename_i hc
  exact ⟨⟨f, r, heq, by rintro rfl; simp at hf⟩, by simpa using hc, by simpa using h⟩

theorem block_roundtrip (P : IsPrint) (s : Bytes) (h : blockLiteralSafe P s = true) : BlockRoundTrips s :=
  block_roundtrip_of_firstByteOK s (blockLiteralSafe_facts P s h).firstByteOK

end CueVerif.Yaml
