/-
C11 — what the conjunct `!yamlUnprintable(s)` of `blockLiteralSafe` gives the
reader of a block scalar: every byte is TAB, LF, printable ASCII or part of a multi-byte
sequence — in particular no CR (which a YAML reader would normalise to LF, §5.4), no other C0
control, no DEL — so line break normalisation is the identity on the text.
-/
import CueVerif.Model.YamlPrint
import CueVerif.Proofs.Utf8
import CueVerif.Proofs.YamlBlock
namespace CueVerif.Yaml
open CueVerif.Quote (Bytes decodeRune)

theorem cleanByte_of_high (c : Nat) (h : 0x80 ≤ c) : cleanByte c = true := by
  simp [cleanByte, h]

theorem cleanByte_of_rune (c : Nat) (h : c = 9 ∨ c = 10 ∨ unprintableRune c = false) : cleanByte c = true := by
  simp only [unprintableRune, Bool.or_eq_false_iff, decide_eq_false_iff_not, beq_eq_false_iff_ne] at h
  simp only [cleanByte, Bool.or_eq_true, beq_iff_eq, Bool.and_eq_true, decide_eq_true_eq]
  omega

/-- one turn of a loop that answers `false`: the rune at the front passed the first two tests
and the loop went on behind it -/
theorem unprintableLoop_step (P : IsPrint) (fuel c : Nat) (t : Bytes)
    (h : yamlUnprintableLoop P (fuel + 1) (c :: t) = false) :
    ((decodeRune (c :: t)).1 = 9 ∨ (decodeRune (c :: t)).1 = 10 ∨ unprintableRune (decodeRune (c :: t)).1 = false) ∧
      yamlUnprintableLoop P fuel ((c :: t).drop (decodeRune (c :: t)).2) = false := by
  have hw : max (decodeRune (c :: t)).2 1 = (decodeRune (c :: t)).2 :=
    Nat.max_eq_left (Quote.decodeRune_width_pos c t).1
  rw [yamlUnprintableLoop] at h
  simp only [hw] at h
  by_cases h1 : ((decodeRune (c :: t)).1 == 9 || (decodeRune (c :: t)).1 == 10) = true
  · rw [if_pos h1] at h
    simp only [Bool.or_eq_true, beq_iff_eq] at h1
    exact ⟨h1.elim Or.inl (Or.inr ∘ Or.inl), h⟩
  · rw [if_neg h1] at h
    cases hu : unprintableRune (decodeRune (c :: t)).1
    · refine ⟨Or.inr (Or.inr rfl), ?_⟩
      rw [hu] at h
      simp only [Bool.false_eq_true, if_false] at h
      split at h
      · cases h
      · split at h
        · cases h
        · exact h
    · rw [hu] at h; cases h

theorem unprintable_clean (P : IsPrint) : ∀ (fuel : Nat) (s : Bytes), s.length ≤ fuel →
    yamlUnprintableLoop P fuel s = false → ∀ c ∈ s, cleanByte c = true := by
  intro fuel
  induction fuel with
  | zero => intro s hl _ c hc; rw [List.eq_nil_of_length_eq_zero (Nat.le_zero.mp hl)] at hc; cases hc
  | succ fuel ih =>
    intro s hl h c hc
    cases s with
    | nil => cases hc
    | cons c0 t =>
      obtain ⟨hrune, hrest⟩ := unprintableLoop_step P fuel c0 t h
      have hw := (Quote.decodeRune_width_pos c0 t).1
      -- `c` is a byte of the rune at the front, or of what the loop went on with
      rw [← List.take_append_drop (decodeRune (c0 :: t)).2 (c0 :: t), List.mem_append] at hc
      rcases hc with h1 | h2
      · by_cases h80 : c0 < 0x80
        · rw [Quote.decodeRune_ascii c0 t h80] at hrune h1
          obtain rfl : c = c0 := by simpa using h1
          exact cleanByte_of_rune c hrune
        · exact cleanByte_of_high c ((Quote.decodeRune_high c0 t (by omega)).2 c h1)
      · exact ih _ (by simp only [List.length_drop, List.length_cons] at hl ⊢; omega) hrest c h2

theorem blockLiteralSafe_clean (P : IsPrint) (s : Bytes) (h : blockLiteralSafe P s = true) :
    ∀ c ∈ s, cleanByte c = true :=
  unprintable_clean P s.length s (Nat.le_refl _) (blockLiteralSafe_facts P s h).printable

theorem normalizeBreaks_id (t : Bytes) (h : 13 ∉ t) : normalizeBreaks t = t := by
  induction t with
  | nil => rfl
  | cons c r ih =>
    have hc : c ≠ 13 := fun e => h (by simp [e])
    have hr := ih (fun e => h (by simp [e]))
    unfold normalizeBreaks
    split
    · rename_i heq; cases heq
    · rename_i heq; injection heq with h1 _; exact absurd h1 hc
    · rename_i heq; injection heq with h1 _; exact absurd h1 hc
    · rename_i heq; injection heq with h1 h2; subst h1; subst h2; rw [hr]

theorem blockLiteralSafe_noCR (P : IsPrint) (s : Bytes) (h : blockLiteralSafe P s = true) : 13 ∉ s := by
  intro hm
  have := blockLiteralSafe_clean P s h 13 hm
  simp [cleanByte] at this

end CueVerif.Yaml
