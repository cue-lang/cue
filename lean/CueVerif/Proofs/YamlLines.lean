/-
C11 — texts and their lines.  `splitLines` (Go's `bytes.Split(b, "\n")`) and `joinLines`
(`bytes.Join`) are mutually inverse between texts and the lists `splitLines` can yield: at least
one line, no line break inside a line (`Lines`).  Core Lean only.
-/
import CueVerif.Model.Yaml
namespace CueVerif.Yaml
open CueVerif.Quote (Bytes)

theorem splitLines_ne_nil (s : Bytes) : splitLines s ≠ [] := by
  induction s with
  | nil => simp [splitLines]
  | cons c t ih =>
    simp only [splitLines, List.foldr_cons] at ih ⊢
    split
    · split <;> simp
    · split <;> simp

theorem splitLines_nil : splitLines [] = [[]] := rfl

theorem splitLines_exists (t : Bytes) : ∃ h tl, splitLines t = h :: tl := by
  cases hs : splitLines t with
  | nil => exact absurd hs (splitLines_ne_nil t)
  | cons h tl => exact ⟨h, tl, rfl⟩

theorem splitLines_nl (t : Bytes) : splitLines (10 :: t) = [] :: splitLines t := by
  obtain ⟨l, ls, ht⟩ := splitLines_exists t
  show (match splitLines t with | [] => _ | l :: ls => _) = _
  rw [ht]; rfl

theorem splitLines_byte (c : Nat) (t l : Bytes) (ls : List Bytes) (hc : c ≠ 10)
    (ht : splitLines t = l :: ls) : splitLines (c :: t) = (c :: l) :: ls := by
  show (match splitLines t with | [] => _ | l :: ls => _) = _
  rw [ht]; exact if_neg (by simpa using hc)

/-- `splitLines` by its graph: a line break opens a new first line, any other byte joins the
first line -/
theorem splitLines_rec {motive : Bytes → List Bytes → Prop} (nil : motive [] [[]])
    (nl : ∀ t l ls, motive t (l :: ls) → motive (10 :: t) ([] :: l :: ls))
    (byte : ∀ c t l ls, c ≠ 10 → motive t (l :: ls) → motive (c :: t) ((c :: l) :: ls)) :
    ∀ s, motive s (splitLines s)
  | [] => nil
  | c :: t => by
    obtain ⟨l, ls, ht⟩ := splitLines_exists t
    have ih := ht ▸ splitLines_rec nil nl byte t
    by_cases hc : c = 10
    · rw [hc, splitLines_nl, ht]; exact nl t l ls ih
    · rw [splitLines_byte c t l ls hc ht]; exact byte c t l ls hc ih

/-! ### joining -/

theorem joinLines_cons_cons (c : Nat) (h : Bytes) (tl : List Bytes) :
    joinLines ((c :: h) :: tl) = c :: joinLines (h :: tl) := by
  cases tl with
  | nil => rfl
  | cons x xs => simp [joinLines]

theorem joinLines_cons_ne (l : Bytes) (r : List Bytes) (hr : r ≠ []) :
    joinLines (l :: r) = l ++ [10] ++ joinLines r := by
  cases r with
  | nil => exact absurd rfl hr
  | cons x xs => rfl

theorem joinLines_snoc_nil (ls : List Bytes) (h : ls ≠ []) : joinLines (ls ++ [[]]) = joinLines ls ++ [10] := by
  induction ls with
  | nil => exact absurd rfl h
  | cons l r ih =>
    cases r with
    | nil => simp [joinLines]
    | cons x xs =>
      have := ih (by simp)
      simp only [List.cons_append] at this ⊢
      simp only [joinLines, this, List.append_assoc]

theorem joinLines_splitLines (s : Bytes) : joinLines (splitLines s) = s := by
  refine splitLines_rec (motive := fun s ls => joinLines ls = s) rfl ?_ ?_ s
  · intro t l ls ih; simp [joinLines, ih]
  · intro c t l ls _ ih; rw [joinLines_cons_cons, ih]

/-! ### the lists of lines -/

/-- what `splitLines` can yield -/
structure Lines (ls : List Bytes) : Prop where
  ne_nil : ls ≠ []
  noLF : ∀ l ∈ ls, 10 ∉ l

theorem lines_splitLines (s : Bytes) : Lines (splitLines s) := by
  refine ⟨splitLines_ne_nil s, ?_⟩
  refine splitLines_rec (motive := fun _ ls => ∀ l ∈ ls, 10 ∉ l) (by simp) ?_ ?_ s
  · intro t l ls ih
    exact List.forall_mem_cons.mpr ⟨List.not_mem_nil, ih⟩
  · intro c t l ls hc ih
    obtain ⟨h1, h2⟩ := List.forall_mem_cons.mp ih
    exact List.forall_mem_cons.mpr ⟨fun h => (List.mem_cons.mp h).elim (hc ∘ Eq.symm) h1, h2⟩

theorem Lines.cons {l : Bytes} {ls : List Bytes} (hl : 10 ∉ l) (h : ∀ l ∈ ls, 10 ∉ l) : Lines (l :: ls) :=
  ⟨List.cons_ne_nil _ _, List.forall_mem_cons.mpr ⟨hl, h⟩⟩

theorem Lines.snoc_nil {ls : List Bytes} (h : Lines ls) : Lines (ls ++ [[]]) :=
  ⟨by simp, List.forall_mem_append.mpr ⟨h.noLF, by simp⟩⟩

theorem Lines.map {ls : List Bytes} (h : Lines ls) {f : Bytes → Bytes} (hf : ∀ l, 10 ∉ l → 10 ∉ f l) :
    Lines (ls.map f) :=
  ⟨by simpa using h.ne_nil, List.forall_mem_map.mpr fun l hl => hf l (h.noLF l hl)⟩

/-- bytes without a line break in front of a text join its first line -/
theorem splitLines_append (l : Bytes) (hl : 10 ∉ l) {t r : Bytes} {rs : List Bytes}
    (ht : splitLines t = r :: rs) : splitLines (l ++ t) = (l ++ r) :: rs := by
  induction l with
  | nil => exact ht
  | cons c l ih =>
    simp only [List.mem_cons, not_or] at hl
    exact splitLines_byte c _ _ _ (Ne.symm hl.1) (ih hl.2)

theorem splitLines_joinLines {ls : List Bytes} (h : Lines ls) : splitLines (joinLines ls) = ls := by
  obtain ⟨hne, h⟩ := h
  induction ls with
  | nil => exact absurd rfl hne
  | cons l r ih =>
    obtain ⟨hl, hr⟩ := List.forall_mem_cons.mp h
    cases r with
    | nil => simpa [joinLines] using splitLines_append l hl splitLines_nil
    | cons x xs =>
      show splitLines (l ++ [10] ++ joinLines (x :: xs)) = _
      rw [List.append_assoc, List.singleton_append, splitLines_append l hl (splitLines_nl _), List.append_nil,
        ih (by simp) hr]

/-- a final line break closes the last line and opens an empty one -/
theorem splitLines_snoc_nl (t : Bytes) : splitLines (t ++ [10]) = splitLines t ++ [[]] := by
  have h := lines_splitLines t
  have := splitLines_joinLines h.snoc_nil
  rwa [joinLines_snoc_nil _ h.ne_nil, joinLines_splitLines] at this

end CueVerif.Yaml
