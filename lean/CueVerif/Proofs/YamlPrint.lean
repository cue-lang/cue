/-
C11 — the literal block as printed (Model/YamlPrint.lean): `stripBlankLinePadding` acts line by
line (its fast path is sound); when no line of the string ends in a blank (the conjunct of
`blockLiteralSafe` used here) it turns the printer's padded lines into exactly the lines of
`emitBlock`, in the block alone and in the whole printed document.
-/
import CueVerif.Model.YamlPrint
import CueVerif.Proofs.YamlBlock
namespace CueVerif.Yaml
open CueVerif.Quote (Bytes)

theorem stripLine_nil : stripLine [] = [] := rfl

/-- a line is blank-padded only: non-empty, all blanks -/
def blankOnly (l : Bytes) : Bool := !l.isEmpty && l.all (· == 32)

theorem stripLine_eq (l : Bytes) : stripLine l = if blankOnly l then [] else l := by
  have : (l.dropWhile (· == 32)).isEmpty = l.all (· == 32) := by
    induction l with
    | nil => rfl
    | cons c t ih => simp only [List.dropWhile_cons, List.all_cons]; cases c == 32 <;> simp [ih]
  rw [stripLine, blankOnly, this]

theorem stripLine_of_not_blankOnly (l : Bytes) (h : blankOnly l = false) : stripLine l = l := by
  rw [stripLine_eq, h]; rfl

/-! ### the fast path of stripBlankLinePadding is sound -/

/-- bytes put in front of a text hide neither a ` \n` nor a trailing blank -/
theorem trailing_append (a t : Bytes) (h : trailingBlank t = true) : trailingBlank (a ++ t) = true := by
  induction a with
  | nil => exact h
  | cons c a ih =>
    rcases (Bool.or_eq_true _ _).mp ih with h1 | h2
    · simp [containsSub, h1]
    · have : hasSuffix [32] (c :: (a ++ t)) = true := by
        simp only [hasSuffix, List.isSuffixOf_iff_suffix] at h2 ⊢
        exact h2.trans (List.suffix_cons c _)
      simp [this]

/-- a blank-only line that ends the text or is followed by a line break shows -/
theorem trailing_of_blankOnly (l rest : Bytes) (h : blankOnly l = true)
    (hr : rest.head? = none ∨ rest.head? = some 10) : trailingBlank (l ++ rest) = true := by
  induction l with
  | nil => cases h
  | cons c l ih =>
    simp only [blankOnly, List.isEmpty_cons, Bool.not_false, Bool.true_and, List.all_cons, Bool.and_eq_true,
      beq_iff_eq] at h
    obtain ⟨rfl, hall⟩ := h
    cases l with
    | nil =>
      rcases rest with _ | ⟨x, t⟩
      · decide
      · obtain rfl : x = 10 := by simpa using hr
        simp [containsSub, List.isPrefixOf]
    | cons d l => exact trailing_append [32] _ (ih (by simpa [blankOnly] using hall))

/-- a blank-only line shows up in the text as ` \n` or as a trailing blank -/
theorem trailing_of_blankOnly_line (ls : List Bytes) (h : ∃ l ∈ ls, blankOnly l = true) :
    trailingBlank (joinLines ls) = true := by
  induction ls with
  | nil => obtain ⟨_, h, _⟩ := h; cases h
  | cons l r ih =>
    obtain ⟨m, hm, hb⟩ := h
    cases r with
    | nil =>
      obtain rfl : m = l := by simpa using hm
      simpa [joinLines] using trailing_of_blankOnly m [] hb (.inl rfl)
    | cons x xs =>
      show trailingBlank (l ++ [10] ++ joinLines (x :: xs)) = true
      rcases List.mem_cons.mp hm with rfl | hm
      · rw [List.append_assoc]; exact trailing_of_blankOnly m _ hb (.inr rfl)
      · exact trailing_append _ _ (ih ⟨m, hm, hb⟩)

theorem not_blankOnly_of_noTrailing (s : Bytes) (h : trailingBlank s = false) :
    ∀ l ∈ splitLines s, blankOnly l = false := fun l hl =>
  Bool.eq_false_iff.mpr fun hb => by
    rw [← joinLines_splitLines s, trailing_of_blankOnly_line _ ⟨l, hl, hb⟩] at h; cases h

/-- `stripBlankLinePadding` acts on every line independently, for EVERY document: the fast
path ("no ` \n`, no trailing blank: return the input") never skips a line the loop would
have changed -/
theorem strip_linewise (doc : Bytes) :
    stripBlankLinePadding doc = joinLines ((splitLines doc).map stripLine) := by
  unfold stripBlankLinePadding
  split
  · rename_i hfast
    have hno := not_blankOnly_of_noTrailing doc (by simpa using hfast)
    rw [List.map_congr_left fun l hl => stripLine_of_not_blankOnly l (hno l hl), List.map_id',
      joinLines_splitLines]
  · rfl

/-! ### when no line of `s` ends in a blank the stripped printer lines are the lines of `emitBlock` -/

theorem stripLine_padded (ind : Nat) (l : Bytes) (h : blankOnly l = false) :
    stripLine (List.replicate ind 32 ++ l) = padLine ind l := by
  cases l with
  | nil => cases ind <;> simp [stripLine_eq, blankOnly, padLine]
  | cons c t =>
    have : blankOnly (List.replicate ind 32 ++ c :: t) = false := by
      simp only [blankOnly, List.isEmpty_cons, Bool.not_false, Bool.true_and] at h
      simp [blankOnly, List.all_append, h]
    rw [stripLine_of_not_blankOnly _ this]; rfl

theorem stripLine_noLF (l : Bytes) (h : 10 ∉ l) : 10 ∉ stripLine l := by
  unfold stripLine
  split
  · simp
  · exact h

/-- the printer's lines are those of `emitBlock` with the blank lines padded too -/
theorem emitBlockRaw_eq (ind : Nat) (s : Bytes) :
    emitBlockRaw ind s = (blockHeader s, (blockLines s).map (List.replicate ind 32 ++ ·)) := rfl

theorem lines_raw (ind : Nat) (s : Bytes) : Lines (emitBlockRaw ind s).2 :=
  (lines_blockLines s).map fun l hl => by
    simp only [List.mem_append, List.mem_replicate, not_or]
    exact ⟨fun e => by omega, hl⟩

theorem strip_raw_lines (ind : Nat) (s : Bytes) (h : trailingBlank s = false) :
    (emitBlockRaw ind s).2.map stripLine = (emitBlock ind s).2 := by
  have hnb := not_blankOnly_of_noTrailing s h
  rw [emitBlockRaw_eq, emitBlock_eq, List.map_map]
  exact List.map_congr_left fun l hl => stripLine_padded ind l (hnb l (mem_body s l hl))

theorem split_strip_join {ls : List Bytes} (h : Lines ls) :
    splitLines (stripBlankLinePadding (joinLines ls)) = ls.map stripLine := by
  rw [strip_linewise, splitLines_joinLines h, splitLines_joinLines (h.map stripLine_noLF)]

/-- what a YAML reader sees of the block the encoder PRINTS (padded lines joined, passed through
`stripBlankLinePadding`, split into lines again) is exactly `emitBlock`'s lines -/
theorem printed_block_lines (ind : Nat) (s : Bytes) (h : trailingBlank s = false) :
    splitLines (stripBlankLinePadding (joinLines (emitBlockRaw ind s).2)) = (emitBlock ind s).2 := by
  rw [split_strip_join (lines_raw ind s), strip_raw_lines ind s h]

theorem printed_block_roundtrip (P : IsPrint) (ind : Nat) (s : Bytes) (h : blockLiteralSafe P s = true) :
    parseBlock (emitBlockRaw ind s).1 (splitLines (stripBlankLinePadding (joinLines (emitBlockRaw ind s).2))) = s := by
  rw [printed_block_lines ind s (blockLiteralSafe_facts P s h).noTrailingBlank]
  exact block_roundtrip P s h ind

/-! ### the whole printed document -/

theorem chompText_nonblank (c : Chomp) : 10 ∉ c.text ∧ c.text.all (· == 32) = false := by
  cases c <;> decide

theorem split_strip_doc (hd : Bytes) {ls : List Bytes} (hhd : 10 ∉ hd) (h : Lines ls) :
    splitLines (stripBlankLinePadding (hd ++ [10] ++ joinLines ls ++ [10])) =
      stripLine hd :: (ls.map stripLine ++ [[]]) := by
  have hdoc : hd ++ [10] ++ joinLines ls ++ [10] = joinLines (hd :: (ls ++ [[]])) := by
    rw [joinLines_cons_ne _ _ (by simp), joinLines_snoc_nil _ h.ne_nil, List.append_assoc]
  rw [hdoc, split_strip_join (.cons hhd h.snoc_nil.noLF)]
  simp only [List.map_cons, List.map_append, List.map_nil, stripLine_nil]

/-- the lines of the document `Encode` prints for `{key: <literal block of s>}`: the key line
with the header, then exactly `emitBlock`'s lines, then the end of the last line -/
theorem printed_doc_lines (key : Bytes) (hk : 10 ∉ key) (ind : Nat) (s : Bytes)
    (h : trailingBlank s = false) :
    splitLines (printedBlockDoc key ind s) =
      (key ++ b ": " ++ (emitBlockRaw ind s).1.text) :: ((emitBlock ind s).2 ++ [[]]) := by
  have hb : b ": " = [58, 32] := by decide
  have hkl : 10 ∉ key ++ b ": " ++ (emitBlockRaw ind s).1.text := by
    simp only [hb, List.mem_append, List.mem_cons, not_or]
    exact ⟨⟨hk, by simp⟩, (chompText_nonblank _).1⟩
  unfold printedBlockDoc
  simp only []
  rw [split_strip_doc _ hkl (lines_raw ind s), strip_raw_lines ind s h]
  congr 1
  apply stripLine_of_not_blankOnly
  simp [blankOnly, List.all_append, (chompText_nonblank _).2]

end CueVerif.Yaml
