/-
C11 — facts about the regular-expression matcher of Model/Yaml.lean: a match of a non-empty
string starts with a byte of `first r`; consequences for the four regexps of the code and for
`numberKind`.
-/
import CueVerif.Model.Yaml
namespace CueVerif.Yaml
open CueVerif.Quote (Bytes)

namespace RE

@[simp] theorem mkSeq_empty_left (r : RE) : mkSeq empty r = empty := by
  cases r <;> rfl

@[simp] theorem mkAlt_empty_empty : mkAlt empty empty = empty := rfl

theorem inCls_append (xs ys : List (Nat × Nat)) (c : Nat) :
    inCls (xs ++ ys) c = (inCls xs c || inCls ys c) := by
  simp [inCls, List.any_append]

@[simp] theorem inCls_nil (c : Nat) : inCls [] c = false := rfl

/-! ### the empty language stays empty -/

theorem foldl_deriv_empty (s : Bytes) : s.foldl (fun r c => deriv c r) empty = empty := by
  induction s with
  | nil => rfl
  | cons c s ih => simpa [List.foldl_cons, deriv] using ih

theorem matches_empty_false (s : Bytes) : RE.empty.matches s = false := by
  simp [RE.matches, foldl_deriv_empty, nullable]

theorem matches_cons (r : RE) (c : Nat) (s : Bytes) :
    r.matches (c :: s) = (deriv c r).matches s := rfl

/-! ### a byte outside `first r` kills `r` -/

theorem deriv_not_first (r : RE) (c : Nat) : inCls (first r) c = false → deriv c r = empty := by
  induction r with
  | empty => intro _; rfl
  | eps => intro _; rfl
  | cls rs => intro h; simp [deriv, first] at *; simp [h]
  | seq a b iha ihb =>
    intro h
    simp only [first, inCls_append, Bool.or_eq_false_iff] at h
    obtain ⟨ha, hb⟩ := h
    simp only [deriv, iha ha, mkSeq_empty_left]
    cases hn : nullable a
    · simp
    · simp only [hn, if_true] at hb
      simp [ihb hb]
  | alt a b iha ihb =>
    intro h
    simp only [first, inCls_append, Bool.or_eq_false_iff] at h
    simp [deriv, iha h.1, ihb h.2]
  | star a iha =>
    intro h
    simp only [first] at h
    simp [deriv, iha h]

theorem matches_cons_first (r : RE) (c : Nat) (s : Bytes) :
    r.matches (c :: s) = true → RE.inCls (RE.first r) c = true := by
  intro h
  cases hc : inCls (first r) c
  · rw [matches_cons, deriv_not_first r c hc, matches_empty_false] at h
    cases h
  · rfl

/-! ### ranges covered by a byte set (decidable, so concrete instances go through `decide`) -/

/-- every byte of every range is in `set` -/
def covered (rs : List (Nat × Nat)) (set : Bytes) : Bool :=
  rs.all fun p => (List.range' p.1 (p.2 + 1 - p.1)).all fun x => set.contains x

theorem covered_sound (rs : List (Nat × Nat)) (set : Bytes) (c : Nat) :
    covered rs set = true → inCls rs c = true → set.contains c = true := by
  intro hcov hin
  simp only [inCls, List.any_eq_true, Bool.and_eq_true, decide_eq_true_eq] at hin
  obtain ⟨p, hp, hlo, hhi⟩ := hin
  simp only [covered, List.all_eq_true] at hcov
  exact hcov p hp c (by rw [List.mem_range'_1]; omega)

theorem matches_cons_covered {r : RE} {set : Bytes} (hcov : covered (first r) set = true) (c : Nat) (s : Bytes)
    (h : r.matches (c :: s) = true) : set.contains c = true :=
  covered_sound _ _ c hcov (matches_cons_first r c s h)

end RE
open RE

example : b "+-" = [43, 45] := by decide

/-- whether the text begins with one of the bytes of `nonStringStarts` -/
def startsNonString : Bytes → Bool
  | [] => false
  | c :: _ => nonStringStarts.contains c

theorem yamlInt_first (c : Nat) (s : Bytes) : reYamlInt.matches (c :: s) = true → nonStringStarts.contains c = true :=
  matches_cons_covered (by decide +kernel) c s

theorem yamlFloat_first (c : Nat) (s : Bytes) : reYamlFloat.matches (c :: s) = true → nonStringStarts.contains c = true :=
  matches_cons_covered (by decide +kernel) c s

theorem useQuote_first (c : Nat) (s : Bytes) : reUseQuote.matches (c :: s) = true → regexpStarts.contains c = true :=
  matches_cons_covered (by decide +kernel) c s

theorem anyOctal_first (c : Nat) (s : Bytes) : reAnyOctal.matches (c :: s) = true → regexpStarts.contains c = true :=
  matches_cons_covered (by decide +kernel) c s

theorem matches_nil_yamlInt : reYamlInt.matches [] = false := rfl
theorem matches_nil_yamlFloat : reYamlFloat.matches [] = false := rfl
theorem matches_nil_useQuote : reUseQuote.matches [] = false := rfl
theorem matches_nil_anyOctal : reAnyOctal.matches [] = false := rfl

/-- the leading byte is not `_`, so it survives the removal of underscores and is the first
byte one of the two regexps matched -/
theorem numberKind_start (s : Bytes) (h : numberKind s ≠ .illegal) : startsNonString s = true := by
  cases s with
  | nil => exact absurd rfl h
  | cons c t =>
    simp only [numberKind] at h
    by_cases h95 : (c == 95) = true
    · simp [h95] at h
    · have hf : (c :: t).filter (· != 95) = c :: t.filter (· != 95) := by
        rw [List.filter_cons_of_pos (by simpa using h95)]
      simp only [h95, hf] at h
      by_cases hi : reYamlInt.matches (c :: t.filter (· != 95)) = true
      · exact yamlInt_first c _ hi
      · by_cases hfl : reYamlFloat.matches (c :: t.filter (· != 95)) = true
        · exact yamlFloat_first c _ hfl
        · simp [hi, hfl] at h

end CueVerif.Yaml
