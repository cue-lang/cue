/-
C01 — The evaluation result is independent of declaration and conjunct order.

The reference semantics "CueCore" (Model/Core.lean: scalars, structs with regular /
required / optional arcs, close(), closed lists, `&`, embeddings) has the algebraic laws that make the
result of evaluation independent of every rearrangement the property talks about.
The harness compares this semantics with the implementation on generated programs and
their rearrangements.

The last section does the same for TOP-LEVEL disjunctions with default marks
(Model/CoreDisj.lean), where values are compared by `DEquiv` (same disjuncts, same
defaults, same "has marks").

Only statements live here, with the sample values of the examples and the refutation
`C01_disj_idem_false` (its witness `exD` is one of them); the proofs are in
CueVerif/Proofs/Core*.lean.
-/
import CueVerif.Proofs.Core
import CueVerif.Proofs.CoreDisj
namespace CueVerif.C01
open CueVerif CueVerif.Core

/-! ### sample values for the non-vacuity examples (tests, not the property) -/

/-- `{a: 1, c?: int}` (labels a, b, c = 0, 1, 2) -/
def exA : Val := .struct (.cons (.some .regular (.sc (.int 1)))
  (.cons .none (.cons (.some .optional (.sc .tInt)) .nil))) false
/-- `close({a: >=0 & <=5, b!: string})` -/
def exB : Val := .struct (.cons (.some .regular (.sc (.rng (some 0) (some 5))))
  (.cons (.some .required (.sc .tStr)) .nil)) true
/-- `{a: 1, b!: string, c?: _|_}` closed: what `exA & exB` is -/
def exAB : Val := .struct (.cons (.some .regular (.sc (.int 1)))
  (.cons (.some .required (.sc .tStr)) (.cons (.some .optional .bot) .nil))) true
/-- `{a: int & >=1, {a: <=1}} & close({a: _})` -/
def exE : Expr :=
  .and (.structL [.field 0 .regular (.and (.lit .tInt) (.lit (.rng (some 1) none))),
                  .embed (.structL [.field 0 .regular (.lit (.rng none (some 1)))])])
       (.close (.structL [.field 0 .regular .top]))

/-- `[int, {a: 1, c?: int}]` and `[>=0 & <=5, close({…})]` -/
def exL1 : Val := .list (.cons (.sc .tInt) (.cons exA .nil))
def exL2 : Val := .list (.cons (.sc (.rng (some 0) (some 5))) (.cons exB .nil))

/-! ### the algebra of unification -/

/-- Conjunct order: unification is commutative — for ALL values, normal form or not. -/
theorem C01_comm (a b : Val) : unify a b = unify b a :=
  unify_comm a b

example : unify exA exB = exAB ∧ unify exB exA = exAB := by decide
example : unify exL1 exL2 = .list (.cons (.sc (.rng (some 0) (some 5))) (.cons exAB .nil)) ∧
    unify exL2 exL1 = unify exL1 exL2 := by decide

/-- Conjunct grouping: unification is associative — for ALL values. -/
theorem C01_assoc (a b c : Val) : unify (unify a b) c = unify a (unify b c) :=
  unify_assoc a b c

/-- a non-trivial instance: the closedness of `exB` kills the field `c` that only the
third operand has -/
example : unify (unify exA exB) (.struct (.cons .none (.cons .none
    (.cons (.some .regular (.sc (.int 7))) .nil))) false) = .bot := by decide

/-- Repeating a conjunct changes nothing: unification is idempotent on normal forms. -/
theorem C01_idem (a : Val) (h : a.WF) : unify a a = a :=
  unify_idem a h

example : exAB.WF ∧ exL1.WF ∧ exL2.WF := by decide

/-- … and every evaluation result is a normal form, so no hypothesis is needed there. -/
theorem C01_idem_eval (e : Expr) : unify (eval e) (eval e) = eval e :=
  unify_idem _ (eval_wf e)

/-- Top is the identity of unification, on both sides, for ALL values. -/
theorem C01_top (a : Val) : unify a .top = a ∧ unify .top a = a :=
  ⟨unify_top_right a, unify_top_left a⟩

/-- Bottom absorbs, on both sides, for ALL values. -/
theorem C01_bot (a : Val) : unify a .bot = .bot ∧ unify .bot a = .bot :=
  ⟨unify_bot_right a, unify_bot_left a⟩

/-- Evaluation yields normal forms (no trailing empty slot, no bottom regular field,
normalised scalars — recursively) … -/
theorem C01_wf (e : Expr) : (eval e).WF :=
  eval_wf e

/-- … because unification preserves them. -/
theorem C01_unify_wf (a b : Val) (ha : a.WF) (hb : b.WF) : (unify a b).WF :=
  unify_wf a b ha hb

example : exA.WF ∧ exB.WF := by decide

/-- The scalar lattice the driver uses: meet is commutative, associative (bottom = `none`
propagating) and idempotent on normalised scalars. -/
theorem C01_scalar_laws :
    (∀ a b : Sc, Sc.meet a b = Sc.meet b a) ∧
    (∀ a b c : Sc, (Sc.meet a b).bind (fun r => Sc.meet r c)
        = (Sc.meet b c).bind (fun r => Sc.meet a r)) ∧
    (∀ a : Sc, a.WF → Sc.meet a a = some a) ∧
    (∀ a b r : Sc, Sc.meet a b = some r → r.WF) :=
  ⟨Sc.meet_comm, Sc.meet_assoc, Sc.meet_idem, Sc.meet_wf⟩

example : Sc.meet (.rng (some 0) (some 5)) (.rng (some 5) none) = some (.int 5) := by decide

/-! ### declaration order -/

/-- Declaration order: permuting the declarations (fields and embeddings) of a struct
literal does not change its value. -/
theorem C01_perm (ds ds' : List Decl) (h : ds.Perm ds') :
    eval (.structL ds) = eval (.structL ds') :=
  eval_structL_perm h

example : [Decl.field 0 .regular (.lit (.int 1)), .embed .top, .field 2 .optional (.lit .tInt)].Perm
    [.field 2 .optional (.lit .tInt), .field 0 .regular (.lit (.int 1)), .embed .top] := by decide

/-- `l: a & b` and the two declarations `l: a`, `l: b` are the same … -/
theorem C01_split (l : Nat) (t : ArcTy) (a b : Expr) :
    eval (.structL [.field l t (.and a b)]) = eval (.structL [.field l t a, .field l t b]) :=
  eval_split [] [] l t a b

/-- … also in the middle of a longer declaration list. -/
theorem C01_split_in (pre post : List Decl) (l : Nat) (t : ArcTy) (a b : Expr) :
    eval (.structL (pre ++ .field l t (.and a b) :: post)) =
      eval (.structL (pre ++ .field l t a :: .field l t b :: post)) :=
  eval_split pre post l t a b

/-- a conflicting pair: both sides are bottom -/
example : eval (.structL [.field 3 .regular (.and (.lit (.int 1)) (.lit (.int 2)))]) = .bot ∧
    eval (.structL [.field 3 .regular (.lit (.int 1)), .field 3 .regular (.lit (.int 2))]) = .bot := by
  decide

/-- A struct literal whose only declaration is an embedding is that expression. -/
theorem C01_embed (e : Expr) : eval (.structL [.embed e]) = eval e :=
  eval_embed e

/-- Files of a package: evaluating each file separately and unifying is the same as
evaluating all declarations as one file … -/
theorem C01_files_flatten (fs : List (List Decl)) : evalFiles fs = evalDeclsL fs.flatten :=
  evalFiles_flatten fs

/-- … so any redistribution / reordering of the declarations over files (in particular
any file order) gives the same package value. -/
theorem C01_files (fs fs' : List (List Decl)) (h : fs.flatten.Perm fs'.flatten) :
    evalFiles fs = evalFiles fs' :=
  evalFiles_perm fs fs' h

example : ([[Decl.embed .top, .embed .bot], [.embed .top]].flatten).Perm
    ([[Decl.embed .top], [], [.embed .bot, .embed .top]].flatten) := by decide

/-! ### the general statement -/

/-- Any composition of the rearrangements of Spec/Core.lean (declaration permutation,
`&` commutation / re-association / duplication / `& _`, field splitting, embedding
wrapping), applied at any nesting depth, preserves the evaluation result. -/
theorem C01_rearrangement (e e' : Expr) (h : Rearr e e') : eval e = eval e' :=
  eval_rearr h

/-- a nested instance: commute inside a field value inside an embedding, then permute -/
example : Rearr
    (.structL [.embed (.structL [.field 0 .regular (.and (.lit .tInt) (.lit (.int 1)))]), .embed .top])
    (.structL [.embed .top, .embed (.structL [.field 0 .regular (.and (.lit (.int 1)) (.lit .tInt))])]) :=
  .trans
    (.embed_congr [] [.embed .top] (.field_congr [] [] 0 .regular (.and_comm _ _)))
    (.perm (List.Perm.swap _ _ _))

/-- … and inside a list element -/
example : Rearr (.listL [.lit .tStr, .and (.lit .tInt) (.lit (.int 1))])
    (.listL [.lit .tStr, .structL [.embed (.and (.lit (.int 1)) (.lit .tInt))]]) :=
  .list_congr [.lit .tStr] [] (.trans (.and_comm _ _) (.embed _))

/-- test: lists of different length do not unify; a bottom element makes the list bottom -/
example : eval (.and (.listL [.lit .tInt]) (.listL [.lit .tInt, .lit .tInt])) = .bot ∧
    eval (.listL [.lit (.int 1), .and (.lit (.int 1)) (.lit (.int 2))]) = .bot := by decide

/-- test: the sample expression evaluates to the closed struct `{a: 1}` -/
example : eval exE = .struct (.cons (.some .regular (.sc (.int 1))) .nil) true := by decide

/-! ### top-level disjunctions with default marks -/

/-- Conjunct order with disjunctive operands: same disjuncts, same defaults. -/
theorem C01_disj_comm (x y : DVal) : DEquiv (unifyD x y) (unifyD y x) :=
  unifyD_comm x y

/-- Conjunct grouping with disjunctive operands. -/
theorem C01_disj_assoc (x y z : DVal) : DEquiv (unifyD (unifyD x y) z) (unifyD x (unifyD y z)) :=
  unifyD_assoc x y z

/-- `& _` changes nothing. -/
theorem C01_disj_top (x : DVal) : DEquiv (unifyD x (.single .top)) x :=
  unifyD_top x

/-- On disjunction-free operands `unifyD` is `unify`. -/
theorem C01_disj_single (a b : Val) : DEquiv (unifyD (.single a) (.single b)) (.single (unify a b)) :=
  unifyD_single a b

/-- `DEquiv` is an equivalence respected by `&`, `|` and `*`. -/
theorem C01_disj_congr :
    (∀ x, DEquiv x x) ∧ (∀ x y, DEquiv x y → DEquiv y x) ∧
    (∀ x y z, DEquiv x y → DEquiv y z → DEquiv x z) ∧
    (∀ x x' y y', DEquiv x x' → DEquiv y y' → DEquiv (unifyD x y) (unifyD x' y')) ∧
    (∀ x x' y y', DEquiv x x' → DEquiv y y' → DEquiv (orD x y) (orD x' y')) ∧
    (∀ x x', DEquiv x x' → DEquiv (markD x) (markD x')) :=
  ⟨DEquiv.refl, fun _ _ => DEquiv.symm, fun _ _ _ => DEquiv.trans,
   fun _ _ _ _ => unifyD_congr, fun _ _ _ _ => orD_congr, fun _ _ => markD_congr⟩

/-- Disjunct order and grouping (with the D1/D2 default rules). -/
theorem C01_or_comm (x y : DVal) : DEquiv (orD x y) (orD y x) :=
  orD_comm x y

theorem C01_or_assoc (x y z : DVal) : DEquiv (orD (orD x y) z) (orD x (orD y z)) :=
  orD_assoc x y z

/-- test: `(*1 | 2) & (1 | *2)` has the disjuncts 1, 2 and no default; and the other order -/
example : unifyD ⟨[(.sc (.int 1), true), (.sc (.int 2), false)], true⟩
      ⟨[(.sc (.int 1), false), (.sc (.int 2), true)], true⟩ =
    ⟨[(.sc (.int 1), false), (.bot, true), (.bot, false), (.sc (.int 2), false)], true⟩ := by
  decide

/-- `{a: 1}`, `{b: 2}`, `{a: 1, b: 2}` -/
def exSA : Val := .struct (.cons (.some .regular (.sc (.int 1))) .nil) false
def exSB : Val := .struct (.cons .none (.cons (.some .regular (.sc (.int 2))) .nil)) false
def exSAB : Val := .struct (.cons (.some .regular (.sc (.int 1)))
  (.cons (.some .regular (.sc (.int 2))) .nil)) false
/-- `{a: 1} | {b: 2}` -/
def exD : DVal := { items := [(exSA, true), (exSB, true)], hm := false }

/-- Repeating a disjunctive conjunct: FALSE in general — `x & x` for `x = {a: 1} | {b: 2}`
has the extra disjunct `{a: 1, b: 2}` (unification distributes, the cross terms of
overlapping open structs are not bottom).  The harness replays it on the implementation. -/
def C01_disj_idem_stmt : Prop :=
  ∀ x : DVal, (∀ a, x.mem a → a.WF) → DEquiv (unifyD x x) x

theorem C01_disj_idem_false : ¬ C01_disj_idem_stmt := by
  intro h
  have hwf : ∀ a, exD.mem a → a.WF := by
    rintro a ⟨_, b, hb⟩
    simp only [exD, List.mem_cons, Prod.mk.injEq, List.not_mem_nil, or_false] at hb
    rcases hb with ⟨rfl, _⟩ | ⟨rfl, _⟩ <;> decide
  have h1 : (unifyD exD exD).mem exSAB :=
    (mem_unifyD _ _ _).2 ⟨by decide, exSA, exSB,
      ⟨by decide, true, by simp [exD]⟩, ⟨by decide, true, by simp [exD]⟩, by decide⟩
  obtain ⟨_, b, hb⟩ := ((h exD hwf).mem exSAB).1 h1
  simp only [exD, List.mem_cons, Prod.mk.injEq, List.not_mem_nil, or_false] at hb
  rcases hb with ⟨hb, _⟩ | ⟨hb, _⟩ <;> exact absurd hb (by decide)


/-- … but TRUE when distinct disjuncts exclude each other (e.g. distinct scalars, closed
structs with different fields). -/
theorem C01_disj_idem_partial (x : DVal) (hwf : ∀ a, x.mem a → a.WF)
    (hex : ∀ a b, x.mem a → x.mem b → a ≠ b → unify a b = .bot) : DEquiv (unifyD x x) x :=
  unifyD_idem_of_exclusive x hwf hex

/-- Any composition of: conjunct order / grouping / `& _`, disjunct order / grouping, any
rearrangement inside a disjunction-free leaf, moving `&` between the levels — under `&`,
`|` and `*` at any depth — preserves the value (disjuncts, defaults, marks). -/
theorem C01_disj_rearrangement (e e' : DExpr) (h : DRearr e e') : DEquiv (evalD e) (evalD e') :=
  evalD_rearr h

example : DRearr (.and (.or (.mark (.leaf (.lit (.int 1)))) (.leaf (.lit (.int 2)))) (.leaf (.lit .tInt)))
    (.and (.leaf (.lit .tInt)) (.or (.leaf (.lit (.int 2))) (.mark (.leaf (.lit (.int 1)))))) :=
  .trans (.and_comm _ _) (.and_congr (.refl _) (.or_comm _ _))

end CueVerif.C01
