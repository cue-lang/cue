/-
C02 — Parsing, compiling, evaluating and exporting never crash and are repeatable.

The property has two halves.

* "never panics / overflows the stack / deadlocks, bounded time and memory" is a RUN-TIME
  behaviour of the Go program.  A pure Lean model is total by construction and cannot exhibit
  a nil dereference, a stack overflow or a scheduler deadlock, so nothing below says anything
  about that half: it is OBSERVED ONLY (harness/c02*.go: isolated worker processes with time
  and memory limits).  The only crash statement proved here is about the one place of the
  modelled code that can panic by construction, `sccReady[0]` in `Graph.Sort`
  (`C02_toposort_ok`).

* "running again yields byte-identical output, including field order and error text" rests,
  in the code, on two mechanisms that turn data collected in an arbitrary order (Go map
  iteration) into a canonical order: `errors.Sanitize` and `toposort.Graph.Sort`.  The
  theorems below state that each mechanism's output is a function of the SET it is given,
  not of the order of presentation — at full strength where that is true, and with the
  proved negation + the exact excluded region where it is false of the code.

  Tarjan's algorithm as transcribed from scc.go is proved to deliver the strongly connected
  components (`C02_tarjan*`), so the statements about `Graph.Sort` as a whole (`C02_sort_*`)
  carry no `IsSCC` hypothesis; and the graph construction of `toposort.VertexFeatures` is
  transcribed and proved to produce well-formed graphs only, whatever the struct literals are
  (`C02_vertexFeatures_*`).

* Scanner: the loops of cue/scanner/scanner.go are transcribed at the level of progress
  (each iteration consumes a rune or stops at end of input) and proved total
  (`C02_scan_*`, Proofs/ScanLoops.lean) — a statement about the MODEL's loops, tied to the
  implementation by a token-boundary trace comparison; it does not turn the observed half
  into a proof.

Every theorem here is a statement with a reference into the imported Proofs modules.
-/
import CueVerif.Proofs.Sanitize
import CueVerif.Proofs.ToposortIndep
import CueVerif.Proofs.ToposortTarjan
import CueVerif.Proofs.VertexFeatures
import CueVerif.Proofs.ScanLoops
namespace CueVerif.C02
open CueVerif CueVerif.Sanitize CueVerif.Toposort

/-! ### errors.Sanitize -/

/-- The comparison `removeMultiples` sorts with (position with NoPos first, then path) is a
total preorder on ALL errors, so `slices.SortFunc`'s precondition is met and "sorted" is
well defined.  (No well-formedness of positions is needed.) -/
theorem C02_sanitize_cmp_preorder : TotalPreorder cmp1 ∧ TotalPreorder cmpMsg :=
  ⟨Sanitize.cmp1_tp, Sanitize.cmpMsg_tp⟩

/-- FULL statement: Sanitize's output does not depend on the order in which the errors were
collected.  FALSE of the code (next two theorems). -/
def C02_sanitize_perm_stmt : Prop :=
  ∀ es es' : List Err, es.Perm es' → sanitize es = sanitize es'

/-- False, first reason: duplicates are recognised by position, path and `Error()` text, but
what is printed also shows the input positions / wrapped chain (`aux`); of two such
"duplicates" the one that happened to come first survives.  Witness: two errors equal up to
`aux`, in both orders. -/
theorem C02_sanitize_perm_false : ¬ C02_sanitize_perm_stmt := Sanitize.perm_false

/-- False, second reason, even when duplicates print identically (`MsgDet`): the sort uses
`Pos.Compare` (file NAME and offset), the grouping uses `==` (file POINTER and the whole
packed word).  Two positions that compare equal but are not `==` (two parses of a file name,
or RelPos/comma/scanned bits differing) tie in the sort, so a third error can end up between
two duplicates and the group is split.  Witness: three errors. -/
theorem C02_sanitize_perm_false_alias :
    ¬ (∀ es es' : List Err, es.Perm es' → MsgDet es → sanitize es = sanitize es') :=
  Sanitize.perm_false_alias

/-- What IS true, for every sorting function meeting the contract of `slices.SortFunc` (the
real one is unstable) and even for two different ones: when positions are canonical (H1) and
duplicates print identically (H2) — exactly the two excluded regions above — the output is a
function of the multiset of errors. -/
theorem C02_sanitize_perm_partial (S S' : (Err → Err → Ordering) → List Err → List Err)
    (hS : SortContract S) (hS' : SortContract S') (es es' : List Err)
    (hp : es.Perm es') (h1 : PosCanon es) (h2 : MsgDet es) :
    sanitizeWith S es = sanitizeWith S' es' :=
  Sanitize.sanitizeWith_perm S S' hS hS' es es' hp h1 h2

/-- Under H1 the output is strictly increasing in (position, path, message): sorted, and no
two survivors share position, path and message (duplicate-free). -/
theorem C02_sanitize_sorted_dedup (S : (Err → Err → Ordering) → List Err → List Err)
    (hS : SortContract S) (es : List Err) (h1 : PosCanon es) :
    StrictSorted (sanitizeWith S es) :=
  Sanitize.sanitizeWith_strictSorted S hS es h1

/-- FULL duplicate-freedom (no hypothesis) is false of the code: the split group of the alias
witness keeps both duplicates. -/
def C02_sanitize_dedup_stmt : Prop :=
  ∀ es : List Err, (sanitize es).Pairwise (fun x y => ¬ sameKey x y)

theorem C02_sanitize_dedup_false : ¬ C02_sanitize_dedup_stmt := Sanitize.dedup_false

/-- Nothing is invented and nothing is lost: every survivor is an input error, and every
input error has a survivor with the same position, path and message. -/
theorem C02_sanitize_complete (S : (Err → Err → Ordering) → List Err → List Err)
    (hS : SortContract S) (es : List Err) :
    (∀ e ∈ sanitizeWith S es, e ∈ es) ∧
    (∀ e ∈ es, ∃ e' ∈ sanitizeWith S es, sameKey e e') :=
  Sanitize.sanitizeWith_complete S hS es

/-- Idempotence (same hypotheses as `_perm_partial`). -/
theorem C02_sanitize_idem (S : (Err → Err → Ordering) → List Err → List Err)
    (hS : SortContract S) (es : List Err) (h1 : PosCanon es) (h2 : MsgDet es) :
    sanitizeWith S (sanitizeWith S es) = sanitizeWith S es :=
  Sanitize.sanitizeWith_idem S hS es h1 h2

/-- The contract is satisfiable, by the very algorithm the Go runtime runs for ≤ 12 errors,
so every theorem above applies to the executable `sanitize`. -/
theorem C02_insertionSort_contract : SortContract (fun cmp l => insertionSort cmp l) :=
  Sanitize.insertionSort_contract

-- non-vacuity (tests on samples, not the property): three distinct errors at two positions,
-- canonical and message-determined, are really reordered and de-duplicated
example : sanitize [⟨⟨1, [97], 5, 0⟩, [], [98], 0⟩, ⟨⟨1, [97], 2, 0⟩, [[120]], [99], 0⟩,
                    ⟨⟨1, [97], 5, 0⟩, [], [97], 0⟩, ⟨⟨1, [97], 5, 0⟩, [], [98], 0⟩]
    = [⟨⟨1, [97], 2, 0⟩, [[120]], [99], 0⟩, ⟨⟨1, [97], 5, 0⟩, [], [97], 0⟩, ⟨⟨1, [97], 5, 0⟩, [], [98], 0⟩] := by
  decide +kernel

/-! ### toposort.Graph.Sort -/

/-- `Graph.Sort` never reaches `sccReady[0]` with an empty ready list (the index-out-of-range
panic), the model's fuel suffices, and the result is a permutation of the graph's nodes — for
every well-formed graph, every presentation, every order in which the components are
delivered, every conforming sort, the current comparison (`fixed = true`) and the old one. -/
theorem C02_toposort_ok (fixed : Bool) (S : SortFn) (hS : S.Contract) (g : Graph) (comps : List Comp)
    (hg : g.WF) (hc : IsSCC g comps) :
    ∃ l, sortWith fixed S g comps = .ok l ∧ l.Perm g.nodes :=
  Toposort.sortWith_ok fixed S hS g comps hg hc

/-- The order respects every precedence edge that is not on a cycle: if `u → v` is an edge
and `u` is not reachable back from `v`, then `u` comes before `v`. -/
theorem C02_toposort_sound (fixed : Bool) (S : SortFn) (hS : S.Contract) (g : Graph) (comps : List Comp)
    (hg : g.WF) (hc : IsSCC g comps) (l : List Label) (hl : sortWith fixed S g comps = .ok l)
    (u v : Label) (hu : u ∈ g.nodes) (huv : v ∈ g.out u) (hacyc : ¬ Reach g v u) :
    Before l u v :=
  Toposort.sortWith_respects fixed S hS g comps hg hc l hl u v hu huv hacyc

/-- FULL statement: the field order is a function of the vertex and edge SETS, not of the
presentation (map iteration order of `Build`, AddEdge order, component order, tie behaviour
of the unstable sort).  `fixed = true` is `compareNodeByName` as it is in the code since commit
2c855f1 (a tie on `RawString` is broken by the label type); `fixed = false` is the comparison
before that commit. -/
def C02_toposort_perm_stmt (fixed : Bool) : Prop :=
  ∀ (S S' : SortFn), S.Contract → S'.Contract →
  ∀ (g g' : Graph) (comps comps' : List Comp), g.WF → g'.WF → g.Same g' →
    IsSCC g comps → IsSCC g' comps' →
    sortWith fixed S g comps = sortWith fixed S' g' comps'

/-- THE CODE THAT EXISTS: `Graph.Sort` is independent of the presentation, unconditionally —
for every well-formed graph, any two presentations of it, any two conforming sorts, any two
component lists meeting the SCC contract. -/
theorem C02_toposort_perm : C02_toposort_perm_stmt true := Toposort.perm_fixed

/-- Why: the comparison of the code tells all labels apart. -/
theorem C02_toposort_labels_distinct (g : Graph) : LabelsDistinct true g :=
  fun a _ b _ h => Toposort.cmpLabel_fixed_eq a b h

/-- About the OLD comparison (before 2c855f1, `fixed = false`: non-integer labels
compared by `RawString` only): the statement was false — the regular field "#a" and the
definition #a tied and came out in presentation order (witness: these two nodes, no edge, in
both orders; observed as run-to-run field order of `x: {"#a": 1} & {#a: 2}`).  Kept so that
the role of the tie-break stays visible: removing it makes exactly this witness reappear. -/
theorem C02_toposort_perm_false_old_comparison : ¬ C02_toposort_perm_stmt false := Toposort.perm_false

/-- Parametric form covering both comparisons: whenever the comparison tells the graph's
labels apart the output is independent of the presentation. -/
theorem C02_toposort_perm_partial (fixed : Bool) (S S' : SortFn) (hS : S.Contract) (hS' : S'.Contract)
    (g g' : Graph) (comps comps' : List Comp) (hg : g.WF) (hg' : g'.WF) (hsame : g.Same g')
    (hc : IsSCC g comps) (hc' : IsSCC g' comps') (hd : LabelsDistinct fixed g) :
    sortWith fixed S g comps = sortWith fixed S' g' comps' :=
  Toposort.sortWith_indep fixed S S' hS hS' g g' comps comps' hsame hc hc' hd

/-- The comparisons `Graph.Sort` sorts with are total preorders (the precondition of
`slices.SortFunc`), the current one and the old one. -/
theorem C02_toposort_cmp_preorder (fixed : Bool) :
    TotalPreorder (cmpLabel fixed) ∧ TotalPreorder (cmpComp fixed) :=
  ⟨Toposort.cmpLabel_tp fixed, Toposort.cmpComp_tp fixed⟩

/-! ### Tarjan's algorithm as written in scc.go -/

/-- The transcription of scc.go computes the strongly connected components: the hypothesis
`IsSCC g comps` of the theorems above holds of what `StronglyConnectedComponents()` returns
(`tarjan`, fuelled with `tarjanFuel g`; the proof shows the fuel is never exhausted). -/
def C02_tarjan_stmt : Prop := ∀ g : Graph, g.WF → IsSCC g (tarjan g)

/-- Invariant proof over the fuelled mutual recursion `findSCC`/`visitOut`
(Proofs/ToposortTarjan.lean). -/
theorem C02_tarjan : C02_tarjan_stmt := fun g hg => Toposort.tarjan_isSCC g hg

/-- the components partition the node set: no node twice, no empty component, exactly the nodes -/
theorem C02_tarjan_partition (g : Graph) (hg : g.WF) :
    (tarjan g).flatten.Nodup ∧ (∀ c ∈ tarjan g, c ≠ []) ∧ (∀ v, v ∈ g.nodes ↔ ∃ c ∈ tarjan g, v ∈ c) :=
  Toposort.tarjan_partition g hg

/-- every returned component is strongly connected -/
theorem C02_tarjan_strongly_connected (g : Graph) (hg : g.WF) :
    ∀ c ∈ tarjan g, ∀ u ∈ c, ∀ v ∈ c, Reach g u v ∧ Reach g v u :=
  Toposort.tarjan_strongly_connected g hg

/-- "The components returned are topologically sorted (forwards)" (doc comment of
`StronglyConnectedComponents`): no edge leads from a later component of the returned list
into an earlier one. -/
theorem C02_tarjan_topological (g : Graph) (hg : g.WF) :
    ∀ l1 c l2 d l3, tarjan g = l1 ++ c :: l2 ++ d :: l3 → ∀ u ∈ d, ∀ v ∈ g.out u, v ∉ c :=
  Toposort.tarjan_topological g hg

-- non-vacuity: a 3-cycle with a tail and an isolated node is well formed; its components
example : Toposort.Tarjan.exG.WF := Toposort.Tarjan.exG_wf
example : tarjan Toposort.Tarjan.exG = [[.int 4], [.int 2, .int 1, .int 0], [.int 3]] := by decide +kernel

/-! ### Graph.Sort end to end (components from Tarjan's algorithm: no `IsSCC` hypothesis left) -/

/-- `Graph.Sort` as a whole never panics on `sccReady[0]`, never runs out of the model's fuel
and returns a permutation of the nodes, for every well-formed graph. -/
theorem C02_sort_ok (S : SortFn) (hS : S.Contract) (g : Graph) (hg : g.WF) :
    ∃ l, sortG true S g = .ok l ∧ l.Perm g.nodes :=
  Toposort.sortG_ok S hS g hg

/-- `Graph.Sort` as a whole is a function of the vertex and edge SETS: two presentations of a
graph (node order = Go map iteration, edge order) and two conforming sorts give the same order. -/
theorem C02_sort_perm (S S' : SortFn) (hS : S.Contract) (hS' : S'.Contract) (g g' : Graph)
    (hg : g.WF) (hg' : g'.WF) (hsame : g.Same g') : sortG true S g = sortG true S' g' :=
  Toposort.sortG_indep S S' hS hS' g g' hg hg' hsame

/-- … and respects every precedence edge that is not on a cycle. -/
theorem C02_sort_sound (S : SortFn) (hS : S.Contract) (g : Graph) (hg : g.WF) (l : List Label)
    (hl : sortG true S g = .ok l) (u v : Label) (hu : u ∈ g.nodes) (huv : v ∈ g.out u)
    (hacyc : ¬ Reach g v u) : Before l u v :=
  Toposort.sortG_respects S hS g hg l hl u v hu huv hacyc

/-! ### toposort.VertexFeatures: the graph a list of struct literals induces -/

/-- Whatever the struct literals (positions, explicitness, field orders) and arcs are, the
builder `VertexFeatures` hands to `Build` is a map with distinct keys whose edges join nodes,
and every arc is a node: so EVERY node order `Build` can produce (any permutation of the keys)
is a well-formed graph — the hypothesis `g.WF` of the theorems above is met by construction. -/
theorem C02_vertexFeatures_wf (S0 : SortFn) (arcs : List Label) (roots : List Root) :
    (buildVF S0 arcs roots).WF ∧ (∀ a ∈ arcs, a ∈ (buildVF S0 arcs roots).keys) ∧
    (∀ ns, ns.Perm (buildVF S0 arcs roots).keys → ((buildVF S0 arcs roots).graph ns).WF) :=
  ⟨Toposort.buildVF_wf S0 arcs roots, Toposort.buildVF_arcs S0 arcs roots,
   fun ns hp => Toposort.graph_wf _ (Toposort.buildVF_wf S0 arcs roots) ns hp⟩

/-- The field order `VertexFeatures` returns is a function of the struct literals and arcs it
is given — the same for every order in which `maps.Values(nodesByFeature)` may list the nodes
(Go map iteration), and for every conforming sort inside `Graph.Sort`. -/
theorem C02_vertexFeatures_perm (S0 S S' : SortFn) (hS : S.Contract) (hS' : S'.Contract)
    (arcs : List Label) (roots : List Root) (ns ns' : List Label)
    (hp : ns.Perm (buildVF S0 arcs roots).keys) (hp' : ns'.Perm (buildVF S0 arcs roots).keys) :
    sortG true S ((buildVF S0 arcs roots).graph ns) = sortG true S' ((buildVF S0 arcs roots).graph ns') :=
  Toposort.vertexFeatures_sortG_indep S0 S S' hS hS' arcs roots ns ns' hp hp'

/-- … never the `sccReady[0]` panic; the result lists exactly the builder's nodes. -/
theorem C02_vertexFeatures_ok (S0 S : SortFn) (hS : S.Contract)
    (arcs : List Label) (roots : List Root) (ns : List Label)
    (hp : ns.Perm (buildVF S0 arcs roots).keys) :
    ∃ l, sortG true S ((buildVF S0 arcs roots).graph ns) = .ok l ∧ l.Perm (buildVF S0 arcs roots).keys :=
  Toposort.vertexFeatures_sortG_ok S0 S hS arcs roots ns hp

-- non-vacuity (a test): `x: {z: _, y: _} & {y: _, w: _, z: _}` (case 2 of the comment in
-- vertex.go: an explicit unification introduces the cycle y → w → z → y… here z → y, y → w,
-- w → z): the three labels form one component and come out in name order
example :
    let z : Label := .named 1 [122]
    let y : Label := .named 1 [121]
    let w : Label := .named 1 [119]
    vertexFeatures stableSort [z, y, w]
      [⟨1, ⟨1, [97], 3, 0⟩, true, [z, y]⟩, ⟨2, ⟨1, [97], 20, 0⟩, true, [y, w, z]⟩] = .ok [w, y, z] := by
  decide +kernel

-- … and implicit unification in source order keeps the source order: `c: {z: _, y: _}`,
-- `c: {x: _, w: _}` gives z, y, x, w
example :
    let z : Label := .named 1 [122]
    let y : Label := .named 1 [121]
    let x : Label := .named 1 [120]
    let w : Label := .named 1 [119]
    vertexFeatures stableSort [w, x, y, z]
      [⟨1, ⟨1, [97], 3, 0⟩, false, [z, y]⟩, ⟨2, ⟨1, [97], 20, 0⟩, false, [x, w]⟩] = .ok [z, y, x, w] := by
  decide +kernel

/-! ### the scanner's loops (cue/scanner/scanner.go): every loop makes progress

The model (Model/ScanLoops.lean) works on the rune sequence `Scanner.next` delivers; `e : Env`
is the input together with two ORACLES that are not this property's to model: the Unicode
letter/digit classes of runes ≥ 0x80, and the extent of a number literal (`scanNumber`, owned
by C09) — a number oracle that does not make progress yields the explicit result `badOracle`.
Every Go `for` loop is a fuelled function; `Res.fuel` = "the loop did not stop within the fuel".
These are theorems about the MODEL's loops; they are tied to the implementation by pins and by
comparing token-boundary traces (op `scan`), and say nothing about run time or memory. -/

/-- `recoverParen` (the loop of seeded change C02-a) stops within `length − position + 1`
iterations, at a position between its start and the end of input — for every input, every
start position and every parenthesis count. -/
theorem C02_scan_recoverParen_total (e : ScanLoops.Env) (f : Nat) (opn : Int) (p : Nat)
    (h : p ≤ e.len) (hf : e.len - p + 1 ≤ f) : ScanLoops.Bnd e p (ScanLoops.recoverParen e f opn p) :=
  ScanLoops.recoverParen_total e f opn p (.refl h) hf

/-- likewise `skipWhitespace`, `scanComment` and the main loop of `scanString` (single-line,
multi-line, `#`-quoted, resumed after an interpolation) -/
theorem C02_scan_loops_total (e : ScanLoops.Env) (f p : Nat) (h : p ≤ e.len) (hf : e.len - p + 1 ≤ f) :
    (∀ eol, ScanLoops.Bnd e p (ScanLoops.skipWhitespace e eol f p)) ∧
    ScanLoops.Bnd e p (ScanLoops.scanComment e f p) ∧
    (∀ q cont, ∃ r, ScanLoops.scanString e q cont f p = .ok r ∧ p ≤ r.1 ∧ r.1 ≤ e.len) :=
  ⟨fun eol => ScanLoops.skipWhitespace_total e eol f (.refl h) hf,
   ScanLoops.scanComment_total e f (.refl h) hf,
   fun q cont => ScanLoops.scanString_total e q cont f (.refl h) hf⟩

/-- Over one call of `Scan` (whole dispatch, incl. the recursion through attributes) every token
other than EOF strictly decreases the measure `μ = 2·(runes left) + (insertEOL ? 1 : 0)`: it
either consumes at least one rune or — the elided comma before a newline comment / at end of
input — clears `insertEOL` in place. -/
theorem C02_scan_progress (e : ScanLoops.Env) (F : Nat) (st st' : ScanLoops.St) (start : Nat)
    (cls : ScanLoops.Cls) (h0 : st.pos ≤ e.len) (hF : ScanLoops.μ e st + 2 ≤ F)
    (h : ScanLoops.scan e F st = .ok (st', start, cls)) :
    st'.pos ≤ e.len ∧ ScanLoops.μ e st' ≤ ScanLoops.μ e st ∧
      (cls ≠ .EOF → ScanLoops.μ e st' < ScanLoops.μ e st) :=
  ScanLoops.scan_progress e F st st' start cls h0 hF h

/-- One call of `Scan` never runs out of fuel `μ + 2`. -/
theorem C02_scan_call_total (e : ScanLoops.Env) (F : Nat) (st : ScanLoops.St) (h0 : st.pos ≤ e.len)
    (hF : ScanLoops.μ e st + 2 ≤ F) : ScanLoops.scan e F st ≠ .fuel :=
  ScanLoops.scan_total e F st h0 hF

/-- Scanner totality: the client loop the parser runs (Scan until EOF, ResumeInterpolation
after the parenthesis that closes an interpolation) ends within `2·length + 4` calls for EVERY
rune sequence and EVERY oracle. -/
theorem C02_scan_total (e : ScanLoops.Env) : ScanLoops.scanAll e ≠ .fuel :=
  ScanLoops.scanAll_total e

-- non-vacuity (tests): the input of seeded change C02-a is scanned to the end — the attribute
-- swallows the interpolation, `recoverParen` runs into the end of input and stops there
example : ScanLoops.scanAll (ScanLoops.sampleEnv "@x(\"\\(" []) =
    .ok [(0, 6, .ATTR), (6, 6, .COMMA_ELIDED), (6, 6, .EOF)] := by decide +kernel
-- a number oracle that makes no progress is reported, not looped on
example : ScanLoops.scanAll (ScanLoops.sampleEnv "1" [(0, 0)]) = .badOracle := by decide +kernel

-- non-vacuity: the contract of the sort is met by insertion sort, and `IsSCC` by the
-- singleton partition of the (edgeless) witness graph; with cycles see the test below
example : stableSort.Contract := Toposort.stableSort_contract
example : IsSCC Toposort.wG [[Toposort.wS], [Toposort.wD]] :=
  Toposort.isSCC_singletons Toposort.wG (fun _ => rfl) Toposort.wG_wf.nodup

-- non-vacuity (a test): a diamond a→b, a→c, b→d, c→d with a back edge d→b
-- sorts to a, c, then the component {b, d} (which has to wait for both a and c)
example :
    let g1 : Graph := ⟨[.named 1 [100], .named 1 [99], .named 1 [98], .named 1 [97]], fun
      | .named 1 [97] => [.named 1 [99], .named 1 [98]]
      | .named 1 [98] => [.named 1 [100]]
      | .named 1 [99] => [.named 1 [100]]
      | .named 1 [100] => [.named 1 [98]]
      | _ => []⟩
    sortG true stableSort g1 = .ok [.named 1 [97], .named 1 [99], .named 1 [98], .named 1 [100]] := by
  decide +kernel

end CueVerif.C02
