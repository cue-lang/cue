/-
C03 — Unifying scalars, basic types and bounds is exact set intersection.

Objects (Model/Scalar.lean, Spec/Scalar.lean):
  * `evalS re cs`  — the model of the evaluator on the conjunction `c₁ & … & cₙ`
                     (`insertValueConjunct` / `SimplifyBounds` / `updateNodeType` / `validateValue` /
                     `getValidators`, transcribed), result `bottom | atom a | residual kind bounds`;
  * `sat re a c`   — the specification: the atom `a` satisfies the conjunct `c`;
                     `Sat re cs a` = it satisfies every conjunct;
  * `accepts r a`  — `r` is the atom `a` (same kind, same exact value);
  * `re`           — an arbitrary regular-expression oracle.

Every theorem is for EVERY list of conjuncts (any length, any order, the atom at any position),
every atom and every oracle, WITHOUT side conditions.  (The model transcribes `SimplifyBounds` as of
repository commit 2ca10eb, which skips the integer re-adjustment when `BaseContext.Ceil/Floor`
is Inexact.  Without that condition the statements are false for bound operands with a fraction
and an integer part of more than 34 digits; `formerWitness` below is such a conjunction.)

Only statements live here; proofs are in Proofs/{Dec,Scalar,ScalarNode}.lean.
-/
import CueVerif.Proofs.ScalarNode
namespace CueVerif.C03
open CueVerif CueVerif.Scalar

/-! ### an atom unifies with the expression exactly when it satisfies every conjunct -/

/-- For every conjunction that contains the atom `a` as one conjunct — at any position — the
evaluation succeeds with (an atom equal to) `a` exactly when `a` satisfies every conjunct. -/
theorem C03_accept (re : Bytes → Bytes → Bool) (cs : List Constraint) (a : Atom)
    (ha : Constraint.atom a ∈ cs) :
    accepts (evalS re cs) a ↔ Sat re cs a :=
  accept_iff re cs a ha

/-- "... and the result is then that atom". -/
theorem C03_result (re : Bytes → Bytes → Bool) (cs : List Constraint) (a : Atom)
    (ha : Constraint.atom a ∈ cs) (hsat : Sat re cs a) :
    ∃ b, evalS re cs = .atom b ∧ b.same a = true :=
  (accept_iff re cs a ha).2 hsat

/-- Never accepted wrongly: a successful unification means every conjunct is satisfied. -/
theorem C03_accept_sound (re : Bytes → Bytes → Bool) (cs : List Constraint) (a b : Atom)
    (ha : Constraint.atom a ∈ cs) (h : evalS re cs = .atom b) (hb : b.same a = true) :
    ∀ c ∈ cs, sat re a c = true :=
  (accept_iff re cs a ha).1 ⟨b, h, hb⟩

-- non-vacuity: a conjunction with a satisfying atom in the middle
example : Sat (fun _ _ => false)
    [.type .int, .atom (.int 3), .bound ⟨.ge, .float ⟨25, -1⟩⟩, .bound ⟨.lt, .int 4⟩] (.int 3) := by
  unfold Sat; decide

/-- a lower bound with a fraction and a 37-digit integer part, for which `Ceil` is Inexact at
precision 34 and the simplification is skipped: `int & >=1234567890123456789012345678901234567.5
& <=1234567890123456789012345678901234569 & 1234567890123456789012345678901234568` -/
def formerWitness : List Constraint :=
  [.type .int,
   .bound ⟨.ge, .float ⟨12345678901234567890123456789012345675, -1⟩⟩,
   .bound ⟨.le, .int 1234567890123456789012345678901234569⟩,
   .atom (.int 1234567890123456789012345678901234568)]

/-- a test, not the property: the conjunction evaluates to its atom -/
theorem formerWitness_accepted :
    evalS (fun _ _ => false) formerWitness = .atom (.int 1234567890123456789012345678901234568) := by
  decide +kernel

/-! ### bottom only if no atom satisfies the expression -/

/-- The expression evaluates to bottom only if no atom satisfies every conjunct. -/
theorem C03_bottom_sound (re : Bytes → Bytes → Bool) (cs : List Constraint)
    (h : evalS re cs = .bottom) : ∀ a, ¬ Sat re cs a :=
  bottom_sound re cs h

-- non-vacuity: a conjunction that is bottom (`int & >3.4 & <3.6`)
example : evalS (fun _ _ => false)
    [.type .int, .bound ⟨.gt, .float ⟨34, -1⟩⟩, .bound ⟨.lt, .float ⟨36, -1⟩⟩] = .bottom := by
  decide

/-! ### never a different atom -/

/-- When the evaluator reports an atom, that atom satisfies every conjunct and it is the only
one that does (up to `1.0 = 1.00`). -/
theorem C03_pinned (re : Bytes → Bytes → Bool) (cs : List Constraint)
    (b : Atom) (h : evalS re cs = .atom b) :
    Sat re cs b ∧ ∀ a, Sat re cs a → a.same b = true :=
  pinned re cs b h

example : evalS (fun _ _ => false) [.bound ⟨.le, .float ⟨15, -1⟩⟩, .atom (.float ⟨10, -1⟩)] = .atom (.float ⟨10, -1⟩) := by
  decide

/-! ### a non-concrete result is exact too -/

/-- When the result is not concrete (`getValidators`: kind + surviving bounds) it admits exactly
the atoms that satisfy every conjunct: nothing is lost by tightening, de-duplication or the
pruning of a `!=` that another bound already excludes. -/
theorem C03_residual_exact (re : Bytes → Bytes → Bool) (cs : List Constraint) (k : Kind)
    (bs : List Bound) (h : evalS re cs = .residual k bs) (a : Atom) :
    Sat re cs a ↔ (Kind.has k a = true ∧ ∀ b ∈ bs, satBound re a b = true) :=
  residual_exact re cs k bs h a

example : evalS (fun _ _ => false) [.bound ⟨.lt, .int 5⟩, .bound ⟨.ne, .int 7⟩, .bound ⟨.lt, .int 3⟩] =
    .residual Kind.number [⟨.lt, .int 3⟩] := by decide

/-! ### every outcome of `SimplifyBounds` is sound (the cell lemma the above rest on) -/

/-- For an atom of a kind `k` allows and both bounds admit: `keepX`/`keepY` drop a bound the other
implies, an error means the two bounds exclude each other. -/
theorem C03_simplify_sound (re : Bytes → Bytes → Bool) (k : Kind) (x y : Bound) (v : Atom)
    (hax : boundAdmits x v = true) (hay : boundAdmits y v = true) (hk : Kind.has k v = true) :
    match simplifyBounds re k x y with
    | .keepX => boundHolds re x v = true → boundHolds re y v = true
    | .keepY => boundHolds re y v = true → boundHolds re x v = true
    | .err => ¬ (boundHolds re x v = true ∧ boundHolds re y v = true)
    | .both => True :=
  simplify_sound re k x y v hax hay hk

/-! ### int and float stay distinct kinds; comparison is by exact decimal value -/

theorem C03_kinds (re : Bytes → Bytes → Bool) (n : Int) (d : Dec) :
    sat re (.int n) (.type .float) = false ∧ sat re (.float d) (.type .int) = false ∧
    (Atom.int n).same (.float d) = false ∧ sat re (.int n) (.atom (.float d)) = false ∧
    sat re (.int n) (.type .number) = true ∧ sat re (.float d) (.type .number) = true :=
  ⟨(by decide : Nat.testBit 8 2 = false), (by decide : Nat.testBit 4 3 = false), rfl, rfl,
   (by decide : Nat.testBit 12 2 = true), (by decide : Nat.testBit 12 3 = true)⟩

/-- A numeric atom satisfies `<=e` / `>=e` exactly when its exact value is below / above `e`'s,
whatever the spelling (`1.0`, `1.00`, `10e-1`) and whether the operand is an int or a float. -/
theorem C03_exact_compare (re : Bytes → Bytes → Bool) (v m : Atom) (d e : Dec)
    (hv : v.num? = some d) (hm : m.num? = some e) :
    sat re v (.bound ⟨.le, m⟩) = (Dec.cmp d e).isLE ∧ sat re v (.bound ⟨.ge, m⟩) = (Dec.cmp e d).isLE :=
  ⟨sat_le_num re v m d e hv hm, sat_ge_num re v m d e hv hm⟩

/-- `Dec.cmp` is the comparison of the scaled integer numerators at any common exponent. -/
theorem C03_cmp_exact (a b : Dec) (e : Int) (ha : e ≤ a.exp) (hb : e ≤ b.exp) :
    Dec.cmp a b = compare (a.coeff * 10 ^ (a.exp - e).toNat) (b.coeff * 10 ^ (b.exp - e).toNat) :=
  Dec.cmp_at a b e ha hb

/-- … and `≤` read off it is transitive: with the totality of `compare`, a total preorder. -/
theorem C03_cmp_trans (a b c : Dec) (h1 : (Dec.cmp a b).isLE = true) (h2 : (Dec.cmp b c).isLE = true) :
    (Dec.cmp a c).isLE = true :=
  Std.TransCmp.isLE_trans h1 h2

end CueVerif.C03
