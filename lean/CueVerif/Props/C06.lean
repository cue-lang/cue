/-
Property C06 — arithmetic, comparison and numeric builtins are exact.

Model: CueVerif/Model/DecArith.lean (`numOp`, `quoOp`, `intDivOp`, `cmpOp` over the exact decimal
model `Dec`), CueVerif/Model/NumVal.lean (value of a literal spelling, number printing).
Specification: CueVerif/Spec/Arith.lean (values as rationals `toRat`, the literal grammar tree `Lit`
with `spell`/`denote`, the division identities, "correctly rounded").
Every theorem is a reference (for `C06_cmp_exact` and `C06_bytes_order` a tuple of references) into
CueVerif/Proofs/{ArithExact,ArithDiv,ArithQuo,NumValLit,NumValLitAccept,NumValPrint}.lean; the
definitions `WF`, `aop`, `cop`, `PrintRegular` and the refuted `…_stmt` statements are defined there
too.  All statements quantify over ALL operands / spellings.

False on model and implementation alike (kept as `…_stmt`, negation proved on a witness that the
harness replays on the real code, recorded in known-findings.d/C06.txt):
* `+ - *` beyond 34 significant digits are rounded silently (ints included);
* an SI literal whose product is not an integer is rejected (the spec truncates) — the only
  literal deviation left: an ACCEPTED grammar spelling always has the spec's value
  (`C06_literal_sound`): exponents outside ±100000 are an error (/repo 1674508) and the
  multiplier product is exact (/repo 06ced89);
* an int whose decimal exponent is positive prints in exponent notation and reads back as a float.
-/
import CueVerif.Proofs.ArithExact
import CueVerif.Proofs.ArithDiv
import CueVerif.Proofs.ArithQuo
import CueVerif.Proofs.NumValLit
import CueVerif.Proofs.NumValPrint
namespace CueVerif.Props.C06
open CueVerif CueVerif.Arith CueVerif.NumVal CueVerif.Spec.Arith
open CueVerif.Proofs

abbrev WF := ArithExact.WF

/-! ### `+ - *` -/

/-- The sum is the exact sum whenever that has at most 34 significant digits. -/
theorem C06_add_exact_partial (x y r : Num) (h : numOp .add x y = .num r)
    (hf : FitsVal prec (toRat x.d + toRat y.d)) : toRat r.d = toRat x.d + toRat y.d :=
  ArithExact.arith_exact .add x y r h hf

theorem C06_sub_exact_partial (x y r : Num) (h : numOp .sub x y = .num r)
    (hf : FitsVal prec (toRat x.d - toRat y.d)) : toRat r.d = toRat x.d - toRat y.d :=
  ArithExact.arith_exact .sub x y r h hf

theorem C06_mul_exact_partial (x y r : Num) (h : numOp .mul x y = .num r)
    (hf : FitsVal prec (toRat x.d * toRat y.d)) : toRat r.d = toRat x.d * toRat y.d :=
  ArithExact.arith_exact .mul x y r h hf

-- non-vacuity: 2^32 * 2^63 (29 digits) is beyond int64 and exact
example : numOp .mul ⟨.int, ⟨4294967296, 0⟩⟩ ⟨.int, ⟨9223372036854775808, 0⟩⟩
    = .num ⟨.int, ⟨39614081257132168796771975168, 0⟩⟩ := by decide

/-- The full statements (no 34-digit hypothesis). -/
def C06_add_exact_stmt : Prop := ArithExact.add_exact_stmt
def C06_sub_exact_stmt : Prop := ArithExact.sub_exact_stmt
def C06_mul_exact_stmt : Prop := ArithExact.mul_exact_stmt

/-- FALSE: `12345678901234567890123456789012345678901234567890 + 1` is rounded. -/
theorem C06_add_exact_false : ¬ C06_add_exact_stmt := ArithExact.add_exact_false
theorem C06_sub_exact_false : ¬ C06_sub_exact_stmt := ArithExact.sub_exact_false
/-- FALSE: `100000000000000000001 * 100000000000000000001` = 1.00000000000000000002e+40. -/
theorem C06_mul_exact_false : ¬ C06_mul_exact_stmt := ArithExact.mul_exact_false

/-- Beyond 34 digits the result is still the CORRECTLY ROUNDED exact result (what the spec allows
for floats: "round to the nearest representable value"). -/
theorem C06_arith_rounded (op : AOp) (x y r : Num) (h : numOp op x y = .num r) :
    IsRounding prec r.d (specOp (ArithExact.aop op) (toRat x.d) (toRat y.d)) :=
  ArithExact.arith_rounded op x y r h

/-- `+ - *` never fail except by leaving the exponent window of the decimal package. -/
theorem C06_arith_total (op : AOp) (x y : Num) :
    (∃ r, numOp op x y = .num r) ∨
      (numOp op x y = .err .failed ∧
        (alignOk op x.d y.d = false ∨ inWindow (round34 (exact op x.d y.d)).1 = false)) :=
  ArithExact.arith_total op x y

/-! ### result kinds -/

/-- The result of `+ - *` is an int exactly when both operands are ints. -/
theorem C06_kind_rule (op : AOp) (x y r : Num) (h : numOp op x y = .num r) :
    (r.k = .int ↔ (x.k = .int ∧ y.k = .int)) :=
  ArithExact.kind_rule op x y r h

/-- int op int is an int: kind int, well-formed again, integral value. -/
theorem C06_int_closed (op : AOp) (x y r : Num) (hx : WF x) (hy : WF y)
    (kx : x.k = .int) (ky : y.k = .int) (h : numOp op x y = .num r) :
    r.k = .int ∧ WF r ∧ ∃ z : Int, toRat r.d = (z : Rat) :=
  ArithExact.int_closed op x y r hx hy kx ky h

example : numOp .sub ⟨.int, ⟨3, 0⟩⟩ ⟨.int, ⟨10, 0⟩⟩ = .num ⟨.int, ⟨-7, 0⟩⟩ := by decide

/-! ### `/` -/

/-- `/` always yields a float whose value is the correctly rounded 34-digit quotient … -/
theorem C06_quo_round (x y r : Num) (h : quoOp x y = .num r) :
    r.k = .float ∧ ∃ r0 : Dec, IsRounding prec r0 (toRat x.d / toRat y.d) ∧ toRat r.d = toRat r0 :=
  ArithQuo.quo_rounded x y r h

/-- … and the exact quotient whenever that has at most 34 significant digits (in particular integer
quotients are never lost). -/
theorem C06_quo_exact (x y r : Num) (h : quoOp x y = .num r)
    (hf : FitsVal prec (toRat x.d / toRat y.d)) : toRat r.d = toRat x.d / toRat y.d :=
  ArithQuo.quo_exact x y r h hf

theorem C06_quo_total (x y : Num) :
    (∃ r, quoOp x y = .num r ∧ y.d.coeff ≠ 0) ∨
    (quoOp x y = .err .divZero ∧ y.d.coeff = 0) ∨
    (quoOp x y = .err .failed ∧ y.d.coeff ≠ 0) :=
  ArithQuo.quo_total x y

example : quoOp ⟨.int, ⟨4, 0⟩⟩ ⟨.int, ⟨2, 0⟩⟩ = .num ⟨.float, ⟨20, -1⟩⟩ := by decide

/-! ### div mod quo rem -/

/-- Euclidean division for all operand signs: `x = y·div + mod`, `0 ≤ mod < |y|`. -/
theorem C06_div_mod (x y : Int) (hy : y ≠ 0) : EuclidSpec x y (intFn .div x y) (intFn .mod x y) :=
  ArithDiv.div_mod x y hy

/-- Truncated division for all operand signs: `x = quo·y + rem`, `|rem| < |y|`, `rem` is zero or
has the sign of `x`. -/
theorem C06_quo_rem (x y : Int) (hy : y ≠ 0) : TruncSpec x y (intFn .quo x y) (intFn .rem x y) :=
  ArithDiv.quo_rem x y hy

/-- The builtins compute exactly these functions of the integers their operands denote, and the
result is an int with exponent 0. -/
theorem C06_intdiv_op (op : IOp) (a b : Num) (ha : a.k = .int) (hb : b.k = .int)
    (hz : b.d.coeff ≠ 0) :
    intDivOp op a b = .num ⟨.int, Dec.ofInt (intFn op (toIntegral a.d) (toIntegral b.d))⟩ :=
  ArithDiv.intDivOp_spec op a b ha hb hz

example : intFn .div (-7) 2 = -4 ∧ intFn .mod (-7) 2 = 1 ∧ intFn .quo (-7) 2 = -3 ∧ intFn .rem (-7) 2 = -1 ∧
    intFn .div 7 (-2) = -3 ∧ intFn .mod 7 (-2) = 1 := by decide

/-- Every division form is an error on a zero divisor. -/
theorem C06_zero_div (a b : Num) (hz : b.d.coeff = 0) :
    (∀ op, ∃ e, intDivOp op a b = .err e) ∧ quoOp a b = .err .divZero :=
  ArithDiv.zero_div a b hz

/-! ### comparison -/

/-- Comparison of numbers is comparison of the exact values whatever the kinds (int/float compared
by value); with `specCmp` over ℚ this makes `== != < <= > >=` a consistent total order. -/
theorem C06_cmp_total (op : COp) (x y : Num) :
    cmpOp op (.num x) (.num y) = .bool (specCmp (ArithExact.cop op) (toRat x.d) (toRat y.d)) :=
  ArithExact.cmp_num op x y

/-- the three-way comparison underneath agrees with the order of ℚ -/
theorem C06_cmp_exact (a b : Dec) :
    (Dec.cmp a b = .lt ↔ toRat a < toRat b) ∧ (Dec.cmp a b = .eq ↔ toRat a = toRat b) ∧
    (Dec.cmp a b = .gt ↔ toRat b < toRat a) :=
  ⟨ArithExact.cmp_lt_iff a b, ArithExact.cmp_eq_iff a b, ArithExact.cmp_gt_iff a b⟩

example : cmpOp .eq (.num ⟨.int, ⟨1, 0⟩⟩) (.num ⟨.float, ⟨100, -2⟩⟩) = .bool true := by decide

/-- Strings and bytes: the bytewise (lexicographic) order, a total order. -/
theorem C06_bytes_order (a b c : List Nat) :
    (bytesCmp a b = .eq ↔ a = b) ∧ (bytesCmp a b = .lt ↔ bytesCmp b a = .gt) ∧
    (bytesCmp a b = .lt → bytesCmp b c = .lt → bytesCmp a c = .lt) ∧
    (bytesCmp a b = .lt ↔ a < b) :=
  ⟨ArithExact.bytesCmp_eq_iff a b, ArithExact.bytesCmp_swap a b,
   ArithExact.bytesCmp_trans a b c, ArithExact.bytesCmp_lt_iff a b⟩

/-! ### number literals -/

/-- Every spelling of the grammar — every base, separator position, fraction, exponent and
multiplier — is accepted by `compiler.parse` (gate `ParseNum` + `NumInfo.decimal`) with the
grammar's kind and denotes exactly the spec's value, inside the region where the implementation
accepts it (no superfluous leading zero before a multiplier; exponent window; the multiplied
mantissa an integer — of any number of digits). -/
theorem C06_literal_partial (l : Lit) (hwf : l.wf = true) (hz : l.siLeadingZero = false)
    (hw : l.inWindow) (hi : l.siIntegral) :
    ∃ n, litValue l.spell = .ok n ∧ n.k = l.kind ∧ toRat n.d = l.denote :=
  NumValLit.literal_litValue l hwf hz hw hi

/-- Soundness, unconditionally: whenever a grammar spelling is ACCEPTED its kind and value are the
spec's.  Everything the implementation still gets wrong about literals is a rejection. -/
theorem C06_literal_sound (l : Lit) (hwf : l.wf = true) (n : Num)
    (h : litValue l.spell = .ok n) : n.k = l.kind ∧ toRat n.d = l.denote :=
  NumValLit.literal_sound l hwf n h

/-- Outside the exponent window (written exponent, fraction length or adjusted exponent beyond
±100000; a `decimal_lit` of more than 100001 digits) a literal is an ERROR, never another value
(/repo 1674508; the spec allows the error). -/
theorem C06_literal_window_error (l : Lit) (hwf : l.wf = true) (hw : ¬ l.inWindow) :
    readValue l.kind l.spell = .err :=
  NumValLit.literal_window_error l hwf hw

/-- `1e100001` is rejected. -/
theorem C06_literal_exponent_rejected :
    litValue (Lit.fExp [49] ⟨false, .none, [49, 48, 48, 48, 48, 49]⟩).spell = .err :=
  NumValLit.literal_exponent_rejected

/-- the value reader alone (no gate, leading zeros allowed) -/
theorem C06_literal_value (l : Lit) (hwf : l.wf = true) (hw : l.inWindow)
    (hi : l.siIntegral) :
    ∃ n, readValue l.kind l.spell = .ok n ∧ n.k = l.kind ∧ toRat n.d = l.denote :=
  NumValLit.literal_value l hwf hw hi

/-- C09's automaton `ParseNum` accepts every grammar spelling with the grammar's kind, except
`si_lit`s with a superfluous leading zero. -/
theorem C06_literal_accepted (l : Lit) (hwf : l.wf = true) (hz : l.siLeadingZero = false) :
    NumLit.parseNumUnsigned l.spell = some l.kind :=
  NumValLitAccept.literal_accepted l hwf hz

example : (Lit.si [49] (some [53]) ⟨.K, true⟩).wf = true ∧
    readValue .int (Lit.si [49] (some [53]) ⟨.K, true⟩).spell = .ok ⟨.int, ⟨1536, 0⟩⟩ := by decide

/-- The full statement: every grammar spelling is accepted and denotes the spec's value. -/
def C06_literal_stmt : Prop := NumValLit.literal_stmt

/-- FALSE: `1.3Ki` (spec: 1331) is rejected. -/
theorem C06_literal_false : ¬ C06_literal_stmt := NumValLit.literal_false
theorem C06_literal_false_trunc :
    litValue (Lit.si [49] (some [51]) ⟨.K, true⟩).spell = .err ∧
    (Lit.si [49] (some [51]) ⟨.K, true⟩).denote = 1331 := NumValLit.literal_false_trunc
/-- `12345678901234567890123456789012345678K` is exact, although the product has more than
34 digits (/repo 06ced89). -/
theorem C06_literal_big_mantissa :
    litValue (Lit.si [49,50,51,52,53,54,55,56,57,48,49,50,51,52,53,54,55,56,57,48,49,50,51,52,53,54,55,56,57,48,49,50,51,52,53,54,55,56] none ⟨.K, false⟩).spell
      = .ok ⟨.int, ⟨12345678901234567890123456789012345678000, 0⟩⟩ := NumValLit.literal_big_mantissa_ok

/-- `0K` denotes 0: `scanNumber` supplies the skipped `0` (/repo 726bce5). -/
theorem C06_literal_bare_zero :
    litValue (Lit.si [48] none ⟨.K, false⟩).spell = .ok ⟨.int, ⟨0, 0⟩⟩ := NumValLit.literal_bare_zero_ok

/-! ### printing -/

/-- Printing a number as CUE text and reading it back gives the same kind and value (ints with
exponent 0 and at most 100001 digits — every literal and every int result of up to 34 digits —
and all floats in the exponent window). -/
theorem C06_print_parse_partial (n : Num) (h : NumValPrint.PrintRegular n) :
    ∃ n', readBack (printNum n) = .ok n' ∧ n'.k = n.k ∧ toRat n'.d = toRat n.d :=
  NumValPrint.print_parse n h

/-- The JSON text reads back as the same value. -/
theorem C06_json_parse (n : Num) (h : NumValPrint.PrintRegular ⟨.float, n.d⟩) :
    ∃ n', readBack (jsonNum n) = .ok n' ∧ toRat n'.d = toRat n.d :=
  NumValPrint.json_parse n h

def C06_print_parse_stmt : Prop := NumValPrint.print_parse_stmt

/-- FALSE: an int with a positive decimal exponent (e.g. the exact product
`10000000000000000000 * 10000000000000000000`) prints as `1.000…e+38` and reads back as a float. -/
theorem C06_print_parse_false : ¬ C06_print_parse_stmt := NumValPrint.print_parse_false

end CueVerif.Props.C06
