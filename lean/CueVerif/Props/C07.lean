/-
C07 — printing an evaluated value as CUE and evaluating it again gives the same value.

The real exporter (internal/core/export, ~3,500 lines, conjunct-based, with let hoisting, import
inlining and self-contained output) is NOT transcribed; the property's own statement is checked on
it by translation validation in harness/c07*.go.  Proved here, over ALL inputs, are the export
PRIMITIVES that decide what the printed text means (models in Model/Export.lean, hand-transcribed
from the Go functions pinned in Bridge/C07.lean):

 (1) labels       `C07_label`, `C07_label_general`, `C07_label_ident_safe`, `C07_label_scans`;
                  the unconditional statement is FALSE (`C07_label_false`: the compiler NFC-normalises
                  quoted labels, the exporter does not) — a finding, replayed in the harness;
 (2) bounds       `C07_bounds_simplify` (boundSimplifier), `C07_range_exact`, `C07_range_named`,
                  `C07_range_table`, `C07_range_never_rune` (MatchBuiltinRange), `C07_conj_export`
                  (the whole `*adt.Conjunction` arm) — denotations by C03's `sat`;
 (3) parentheses  `C07_disj_reparses`, `C07_conj_reparses` — corollaries of C08;
 (4) values       `C07_value_roundtrip`, `C07_value_roundtrip_final` for the REFERENCE exporters
                  `exportV` / `exportFinal` on C01's CueCore values (not transcriptions).

NOT modelled (assumptions tied in the harness): the parser — in particular that it accepts any
identifier-shaped token, KEYWORDS INCLUDED (`if`, `for`, `in`, `let`, `true`, `false`, `null`), as a
field label with that name (the real exporter prints such labels unquoted; `if: 1` re-parses as
the field "if"); package-qualified hidden labels.  (`Dec` has no negative zero; apd's `Sign`, `IsZero`
and `Cmp` — all that bounds.go / builtinrange.go use — treat `-0` as `0`, so nothing is lost.)
Only statements live here; proofs are in CueVerif/Proofs/Export*.lean.
-/
import CueVerif.Spec.Export
import CueVerif.Proofs.ExportRange
import CueVerif.Proofs.ExportLabel
import CueVerif.Proofs.ExportFinal
import CueVerif.Proofs.ExportParen
namespace CueVerif.C07
open CueVerif CueVerif.Export

/-! ### (1) labels -/

/-- For EVERY label string `s` that is valid UTF-8 (the hypothesis C09's quoting theorem needs:
`literal.String.Quote` is lossy on invalid UTF-8 by design) and that NFC normalisation leaves
alone, the label the exporter prints — an identifier iff `!ast.StringLabelNeedsQuoting(s)`, else
`literal.String.Quote(s)` — compiles back to the regular field named `s`.
`E` = strconv.IsPrint/IsGraphic (only `E.Ok` assumed), `lU`/`dU` = unicode.IsLetter/IsDigit above
0x7F (arbitrary), `nfc` = norm.NFC.String. -/
theorem C07_label (E : Quote.Env) (hE : E.Ok) (lU dU : Nat → Bool) (nfc : Bytes → Bytes) (s : Bytes)
    (hb : Quote.IsBytes s) (hv : Quote.validUTF8 s = true) (hn : nfc s = s) :
    LabelRoundTrips E lU dU nfc s :=
  label_roundtrip hE lU dU nfc s hb hv hn

/-- Without the NFC hypothesis: an unquoted label comes back as `s`, a quoted one as `nfc s`. -/
theorem C07_label_general (E : Quote.Env) (hE : E.Ok) (lU dU : Nat → Bool) (nfc : Bytes → Bytes)
    (s : Bytes) (hb : Quote.IsBytes s) (hv : Quote.validUTF8 s = true) :
    parseLabel nfc (printLabel E lU dU s) =
      some (.str (if needsQuoting lU dU s = true then nfc s else s)) :=
  label_general hE lU dU nfc s hb hv

/-- the statement without the NFC hypothesis … -/
def C07_label_stmt (E : Quote.Env) (lU dU : Nat → Bool) (nfc : Bytes → Bytes) : Prop :=
  ∀ s : Bytes, Quote.IsBytes s → Quote.validUTF8 s = true → LabelRoundTrips E lU dU nfc s

/-- … is FALSE for the real NFC: the label "e"+U+0301 (valid UTF-8; U+0301 is a mark, neither
letter nor digit) is printed quoted and the compiler reads it back as "é" (U+00E9) — a different
field.  Genuine divergence of exporter and compiler (class `label-nfc`). -/
theorem C07_label_false (E : Quote.Env) (hE : E.Ok) (lU dU : Nat → Bool) (nfc : Bytes → Bytes)
    (hl : lU 0x301 = false) (hd : dU 0x301 = false) (hnfc : nfc nfcWitness = [0xC3, 0xA9]) :
    ¬ C07_label_stmt E lU dU nfc := by
  intro h
  have h1 := h nfcWitness nfcWitness_valid.1 nfcWitness_valid.2
  have h2 := label_general hE lU dU nfc nfcWitness nfcWitness_valid.1 nfcWitness_valid.2
  rw [nfcWitness_quoted lU dU hl hd, if_pos rfl, hnfc] at h2
  unfold LabelRoundTrips at h1
  rw [h2] at h1
  revert h1; decide

/-- When an identifier is printed it is the string itself, a valid identifier that starts with
neither `#` nor `_` — so it is neither a definition, nor hidden, nor `_`: a regular label. -/
theorem C07_label_ident_safe (E : Quote.Env) (lU dU : Nat → Bool) (s n : Bytes)
    (h : printLabel E lU dU s = .ident n) :
    n = s ∧ Ident.isValidIdent lU dU (runes n) = true ∧ hasPrefixByte 35 n = false ∧
      hasPrefixByte 95 n = false ∧ identFeature n = some (.str n) :=
  label_ident_safe E lU dU s n h

/-- … and the scanner reads its text back as ONE identifier-shaped token with literal `n`, without
error (C09's agreement of scanner and `IsValidIdent`, same hypotheses on `lU`/`dU`). -/
theorem C07_label_scans (E : Quote.Env) (lU dU : Nat → Bool) (hL1 : lU 0xFFFD = false)
    (hL2 : lU 0xFEFF = false) (hD1 : dU 0xFFFD = false) (hD2 : dU 0xFEFF = false)
    (hdisj : ∀ c, 128 ≤ c → lU c = true → dU c = false) (s n : Bytes)
    (h : printLabel E lU dU s = .ident n) : Ident.scanIdentClean lU dU (runes n) = true :=
  label_scans E lU dU hL1 hL2 hD1 hD2 hdisj s n h

/-- The label `exporter.stringLabel` itself prints (as of /repo 6c9a0c0: `package` and `import` are
always quoted, everything else is `ast.NewStringLabel`) compiles back to the regular field `s`, for
every valid-UTF-8, NFC-stable `s`. -/
theorem C07_export_label (E : Quote.Env) (hE : E.Ok) (lU dU : Nat → Bool) (nfc : Bytes → Bytes)
    (s : Bytes) (hb : Quote.IsBytes s) (hv : Quote.validUTF8 s = true) (hn : nfc s = s) :
    parseLabel nfc (exportLabel E lU dU s) = some (.str s) :=
  exportLabel_roundtrip hE lU dU nfc s hb hv hn

/-- An identifier the exporter prints as a label is never `package` or `import` — the two names the
parser does not accept as a field label at the top level of a file — and is what
`ast.NewStringLabel` yields (so `C07_label_ident_safe` / `C07_label_scans` apply to it). -/
theorem C07_export_label_no_file_keyword (E : Quote.Env) (lU dU : Nat → Bool) (s n : Bytes)
    (h : exportLabel E lU dU s = .ident n) :
    isFileKeyword n = false ∧ printLabel E lU dU s = .ident n :=
  exportLabel_ident_not_keyword E lU dU s n h

-- non-vacuity: `package` is quoted by the exporter although ast.NewStringLabel leaves it unquoted;
-- `if` stays an identifier
example : (∃ t, exportLabel Quote.asciiEnv (fun _ => false) (fun _ => false) [112, 97, 99, 107, 97, 103, 101] = .lit t) ∧
    printLabel Quote.asciiEnv (fun _ => false) (fun _ => false) [112, 97, 99, 107, 97, 103, 101] =
      .ident [112, 97, 99, 107, 97, 103, 101] ∧
    exportLabel Quote.asciiEnv (fun _ => false) (fun _ => false) [105, 102] = .ident [105, 102] :=
  ⟨⟨Quote.quote Quote.asciiEnv Quote.stringForm [112, 97, 99, 107, 97, 103, 101], by simp [exportLabel, isFileKeyword]⟩,
    by decide, by decide⟩

-- non-vacuity (samples, not the property): "a-b", "0a", "_x", "#y", "" are quoted; "if" and "é"
-- (with é a letter) are printed as identifiers; all of them meet the hypotheses of `C07_label`
section
private def lU : Nat → Bool := (· == 233)
private def dU : Nat → Bool := fun _ => false
example : needsQuoting lU dU [97, 45, 98] = true ∧ needsQuoting lU dU [48, 97] = true ∧
    needsQuoting lU dU [95, 120] = true ∧ needsQuoting lU dU [35, 121] = true ∧
    needsQuoting lU dU [] = true ∧ needsQuoting lU dU [105, 102] = false ∧
    needsQuoting lU dU [0xC3, 0xA9] = false := by decide
example : LabelRoundTrips Quote.asciiEnv lU dU id [97, 45, 98] :=
  C07_label _ Quote.asciiEnv_ok _ _ _ _ (by intro b hb; simp at hb; omega)
    (by simp [Quote.validUTF8, Quote.decodeFirst]) rfl
example : LabelRoundTrips Quote.asciiEnv lU dU id [0xC3, 0xA9] :=
  C07_label _ Quote.asciiEnv_ok _ _ _ _ (by intro b hb; simp at hb; omega)
    (by simp [Quote.validUTF8, Quote.decodeFirst, Quote.decodeRune, Quote.isCont]) rfl
example : LabelRoundTrips Quote.asciiEnv lU dU id [] :=
  C07_label _ Quote.asciiEnv_ok _ _ _ _ (by intro b hb; simp at hb) (by simp [Quote.validUTF8]) rfl
example : printLabel Quote.asciiEnv lU dU [105, 102] = .ident [105, 102] ∧
    Ident.scanIdentClean lU dU (runes [105, 102]) = true := by decide
end

/-! ### (2) bounds and predeclared ranges -/

/-- `boundSimplifier` (`add` over all values, then `expr`; all values kept when `expr` is nil)
preserves the denotation of EVERY list of conjuncts: the printed conjunction
`[int|uint &] min & max & unused…` is satisfied by exactly the atoms that satisfy the original.
`re` = the regular-expression oracle of C03 (arbitrary). -/
theorem C07_bounds_simplify (re : Scalar.Bytes → Scalar.Bytes → Bool) (cs : List Scalar.Constraint) :
    SameDenotation re cs (simplifyBounds cs) :=
  fun a => boundSimplifier_sound re cs a

-- non-vacuity: `int & >=0 & <=300 & !=5` becomes `uint & <=300 & !=5` (min dropped);
-- `>1.5 & >=2 & <10 & int` becomes `uint & >=2 & <10`; a lone `>=3 & int` is left alone
example : simplify [.type .int, .bound ⟨.ge, .int 0⟩, .bound ⟨.le, .int 300⟩, .bound ⟨.ne, .int 5⟩] =
    some ⟨.uint, none, some ⟨.le, .int 300⟩, [.bound ⟨.ne, .int 5⟩]⟩ := by decide
example : simplify [.bound ⟨.gt, .float ⟨15, -1⟩⟩, .bound ⟨.ge, .int 2⟩, .bound ⟨.lt, .int 10⟩, .type .int] =
    some ⟨.uint, some ⟨.ge, .int 2⟩, some ⟨.lt, .int 10⟩, []⟩ := by decide
example : simplify [.bound ⟨.ge, .int 3⟩, .type .int] = none := by decide

/-- The predeclared identifier `MatchBuiltinRange` answers denotes EXACTLY the conjunction it
replaces (C03's semantics of ranges, which C03's bridge ties to compile/predeclared.go). -/
theorem C07_range_exact (re : Scalar.Bytes → Scalar.Bytes → Bool) (cs : List Scalar.Constraint)
    (r : Scalar.Range) (h : matchBuiltinRange cs = some r) :
    ∀ a, Scalar.satAll re cs a = Scalar.sat re a (.range r) :=
  range_exact re cs r h

/-- Every non-empty answer of `MatchBuiltinRange` is the spelling of a predeclared range. -/
theorem C07_range_named (cs : List Scalar.Constraint) (h : matchBuiltinName cs ≠ "") :
    ∃ r, matchBuiltinRange cs = some r ∧ Range.name r = matchBuiltinName cs :=
  range_named cs h

/-- By `decide` over the COMPLETE tables of builtinrange.go: every row is the predeclared range
of the same name with the same numbers (C03's `Range.intSpec` / `floatMax`), and there is no row
for `rune`. -/
theorem C07_range_table :
    intBuiltinRanges.all intRowOK = true ∧ floatBuiltinRanges.all floatRowOK = true ∧
    (intBuiltinRanges ++ floatBuiltinRanges).all (fun r => r.name != "rune") = true :=
  ⟨int_table_ok, float_table_ok, no_rune_row⟩

/-- `rune` is never printed (so `int & >=0 & <=0x10FFFF` goes through the simplifier instead). -/
theorem C07_range_never_rune (cs : List Scalar.Constraint) : matchBuiltinRange cs ≠ some .rune :=
  range_not_rune cs

/-- The whole `*adt.Conjunction` arm with `cfg.Simplify` (fewer than two values: as they are;
a recognised range: its identifier, which the compiler knows; otherwise the simplifier) prints a
conjunction with the same denotation, for EVERY list of conjuncts. -/
theorem C07_conj_export (re : Scalar.Bytes → Scalar.Bytes → Bool) (cs : List Scalar.Constraint) :
    ∃ out, exportConj cs = some out ∧ SameDenotation re cs out :=
  exportConj_sound re cs

-- non-vacuity: `int & >=0.0 & <=255` is `uint8` (numeric equality), `>=-3.4…e38 & <=3.4…e38` is
-- `float32`, `int & >=0` is `uint`, `int & >=0 & <=256` is no range and is simplified instead
example : matchBuiltinRange [.type .int, .bound ⟨.ge, .float ⟨0, -1⟩⟩, .bound ⟨.le, .int 255⟩] = some .uint8 ∧
    matchBuiltinRange [.bound ⟨.le, .float Scalar.float32Max⟩, .bound ⟨.ge, .float Scalar.float32Max.neg⟩] = some .float32 ∧
    matchBuiltinRange [.bound ⟨.ge, .int 0⟩, .type .int] = some .uint ∧
    matchBuiltinRange [.type .int, .bound ⟨.ge, .int 0⟩, .bound ⟨.le, .int 256⟩] = none ∧
    exportConj [.type .int, .bound ⟨.ge, .int 0⟩, .bound ⟨.le, .int 256⟩] =
      some [.range .uint, .bound ⟨.le, .int 256⟩] := by decide

/-! ### (3) parentheses -/

/-- The exporter builds `d₁ | *d₂ | …` as a left-nested chain with `*` as a unary operator and NO
parenthesis node; for ARBITRARY well-formed disjunct trees (nested disjunctions, `&`, unary
bounds …) what either formatter writes scans and parses back to a tree that differs from the
exporter's tree in parenthesis nodes only: `*(a|b)` and `(a|b)&c` keep their grouping. -/
theorem C07_disj_reparses (ds : List (Bool × Fmt.Expr)) (h : ∀ d ∈ ds, d.2.wf = true) (e : Fmt.Expr)
    (he : mkDisj ds = some e) :
    (∃ t, (Fmt.scan (Fmt.render (Fmt.fmtV2 e))).bind Fmt.parseE = some t ∧ Fmt.erase t = Fmt.erase e) ∧
    (∃ t, (Fmt.scan (Fmt.render (Fmt.fmtV1 e))).bind Fmt.parseE = some t ∧ Fmt.erase t = Fmt.erase e) :=
  reparses_same e (mkDisj_wf ds h e he)

/-- the same for the `wrapBin(…, adt.AndOp)` chains of the conjunction arm -/
theorem C07_conj_reparses (es : List Fmt.Expr) (h : ∀ x ∈ es, x.wf = true) (e : Fmt.Expr)
    (he : mkConj es = some e) :
    (∃ t, (Fmt.scan (Fmt.render (Fmt.fmtV2 e))).bind Fmt.parseE = some t ∧ Fmt.erase t = Fmt.erase e) ∧
    (∃ t, (Fmt.scan (Fmt.render (Fmt.fmtV1 e))).bind Fmt.parseE = some t ∧ Fmt.erase t = Fmt.erase e) :=
  reparses_same e (mkConj_wf es h e he)

-- non-vacuity: the default disjunct `a | b` and the disjunct `(a | b) & c` built WITHOUT parenthesis
-- nodes: the formatter writes `*(a|b)|(a|b)&c` and the re-parsed tree has the two parenthesis nodes
example :
    let a := Fmt.Expr.atom (.ident ['a']); let b := Fmt.Expr.atom (.ident ['b'])
    let c := Fmt.Expr.atom (.ident ['c'])
    let ab := Fmt.Expr.bin .or a b
    mkDisj [(true, ab), (false, .bin .and ab c)] =
        some (.bin .or (.un .mul ab) (.bin .and ab c)) ∧
      Fmt.norm (.bin .or (.un .mul ab) (.bin .and ab c)) =
        .bin .or (.un .mul (.paren ab)) (.bin .and (.paren ab) c) := by decide

/-! ### (4) value-based export on CueCore -/

/-- The reference exporter: for EVERY normal-form value (any depth; structs with regular,
required and optional fields, closed or open; lists; scalars and integer ranges; top; bottom)
evaluating the exported expression gives the value back. -/
theorem C07_value_roundtrip (v : Core.Val) (h : v.WF) : Core.eval (exportV v) = v :=
  eval_exportV v h

/-- Under `cue.Final()` (optional fields skipped as by `structComposite` with `!ShowOptional`,
no `close`): evaluating the exported expression gives exactly the Final projection of the value
(`projFinal`, Spec/Export.lean: optional fields dropped, closedness forgotten, recursively) … -/
theorem C07_value_roundtrip_final (v : Core.Val) (h : v.WF) :
    Core.eval (exportFinal v) = projFinal v :=
  eval_exportFinal v h

/-- … which is again a normal form. -/
theorem C07_projFinal_wf (v : Core.Val) (h : v.WF) : (projFinal v).WF :=
  projFinal_wf v h

-- non-vacuity: the closed struct `{f0: 1, f1?: string, f3!: {f0?: int}}` is a normal form; its
-- Final projection is the open `{f0: 1, f3!: {}}` (slot 1 and the inner optional are gone and no
-- trailing empty slot remains)
example :
    let v : Core.Val := .struct (.cons (.some .regular (.sc (.int 1))) (.cons (.some .optional (.sc .tStr))
      (.cons .none (.cons (.some .required (.struct (.cons (.some .optional (.sc .tInt)) .nil) false)) .nil)))) true
    v.WF ∧ exportV v ≠ exportFinal v ∧
    projFinal v = .struct (.cons (.some .regular (.sc (.int 1))) (.cons .none (.cons .none
      (.cons (.some .required (.struct .nil false)) .nil)))) false := by decide

end CueVerif.C07
