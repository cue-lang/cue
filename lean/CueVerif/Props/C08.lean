/-
C08 — `cue fmt` is idempotent and never changes what a file means.

Proved here for the expression core (binary operators with the regenerated precedence table,
unary operators, parentheses, primary atoms), over ALL expression trees of any depth, including
trees built programmatically without positions:

  * the token stream the formatters emit parses back to the same tree up to parentheses
    (`C08_expr_roundtrip`, `C08_same_meaning`, `C08_parser_tree`), and printing is idempotent
    through the parser (`C08_idem`, `C08_norm_idem`);
  * token separation: if a blank is written wherever two adjacent tokens are a maximal-munch
    hazard, scanning the rendered line gives back exactly the tokens (`C08_no_token_merge`);
  * the default formatter (v2, internal/pretty) satisfies that hypothesis (`C08_v2_policy_safe`),
    hence its output re-parses to the same tree (`C08_v2_output_reparses`);
  * so does the legacy v1 printer (cue/format, CUE_EXPERIMENT=formatv2=0), whose UnaryExpr arm
    carries the same guard `unaryOpMergesWithOperand` as internal/pretty (commit ab8529a)
    (`C08_v1_policy_safe`, `C08_v1_output_reparses`); the printer without that guard, `fmtV1g false`,
    does not (`C08_v1_OLD_policy_unsafe`: `<` applied to `-1` is printed `<-1`).

Whole-file layout, comments and `-s` simplifications are not modelled (harness direct predicates).
Proofs: CueVerif/Proofs/Fmt{Parse,Scan,Policy}.lean; the closed instances here, by evaluation.
-/
import CueVerif.Proofs.FmtParse
import CueVerif.Proofs.FmtScan
import CueVerif.Proofs.FmtPolicy
namespace CueVerif.C08
open CueVerif CueVerif.Fmt

/-! ### printing preserves the tree -/

/-- Parsing the printed token stream of ANY well-formed tree yields its normal form: the same
tree with a parenthesis node exactly where the printer wrote parentheses and `((x))` collapsed. -/
theorem C08_expr_roundtrip (e : Expr) (h : e.wf = true) : parseE (printE e) = some (norm e) :=
  parse_print e h

/-- The normal form means the same: it differs from `e` in parenthesis nodes only. -/
theorem C08_same_meaning (e : Expr) : erase (norm e) = erase e :=
  erase_normP lowestPrec e

/-- For a tree that obeys the grammar (every tree the parser returns) the normal form is the tree
itself with doubled parentheses collapsed — the only tree change `cue fmt` makes to a source file's
expressions. -/
theorem C08_parser_tree (e : Expr) (h : Shaped 0 e = true) : norm e = collapse e :=
  normP_shaped lowestPrec e h

/-- Formatting is idempotent through the parser: re-printing the re-parsed output gives the same
tokens. -/
theorem C08_idem (e : Expr) (h : e.wf = true) : (parseE (printE e)).map printE = some (printE e) := by
  rw [parse_print e h]; exact congrArg some (printP_normP lowestPrec e)

/-- ... and the tree no longer changes on a second pass. -/
theorem C08_norm_idem (e : Expr) : norm (norm e) = norm e :=
  normP_idem lowestPrec e

/-- The output tree obeys the grammar (nothing relies on the printer's own parenthesisation twice). -/
theorem C08_norm_shaped (e : Expr) (h : e.wf = true) : Shaped 0 (norm e) = true :=
  shaped_normP lowestPrec e

-- non-vacuity: `(a + b) * -(1 - (c - d))` built WITHOUT parenthesis nodes is well-formed, is not
-- grammar-shaped, and its normal form has three parenthesis nodes
example :
    let a := Expr.atom (.ident ['a']); let b := Expr.atom (.ident ['b'])
    let e := Expr.bin .mul (.bin .add a b) (.un .sub (.bin .sub (.atom (.int ['1'])) (.bin .sub a b)))
    e.wf = true ∧ Shaped 0 e = false ∧ norm e ≠ e ∧ parseE (printE e) = some (norm e) := by decide

/-! ### token separation under maximal munch -/

/-- If a blank is written wherever two adjacent tokens are a hazard (would be scanned as
something else when written without a separator), the scanner returns exactly the tokens. Holds for
ANY token list over the operator / punctuation alphabet and atoms, not only printed expressions. -/
theorem C08_no_token_merge (l : Items) (hwf : ∀ x ∈ l, x.2.wf = true) (h : sepOK l = true) :
    scan (render l) = some (toks l) :=
  scan_render l hwf h

/-- The hazard table is tight: a hazardous pair written without a blank is never scanned as the two
tokens (so the hypothesis of `C08_no_token_merge` cannot be weakened). -/
theorem C08_hazard_tight (a b : Tok) (ha : a.wf = true) (hb : b.wf = true) (h : hazard a b = true)
    (rest : List Char) : scanOne (a.spell ++ b.spell ++ rest) ≠ some (a, b.spell ++ rest) :=
  hazard_tight a b ha hb h rest

-- non-vacuity: `< -1` needs its blank, `<-1` is scanned as ARROW
example : sepOK [(false, .op .lss), (true, .op .sub), (false, .atom (.int ['1']))] = true ∧
    scan ['<', '-', '1'] = some [.op .arrow, .atom (.int ['1'])] := by decide

/-! ### the two formatters -/

/-- Both formatters emit the token stream `printE` (same parenthesisation decisions). -/
theorem C08_v2_tokens (e : Expr) : toks (fmtV2 e) = printE e := toks_fmtV2 e
theorem C08_v1_tokens (guard : Bool) (e : Expr) : toks (fmtV1g guard e) = printE e := toks_fmtV1g guard e

/-- The default formatter's blank policy separates every hazardous pair. -/
theorem C08_v2_policy_safe (e : Expr) (h : e.wf = true) : sepOK (fmtV2 e) = true :=
  fmtV2_safe e h

/-- Hence: the characters the default formatter writes for any expression tree scan and parse back
to the tree's normal form. -/
theorem C08_v2_output_reparses (e : Expr) (h : e.wf = true) :
    (scan (render (fmtV2 e))).bind parseE = some (norm e) :=
  reparses (toks_fmtV2 e) h (fmtV2_safe e h)

/-- The legacy v1 printer (cue/format, CUE_EXPERIMENT=formatv2=0) as it is in the tree — with the
guard `unaryOpMergesWithOperand` in the UnaryExpr arm (fix ab8529a; `fmtV1 = fmtV1g v1GuardEnabled`,
`v1GuardEnabled = true`) — separates every hazardous pair, for every tree. -/
theorem C08_v1_policy_safe (e : Expr) (h : e.wf = true) : sepOK (fmtV1 e) = true :=
  fmtV1g_safe true e h nofun

/-- Hence the characters the v1 printer writes for any expression tree scan and parse back to the
tree's normal form. -/
theorem C08_v1_output_reparses (e : Expr) (h : e.wf = true) :
    (scan (render (fmtV1 e))).bind parseE = some (norm e) :=
  reparses (toks_fmtV1g true e) h (fmtV1g_safe true e h nofun)

/-- `<` applied to a negative number built as ONE literal (`negLit`, what the exporter produces) is
printed `< -1` by both printers, never `<-1`, and re-parses; `>` applied to it is printed `>-1`,
which is no hazard. -/
theorem C08_negative_literal_separated :
    render (fmtV1 (.un .lss (negLit ['1']))) = ['<', ' ', '-', '1'] ∧
    render (fmtV2 (.un .lss (negLit ['1']))) = ['<', ' ', '-', '1'] ∧
    render (fmtV1 (.un .gtr (negLit ['1']))) = ['>', '-', '1'] ∧
    (scan (render (fmtV1 (.un .lss (negLit ['1']))))).bind parseE = some (.un .lss (negLit ['1'])) := by decide

/-! #### the v1 printer WITHOUT the guard (`fmtV1g false`, cue/format before commit ab8529a): why the
guard is needed.  Nothing below is about `fmtV1`. -/

/-- safety of the printer without the guard — FALSE -/
def C08_v1_OLD_policy_safe_stmt : Prop := ∀ e : Expr, e.wf = true → sepOK (fmtV1g false e) = true

/-- the witness: `<` applied to `-1` (ast.UnaryExpr{Op: LSS, X: &ast.UnaryExpr{Op: SUB, X: 1}}) -/
def v1Witness : Expr := .un .lss (.un .sub (.atom (.int ['1'])))

/-- without the guard the witness is printed `<-1`, which the scanner reads as ARROW 1 -/
theorem C08_v1_OLD_policy_witness_merges :
    render (fmtV1g false v1Witness) = ['<', '-', '1'] ∧
    scan (render (fmtV1g false v1Witness)) = some [.op .arrow, .atom (.int ['1'])] ∧
    (scan (render (fmtV1g false v1Witness))).bind parseE = none := by decide

theorem C08_v1_OLD_policy_unsafe : ¬ C08_v1_OLD_policy_safe_stmt := by
  intro h
  have := h v1Witness (by decide)
  revert this
  decide

/-- `fmtV1` prints the same witness `< -1`, which re-parses -/
theorem C08_v1_witness_now_separated :
    render (fmtV1 v1Witness) = ['<', ' ', '-', '1'] ∧
    (scan (render (fmtV1 v1Witness))).bind parseE = some v1Witness := by decide

/-- without the guard the printer is still safe on every tree in which no unary operator is
directly followed by an operand whose first token merges with it -/
theorem C08_v1_OLD_policy_safe_partial (e : Expr) (h : e.wf = true) (hn : NoUnaryMerge e = true) :
    sepOK (fmtV1g false e) = true :=
  fmtV1g_safe false e h fun _ => hn

-- non-vacuity: `a*b + c*-d < -x` has unary operators and satisfies NoUnaryMerge; the witness does not
example :
    let a := Expr.atom (.ident ['a'])
    let e := Expr.bin .lss (.bin .add (.bin .mul a a) (.bin .mul a (.un .sub a))) (.un .sub a)
    e.wf = true ∧ NoUnaryMerge e = true ∧ NoUnaryMerge v1Witness = false := by decide

end CueVerif.C08
