/-
C09 — the parser is total and literals round-trip through quoting.

The theorems are stated here and proved by reference into CueVerif/Proofs/{Utf8,Quote,QuoteHash,
QuoteAscii,QuoteMain,QuoteMulti,NumLit,Ident,TokenFile,TokenFileContent,ScanLen,ScanStep,ScanTotal,
ScanPlain}.lean; where a statement is a conjunction its parts are put together
here, and the `_stmt` definitions that are false are refuted here on their witness.  The models
transcribe cue/literal/{quote,string,num}.go,
cue/scanner/scanner.go, cue/token/position.go and cue/ast/ident.go.

Conventions: Go strings are byte lists (`IsBytes`); `E : Env` carries `strconv.IsPrint` /
`strconv.IsGraphic`, of which only `Env.Ok` is assumed (NUL, LF, CR are neither);
`Form.WF` says the form is one the library exports (`"`-quoted lossy String/Label, or
`'`-quoted exact Bytes), any combination of the With… options; `Representable f s` is
"Bytes form, or s is valid UTF-8" (String quoting of invalid UTF-8 is lossy by design).

Parser totality / node positions are NOT theorems (no model of the 2,000-line parser):
they are the executable predicate of harness/c09.go evaluated on the implementation.
-/
import CueVerif.Spec.Quote
import CueVerif.Proofs.QuoteMain
import CueVerif.Proofs.QuoteMulti
import CueVerif.Proofs.NumLit
import CueVerif.Proofs.Ident
import CueVerif.Proofs.TokenFile
import CueVerif.Proofs.ScanTotal
import CueVerif.Proofs.TokenFileContent
import CueVerif.Proofs.ScanPlain
namespace CueVerif.C09
open CueVerif CueVerif.Quote

/-! ### quoting round trips -/

/-- EVERY single-line form the library exports — String, Label, Bytes; with or without
`WithOptionalHashes` (any number of '#'), ASCII-only, graphic-only; `WithOptionalTabIndent`
on a string without newline: `Unquote(Quote(s)) = s` for EVERY byte string s the form can
represent.  Full strength, no side condition on s (the code as of /repo a2b8800). -/
theorem C09_roundtrip_hashes (E : Env) (hE : E.Ok) (f : Form) (hf : f.WF) (s : Bytes)
    (hb : IsBytes s) (hr : Representable f s) (hml : f.effMultiline s = false) :
    RoundTrips E f s :=
  roundtrip_single_all hE f hf s hb hr hml

/-- the forms without optional hashes are a special case (kept under its own name: it is
the core theorem of DESIGN.md) -/
theorem C09_roundtrip_single (E : Env) (hE : E.Ok) (f : Form) (hf : f.WF) (s : Bytes)
    (hb : IsBytes s) (hr : Representable f s) (hml : f.effMultiline s = false)
    (_ha : f.autoHash = false) : RoundTrips E f s :=
  roundtrip_single_all hE f hf s hb hr hml

-- non-vacuity: a bytes form on a string with a quote, a backslash, a control character,
-- invalid UTF-8 and a non-BMP rune meets the hypotheses
example : RoundTrips asciiEnv bytesForm [0x27, 0x5C, 0x01, 0xFF, 0xF0, 0x9F, 0x98, 0x80, 0x0A] :=
  C09_roundtrip_single asciiEnv asciiEnv_ok bytesForm (Or.inr ⟨rfl, rfl⟩) _
    (by unfold IsBytes; decide) (Or.inl rfl) (by decide) rfl
-- an optional-hashes form on a string with a quote followed by hashes and a backslash
-- followed by a hash (three hashes are chosen), and on `""x`, the witness of the old defect
example : RoundTrips asciiEnv stringForm.withOptionalHashes [0x61, 0x22, 0x23, 0x23, 0x5C, 0x23] :=
  C09_roundtrip_hashes asciiEnv asciiEnv_ok _ (Or.inl ⟨rfl, rfl⟩) _
    (by unfold IsBytes; decide) (Or.inr (by simp [validUTF8, decodeFirst])) (by decide)
example : RoundTrips asciiEnv stringForm.withOptionalHashes [0x22, 0x22, 0x78] :=
  C09_roundtrip_hashes asciiEnv asciiEnv_ok _ (Or.inl ⟨rfl, rfl⟩) _
    (by unfold IsBytes; decide) (Or.inr (by simp [validUTF8, decodeFirst])) (by decide)

/-- About `quoteOld`, the variant with the hash count of the code before /repo a2b8800 (not
tied to the tree): the same full statement … -/
def C09_roundtrip_hashes_old_stmt : Prop := roundtrip_hashes_old_stmt
/-- … is FALSE (`""x` → `#"""x"#`, read as a multi-line opener) … -/
theorem C09_roundtrip_hashes_old_false : ¬ C09_roundtrip_hashes_old_stmt := roundtrip_hashes_old_false
/-- … and true exactly outside `startsTwoQuotes`. -/
theorem C09_roundtrip_hashes_old_partial (E : Env) (hE : E.Ok) (f : Form) (hf : f.WF) (s : Bytes)
    (hb : IsBytes s) (hr : Representable f s) (hml : f.effMultiline s = false)
    (h2 : startsTwoQuotes f.quote s = false) : RoundTripsOld E f s :=
  roundtrip_hashes_old_partial hE f hf s hb hr hml h2

/-- `\u`/`\U` escapes decode to a rune ≤ MaxRune or are a syntax error: an overflowing
`\U` cannot collide with the loop's sentinels or panic (the code as of /repo 4627158). -/
theorem C09_unquote_U_escape_total (q : QuoteInfo) (e : Nat) (he : e = 0x75 ∨ e = 0x55) (t : Bytes) :
    (∃ v t', unquoteEscape q e t = .ok (.char v true, t') ∧ v ≤ 0x10FFFF) ∨
    unquoteEscape q e t = .error .syntax :=
  unquoteEscape_U_total q e he t

/-- Multi-line forms (`WithTabIndent(n)`, and `WithOptionalTabIndent(n)` on a string with a
newline), any indentation, String/Label/Bytes, any other option: `Unquote(Quote(s)) = s` for
EVERY representable byte string — incl. CR, trailing backslash, blank lines, leading/trailing
LF, `"""` followed by '#' runs (the hash count of `requiredHashCount` exceeds every '#' run
after three or more quotes, so no line of the body starts with the closing delimiter). -/
theorem C09_roundtrip_multi (E : Env) (hE : E.Ok) (f : Form) (hf : f.WF) (s : Bytes)
    (hb : IsBytes s) (hr : Representable f s) (hml : f.effMultiline s = true) : RoundTrips E f s :=
  roundtrip_multi hE f hf s hb hr hml

/-- The literal clause of the property in one statement: EVERY quoting form the library can
produce (single line, multi-line, any number of '#', ASCII-only, graphic-only) unquotes to
exactly the original, for EVERY byte string the form can represent. -/
theorem C09_roundtrip (E : Env) (hE : E.Ok) (f : Form) (hf : f.WF) (s : Bytes)
    (hb : IsBytes s) (hr : Representable f s) : RoundTrips E f s := by
  cases hml : f.effMultiline s with
  | true => exact roundtrip_multi hE f hf s hb hr hml
  | false => exact roundtrip_single_all hE f hf s hb hr hml

-- non-vacuity: a multi-line bytes form on CR LF, a blank line, `'''#`, an invalid byte, a
-- trailing backslash and a trailing LF
example : RoundTrips asciiEnv (bytesForm.withTabIndent 2)
    [0x61, 0x0D, 0x0A, 0x0A, 0x27, 0x27, 0x27, 0x23, 0xFF, 0x5C, 0x0A] :=
  C09_roundtrip asciiEnv asciiEnv_ok _ (Or.inr ⟨rfl, rfl⟩) _
    (by unfold IsBytes; decide) (Or.inl rfl)

/-- `WithASCIIOnly`: every byte of the literal is ASCII — for EVERY form (single line,
multi-line, optional hashes) and every input. -/
theorem C09_ascii_only (E : Env) (f : Form) (hf : f.WF) (ha : f.asciiOnly = true) (s : Bytes) :
    IsAscii (quote E f s) :=
  quote_ascii f hf ha s

-- non-vacuity: a multi-line ASCII-only form on non-ASCII input
example : IsAscii (quote asciiEnv (stringForm.withASCIIOnly.withTabIndent 1) [0xC3, 0xA9, 0x0A, 0x62]) :=
  C09_ascii_only asciiEnv _ (Or.inl ⟨rfl, rfl⟩) rfl _

/-! ### the scanner and the literal package agree on number spellings -/

/-- On every spelling on which `Scan` starts a number token (first byte a digit, or '.'
followed by a digit), except those beginning with "0_", the scanner lexes the whole input
as one error-free INT/FLOAT token iff `literal.ParseNum` accepts it, with the same kind. -/
theorem C09_numbers_agree (s : NumLit.Str) (h : NumLit.startsNumber s = true)
    (hz : NumLit.zeroUnderscore s = false) : NumLit.scannerAccepts s = NumLit.parseNum s :=
  NumLit.numbers_agree s h hz

/-- Everything the scanner accepts as a number, `literal.ParseNum` accepts with the same
kind (unconditionally). -/
theorem C09_numbers_scanner_sub_literal (s : NumLit.Str) (k : NumLit.Kind) :
    NumLit.scannerAccepts s = some k → NumLit.parseNum s = some k :=
  NumLit.scanner_sub_literal s k

/-- The unconditional agreement … -/
def C09_numbers_agree_stmt : Prop := NumLit.numbers_agree_stmt
/-- … is FALSE: `literal.ParseNum` accepts "_1" (the scanner lexes an identifier); genuine
divergence, replayed on the implementation (class parsenum-leading-underscore). -/
theorem C09_numbers_agree_false : ¬ C09_numbers_agree_stmt := NumLit.numbers_agree_false

/-- Agreement on all spellings that start a number token … -/
def C09_numbers_agree_started_stmt : Prop := NumLit.numbers_agree_started_stmt
/-- … is FALSE too: `literal.ParseNum` accepts "0_1.5" as a float, the scanner lexes INT "0"
then an identifier (class parsenum-zero-underscore). -/
theorem C09_numbers_agree_started_false : ¬ C09_numbers_agree_started_stmt :=
  NumLit.numbers_agree_started_false

/-- The spellings only `literal.ParseNum` accepts are exactly in those two regions. -/
theorem C09_numbers_literal_only (s : NumLit.Str) (k : NumLit.Kind) :
    NumLit.parseNum s = some k → NumLit.scannerAccepts s = none →
      NumLit.startsNumber s = false ∨ NumLit.zeroUnderscore s = true :=
  NumLit.literal_only s k

-- non-vacuity (samples, not the property)
example : NumLit.scannerAccepts [49, 46, 53, 101, 51] = some .float ∧
    NumLit.parseNum [49, 46, 53, 101, 51] = some .float := by decide

/-! ### the scanner and `ast.IsValidIdent` agree on identifier spellings -/

/-- For every string of code points the scanner's first token is identifier-shaped (IDENT or
keyword), error-free, with the whole input as its literal iff `ast.IsValidIdent` holds.
`lU`/`dU` stand for `unicode.IsLetter`/`unicode.IsDigit` on runes ≥ 0x80; assumed of them:
U+FFFD and U+FEFF are neither letter nor digit, and no rune is both letter and digit. -/
theorem C09_ident_agree (lU dU : Nat → Bool) (hL1 : lU 0xFFFD = false) (hL2 : lU 0xFEFF = false)
    (hD1 : dU 0xFFFD = false) (hD2 : dU 0xFEFF = false)
    (hdisj : ∀ c, 128 ≤ c → lU c = true → dU c = false) (s : Ident.Str) :
    Ident.scanIdentClean lU dU s = Ident.isValidIdent lU dU s :=
  Ident.ident_agree_clean lU dU hL1 hL2 hD1 hD2 hdisj s

-- non-vacuity (samples): "_#a" and "é" are identifiers for both, "#1" for neither
example : Ident.scanIdentClean (· == 233) (· == 0x663) [95, 35, 97] = true ∧
    Ident.isValidIdent (· == 233) (· == 0x663) [233] = true ∧
    Ident.scanIdentClean (· == 233) (· == 0x663) [35, 49] = false := by decide

/-! ### the position table of `token.File`

Model: `Model/TokenFile.lean` (cue/token/position.go: `NewFile`, `AddLine`, `fixOffset`, `Pos`,
`Offset`, `Add`, `searchInts`, `unpack`, `Position`).  `GoodPosition` (Spec/TokenFile.lean) is the
property's demand: the reported offset is the clamped offset and lies in `[0, size]`, the line
names an existing line (1-based), column ≥ 1, the line starts at `offset - (column-1)`, and the
offset lies before the start of the next line. -/

/-- Whatever sequence of `AddLine` calls is made on a new file (increasing or not, negative,
beyond the size, duplicates — the invalid ones are ignored), the line table stays
well-formed: it starts with 0, is strictly increasing, and every later line starts inside
the file. -/
theorem C09_linetable_wf (size : Int) (hs : 0 ≤ size) (offs : List Int) :
    TokenFile.WF (TokenFile.addLines (TokenFile.newFile size) offs) :=
  TokenFile.addLines_wf offs _ (TokenFile.newFile_wf size hs)

/-- For EVERY such table and EVERY integer offset (negative and past-EOF offsets are clamped
by `File.Pos`), with any relative-position / comma / scanned bits: `File.Position(File.Pos(o))`
does not panic (the hand-inlined binary search stays in range and terminates) and reports a
`GoodPosition` for the clamped offset: 1 ≤ line ≤ #lines, column ≥ 1, start of that line ≤
offset < start of the next line. -/
theorem C09_position_within_table (size : Int) (hs : 0 ≤ size) (offs : List Int) (o rel : Int)
    (hr0 : 0 ≤ rel) (hr1 : rel < 64) :
    let f := TokenFile.addLines (TokenFile.newFile size) offs
    ∃ p, TokenFile.position f (TokenFile.pos f o rel) = .ok p ∧
      TokenFile.GoodPosition f (TokenFile.fixOffset f o) p :=
  TokenFile.position_good _ (C09_linetable_wf size hs offs) o rel hr0 hr1

-- non-vacuity: file of size 10 with AddLine 3, 5, 5 (ignored), 4 (ignored), 12 (ignored), 9;
-- offset 4 is line 2 column 2; offset 11 is clamped to EOF = line 4 column 2
example : TokenFile.position (TokenFile.addLines (TokenFile.newFile 10) [3, 5, 5, 4, 12, -1, 9])
    (TokenFile.pos (TokenFile.addLines (TokenFile.newFile 10) [3, 5, 5, 4, 12, -1, 9]) 4 2) = .ok ⟨4, 2, 2⟩ ∧
    TokenFile.position (TokenFile.addLines (TokenFile.newFile 10) [3, 5, 5, 4, 12, -1, 9])
    (TokenFile.pos (TokenFile.addLines (TokenFile.newFile 10) [3, 5, 5, 4, 12, -1, 9]) 11 35) = .ok ⟨10, 4, 2⟩ := by
  decide

/-- The same for any well-formed table, however built (`SetLinesForContent`, …). -/
theorem C09_position_good (f : TokenFile.File) (hwf : TokenFile.WF f) (o rel : Int)
    (hr0 : 0 ≤ rel) (hr1 : rel < 64) :
    ∃ p, TokenFile.position f (TokenFile.pos f o rel) = .ok p ∧
      TokenFile.GoodPosition f (TokenFile.fixOffset f o) p :=
  TokenFile.position_good f hwf o rel hr0 hr1

/-- Round trip: `Offset(Pos(o))` is the clamped offset — `o` itself for 0 ≤ o ≤ size — for any
flag bits below `1 << relShift`; and the invariant documented at `File.Pos`,
`f.Pos(f.Offset(p)) == p`, holds for every `p` made by `f.Pos`. -/
theorem C09_pos_offset_roundtrip (f : TokenFile.File) (hs : 0 ≤ f.size) (o rel : Int)
    (hr0 : 0 ≤ rel) (hr1 : rel < 64) :
    TokenFile.offset f (TokenFile.pos f o rel) = TokenFile.fixOffset f o ∧
    (0 ≤ o → o ≤ f.size → TokenFile.offset f (TokenFile.pos f o rel) = o) ∧
    0 ≤ TokenFile.offset f (TokenFile.pos f o rel) ∧ TokenFile.offset f (TokenFile.pos f o rel) ≤ f.size ∧
    TokenFile.pos f (TokenFile.offset f (TokenFile.pos f o rel)) rel = TokenFile.pos f o rel := by
  have h := TokenFile.offset_pos f hs o rel hr0 hr1
  have hr := TokenFile.fixOffset_range f hs o
  exact ⟨h, fun h0 h1 => by rw [h, TokenFile.fixOffset_id f o h0 h1], by omega, by omega,
    TokenFile.pos_offset f hs o rel hr0 hr1⟩

example : TokenFile.offset (TokenFile.newFile 10) (TokenFile.pos (TokenFile.newFile 10) 7 63) = 7 ∧
    TokenFile.offset (TokenFile.newFile 10) (TokenFile.pos (TokenFile.newFile 10) (-3) 0) = 0 := by decide

/-- `Pos.Add(n)` moves the offset by `n` and `Offset` clamps the result: every position
observable through `Offset()` lies within the input, whatever was added (this is why a raw
overshoot past EOF cannot be seen through the public accessors, cf. notes/C09.md). -/
theorem C09_pos_add_clamped (f : TokenFile.File) (hs : 0 ≤ f.size) (p n : Int) :
    TokenFile.offset f (TokenFile.add p n) = TokenFile.fixOffset f (TokenFile.index p - 1 + n) ∧
    0 ≤ TokenFile.offset f (TokenFile.add p n) ∧ TokenFile.offset f (TokenFile.add p n) ≤ f.size := by
  have h := TokenFile.offset_add f p n
  have hr := TokenFile.fixOffset_range f hs (TokenFile.index p - 1 + n)
  exact ⟨h, by omega, by omega⟩

/-- Line/column are monotone in the offset (lexicographically): positions compare like their
offsets. -/
theorem C09_position_monotone (f : TokenFile.File) (hwf : TokenFile.WF f) (o1 o2 : Int)
    (p1 p2 : TokenFile.Position) (h : o1 ≤ o2) (g1 : TokenFile.GoodPosition f o1 p1)
    (g2 : TokenFile.GoodPosition f o2 p2) :
    p1.line < p2.line ∨ (p1.line = p2.line ∧ p1.column ≤ p2.column) :=
  TokenFile.good_monotone f hwf o1 o2 p1 p2 h g1 g2

/-- `searchInts` on any strictly increasing table: never out of range, never out of fuel, and
the result is (number of entries ≤ x) − 1. -/
theorem C09_searchInts_total (a : List Int) (x : Int) (hs : a.Pairwise (· < ·)) :
    ∃ r : Nat, TokenFile.searchInts a x = .ok ((r : Int) - 1) ∧ r ≤ a.length ∧
      (∀ k v, k < r → a[k]? = some v → v ≤ x) ∧ (∀ k v, r ≤ k → a[k]? = some v → x < v) :=
  TokenFile.searchInts_spec a x hs

example : TokenFile.searchInts [0, 3, 5, 9] 4 = .ok 1 ∧ TokenFile.searchInts [0, 3, 5, 9] (-1) = .ok (-1) := by
  decide

/-! ### the scanner as a total function

Model: `Model/Scan.lean` — `scanTok` is `Scanner.Scan` (all token classes, automatic comma
insertion, strings with interpolation and `minLineWS` bookkeeping, attributes with their nested
`Scan` calls, comments) on the state `St` = (remaining input, `insertEOL`, quote stack); `n` is
`len(src)`; `mu st = 2·|remaining| + [insertEOL]`.  `GoodStep n st t st'` (Spec/Scan.lean):
entry offset ≤ `t.off` ≤ `t.fin` = new offset, the remaining input never grows, `mu` never
grows and strictly decreases unless the token is EOF. -/

/-- Totality and progress: from EVERY state, with fuel above `mu` (2·|input|+2 always
suffices), `Scan` returns a token — the recursion through comments, the `return s.Scan()`
after a newline and the nested `Scan` calls of attribute scanning all terminate — and the call
either returns EOF or strictly decreases `mu`: it consumed at least one byte, or it returned
the pending automatic comma without consuming (at most once in a row). -/
theorem C09_scan_total (M : Scan.Mode) (U : Scan.Uni) (n fuel : Nat) (st : Scan.St)
    (h : 2 * st.cur.length + 1 < fuel) :
    ∃ t st', Scan.scanTok M U n fuel st = some (t, st') ∧ Scan.GoodStep n st t st' :=
  Scan.scanTok_ok M U n fuel st (by have := (Scan.mu_bounds st).2; omega)

/-- Offsets: for a state inside a source of length `n`, the token offset and the scanner
offset after the call satisfy entry offset ≤ `t.off` ≤ `t.fin` ≤ n, and `t.fin` is exactly the
new position — so along a token stream offsets never decrease, each token starts at or after
the end of its predecessor, and everything lies within `[0, len]`. -/
theorem C09_scan_offsets (M : Scan.Mode) (U : Scan.Uni) (n fuel : Nat) (st : Scan.St) (t : Scan.Tok)
    (st' : Scan.St) (hn : st.cur.length ≤ n) (hf : 2 * st.cur.length + 1 < fuel)
    (h : Scan.scanTok M U n fuel st = some (t, st')) :
    n - st.cur.length ≤ t.off ∧ t.off ≤ t.fin ∧ t.fin ≤ n ∧ t.fin + st'.cur.length = n ∧
      st'.cur.length ≤ st.cur.length := by
  obtain ⟨g1, g2, g3, g4, _, _⟩ := (Scan.scanTok_spec M U n fuel st t st' h).good
  exact ⟨g2, g3, by omega, by omega, g1⟩

-- non-vacuity (a sample, not the property): `a //c` + newline, scanning comments: IDENT, then
-- the automatic comma WITHOUT consuming (offset 2 = the comment's), then the COMMENT at 2
example : (Scan.scan ⟨true, false⟩ ⟨fun _ => false, fun _ => false⟩ [97, 32, 47, 47, 99, 10]).1.map
    (fun t => (t.kind, t.off, t.fin)) =
    [(.IDENT, 0, 1), (.COMMA, 2, 2), (.COMMENT, 2, 5), (.EOF, 6, 6)] := by decide

/-- Comma insertion vs the language specification (doc/ref/spec.md §Commas: identifier,
keyword, bottom, number, string, interpolation, `)`, `]`, `}`, `?`, `...`; regenerated and
tied by `Bridge.C09.scan_spec_commas`): the full statement "after every token, `insertEOL` is
set exactly for the kinds the spec lists" … -/
def C09_comma_rule_stmt : Prop :=
  ∀ (M : Scan.Mode) (U : Scan.Uni) (n fuel : Nat) (st : Scan.St) (t : Scan.Tok) (st' : Scan.St),
    M.dontInsertCommas = false → Scan.scanTok M U n fuel st = some (t, st') →
      st'.insertEOL = Scan.specComma t.kind

/-- … is FALSE on model and code alike: after `;` (SEMICOLON — a token the spec does not have)
and after an attribute the scanner also inserts a comma (witness `;`; replayed on the
implementation by the harness, class comma-after-token-not-in-spec). -/
theorem C09_comma_rule_false : ¬ C09_comma_rule_stmt := by
  intro h
  have := h ⟨false, false⟩ ⟨fun _ => false, fun _ => false⟩ 1 5 ⟨[59], false, []⟩
    ⟨.SEMICOLON, 0, 1, [], false⟩ ⟨[], true, []⟩ rfl (by rfl)
  exact absurd this (by decide)

-- the attribute witness
example : (Scan.scan ⟨false, false⟩ ⟨fun _ => false, fun _ => false⟩ [64, 97, 40, 41, 10, 98]).1.map
    (fun t => t.kind) = [.ATTRIBUTE, .COMMA, .IDENT, .COMMA, .EOF] := by decide

/-- … and TRUE for every token other than SEMICOLON, ATTRIBUTE and ILLEGAL (which keeps the
previous value): `insertEOL` after the token is exactly the spec's list. -/
theorem C09_comma_rule_partial (M : Scan.Mode) (U : Scan.Uni) (n fuel : Nat) (st : Scan.St)
    (t : Scan.Tok) (st' : Scan.St) (hM : M.dontInsertCommas = false)
    (h : Scan.scanTok M U n fuel st = some (t, st')) (h0 : t.kind ≠ .ILLEGAL)
    (h1 : t.kind ≠ .SEMICOLON) (h2 : t.kind ≠ .ATTRIBUTE) :
    st'.insertEOL = Scan.specComma t.kind := by
  rw [(Scan.scanTok_spec M U n fuel st t st' h).comma hM h0]
  exact Scan.insertsComma_spec t.kind h1 h2

/-- … and in general the code's rule is the spec's list plus SEMICOLON and ATTRIBUTE. -/
theorem C09_comma_rule_code (M : Scan.Mode) (U : Scan.Uni) (n fuel : Nat) (st : Scan.St)
    (t : Scan.Tok) (st' : Scan.St) (hM : M.dontInsertCommas = false)
    (h : Scan.scanTok M U n fuel st = some (t, st')) (h0 : t.kind ≠ .ILLEGAL) :
    st'.insertEOL = Scan.insertsComma t.kind :=
  (Scan.scanTok_spec M U n fuel st t st' h).comma hM h0

/-- Stream-level totality: for EVERY source text, mode and Unicode classification the client
loop `scan` (fuel 3·len+4 for the loop, 2·|remaining|+3 for each `Scan` call) never emits the
FUEL pseudo token — neither fuel is ever exhausted, `scan` is a total function on byte strings
whose output consists of real tokens (and, after a `ResumeInterpolation` on an empty quote
stack, the PANIC marker). -/
theorem C09_scan_stream_total (M : Scan.Mode) (U : Scan.Uni) (src : Scan.Str) :
    ∀ t ∈ (Scan.scan M U src).1, t.kind ≠ .FUEL :=
  Scan.scan_no_fuel M U src

/-- … and every `Scan` call only returns real tokens (never FUEL or PANIC). -/
theorem C09_scan_real_tokens (M : Scan.Mode) (U : Scan.Uni) (n fuel : Nat) (st : Scan.St) (t : Scan.Tok)
    (st' : Scan.St) (h : Scan.scanTok M U n fuel st = some (t, st')) : Scan.isMarker t.kind = false :=
  (Scan.scanTok_spec M U n fuel st t st' h).real

/-! ### the scanner's line table is the content's -/

/-- The line table the scanner builds for ANY text `c` (`NewFile(len c)` + the `AddLine` calls
of `next()`: one per line feed, also the ignored one at end of input) is the content-based
table: it is well-formed (strictly increasing, starting at 0) and its entries are EXACTLY
offset 0 and the offsets just after a line feed byte that lie inside the text.  A strictly
increasing list is determined by its members, so this fixes the table. -/
theorem C09_scanner_linetable_is_content (c : List Nat) :
    TokenFile.WF (TokenFile.scannedFile c) ∧
    ∀ x, x ∈ (TokenFile.scannedFile c).lines ↔ TokenFile.IsLineStart c x :=
  ⟨TokenFile.scannedFile_wf c, TokenFile.mem_scannedFile_lines c⟩

/-- `Position` on that table, characterised by the CONTENT alone: for every offset (clamped)
the reported line starts at a line start of the text (offset 0 or just after a line feed; a
line feed in the last byte does not start a line), no line start of the text lies between it
and the offset, and the column is the distance from it plus one.  This is the deciding
argument for "line/column agree with the text"; the harness predicate
`position-differs-from-content` remains as the tie to the implementation. -/
theorem C09_position_from_content (c : List Nat) (o rel : Int) (hr0 : 0 ≤ rel) (hr1 : rel < 64) :
    ∃ p, TokenFile.position (TokenFile.scannedFile c) (TokenFile.pos (TokenFile.scannedFile c) o rel) = .ok p ∧
      TokenFile.GoodPosition (TokenFile.scannedFile c) (TokenFile.fixOffset (TokenFile.scannedFile c) o) p ∧
      TokenFile.IsLineStart c (p.offset - (p.column - 1)) ∧
      (∀ x, TokenFile.IsLineStart c x → x ≤ p.offset → x ≤ p.offset - (p.column - 1)) :=
  TokenFile.position_content c o rel hr0 hr1

-- non-vacuity: "a\n\r\nb\n": line starts 0, 2, 4 (the final line feed starts no line); offset 5
-- (the 'b' is at 4) is line 3 column 2
example : (TokenFile.scannedFile [97, 10, 13, 10, 98, 10]).lines = [0, 2, 4] ∧
    TokenFile.position (TokenFile.scannedFile [97, 10, 13, 10, 98, 10])
      (TokenFile.pos (TokenFile.scannedFile [97, 10, 13, 10, 98, 10]) 5 0) = .ok ⟨5, 3, 2⟩ := by decide

/-- For a non-empty text `SetLinesForContent` (used by the JSON/YAML/TOML/… decoders) builds
the same table as the scanner. -/
theorem C09_setLinesForContent_is_scanner_table (f : TokenFile.File) (c : List Nat) (hc : c ≠ []) :
    (TokenFile.setLinesForContent f c).lines = (TokenFile.scannedFile c).lines :=
  TokenFile.setLinesForContent_eq_scanned f c hc

/-! ### scanner vs `literal.Unquote` on single-line string literals (partial)

The full agreement "the scanner reads `lit` as one error-free STRING token ⇔ `Unquote lit`
succeeds" over ALL literals is FALSE (lone surrogate escapes, raw BOM: known findings; proved
false below on a witness); outside those classes it is OPEN as a theorem and enforced on
generated literals by the harness predicate `string-spelling-disagree`.  Proved is the agreement on
PLAIN literals: a quote character (`"` or `'`), a body of printable ASCII bytes other than that
quote character and backslash, and the closing quote — and on their unterminated variants. -/

/-- The unrestricted statement … -/
def C09_string_agree_stmt : Prop :=
  ∀ (M : Scan.Mode) (U : Scan.Uni) (lit : Scan.Str) (fuel : Nat), lit.length * 2 + 2 < fuel →
    ((∃ st', Scan.scanTok M U lit.length fuel ⟨lit, false, []⟩ =
        some (⟨.STRING, 0, lit.length, lit, false⟩, st') ∧ st'.cur = []) ↔
      ∃ v, Quote.unquote lit = .ok v)

/-- … is FALSE on model and code alike: the scanner reads `"\ud800"` (a lone surrogate escape)
as one error-free STRING token, `literal.Unquote` rejects it — the known finding
string-lone-surrogate-escape, replayed by the harness on every run. -/
theorem C09_string_agree_false : ¬ C09_string_agree_stmt := by
  intro h
  have h1 := (h ⟨false, false⟩ ⟨fun _ => false, fun _ => false⟩ [34, 92, 117, 100, 56, 48, 48, 34] 20
    (by decide)).mp ⟨_, Scan.scanTok_lone_surrogate, rfl⟩
  obtain ⟨v, hv⟩ := h1
  exact Scan.unquote_lone_surrogate v hv

/-- OPEN: the agreement on single-line literals outside the two known classes (here: ASCII
literals without a `\u` / `\U` escape that do not start, after their hashes, with a triple
quote).  Believed true — the harness predicate `string-spelling-disagree` enforces it on
≈ 12,000 / 250,000 generated literals per run — but not proved beyond the plain class below. -/
def C09_string_agree_restricted_stmt : Prop :=   -- OPEN
  ∀ (M : Scan.Mode) (U : Scan.Uni) (lit : Scan.Str) (fuel : Nat), lit.length * 2 + 2 < fuel →
    (∀ b ∈ lit, b < 0x80) →
    (∀ pre post, lit ≠ pre ++ 92 :: 117 :: post ∧ lit ≠ pre ++ 92 :: 85 :: post) →
    (∀ q post, lit.dropWhile (· == 35) ≠ q :: q :: q :: post) →
    ((∃ st', Scan.scanTok M U lit.length fuel ⟨lit, false, []⟩ =
        some (⟨.STRING, 0, lit.length, lit, false⟩, st') ∧ st'.cur = []) ↔
      ∃ v, Quote.unquote lit = .ok v)

/-- Both accept a plain literal: the scanner reads it as ONE error-free STRING token whose
text is the whole input (then only the automatic comma and EOF follow), and `Unquote` returns
exactly the body. -/
theorem C09_string_agree_plain (M : Scan.Mode) (U : Scan.Uni) (f : Quote.Form)
    (hf : f = Quote.stringForm ∨ f = Quote.bytesForm) (body : Scan.Str) (h : Scan.Plain f.quote body)
    (fuel : Nat) :
    Scan.scanTok M U (f.quote :: (body ++ [f.quote])).length (fuel + 1) ⟨f.quote :: (body ++ [f.quote]), false, []⟩ =
      some (⟨.STRING, 0, (f.quote :: (body ++ [f.quote])).length, f.quote :: (body ++ [f.quote]), false⟩,
            ⟨[], if M.dontInsertCommas then false else true, []⟩) ∧
    Quote.unquote (f.quote :: (body ++ [f.quote])) = .ok body := by
  have hq : f.quote = 34 ∨ f.quote = 39 := by
    rcases hf with h | h <;> subst h
    · exact Or.inl rfl
    · exact Or.inr rfl
  exact ⟨Scan.scanTok_plain M U f.quote hq body h fuel, Scan.unquote_plain f hf body h⟩

-- non-vacuity: "a'b #" and 'x"y'
example : Scan.Plain 34 [97, 39, 98, 32, 35] ∧ Scan.Plain 39 [120, 34, 121] := by
  unfold Scan.Plain; decide

/-- Both reject an unterminated plain literal (non-empty body): the scanner's STRING token
carries an error ("string literal not terminated"), `Unquote` returns "unmatched quote". -/
theorem C09_string_agree_plain_unterminated (M : Scan.Mode) (U : Scan.Uni) (q : Nat)
    (hq : q = 34 ∨ q = 39) (b : Nat) (rest : Scan.Str) (h : Scan.Plain q (b :: rest)) (fuel : Nat) :
    (∃ t st', Scan.scanTok M U (q :: b :: rest).length (fuel + 1) ⟨q :: b :: rest, false, []⟩ = some (t, st') ∧
      t.kind = .STRING ∧ t.err = true) ∧
    Quote.unquote (q :: b :: rest) = .error .unmatchedQuote :=
  ⟨Scan.scanTok_plain_open M U q hq b rest h fuel,
   Scan.unquote_plain_open q hq (b :: rest) (by simp) h⟩

/-! ### the re-quoting form of `PatchExpr` -/

/-- `internal/encoding/json` `PatchExpr` (and both YAML decoders) re-quote every long or escaped
string literal with `literal.String.WithOptionalTabIndent(n).WithOptionalHashes()`.  For that
form, ANY indentation `n` and EVERY valid UTF-8 string — single line or, when it contains a
line feed, multi-line with `n` tabs and as many '#' as `requiredHashCount` demands —
`Unquote(Quote(s)) = s`.  A corollary of `C09_roundtrip` (both the single-line optional-hashes
case and the multi-line case). -/
theorem C09_roundtrip_patchexpr_form (E : Env) (hE : E.Ok) (n : Nat) (s : Bytes) (hb : IsBytes s)
    (hv : validUTF8 s = true) :
    RoundTrips E ((stringForm.withOptionalTabIndent n).withOptionalHashes) s :=
  C09_roundtrip E hE _ (Or.inl ⟨rfl, rfl⟩) s hb (Or.inr hv)

-- non-vacuity: a string with line feeds (so the form is effectively multi-line), `"""#`, a tab
-- and a trailing backslash
example : RoundTrips asciiEnv ((stringForm.withOptionalTabIndent 2).withOptionalHashes)
    [0x61, 0x0A, 0x22, 0x22, 0x22, 0x23, 0x0A, 0x09, 0x62, 0x5C] ∧
    ((stringForm.withOptionalTabIndent 2).withOptionalHashes).effMultiline
      [0x61, 0x0A, 0x22, 0x22, 0x22, 0x23, 0x0A, 0x09, 0x62, 0x5C] = true :=
  ⟨C09_roundtrip_patchexpr_form asciiEnv asciiEnv_ok 2 _ (by unfold IsBytes; decide)
    (by simp [validUTF8, decodeFirst]), by decide⟩

end CueVerif.C09
