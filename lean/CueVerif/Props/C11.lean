/-
C11 — YAML output reads back as the same data; JSON fed to the YAML decoder means JSON.

The statements; their proofs refer to CueVerif/Proofs/Yaml{,Re,Block,Print,Clean}.lean and, for
the re-quoting of decoded strings, C09's Proofs/QuoteMain.lean.  The model (Model/Yaml.lean)
transcribes the IN-REPO decisions of internal/encoding/yaml/goccy/{encode,decode}.go: which
scalar style a string gets (`valueStyle`, `keyStyle`) and how the decoder classifies a scalar
token (`decodeScalar`).  Third-party behaviour appears only as explicit parameters:

  `lx : Lex`  — the verdict of goccy's `lexer.Tokenize` on the text (one token? its type? is
                its value the text itself?), which both `decodesAsNonString` (encoder) and the
                decoder consult;
  `libq`      — goccy's own `token.IsNeedQuoted` on the text;
  `P : IsPrint` — Go's `unicode.IsPrint` (consulted by `yamlUnprintable`).
                No contract on it is needed: every theorem holds for EVERY predicate P (the
                `Quoted` of the spec quantifies over it); the driver receives the real verdicts.

Emission and parsing of mappings, sequences, flow style, anchors and comments is third-party
code treated as a transport: the theorems are about scalar classification; the rest of the
property is the encode→decode predicate evaluated on the implementation by harness/c11.go
(both YAML implementations).  Level: proof for scalar classification, partial for the whole.
-/
import CueVerif.Spec.Yaml
import CueVerif.Proofs.Yaml
import CueVerif.Proofs.YamlBlock
import CueVerif.Proofs.YamlPrint
import CueVerif.Proofs.YamlClean
import CueVerif.Spec.Quote
import CueVerif.Proofs.QuoteMain
namespace CueVerif.C11
open CueVerif CueVerif.Yaml
open CueVerif.Quote (Bytes)

/-! ### the complete finite tables of implicit spellings -/

/-- Every YAML 1.1 and 1.2 implicit BOOLEAN spelling (y Y yes Yes YES n N no No NO true True
TRUE false False FALSE on On ON off Off OFF) is quoted — as a value written as a single-line
or multi-line literal, and as a key — for EVERY verdict of the third-party lexer and whatever
the library's own quoting rule says.  (Every spelling is one of `legacyStrings`, by evaluation
over the table; a legacy string is quoted before the lexer is asked.) -/
theorem C11_tables (s : Bytes) (hs : s ∈ boolWords) (lx : Lex) : Quoted lx s :=
  quoted_of lx s (Or.inr (boolWords_quoted s hs lx))

/-- Every null (null Null NULL ~), infinity ([-+]?.inf/.Inf/.INF), NaN (.nan/.NaN/.NAN) and
merge (<<) spelling is quoted, provided the lexer reads the text as ONE token and types it as
the YAML 1.2 core schema does (or hands an infinity/NaN spelling through as an unchanged string
token, as goccy does for `+.inf`: the in-repo `specialFloats` table then decides).  `<<` is
quoted unconditionally.  (By evaluation over the table every other spelling begins with a byte
of `nonStringStarts` and has a non-string core type, so `decodesAsNonString` holds.) -/
theorem C11_tables_core (s : Bytes) (hs : s ∈ coreWords) (lx : Lex) (h : CoreTyped lx s) : Quoted lx s :=
  quoted_of lx s (coreWords_quoted s hs lx h)

-- non-vacuity: "Yes" under an absurd lexer verdict, ".NaN" typed NaN, "+.Inf" handed through
example : Quoted ⟨false, .other, false⟩ (b "Yes") := C11_tables _ (by decide +kernel) _
example : Quoted ⟨true, .nan, true⟩ (b ".NaN") := C11_tables_core _ (by decide +kernel) _ ⟨rfl, Or.inl (by decide +kernel)⟩
example : Quoted ⟨true, .str, true⟩ (b "+.Inf") :=
  C11_tables_core _ (by decide +kernel) _ ⟨rfl, Or.inr ⟨rfl, rfl, by decide⟩⟩

/-- `=` (yaml.org/type/value), the YAML 1.1 implicit spelling that is in none of the tables above,
is left PLAIN: evaluated for the verdict "one string token, text unchanged", `libq = false` and
the sample predicate `asciiPrint`.  No YAML 1.2 parser and not this package's decoder gives it a
meaning, so the round trip of the property is unaffected; recorded so that the tables above are
not read as "all of 1.1". -/
theorem C11_tables_value_plain : valueStyle asciiPrint ⟨true, .str, true⟩ false valueWord false = .plain := by decide +kernel

/-! ### the heart: what is left plain is read back as the same string -/

/-- For ALL strings s, as a value (single- or multi-line CUE literal): if the scalar appears
PLAIN in the output then the decoder classifies the token as the string s itself — never as a
number, bool, null, infinity or NaN.  Assumed about the third-party library, for this s only:
(hlib) what the library itself leaves unquoted, its lexer reads back as ONE token carrying the
same text, typed as a string or as a non-string scalar; (hstart) the lexer types a text, taken over unchanged as the
token's value, as a non-string scalar only if it begins with one of the bytes of `nonStringStarts`
("0123456789+-.~<tTfFnN", regenerated from the source).  Everything else — legacy strings,
the four regexps, special floats, YAML 1.1 octals, underscores — is the modelled in-repo code. -/
theorem C11_plain_is_string (P : IsPrint) (lx : Lex) (libq : Bool) (s : Bytes) (multi : Bool)
    (hlib : libq = false → lx.single = true ∧ lx.same = true ∧ (lx.ty = .str ∨ lx.ty.nonString = true))
    (hstart : ∀ c t, s = c :: t → nonStringStarts.contains c = false → lx.same = true →
      lx.ty.nonString = false)
    (hp : valueStyle P lx libq s multi = .plain) : decodeScalar lx.ty s = .str s := by
  obtain ⟨hl, _, hq⟩ := plain_value P lx libq s multi hp
  obtain ⟨h1, h2, h3⟩ := hlib hl
  exact decode_str_of_not_quoted lx s h1 h2 h3 hstart hq

/-- The same for mapping KEYS (keys take `quoteScalar` too, plus forced double quotes when
they contain a line break). -/
theorem C11_plain_key_is_string (P : IsPrint) (lx : Lex) (libq : Bool) (s : Bytes)
    (hlib : libq = false → lx.single = true ∧ lx.same = true ∧ (lx.ty = .str ∨ lx.ty.nonString = true))
    (hstart : ∀ c t, s = c :: t → nonStringStarts.contains c = false → lx.same = true →
      lx.ty.nonString = false)
    (hp : keyStyle P lx libq s = .plain) : decodeScalar lx.ty s = .str s := by
  obtain ⟨hl, _, hq⟩ := plain_key P lx libq s hp
  obtain ⟨h1, h2, h3⟩ := hlib hl
  exact decode_str_of_not_quoted lx s h1 h2 h3 hstart hq

-- non-vacuity: "1Gi" (a CUE number, a YAML string) and "0o8" are left plain and read back
-- as strings; the hypotheses are met by the lexer verdict goccy really gives (one string token)
example : decodeScalar .str (b "1Gi") = .str (b "1Gi") :=
  C11_plain_is_string asciiPrint ⟨true, .str, true⟩ false (b "1Gi") false (fun _ => ⟨rfl, rfl, Or.inl rfl⟩)
    (fun _ _ _ _ _ => rfl) (by decide +kernel)
example : keyStyle asciiPrint ⟨true, .str, true⟩ false (b "0o8") = .plain := by decide +kernel

/-! ### numbers, dates and YAML 1.1 octals are quoted -/

/-- For ALL strings s that this package's decoder would resolve as a number (`numberKind`:
decimal, 0b/0o/0x, YAML 1.1 leading-zero octal, sign before any base, underscores, floats with
dot or exponent, integers of any size): if the lexer reads s as one scalar token (typed as a
number, or a string token with the text unchanged) then `shouldQuote` holds, hence the scalar
is quoted as value and as key. -/
theorem C11_numeric_quoted (lx : Lex) (s : Bytes) (hn : numberKind s ≠ .illegal) (hl : LexScalar lx) :
    Quoted lx s :=
  quoted_of lx s (Or.inr (shouldQuoteCore_of_number lx s hn hl))

/-- For ALL strings matching the date / time / base-60 regexp `useQuote` or the YAML 1.1
"any octal" regexp (incl. the broken octals 08, 0778 that other decoders read as floats):
quoted for every lexer verdict — i.e. the byte pre-filter `strings.IndexByte("-+0123456789:. \t",
str[0])` placed in front of the two regexps never changes their verdict. -/
theorem C11_dates_quoted (lx : Lex) (s : Bytes)
    (h : reUseQuote.matches s = true ∨ reAnyOctal.matches s = true) : Quoted lx s :=
  quoted_of lx s (Or.inr (shouldQuoteCore_of_regexp lx s h))

-- non-vacuity (samples): a 30-digit integer goccy lexes as a string token; 1:30; 0778
example : Quoted ⟨true, .str, true⟩ (b "123456789012345678901234567890") :=
  C11_numeric_quoted _ _ (by decide +kernel) ⟨rfl, Or.inr ⟨rfl, rfl⟩⟩
example : Quoted ⟨false, .other, false⟩ (b "1:30") := C11_dates_quoted _ _ (Or.inl (by decide +kernel))
example : Quoted ⟨true, .str, true⟩ (b "0778") := C11_dates_quoted _ _ (Or.inr (by decide +kernel))

/-! ### what needs escaping is double-quoted by the in-repo code itself -/

/-- For ALL strings with a rune `yamlUnprintable` rejects — C0 controls other than tab and
line feed, DEL, NEL, LS, PS, U+FFFE/U+FFFF, invalid bytes, and every rune
other than the blank that `unicode.IsPrint` rejects: NBSP, U+FEFF, U+200B, C1 controls … — the
decision is `strconv.Quote` (double quotes), as a value from any literal form and as a key, for
every lexer verdict: such a string is never handed to the library (whose own quoting writes a
Go escape inside single quotes, read back literally), never single-quoted, never a block. -/
theorem C11_unprintable_double (P : IsPrint) (lx : Lex) (s : Bytes) (h : yamlUnprintable P s = true) :
    (∀ multi, valueDecision P lx s multi = .double) ∧ keyDecision P lx s = .double :=
  ⟨fun multi => valueDecision_unprintable P lx s multi h, keyDecision_unprintable P lx s h⟩

/-- Single quotes (which cannot escape anything) are chosen only for strings that hold nothing
unprintable and no line feed. -/
theorem C11_single_quote_safe (P : IsPrint) (lx : Lex) (s : Bytes) (h : quoteScalar P lx s = .single) :
    yamlUnprintable P s = false ∧ s.contains 10 = false :=
  quoteScalar_single P lx s h

-- non-vacuity: "# <NBSP>" (the old witness of the library-quoting defect) and "<U+FEFF>null"
example : keyDecision asciiPrint ⟨true, .other, false⟩ [0x23, 0x20, 0xC2, 0xA0] = .double :=
  (C11_unprintable_double asciiPrint _ _ (by decide +kernel)).2
example : valueDecision asciiPrint ⟨true, .str, true⟩ [0xEF, 0xBB, 0xBF, 0x6E, 0x75, 0x6C, 0x6C] false = .double :=
  (C11_unprintable_double asciiPrint _ _ (by decide +kernel)).1 false
-- "? a" is single-quoted; "? a\nb" as a key is not (it is double-quoted)
example : quoteScalar asciiPrint ⟨false, .other, false⟩ (b "? a") = .single := by decide +kernel
example : keyDecision asciiPrint ⟨false, .other, false⟩ (b "? a\nb") = .double := by decide +kernel

/-! ### double-quoted scalars -/

/-- Per escape letter: every escape `strconv.Quote` can emit (\a \b \f \n \r \t \v \\ \" \x \u
\U) is an escape of YAML 1.2 double-quoted scalars with the same meaning (same code point, or
the same number of hex digits giving the code point).  (`\x` denotes a BYTE in Go and a code
point in YAML: the same thing below 0x80, and `strconv.Quote` emits `\x` above that only for
invalid UTF-8, which a CUE string never contains.) -/
theorem C11_double_roundtrip (letter : Nat) (e : Esc) (h : goEscape letter = some e) :
    yamlEscape letter = some e :=
  go_escape_is_yaml_escape letter e h

example : goEscape 'v'.toNat = some (.char 11) ∧ yamlEscape 'v'.toNat = some (.char 11) := by decide +kernel

/-! ### the decoded string re-quoted as a CUE literal -/

/-- `quotedString`: the decoder turns every decoded string into the CUE literal
`literal.String.WithOptionalTabIndent(1).WithOptionalHashes().Quote(s)`.  For ALL valid UTF-8
strings without a line break that literal unquotes to s (= `C09_roundtrip_hashes`; strings
beginning with two double quotes are the case `C09_roundtrip_hashes_old_false` is about).
Strings WITH a line break take the multi-line form, whose round trip is `C09_roundtrip_multi`;
`C09_roundtrip` covers both forms at once. -/
theorem C11_requote (E : Quote.Env) (hE : E.Ok) (s : Bytes) (hb : Quote.IsBytes s)
    (hu : Quote.validUTF8 s = true) (hnl : s.contains 10 = false) :
    Quote.RoundTrips E ((Quote.stringForm.withOptionalTabIndent 1).withOptionalHashes) s :=
  Quote.roundtrip_single_all hE _ (Or.inl ⟨rfl, rfl⟩) s hb (Or.inr hu)
    (by
      have h10 : ¬ 10 ∈ s := by simpa using hnl
      simp [Quote.Form.effMultiline, Quote.Form.withOptionalHashes, Quote.Form.withOptionalTabIndent,
        Quote.stringForm, h10])

example : Quote.RoundTrips Quote.asciiEnv ((Quote.stringForm.withOptionalTabIndent 1).withOptionalHashes)
    [0x22, 0x22, 0x78] :=
  C11_requote Quote.asciiEnv Quote.asciiEnv_ok _ (by intro b hb; simp at hb; omega)
    (by simp [Quote.validUTF8, Quote.decodeFirst]) (by decide +kernel)

/-! ### literal block scalars -/

/-- For ALL strings the in-repo `blockLiteralSafe` admits (a multi-line CUE literal, or a string
with line breaks handed to the library): the literal block the emitter writes — chomping
indicator from the trailing line breaks (`|`, `|-`, `|+`), never an indentation indicator,
every non-empty line indented by ANY number `ind` of blanks, empty lines left empty — is read
back by a YAML 1.2 §8.1.1 parser (indentation detected from the first non-empty line; strip /
clip / keep) as exactly the string.  What the proof uses of `blockLiteralSafe` is only the test
/repo 05f5435 added: the first non-empty line exists and does not start with a blank.  (The
other conjuncts — no line ending in a blank, nothing unprintable — guard the printer's
blank-line padding and the reader's line break normalisation: `C11_printed_doc_lines` and
`C11_block_text_clean` below; the `block` ops compare model and library on every block of a
run.) -/
theorem C11_block_roundtrip (P : IsPrint) (s : Bytes) (h : blockLiteralSafe P s = true) : BlockRoundTrips s :=
  block_roundtrip P s h

-- non-vacuity: a string with inner and trailing blank lines and an indented inner line
example : BlockRoundTrips (b "a\n\n  b\n\n") := C11_block_roundtrip asciiPrint _ (by decide +kernel)

/-! ### the block as PRINTED: padding, `stripBlankLinePadding`, clean bytes -/

/-- `stripBlankLinePadding` acts on every line of EVERY document independently (a non-empty
line of blanks becomes empty, every other line is kept): its fast path — "no ` \n` and no
trailing blank: return the input" — never skips a line the loop would have changed. -/
theorem C11_strip_linewise (doc : Bytes) :
    stripBlankLinePadding doc = joinLines ((splitLines doc).map stripLine) :=
  strip_linewise doc

example : stripBlankLinePadding (b "k: |\n  a\n  \n  b\n") = b "k: |\n  a\n\n  b\n" := by decide +kernel

/-- For ALL strings `blockLiteralSafe` admits, every indentation and every key without a line
feed: the document `Encode` prints for `{key: <block of s>}` — the key line with the header,
goccy's lines with the blank lines PADDED to the indentation, the final line break, all passed
through `stripBlankLinePadding` — consists of exactly the key line, the lines of `emitBlock`
(non-empty lines indented, empty lines empty) and the end of the last line.  This is where the
conjunct "no line ends in a blank" of `blockLiteralSafe` is used: it makes the blank-only lines
of the print exactly the padded empty lines of s. -/
theorem C11_printed_doc_lines (P : IsPrint) (key : Bytes) (hk : 10 ∉ key) (ind : Nat) (s : Bytes)
    (h : blockLiteralSafe P s = true) :
    splitLines (printedBlockDoc key ind s) =
      (key ++ b ": " ++ (emitBlockRaw ind s).1.text) :: ((emitBlock ind s).2 ++ [[]]) :=
  printed_doc_lines key hk ind s (blockLiteralSafe_facts P s h).noTrailingBlank

/-- The strengthened block round trip, with no side condition left outside the model: print
the padded block, strip the padding, split into lines, read back by YAML 1.2 §8.1.1 — the
result is s, for ALL strings `blockLiteralSafe` admits and all indentations (leading and
trailing blank lines, inner indentation, all three chomping indicators `|-` `|` `|+`). -/
theorem C11_block_roundtrip_printed (P : IsPrint) (ind : Nat) (s : Bytes) (h : blockLiteralSafe P s = true) :
    parseBlock (emitBlockRaw ind s).1
      (splitLines (stripBlankLinePadding (joinLines (emitBlockRaw ind s).2))) = s :=
  printed_block_roundtrip P ind s h

example : parseBlock (emitBlockRaw 4 (b "\na\n\n  b\n\n")).1
    (splitLines (stripBlankLinePadding (joinLines (emitBlockRaw 4 (b "\na\n\n  b\n\n")).2))) = b "\na\n\n  b\n\n" :=
  C11_block_roundtrip_printed asciiPrint 4 _ (by decide +kernel)

/-- The trailing-blank conjunct is not vacuous: a string with a blank-only line (`"a\n \nb"`,
rejected by `blockLiteralSafe`) would NOT survive print + strip + read (it comes back as
`"a\n\nb"`). -/
theorem C11_block_trailing_blank_witness :
    blockLiteralSafe asciiPrint (b "a\n \nb") = false ∧
    parseBlock (emitBlockRaw 2 (b "a\n \nb")).1
      (splitLines (stripBlankLinePadding (joinLines (emitBlockRaw 2 (b "a\n \nb")).2))) = b "a\n\nb" := by decide +kernel

/-- For ALL strings `blockLiteralSafe` admits (whatever `unicode.IsPrint` is): every byte is TAB,
LF, printable ASCII or ≥ 0x80 — no CR, no other C0 control, no DEL — so the line break
normalisation of a YAML reader (§5.4: CR LF and CR become LF) is the identity on the string,
and the LF-only line splitting of `parseBlock` is the reader's.  This is what the conjunct
`!yamlUnprintable(s)` contributes to the block path. -/
theorem C11_block_text_clean (P : IsPrint) (s : Bytes) (h : blockLiteralSafe P s = true) :
    (∀ c ∈ s, cleanByte c = true) ∧ normalizeBreaks s = s :=
  ⟨blockLiteralSafe_clean P s h, normalizeBreaks_id s (blockLiteralSafe_noCR P s h)⟩

example : normalizeBreaks (b "a\r\nb\rc") = b "a\nb\nc" ∧ blockLiteralSafe asciiPrint (b "a\rb\nc") = false := by decide +kernel

/-! ### single quotes: `singleQuoted`, `quoteFlowUnsafe` -/

/-- For ALL strings: the YAML single-quoted scalar `singleQuoted` writes (`'` doubled, nothing
else escaped) is read back (§7.3.2, one line) as the string. -/
theorem C11_single_quoted_roundtrip (s : Bytes) : unquoteSingle (singleQuoted s) = some s :=
  single_quoted_roundtrip s

/-- Keys and values the explicit-key / merge / document-end indicators would change — `?`,
`? …` (complex key), `…<<` (merge key), `...…` (document end) — are never printed plain, for ALL
such strings, every lexer verdict and whatever the library's own rule says. -/
theorem C11_indicator_quoted (lx : Lex) (s : Bytes) (h : needsSingleQuoting s = true) : Quoted lx s :=
  quoted_of lx s (Or.inl h)

example : Quoted ⟨true, .str, true⟩ (b "? a: b") := C11_indicator_quoted _ _ (by decide +kernel)

/-- `quoteFlowUnsafe` (string arm): what it quotes reads back as the string; what it leaves alone
holds none of the flow indicators `,[]{}:`. -/
theorem C11_flow_quoted (s q : Bytes) (h : quoteFlowUnsafe s = some q) : unquoteSingle q = some s := by
  unfold quoteFlowUnsafe at h
  split at h
  · injection h with h; subst h; exact single_quoted_roundtrip s
  · cases h
theorem C11_flow_plain_safe (s : Bytes) (h : quoteFlowUnsafe s = none) : containsAny flowUnsafe s = false := by
  unfold quoteFlowUnsafe at h
  split at h
  · cases h
  · rename_i hc; simpa using hc

example : quoteFlowUnsafe (b "it's, a") = some (b "'it''s, a'") := by decide +kernel
example : unquoteSingle (b "'it''s, a'") = some (b "it's, a") := C11_flow_quoted _ _ (by decide +kernel)

/-- `blockLiteralSafeOld` is `blockLiteralSafe` without the test of the first non-empty line (the
code before /repo 05f5435; not tied to the tree).  The same statement about it … -/
def C11_block_roundtrip_old_stmt : Prop :=
  ∀ (P : IsPrint) (s : Bytes), blockLiteralSafeOld P s = true → BlockRoundTrips s

/-- … is FALSE: "\n" is admitted, written as `|` with an empty body, and read back as "" … -/
theorem C11_block_roundtrip_old_false : ¬ C11_block_roundtrip_old_stmt := fun h =>
  absurd (h asciiPrint [10] (by decide +kernel) 2) (by decide +kernel)

/-- … and so is "\n a" (a blank line, then a line beginning with a blank, swallowed as
indentation). -/
theorem C11_block_indent_old_false : blockLiteralSafeOld asciiPrint (b "\n a") = true ∧
    parseBlock (emitBlock 2 (b "\n a")).1 (emitBlock 2 (b "\n a")).2 ≠ b "\n a" := by decide +kernel

/-- `blockLiteralSafe` rejects these witnesses (they take `strconv.Quote`). -/
theorem C11_block_rejects_old_witnesses (P : IsPrint) :
    blockLiteralSafe P [10] = false ∧ blockLiteralSafe P (b "\n a") = false ∧
    blockLiteralSafe P (b "\n\n") = false := ⟨rfl, rfl, rfl⟩

end CueVerif.C11
