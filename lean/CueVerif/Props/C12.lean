/-
C12 — `cue export` / `cue import` are inverse across JSON, YAML, TOML and CUE.

The Lean side of this property is the TOML codec (the JSON and YAML legs are C10 / C11; the
CLI composition is exercised by the harness on the `cue` binary built from the working tree).
The statements; each proof is a reference into CueVerif/Proofs/Toml{Key,Round,Sem,EmitValid}.lean.

Model: CueVerif/Model/Toml.lean (decoder state machine of encoding/toml/decode.go over the
root expressions of the go-toml parser; what the encoder emits for a data tree).
Specification: CueVerif/Spec/Toml.lean (TOML 1.0.0 as a store of defined paths).
-/
import CueVerif.Proofs.TomlKey
import CueVerif.Proofs.TomlRound
import CueVerif.Proofs.TomlSem
import CueVerif.Proofs.TomlEmitValid
namespace CueVerif.C12
open CueVerif CueVerif.Toml CueVerif.Toml.Spec

/-! ### rooted keys -/

/-- Distinct key paths have distinct rooted-key strings: quoting keeps `"a.b"` apart from
`a.b`, and the index of an array element (`a.0`) apart from a label spelled "0" (`a."0"`).
For EVERY pair of paths (labels are arbitrary byte strings, indices arbitrary naturals),
under the contract of `quoteLabelIfNeeded` (`LabelQ.OK`). -/
theorem C12_rooted_key_injective (L : LabelQ) (hL : L.OK) (p q : Path)
    (h : rooted L p = rooted L q) : p = q :=
  Toml.rooted_injective L hL p q h

/-- `strings.HasPrefix(rooted q, rooted p + ".")` — the test `findArrayPrefix` uses to forget
sub-keys and to find the enclosing table array — holds exactly when `p` is a strict path
prefix of `q`.  Together with injectivity this is what lets the decoder model use paths where
the Go code uses strings. -/
theorem C12_rooted_key_prefix (L : LabelQ) (hL : L.OK) (p q : Path) (hp : p ≠ []) :
    (rooted L p ++ [46]).isPrefixOf (rooted L q) = strictPrefix p q :=
  Toml.rooted_prefix L hL p q hp

-- non-vacuity (a sample, not the property): with a quoting function that satisfies the
-- contract, label "0" and index 0 are spelled differently
example : rooted ⟨fun n => n != [97], fun n => 34 :: (n ++ [34])⟩ [.key [97], .key [48]]
    ≠ rooted ⟨fun n => n != [97], fun n => 34 :: (n ++ [34])⟩ [.key [97], .idx 0] := by decide

/-! ### the round trip encoder → decoder -/

/-- For EVERY TOML-safe data tree (any depth and width; tables, arrays of tables nested in
each other, mixed arrays, empty tables and arrays, arbitrary key bytes and scalars): the
decoder accepts what the encoder emits and the produced syntax tree asserts exactly the
facts of the tree — same tables, same arrays with the same elements at the same indices,
same scalars at the same paths. -/
theorem C12_toml_roundtrip (t : Tree) (evs : List Ev) (hs : SafeTree t) (he : emit t = some evs) :
    ∃ fs, decode evs = .ok fs ∧ SameData fs (t.facts []) :=
  Toml.roundtrip t evs hs he

-- non-vacuity: a tree with a nested array of tables, a mixed array and an empty table is
-- TOML-safe and has an emission
example : SafeTree (.tbl [([102], .arr [.tbl [([97], .sc ⟨1, [49]⟩)], .tbl [([98], .arr [.tbl []])]]),
    ([103], .arr [.tbl [], .sc ⟨1, [49]⟩]), ([104], .tbl [])]) ∧
    (emit (.tbl [([102], .arr [.tbl [([97], .sc ⟨1, [49]⟩)], .tbl [([98], .arr [.tbl []])]]),
    ([103], .arr [.tbl [], .sc ⟨1, [49]⟩]), ([104], .tbl [])])).isSome := by
  simp [SafeTree, SafeFields, SafeElems, emit]

/-! ### decoder versus the TOML specification -/

/-- The full statement "the decoder IS the reference semantics, errors included". -/
def C12_toml_sem_stmt : Prop :=
  ∀ evs : List Ev,
    match tomlSpec evs, decode evs with
    | .ok a, .ok b => SameData a b
    | .error _, .error _ => True
    | _, _ => False

/-- It is FALSE on model and code alike: the decoder accepts documents the specification
rejects.  Witness `a.b = 1` followed by `[a]` (a table created by a dotted key re-opened by
a header; `cue export` of that file exits 0; class toml-lenient-redefinition). -/
theorem C12_toml_sem_false : ¬ C12_toml_sem_stmt :=
  Toml.sem_false

/-- What is believed to hold: on EVERY document the specification accepts, the decoder succeeds
and yields the same data (hence: whenever the decoder reports an error, or dereferences its
stale array pointer, the document is invalid TOML).
-- OPEN: proved below for documents without `[[array table]]` headers; the general case is
checked by exhaustive evaluation (every spec-accepted stream up to depth 4 over 8 keys and 6
expression shapes, 1.3 million prefixes; recorded in notes/C12.md) and on every generated
document of every run (op `tomldata`), not proved. -/
def C12_toml_sem_partial_stmt : Prop :=
  ∀ (evs : List Ev) (fs : List Fact), tomlSpec evs = .ok fs →
    ∃ fs', decode evs = .ok fs' ∧ SameData fs fs'

/-- Proved part: every document WITHOUT `[[…]]` headers (tables, sub-tables in any order,
implicit super-tables, dotted keys, inline tables, static arrays, any depth) that the
specification accepts is accepted by the decoder with the same data. -/
theorem C12_toml_sem_partial_noarrays (evs : List Ev) (fs : List Fact)
    (hna : ∀ e ∈ evs, ∀ ks, e ≠ .arrayTable ks) (h : tomlSpec evs = .ok fs) :
    ∃ fs', decode evs = .ok fs' ∧ SameData fs fs' :=
  Toml.sem_partial_noarrays evs fs hna h

/-- Every emission of the encoder is valid TOML (accepted by the reference semantics) with the
meaning of the tree: for EVERY TOML-safe tree.  (Independent of `C12_toml_roundtrip`, which is
proved directly on the decoder model.) -/
theorem C12_toml_emit_valid (t : Tree) (evs : List Ev) (hs : SafeTree t) (he : emit t = some evs) :
    ∃ fs, tomlSpec evs = .ok fs ∧ SameData fs (t.facts []) :=
  Toml.emit_valid t evs hs he

-- non-vacuity: a document without array tables (a sub-table before its super-table, a dotted
-- key, an inline table with a dotted key) is accepted by the specification
example : (tomlSpec [.table [[97], [98]], .table [[97]], .kv [[99], [100]] (.sc ⟨1, [49]⟩),
    .kv [[101]] (.inl [([[102], [103]], .arr [.sc ⟨3, [116]⟩])])]).toOption.isSome = true := by decide

end CueVerif.C12
