/-
C13 — JSON Schema translation preserves which instances are valid.

What is PROVED here (for all schemas / instances of the modelled fragment):
 (1) well-formedness laws of the oracle `JS.valid` (the specification the harness compares the
     real importer with);
 (2) the importer's kind skeleton (`state.finalize`): the assembled
     `null | bool | number | string | [...] | {...}` with per-type constraints accepts an instance
     iff its kind is allowed and the constraints for that kind (and the kind-independent ones) hold;
 (3) each combinator encoding (allOf → matchN(len), anyOf → matchN(>=1), oneOf → matchN(1),
     not → matchN(0), if/then/else → matchIf) is exact w.r.t. `JS.valid`, and the importer's
     short-cuts (dropping members, single-member inlining, oneOf without constraint) are exact —
     except `allOf`, whose encoding is FALSE on model and code alike (`C13_allOf_enc_false`);
 (4) for the per-keyword builders transcribed in Model/JsonSchemaCC.lean (numbers, strings, array
     sizes, type, enum, const, combinators): exactness of the leaf builders, `type`, `not`, `anyOf`,
     `oneOf` on the state, of `const` / `enum` / `uniqueItems` on the emitted constraint, and semantic
     preservation through `translate` for the guarded fragment `fragOK`; the rest is open
     (`C13_translate_exact_stmt`).
The object family and the reverse generator are NOT transcribed; they are tied at the verdict
level by the harness with `JS.valid` as the oracle.

Proofs: CueVerif/Proofs/JsonSchema*.lean; witnesses and closed instances here, by evaluation.
-/
import CueVerif.Proofs.JsonSchema
import CueVerif.Proofs.JsonSchemaSkel
import CueVerif.Proofs.JsonSchemaCCFlat
import CueVerif.Proofs.JsonSchemaCCMain
import CueVerif.Proofs.JsonSchemaCCLit
namespace CueVerif.C13
open CueVerif CueVerif.JS CueVerif.Skel CueVerif.CCm

/-! ### (1) the oracle is well-formed -/

/-- double negation -/
theorem C13_oracle_not_not (re root n s j) :
    valid re root (n+2) (sNot (sNot s)) j = valid re root n s j :=
  JS.valid_not_not re root n s j

/-- De Morgan: not(anyOf ss) = allOf (map not ss) -/
theorem C13_oracle_demorgan_any (re root n ss j) :
    valid re root (n+2) (sNot (sAnyOf ss)) j = valid re root (n+2) (sAllOf (ss.map sNot)) j :=
  JS.valid_not_anyOf re root n ss j

/-- De Morgan: not(allOf ss) = anyOf (map not ss) -/
theorem C13_oracle_demorgan_all (re root n ss j) :
    valid re root (n+2) (sNot (sAllOf ss)) j = valid re root (n+2) (sAnyOf (ss.map sNot)) j :=
  JS.valid_not_allOf re root n ss j

/-- oneOf = exactly one member valid (strict in undetermined members) … -/
theorem C13_oracle_oneOf (re root n ss j) :
    valid re root (n+1) (sOneOf ss) j = one3 (ss.map (valid re root n · j)) :=
  JS.valid_oneOf re root n ss j

/-- … and on determined verdicts `one3` is "the number of `true` is 1" -/
theorem C13_oracle_one3 (l : List Bool) : one3 (l.map some) = some (l.count true == 1) :=
  JS.one3_det l

theorem C13_oracle_allOf (re root n ss j) :
    valid re root (n+1) (sAllOf ss) j = all3 (ss.map (valid re root n · j)) :=
  JS.valid_allOf re root n ss j

theorem C13_oracle_anyOf (re root n ss j) :
    valid re root (n+1) (sAnyOf ss) j = any3 (ss.map (valid re root n · j)) :=
  JS.valid_anyOf re root n ss j

/-- if/then/else selects the branch by the verdict of `if` -/
theorem C13_oracle_if (re root n c t e j) :
    valid re root (n+1) (sIf c t e) j =
      match valid re root n c j with
      | none => none
      | some true => valid re root n t j
      | some false => valid re root n e j :=
  JS.valid_if re root n c t e j

/-- a keyword specific to one kind ignores instances of every other kind -/
theorem C13_oracle_other_kind (re rec res kws) (kw : Kw) (k : Kind) (j : Json)
    (hk : kw.kindOf = some k) (hj : j.kind ≠ k) : kwHolds re rec res kws kw j = some true :=
  JS.kw_other_kind re rec res kws kw k j hk hj

/-- fuel is only a budget: a determined verdict never changes with more fuel -/
theorem C13_oracle_fuel_mono (re root n m s j b) (h : n ≤ m)
    (hv : valid re root n s j = some b) : valid re root m s j = some b :=
  JS.valid_mono_le re root n m s j b h hv

-- non-vacuity (tests on samples, not the property): the oracle determines concrete verdicts
example : valid tinyRe (.obj [.type [.integer]]) 5 (.obj [.type [.integer]]) (.num ⟨10, 10⟩) = some true := by decide
example : valid tinyRe (.bool true) 5 (.obj [.oneOf [.obj [.type [.number]], .obj [.minimum ⟨3, 1⟩]]]) (.num ⟨5, 1⟩)
    = some false := by decide
example : valid tinyRe (.bool true) 5 (.obj [.minLength 2]) (.str "😀") = some false := by decide

/-! ### (2) the kind skeleton assembled by `state.finalize` -/

/-- Acceptance by the assembled disjunction ⇔ the instance's kind is allowed ∧ the
kind-independent constraints hold ∧ the constraints for that kind hold.  Hypotheses: the meaning
of `knownTypes` (the all-constraints already restrict to these kinds) and the builders'
invariant `allowedTypes ⊆ knownTypes`. -/
theorem C13_kind_skeleton (st : St) (j : Json)
    (hknown : ∀ j, st.all.all (accepts · j) = true → hasCore st.known (coreOf j) = true)
    (hsub : ∀ t, hasCore st.allowed t = true → hasCore st.known t = true) :
    accepts (finalize st) j =
      (hasCore st.allowed (coreOf j) && st.all.all (accepts · j) && (st.types (coreOf j)).all (· j)) :=
  Skel.finalize_accepts st j (hknown j) hsub

/-- the invariant is needed: without it the statement is false (on the model; the real builders
maintain it, see the next two theorems) -/
theorem C13_kind_skeleton_needs_sub : ¬ Skel.finalize_accepts_nosub_stmt :=
  Skel.finalize_accepts_nosub_false

/-- `constraintType` and `constraintEnum`/`constraintConst` preserve `allowed ⊆ known` -/
theorem C13_type_preserves_sub (lit ts) (st : St) (h : ∀ k, st.allowed k = true → st.known k = true) :
    ∀ k, (applyType lit ts st).allowed k = true → (applyType lit ts st).known k = true :=
  Skel.applyType_sub lit ts st h

theorem C13_enum_preserves_sub (kinds v) (st : St) (h : ∀ k, st.allowed k = true → st.known k = true) :
    ∀ k, (applyEnum kinds v st).allowed k = true → (applyEnum kinds v st).known k = true :=
  Skel.applyEnum_sub kinds v st h

-- non-vacuity: `{"type":["number","string"],"minimum":3}`-like state: allowed = {int,float,string},
-- one numeric constraint; 5 is accepted, 1 and null are not, "a" is
example :
    let st : St := { allowed := fun k => k == .int || k == .float || k == .string, known := KSet.full,
                     types := fun t => if t == .num then [fun j => match j with | .num x => (Num.ofInt 3).le x | _ => false] else [],
                     all := [] }
    (accepts (finalize st) (.num ⟨5, 1⟩), accepts (finalize st) (.num ⟨1, 1⟩),
     accepts (finalize st) .null, accepts (finalize st) (.str "a")) = (true, false, false, true) := by decide

/-! ### (3) combinators -/

/-- matchN counts the members that unify with the value -/
theorem C13_matchN (b : Bound) (vs : List CVal) (j : Json) :
    accepts (.matchN b vs) j = b.ok (vs.countP (accepts · j)) :=
  Skel.accepts_matchN b vs j

/-- not ↦ matchN(0, [s]) -/
theorem C13_not_exact (re root n s j) (v : CVal) (h : valid re root n s j = some (accepts v j)) :
    valid re root (n+1) (sNot s) j = some (accepts (encNot v) j) :=
  Skel.not_exact re root n s j v h

/-- anyOf ↦ matchN(>=1, …) -/
theorem C13_anyOf_exact (re root n j) (ss : List Schema) (vs : List CVal)
    (h : Skel.List.Forall₂ (fun s v => valid re root n s j = some (accepts v j)) ss vs) :
    valid re root (n+1) (sAnyOf ss) j = some (accepts (.matchN (.ge 1) vs) j) :=
  Skel.anyOf_exact re root n j ss vs h

/-- oneOf ↦ matchN(1, …) -/
theorem C13_oneOf_exact (re root n j) (ss : List Schema) (vs : List CVal)
    (h : Skel.List.Forall₂ (fun s v => valid re root n s j = some (accepts v j)) ss vs) :
    valid re root (n+1) (sOneOf ss) j = some (accepts (.matchN (.eq 1) vs) j) :=
  Skel.oneOf_exact re root n j ss vs h

/-- allOf ↦ matchN(len, …) when EVERY member is in the list -/
theorem C13_allOf_exact (re root n j) (ss : List Schema) (vs : List CVal)
    (h : Skel.List.Forall₂ (fun s v => valid re root n s j = some (accepts v j)) ss vs) :
    valid re root (n+1) (sAllOf ss) j = some (accepts (.matchN (.eq vs.length) vs) j) :=
  Skel.allOf_exact re root n j ss vs h

/-- if/then/else ↦ matchIf -/
theorem C13_if_exact (re root n j) (c t e : Schema) (vc vt ve : CVal)
    (hc : valid re root n c j = some (accepts vc j)) (ht : valid re root n t j = some (accepts vt j))
    (he : valid re root n e j = some (accepts ve j)) :
    valid re root (n+1) (sIf c t e) j = some (accepts (.matchIf vc vt ve) j) :=
  Skel.if_exact re root n j c t e vc vt ve hc ht he

/-- translating `then` under the allowed types of `if` does not change the meaning -/
theorem C13_if_then_narrowing (vi vt vt' ve : CVal) (j : Json)
    (h : accepts vi j = true → accepts vt' j = accepts vt j) :
    accepts (.matchIf vi vt' ve) j = accepts (.matchIf vi vt ve) j :=
  Skel.if_then_narrowing vi vt vt' ve j h

-- non-vacuity: the hypotheses of the exactness theorems are met by `vs = ss.map enc` for any
-- translation `enc` that is exact on the members (Forall₂.of_map)
example (re root n j) (ss : List Schema) (enc : Schema → CVal)
    (h : ∀ s ∈ ss, valid re root n s j = some (accepts (enc s) j)) :
    valid re root (n+1) (sOneOf ss) j = some (accepts (.matchN (.eq 1) (ss.map enc)) j) :=
  Skel.oneOf_exact re root n j ss (ss.map enc) (Skel.List.Forall₂.of_map _ enc ss h)

/-! #### the importer's short-cuts -/

/-- FULL statement for allOf as encoded by `constraintAllOf` (members without constraints are
dropped from the list but the count stays `len(items)`): FALSE on the model and on the code. -/
theorem C13_allOf_enc_false : ¬ Skel.allOf_enc_stmt :=
  Skel.allOf_enc_false

/-- … true when at most one member has constraints (inlined), or all have -/
theorem C13_allOf_enc_partial (subs : List Sub) (j : Json) (hwf : ∀ s ∈ subs, s.WF)
    (hreg : (subs.filter (·.hasConstraints)).length ≤ 1 ∨ subs.all (·.hasConstraints) = true) :
    (encAccepts (encAllOf subs) true j &&
      (subs.filter (!·.hasConstraints)).all (fun s => hasCore s.allowed (coreOf j)))
      = subs.all (fun s => accepts s.expr j) :=
  Skel.allOf_enc_partial subs j hwf hreg

/-- anyOf: dropping members with no allowed type, inlining a single member -/
theorem C13_anyOf_enc (allowed : KSet) (subs : List Sub) (j : Json) (hwf : ∀ s ∈ subs, s.WF) :
    encAccepts (encAnyOf allowed subs).1 false j = subs.any (fun s => accepts s.expr j) :=
  Skel.anyOf_enc allowed subs j hwf

theorem C13_anyOf_allowed_sound (subs : List Sub) (j : Json) (hwf : ∀ s ∈ subs, s.WF)
    (h : subs.any (fun s => accepts s.expr j) = true) :
    hasCore (unionAllowed (subs.filter (!·.allowed.isEmpty))) (coreOf j) = true :=
  Skel.anyOf_allowed_sound subs j hwf h

/-- oneOf: with the matchN(1) constraint when needed, by the narrowed allowed set alone when the
members have no constraints and pairwise disjoint kinds -/
theorem C13_oneOf_enc (allowed : KSet) (subs : List Sub) (j : Json) (hwf : ∀ s ∈ subs, s.WF) :
    (if oneOfNeeds KSet.empty (subs.filter (!·.allowed.isEmpty)) then encAccepts (encOneOf allowed subs).1 false j
     else hasCore (unionAllowed (subs.filter (!·.allowed.isEmpty))) (coreOf j))
      = (subs.countP (fun s => accepts s.expr j) == 1) :=
  Skel.oneOf_enc allowed subs j hwf

-- non-vacuity: a well-formed member without constraints (`{"type":"string"}`)
example : (⟨.kind .string, fun k => k == .string, KSet.full, false⟩ : Sub).WF :=
  ⟨fun j h => by cases j <;> first | rfl | (simp [accepts, coreOf] at h),
   fun _ j => by cases j <;> rfl,
   fun _ => rfl⟩


/-! ### (4) the transcribed per-keyword builders (Model/JsonSchemaCC.lean): target language `CC`,
`translate`, and exactness of the leaf builders and of `type` w.r.t. the oracle -/

/-- the kind skeleton for the SYNTACTIC constraints the transcribed builders produce: `finalize`
accepts iff the kind is allowed, the all-constraints hold and the constraints of that kind hold -/
theorem C13_cc_kind_skeleton (re) (st : TSt) (j : Json) (hOwn : CCm.Own re st)
    (hknown : st.all.all (acc re · j) = true → hasCore st.known (coreOf j) = true)
    (hsub : ∀ t, hasCore st.allowed t = true → hasCore st.known t = true) :
    acc re (CCm.finalize st) j =
      (hasCore st.allowed (coreOf j) && st.all.all (acc re · j) &&
        (st.types (coreOf j)).all (acc re · j)) :=
  CCm.finalize_acc re st j hOwn hknown hsub

/-- EXACTNESS of the leaf builders (minimum, maximum, exclusiveMinimum, exclusiveMaximum, multipleOf,
minLength, maxLength, pattern, minItems, maxItems), for every instance: the builder is `state.add`
of a constraint `c` of core type `t`, and the JSON Schema keyword holds iff the instance is of another
kind or the emitted CUE constraint accepts it -/
theorem C13_leaf_exact (re rec res kws) (kw : Kw) (t c) (h : leafOf kw = some (t, c)) (tr st) (j : Json) :
    stepKw tr st kw = addC st t c ∧
    kwHolds re rec res kws kw j = some (coreOf j != t || acc re c j) :=
  ⟨CCm.stepKw_leaf tr st kw t c h, CCm.leaf_exact re rec res kws kw t c h j⟩

/-- … and on the state: the builder conjoins exactly the keyword's verdict to what `finalize` accepts -/
theorem C13_leaf_step (re tr rec res kws) (st : TSt) (kw : Kw) (t c) (h : leafOf kw = some (t, c))
    (j : Json) (b : Bool) (hb : kwHolds re rec res kws kw j = some b) :
    stAcc re (stepKw tr st kw) j = (stAcc re st j && b) :=
  CCm.leaf_step re tr rec res kws st kw t c h j b hb

/-- the leaf builders keep the ownership invariant `finalize` needs -/
theorem C13_leaf_own (re tr) (st : TSt) (kw : Kw) (t c) (h : leafOf kw = some (t, c))
    (hO : CCm.Own re st) : CCm.Own re (stepKw tr st kw) :=
  CCm.Own_leaf re tr st kw t c h hO

-- non-vacuity: every listed keyword is a leaf; `{"minimum":3}` step on the initial state
example : leafOf (.minimum ⟨3, 1⟩) = some (.num, .bound .ge ⟨3, 1⟩) := rfl
example : leafOf (.minItems 2) = some (.array, .listOpen [.top, .top] .top) := rfl
example : (stAcc tinyRe (stepKw (translate 0) (TSt.init KSet.full) (.minimum ⟨3, 1⟩)) (.num ⟨5, 1⟩),
           stAcc tinyRe (stepKw (translate 0) (TSt.init KSet.full) (.minimum ⟨3, 1⟩)) (.num ⟨1, 1⟩),
           stAcc tinyRe (stepKw (translate 0) (TSt.init KSet.full) (.minimum ⟨3, 1⟩)) (.str "a"))
    = (true, false, true) := by decide

/-- EXACTNESS of `constraintType` under the two guards that exclude the known deviations:
`typeOk` (not both "integer" and "number": `type-integer-and-number`) and `intForm` (an integral
instance is written as an int literal: `number-literal-form`) -/
theorem C13_type_step (re) (ts : List TypeName) (st : TSt) (j : Json)
    (hcl : CCm.IntClosed st.allowed) (hts : typeOk ts = true) (hj : intForm j = true) :
    stAcc re (bType ts st) j = (stAcc re st j && ts.any (typeMatches · j)) :=
  CCm.type_step re ts st j hcl hts hj

/-- FULL statement for `type` (no guards): false on model and code alike -/
def C13_type_step_stmt : Prop :=
  ∀ (ts : List TypeName) (j : Json),
    stAcc tinyRe (bType ts (TSt.init KSet.full)) j =
      (stAcc tinyRe (TSt.init KSet.full) j && ts.any (typeMatches · j))

/-- witness `number-literal-form`: `{"type":"integer"}` on `1.0` (replayed on the real importer) -/
theorem C13_type_step_false_literal : ¬ C13_type_step_stmt := by
  intro h
  have := h [.integer] (.num ⟨10, 10⟩)
  revert this
  decide

/-- witness `type-integer-and-number`: `{"type":["integer","number"]}` on `1.5` -/
theorem C13_type_step_false_both : ¬ C13_type_step_stmt := by
  intro h
  have := h [.integer, .number] (.num ⟨15, 10⟩)
  revert this
  decide

-- non-vacuity of the guards
example : typeOk [.integer, .string] = true ∧ intForm (.num ⟨3, 1⟩) = true ∧
    CCm.IntClosed (TSt.init KSet.full).allowed := ⟨rfl, rfl, fun _ => rfl⟩

/-- `prefixItems` as emitted (`[a, b, ...]`) REQUIRES the prefix elements to be present, JSON
Schema does not: `{"prefixItems":[{"type":"string"}]}` accepts `[]` per the specification, the
translation rejects it (model: here; code: replayed by the harness and counted as an OBSERVATION —
prefixItems is outside the property's keyword subset, so this is not a finding) -/
theorem C13_prefixItems_presence_false :
    let s : Schema := .obj [.prefixItems [.obj [.type [.string]]]]
    valid tinyRe s 5 s (.arr []) = some true ∧
    acc tinyRe (translate 5 KSet.full s).expr (.arr []) = false := by
  decide

/-- SEMANTIC PRESERVATION THROUGH `translate`, by induction over nested schemas (any depth), for the
guarded fragment `fragOK`: leaf keywords (minimum, maximum, exclusiveMinimum, exclusiveMaximum,
multipleOf, minLength, maxLength, pattern, minItems, maxItems), `type`, `not`, `anyOf`, `oneOf`,
minContains/maxContains without contains, uniqueItems:false — with the guards evaluated ALONG the
real translation (on the state each builder sees): `typeOk` for every `type`, and for `oneOf` "the
matchN(1,…) constraint is emitted or no member is kept" (the no-constraint shortcut is proved on the
semantic model, `C13_oneOf_enc`).  Instance guard: `intForm` (the known deviation
`number-literal-form`).  For every such schema and instance the oracle's verdict IS the acceptance
of the translated CUE constraint. -/
theorem C13_translate_exact_partial (re) (n : Nat) (s : Schema) (j : Json)
    (hs : fragOK n KSet.full s = true) (hj : intForm j = true) :
    valid re s n s j = some (acc re (translate n KSet.full s).expr j) :=
  CCm.translate_exact_partial re n s j hs hj

/-- the inductive statement behind it, RELATIVE to the allowed types `T` handed down by the parent
(int-closed) and at kind granularity: exactness, soundness w.r.t. the member's `allowedTypes` /
`knownTypes`, and "a member without constraints accepts exactly its allowed kinds" -/
theorem C13_translate_good (re) (root : Schema) (j : Json) (hj : intForm j = true) (n : Nat) (T : KSet)
    (s : Schema) (hT : CCm.IntClosed T) (hs : fragOK n T s = true) :
    CCm.GoodA re (translate n) (fun s => valid re root n s j) j T s :=
  CCm.translate_good re root j hj n T s hT hs

-- non-vacuity: a nested schema of the fragment (depth 3, combinators inside combinators, `type`
-- narrowing what the members see) passes the guard
example : fragOK 5 KSet.full (.obj [.type [.number, .string], .minLength 2,
    .anyOf [.obj [.minimum ⟨3, 1⟩, .not (.obj [.multipleOf ⟨2, 1⟩])], .obj [.type [.string]]],
    .oneOf [.obj [.maximum ⟨10, 1⟩], .obj [.pattern "^a"]]]) = true := by decide

/-- the step lemmas of the combinator builders on the state, relative to the allowed types -/
theorem C13_anyOf_step (re tr vf) (st : TSt) (ss : List Schema) (j : Json) (hI : CCm.SInv re st j)
    (hg : ∀ s ∈ ss, CCm.GoodA re tr vf j st.allowed s) :
    CCm.SInv re (bAnyOf tr ss st) j ∧ (any3 (ss.map vf)).isSome = true ∧
    stAcc re (bAnyOf tr ss st) j = (stAcc re st j && (any3 (ss.map vf)).getD false) :=
  CCm.anyOf_step re tr vf st ss j hI hg

theorem C13_oneOf_step (re tr vf) (st : TSt) (ss : List Schema) (j : Json) (hI : CCm.SInv re st j)
    (hg : ∀ s ∈ ss, CCm.GoodA re tr vf j st.allowed s)
    (hneeds : (CCm.oneOfNeeds KSet.empty (keptSubs tr st.allowed ss) ||
      (keptSubs tr st.allowed ss).isEmpty) = true) :
    CCm.SInv re (bOneOf tr ss st) j ∧ (one3 (ss.map vf)).isSome = true ∧
    stAcc re (bOneOf tr ss st) j = (stAcc re st j && (one3 (ss.map vf)).getD false) :=
  CCm.oneOf_step re tr vf st ss j hI hg hneeds

theorem C13_not_step (re tr vf) (st : TSt) (s : Schema) (j : Json) (hI : CCm.SInv re st j)
    (hg : CCm.GoodA re tr vf j KSet.full s) :
    CCm.SInv re (bNot tr s st) j ∧ (not3 (vf s)).isSome = true ∧
    stAcc re (bNot tr s st) j = (stAcc re st j && (not3 (vf s)).getD false) :=
  CCm.not_step re tr vf st s j hI hg

/-! #### enum / const / uniqueItems: CUE literal equality = JSON equality on normal-form data -/

/-- on data in normal form (positive denominators, integral numbers written as int literals — the
complement is the known deviation `number-literal-form`) the equality CUE decides between two
literals is JSON Schema's equality, for nested arrays and objects too -/
theorem C13_litEq_eq_jeq (a b : Json) (ha : CCm.normal a = true) (hb : CCm.normal b = true) :
    CCm.litEq a b = jeq a b :=
  CCm.litEq_eq_jeq a b ha hb

/-- `const` ↦ the literal `constValue(v)`: exact -/
theorem C13_const_exact (re rec res kws) (v j : Json) (hv : CCm.normal v = true)
    (hj : CCm.normal j = true) :
    kwHolds re rec res kws (.const v) j = some (acc re (.lit v) j) :=
  CCm.const_exact re rec res kws v j hv hj

/-- `enum` ↦ the disjunction of the literals whose kind is allowed: exact for every instance whose
own CUE kind is allowed (the values dropped by `constraintEnum` cannot equal such an instance) -/
theorem C13_enum_exact (re rec res kws) (allowed : KSet) (vs : List Json) (j : Json)
    (hvs : ∀ v ∈ vs, CCm.normal v = true) (hj : CCm.normal j = true)
    (hk : allowed (kindOf j) = true) :
    kwHolds re rec res kws (.enum vs) j = some
      (match (vs.filter (fun v => allowed (kindOf v))).map CC.lit with
       | [] => false
       | c :: cs => acc re (CCm.foldOr c cs) j) :=
  CCm.enum_exact re rec res kws allowed vs j hvs hj hk

/-- `uniqueItems: true` ↦ `list.UniqueItems()`: exact on normal-form arrays -/
theorem C13_uniqueItems_exact (re rec res kws) (j : Json) (hj : CCm.normal j = true) :
    kwHolds re rec res kws (.uniqueItems true) j =
      some (coreOf j != .array || acc re .uniqueItems j) :=
  CCm.uniqueItems_exact re rec res kws j hj

-- non-vacuity: nested normal-form data; and outside normal form the two equalities differ (1 vs 1.0)
example : CCm.normal (.arr [.num ⟨1, 1⟩, .obj [("k", .num ⟨15, 10⟩)]]) = true := by decide
example : CCm.litEq (.num ⟨1, 1⟩) (.num ⟨10, 10⟩) = false ∧ jeq (.num ⟨1, 1⟩) (.num ⟨10, 10⟩) = true := by
  decide

/-- THE semantic-preservation statement for the WHOLE transcribed subset (`inModel`): -- OPEN.
Proved: `C13_translate_exact_partial` (fragment above).  Exactly missing, each a `kw_step` case of
Proofs/JsonSchemaCCMain.lean plus its guard in `kwOk`:
 * a state-level step for `allOf`: spec of `allOfLoop` (member-by-member narrowing; invariant "hasCore al' ∧ all hasC
   members accept ⇔ all members valid", region of `C13_allOf_enc_partial`, no literal `false` member);
 * a step for `if`/`then`/`else`: `bIfThenElse` after the phases + tracking that `st.ifS/thenS/elseS`
   are the `if` keyword, `findThen kws`, `findElse kws` under distinct keys (the `then` narrowing is covered by `GoodA.sound` of `if`);
 * `oneOf_noNeeds` through `translate` (IntClosed in place of `Sub.WF.whole`);
 * state-level steps for `enum` / `const`: the constraint-level exactness is proved (`C13_enum_exact`,
   `C13_const_exact`, `C13_litEq_eq_jeq`); missing is the state-level step with the kind-level (not
   core-level) invariant `stAcc st j → st.allowed (kindOf j)`, since enum/const can leave `{float}`;
 * state-level steps for `contains`, `items`, `uniqueItems`: instance guard `intForm` on all array
   elements, `minItems ≥ len(prefixItems)` for prefixItems. -/
def C13_translate_exact_stmt (guard : Nat → Schema → Json → Prop) : Prop :=
  ∀ (n : Nat) (s : Schema) (j : Json), inModel n s = true → guard n s j →
    valid tinyRe s n s j = some (acc tinyRe (translate n KSet.full s).expr j)

end CueVerif.C13
