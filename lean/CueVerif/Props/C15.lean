/-
C15 — Module archives round-trip and can never write outside their directory.

The proofs are in CueVerif/Proofs/Modzip*.lean; where a theorem combines results of two of those
modules (`C15_roundtrip`, `C15_create_full`) the combining lines are here.
`Uni` (unicode.IsLetter and case folding on non-ASCII runes) is universally quantified in
every theorem: nothing depends on the Unicode tables.  Archives are arbitrary lists of
entries with arbitrary reader behaviour (`ZEnt`), file systems arbitrary finite maps.
-/
import CueVerif.Proofs.ModzipPath
import CueVerif.Proofs.ModzipColl
import CueVerif.Proofs.ModzipSizes
import CueVerif.Proofs.ModzipUnzip
import CueVerif.Proofs.ModzipExtract
import CueVerif.Proofs.ModzipCreate
import CueVerif.Proofs.ModzipAgree
import CueVerif.Proofs.ModzipTotal
import CueVerif.Proofs.ModzipDir
import CueVerif.Proofs.ModzipEsc
import CueVerif.Proofs.ModzipJoin
namespace CueVerif.C15
open CueVerif CueVerif.Modzip

/-! ### names -/

/-- A name accepted by module.CheckFilePath can never leave the directory it is joined to:
it is a non-empty list of elements none of which is empty, "." or "..", it contains no
backslash, colon or NUL byte, and filepath.Join(dir, name) is `dir` followed by exactly those
elements — strictly beneath `dir`, for every `dir`. -/
theorem C15_confined (U : Uni) (p : Str) (h : checkFilePath U p = none) :
    SafeName p ∧ ∀ dir : Path, fjoin dir p = dir ++ splitOn 47 p ∧ StrictUnder dir (fjoin dir p) :=
  ⟨checkFilePath_safe U p h, fun dir => fjoin_of_safe dir p (checkFilePath_safe U p h)⟩

/-- A name accepted by module.CheckFilePath is relative, has no trailing slash and is its own
path.Clean. -/
theorem C15_accepted_clean (U : Uni) (p : Str) (h : checkFilePath U p = none) :
    pathClean p = p ∧ isAbs p = false ∧ p.getLast? ≠ some 47 :=
  checkFilePath_clean U p h

-- non-vacuity: a unicode name with spaces and punctuation is accepted; hostile ones are not
example : checkFilePath ⟨fun r => r == 233, id⟩ [99,117,101,46,109,111,100,47,195,169,32,40,49,41,46,99,117,101] = none := by decide +kernel
example : checkFilePath ⟨fun _ => false, id⟩ [46,46,47,120] = some .dots := by decide +kernel
example : checkFilePath ⟨fun _ => false, id⟩ [97,92,46,46,92,120] = some .invalidChar := by decide +kernel

/-- Confinement at byte level, for the join Unzip performs (`filepath.Join(dir, name)` after
CheckFilePath): for a clean absolute `dir` = `/d1/…/dn` and an accepted `name` the result is
literally `dir ++ "/" ++ name` — Clean removes nothing and resolves no `..` — its elements are
those of `dir` followed by those of `name` (the `fjoin` of `C15_confined`), and every element
of `name` obeys the Windows rules the code applies on every OS (`WinSafeElem`: not empty, not
dots only, no trailing dot, none of the bytes `\ / : * ? " < > |`, quotes, `;`, backquote, DEL
or control characters — hence no drive letter, UNC prefix or alternate data stream — and the
part before the first dot is no reserved device name in any case). -/
theorem C15_confined_bytes (U : Uni) (ds : List Str) (hds : ds ≠ [])
    (hd : ∀ e ∈ ds, e ≠ [] ∧ e ≠ sDot ∧ e ≠ sDotDot ∧ 47 ∉ e)
    (p : Str) (hp : checkFilePath U p = none) :
    fpJoin (47 :: joinSlash ds) p = (47 :: joinSlash ds) ++ 47 :: p ∧
    splitOn 47 (fpJoin (47 :: joinSlash ds) p) = [] :: fjoin ds p ∧
    ∀ e ∈ splitOn 47 p, WinSafeElem U e :=
  ⟨(fpJoin_accepted U ds hds hd p hp).1, (fpJoin_accepted U ds hds hd p hp).2,
   checkFilePath_winSafe U p hp⟩

example : fpJoin [47,84] [99,117,101,46,109,111,100,47,120] = [47,84,47,99,117,101,46,109,111,100,47,120] := by decide +kernel
-- what Join would do to a hostile name (a test): `..` climbs out — such names never reach Join
example : fpJoin [47,84] [46,46,47,120] = [47,120] := by decide +kernel

/-- What the Windows rules of the code do NOT give: an element may end in a space (`.. `,
`a `, `CON .txt` are accepted; only a trailing DOT is rejected).  Replayed on the implementation
by the harness; outside the C15 statement (not observable on this host), for maintainers. -/
def C15_no_trailing_space_stmt : Prop :=
  ∀ (U : Uni) (p : Str), checkFilePath U p = none → ∀ e ∈ splitOn 47 p, e.getLast? ≠ some 32

theorem C15_no_trailing_space_false : ¬ C15_no_trailing_space_stmt := by
  intro h
  have := h ⟨fun _ => false, id⟩ [46,46,32] (by decide) [46,46,32] (by decide)
  revert this
  decide +kernel

/-! ### extraction: ANY archive, ANY outcome -/

/-- For every archive whatsoever (hostile names, forged sizes, readers that fail or deliver
too much, write failures), every target directory and every prior file system: whatever
Unzip returns, and wherever it stopped, the file system afterwards differs from the one
before only by nodes that did not exist before and lie strictly beneath the target, plus
missing directories at or above the target itself.  Nothing that existed is replaced or
removed; no regular file appears anywhere but strictly beneath the target. -/
theorem C15_unzip_safe (U : Uni) (fs : FS) (dir : Path) (zipSize : Nat) (z : List ZEnt) :
    Confined dir fs (unzip U fs dir zipSize z).1 :=
  unzip_confined U fs dir zipSize z

/-- An archive that CheckZip rejects is not extracted at all: the file system is unchanged. -/
theorem C15_unzip_rejected (U : Uni) (fs : FS) (dir : Path) (zipSize : Nat) (z : List ZEnt)
    (h : (checkZip U zipSize z).isErr = true) : unzip U fs dir zipSize z = (fs, false) :=
  unzip_rejected U fs dir zipSize z h

/-- Every regular file that Unzip brought into being belongs to a file entry of the archive,
sits at that entry's name beneath the target, holds a prefix of what the entry's reader
delivers, never more than declared+1 bytes (the LimitedReader bound, unconditional), never
more than declared when the container keeps its contract (no reader yields more than
UncompressedSize64 bytes), and when Unzip succeeds exactly the entry's data, of at most the
declared size. -/
theorem C15_unzip_sizes (U : Uni) (fs : FS) (dir : Path) (zipSize : Nat) (z : List ZEnt)
    (h64 : ∀ e ∈ z, e.declared < 2 ^ 64) :
    ∀ q c, fs.get q = none → (unzip U fs dir zipSize z).1.get q = some (.file c) →
      ∃ e ∈ z, skipEntry e = false ∧ q = dir ++ splitOn 47 e.name ∧ splitOn 47 e.name ≠ [] ∧
        c <+: e.data ∧ c.length ≤ e.declared + 1 ∧
        (e.data.length ≤ e.declared → c.length ≤ e.declared) ∧
        ((unzip U fs dir zipSize z).2 = true → c = e.data ∧ c.length ≤ e.declared) :=
  unzip_sizes U fs dir zipSize z h64

-- non-vacuity / sample (a test, not the property): a hostile archive is refused and writes
-- nothing; an entry whose stream is longer than declared stops at declared+1 bytes
example : unzip ⟨fun _ => false, id⟩ [] [[84]] 100
    [{ name := sCueModModule, declared := 1, data := [1] }, { name := [46,46,47,120], declared := 1, data := [1] }]
    = ([], false) := by decide +kernel
example : (unzip ⟨fun _ => false, id⟩ [] [[84]] 100
    [{ name := sCueModModule, declared := 1, data := [1,2,3,4] }]).1.get [[84],sCueMod,sModuleCue]
    = some (.file [1,2]) := by decide +kernel

/-- **The byte budget of an extraction, as one statement.**  For every archive whatsoever
(forged declared sizes, readers that fail or deliver too much, write failures), every target,
every prior file system and every outcome of Unzip:
* over any set `qs` of distinct paths that did not exist before, the regular files found there
  afterwards hold in total at most MaxZipFile + |qs| bytes (the LimitedReader cuts every entry
  at declared+1 bytes and CheckZip bounds the sum of the declared sizes), and at most
  MaxZipFile bytes when Unzip succeeded or no reader yields more than its declared size (the
  container contract of archive/zip);
* a `cue.mod/module.cue` created beneath the target holds at most MaxCUEMod+1 bytes, at most
  MaxCUEMod under the same condition; a `LICENSE` likewise with MaxLICENSE. -/
theorem C15_unzip_budget (U : Uni) (fs : FS) (dir : Path) (zipSize : Nat) (z : List ZEnt)
    (h64 : ∀ e ∈ z, e.declared < 2 ^ 64) :
    let r := unzip U fs dir zipSize z
    let fine := r.2 = true ∨ (∀ e ∈ z, e.data.length ≤ e.declared)
    (∀ qs : List Path, qs.Nodup → (∀ q ∈ qs, fs.get q = none) →
      r.1.bytesAt qs ≤ maxZipFile + qs.length ∧ (fine → r.1.bytesAt qs ≤ maxZipFile)) ∧
    (∀ c, fs.get (dir ++ [sCueMod, sModuleCue]) = none →
      r.1.get (dir ++ [sCueMod, sModuleCue]) = some (.file c) →
      c.length ≤ maxCUEMod + 1 ∧ (fine → c.length ≤ maxCUEMod)) ∧
    (∀ c, fs.get (dir ++ [sLICENSE]) = none → r.1.get (dir ++ [sLICENSE]) = some (.file c) →
      c.length ≤ maxLICENSE + 1 ∧ (fine → c.length ≤ maxLICENSE)) :=
  ⟨fun qs hnd hnew => unzip_total U fs dir zipSize z h64 qs hnd hnew,
   fun c hq hc => unzip_special U fs dir zipSize z h64 sCueModModule maxCUEMod
     (fun herr => (checkZip_ok U zipSize z (fun e he _ => h64 e he) herr).2.2.2.1) c hq hc,
   fun c hq hc => unzip_special U fs dir zipSize z h64 sLICENSE maxLICENSE
     (fun herr => (checkZip_ok U zipSize z (fun e he _ => h64 e he) herr).2.2.2.2.1) c hq hc⟩

-- non-vacuity / sample (a test): a forged header (declared 1, stream of 4 bytes) leaves
-- declared+1 = 2 bytes behind and Unzip fails
example : (unzip ⟨fun _ => false, id⟩ [] [[84]] 100
    [{ name := sCueModModule, declared := 1, data := [1,2,3,4] }]).1.bytesAt
      [[[84], sCueMod, sModuleCue]] = 2 := by decide +kernel

/-! ### collisions and sizes -/

/-- The names CheckZip reports valid are pairwise distinct under case folding and none is,
under case folding, a directory another lies in. -/
theorem C15_no_collision_zip (U : Uni) (zipSize : Nat) (z : List ZEnt) :
    CollisionFree U (checkZip U zipSize z).valid :=
  checkZip_collisionFree U zipSize z

/-- The same for the file-list / directory check (checkFiles is the core of CheckFiles,
CheckDir and Create). -/
theorem C15_no_collision_files (U : Uni) (files : List FEnt) :
    CollisionFree U (checkFiles U files).1.valid :=
  checkFiles_collisionFree U files

/-- When CheckZip reports no error: the zip is within MaxZipFile, every entry name passed
CheckFilePath, the declared sizes of the file entries add up to at most MaxZipFile,
cue.mod/module.cue is at most MaxCUEMod and LICENSE at most MaxLICENSE, no entry is
cue.mod/local-module.cue, and the valid list is exactly the file entries' names. -/
theorem C15_sizes_zip (U : Uni) (zipSize : Nat) (z : List ZEnt)
    (h64 : ∀ e ∈ z, isDirName e.name = false → e.declared < 2 ^ 64)
    (h : (checkZip U zipSize z).isErr = false) :
    zipSize ≤ maxZipFile ∧
    (∀ e ∈ z, checkFilePath U (if isDirName e.name then e.name.dropLast else e.name) = none) ∧
    declaredTotal z ≤ maxZipFile ∧
    (∀ e ∈ z, isDirName e.name = false → e.name = sCueModModule → e.declared ≤ maxCUEMod) ∧
    (∀ e ∈ z, isDirName e.name = false → e.name = sLICENSE → e.declared ≤ maxLICENSE) ∧
    (∀ e ∈ z, e.name ≠ sLocalModule) ∧
    (checkZip U zipSize z).valid = (z.filter (fun e => !isDirName e.name)).map (·.name) :=
  checkZip_ok U zipSize z h64 h

/-- The same accounting for the file list: when the report has no error the valid entries are
regular files with checked names and non-negative sizes adding up to at most MaxZipFile,
cue.mod/module.cue is among them and at most MaxCUEMod, LICENSE at most MaxLICENSE, and
neither cue.mod/local-module.cue nor a vendored file is ever valid. -/
theorem C15_sizes_files (U : Uni) (files : List FEnt)
    (h : (checkFiles U files).1.isErr = false) :
    let r := checkFiles U files
    r.1.valid = r.2.map (·.path) ∧
    (∀ f ∈ r.2, f ∈ files ∧ f.kind = .regular ∧ 0 ≤ f.size ∧ checkFilePath U f.path = none) ∧
    ((r.2.map (·.size)).foldl (· + ·) 0 ≤ (maxZipFile : Int)) ∧
    sCueModModule ∈ r.1.valid ∧
    (∀ f ∈ r.2, f.path = sCueModModule → f.size ≤ maxCUEMod) ∧
    (∀ f ∈ r.2, f.path = sLICENSE → f.size ≤ maxLICENSE) ∧
    (∀ f ∈ r.2, f.path ≠ sLocalModule ∧ isVendoredPackage f.path = false) :=
  checkFiles_ok U files h

-- non-vacuity: a two-file module is accepted by both checks
example : (checkZip ⟨fun _ => false, id⟩ 100
    [{ name := sCueModModule, declared := 5 }, { name := [97,47,98], declared := 7 }]).isErr = false := by decide +kernel
example : (checkFiles ⟨fun _ => false, id⟩
    [⟨sCueModModule, .regular, 5⟩, ⟨[97,47,98], .regular, 7⟩]).1.isErr = false := by decide +kernel
-- sample (a test): case collision through U+212A KELVIN SIGN folding to 'k' is caught
example : (checkZip ⟨fun r => r == 8490, fun r => if r == 8490 then 107 else r⟩ 100
    [{ name := sCueModModule, declared := 5 }, { name := [107], declared := 1 }, { name := [226,132,170], declared := 1 }]).invalid
    = [([226,132,170], .collCase)] := by decide +kernel

/-! ### extraction of an intact archive is exact -/

/-- An archive that passes CheckZip and whose entries are intact (`Honest`: the reader delivers
exactly the declared number of bytes, no I/O error) extracts into a fresh target successfully,
and afterwards the regular files strictly beneath the target are exactly the archive's file
entries, each with exactly its data — nothing missing, nothing extra, nothing truncated. -/
theorem C15_extract_exact (U : Uni) (fs : FS) (dir : Path) (zipSize : Nat) (z : List ZEnt)
    (hck : (checkZip U zipSize z).isErr = false)
    (hh : ∀ e ∈ z, skipEntry e = false → Honest e)
    (hfresh : FreshTarget fs dir) :
    (unzip U fs dir zipSize z).2 = true ∧
    ∀ rel c, rel ≠ [] →
      ((unzip U fs dir zipSize z).1.get (dir ++ rel) = some (.file c) ↔
        ∃ e ∈ z, skipEntry e = false ∧ rel = splitOn 47 e.name ∧ c = e.data) :=
  unzip_honest U fs dir zipSize z hck hh hfresh

-- non-vacuity: the hypotheses hold for a two-file module and an empty file system
example : (unzip ⟨fun _ => false, id⟩ [] [[84]] 100
    [{ name := sCueModModule, declared := 2, data := [1,2] }, { name := [97,47,98], declared := 1, data := [7] }]).2 = true := by decide +kernel

/-! ### round trip -/

/-- Creating a module zip from any file set that Create accepts and extracting it into a fresh
target reproduces exactly the valid files with identical content, and the archive passes the
archive check with the same valid list: `z` is what Create wrote (one intact entry per valid
file, named by its path, holding its content), CheckZip reports no error and the same valid
names, Unzip succeeds, and the regular files beneath the target are exactly the entries of
`z` — i.e. exactly the valid source files — with exactly their content.
(`zipSize ≤ MaxZipFile`: the compressed size of the archive is a property of the container.) -/
theorem C15_roundtrip (U : Uni) (files : List SrcFile) (z : List ZEnt) (zipSize : Nat)
    (fs : FS) (dir : Path)
    (hc : create U files = some z) (hz : zipSize ≤ maxZipFile) (hfresh : FreshTarget fs dir) :
    (checkZip U zipSize z).isErr = false ∧
    (checkZip U zipSize z).valid = (checkFiles U (files.map (·.ent))).1.valid ∧
    z.map (·.name) = (checkFiles U (files.map (·.ent))).1.valid ∧
    (∀ e ∈ z, ∃ s ∈ files, s.ent ∈ (checkFiles U (files.map (·.ent))).2 ∧
        e.name = s.ent.path ∧ e.data = s.content) ∧
    (unzip U fs dir zipSize z).2 = true ∧
    ∀ rel c, rel ≠ [] →
      ((unzip U fs dir zipSize z).1.get (dir ++ rel) = some (.file c) ↔
        ∃ e ∈ z, rel = splitOn 47 e.name ∧ c = e.data) := by
  obtain ⟨h1, h2, h3, h4, h5⟩ := create_passes_checkZip U files z zipSize hc hz
  obtain ⟨h6, h7⟩ := unzip_honest U fs dir zipSize z h1 (fun e he _ => (h4 e he).2) hfresh
  refine ⟨h1, h2, h3, h5, h6, ?_⟩
  intro rel c hrel
  rw [h7 rel c hrel]
  constructor
  · rintro ⟨e, he, -, h⟩; exact ⟨e, he, h⟩
  · rintro ⟨e, he, h⟩; exact ⟨e, he, (h4 e he).1, h⟩

/-- The part of "the three ways of checking agree" that the property needs: whatever the
file-list check (the core of CheckFiles, CheckDir and Create) accepts, the zip check accepts
as an archive, with the same valid names. -/
theorem C15_three_agree_partial (U : Uni) (files : List SrcFile) (z : List ZEnt) (zipSize : Nat)
    (hc : create U files = some z) (hz : zipSize ≤ maxZipFile) :
    (checkZip U zipSize z).isErr = false ∧
    (checkZip U zipSize z).valid = (checkFiles U (files.map (·.ent))).1.valid :=
  ⟨(create_passes_checkZip U files z zipSize hc hz).1, (create_passes_checkZip U files z zipSize hc hz).2.1⟩

/-- The converse: an archive that CheckZip accepts and that has no
directory entries, vendored names or `.hg_archival.txt` — the three kinds of entry the entry
points treat differently by design — is accepted as a list of regular files of the declared
sizes by the file-list check (core of CheckFiles, CheckDir and Create): no error, the same
valid names in the same order (= all entry names), nothing omitted, nothing invalid.
(The three entry points do NOT reject the same files in general: the list check *omits*
vendored, `.hg_archival.txt`, local-module and nested-module files which the zip check
accepts resp. rejects; see notes/C15.md.) -/
theorem C15_three_agree (U : Uni) (zipSize : Nat) (z : List ZEnt)
    (h : (checkZip U zipSize z).isErr = false)
    (hpl : ∀ e ∈ z, isDirName e.name = false ∧ e.declared < 2 ^ 63 ∧
      isVendoredPackage e.name = false ∧ e.name ≠ sHgArchival) :
    let r := checkFiles U (z.map fun e => ⟨e.name, .regular, e.declared⟩)
    r.1.isErr = false ∧ r.1.valid = (checkZip U zipSize z).valid ∧
    r.1.valid = z.map (·.name) ∧ r.1.omitted = [] ∧ r.1.invalid = [] :=
  checkZip_to_checkFiles U zipSize z h hpl

-- non-vacuity: a three-file archive satisfies the hypotheses
example : (checkZip ⟨fun _ => false, id⟩ 100
    [{ name := sCueModModule, declared := 5 }, { name := [97,47,98], declared := 7 },
     { name := sLICENSE, declared := 9 }]).isErr = false := by decide +kernel
-- the excluded kinds are exactly where the entry points differ (samples, tests):
-- a directory entry `cue.mod/module.cue/` satisfies CheckZip's "module file present"
example : (checkZip ⟨fun _ => false, id⟩ 100
    [{ name := sCueModModule ++ [47], declared := 0 }]).isErr = false := by decide +kernel
example : (checkFiles ⟨fun _ => false, id⟩ [⟨sCueModModule, .dir, 0⟩]).1.isErr = true := by decide +kernel

-- non-vacuity of the round trip: Create accepts a two-file module
example : (create ⟨fun _ => false, id⟩
    [⟨⟨[97,47,98], .regular, 1⟩, [7]⟩, ⟨⟨sCueModModule, .regular, 2⟩, [1,2]⟩]).isSome = true := by decide +kernel

/-! ### Create with its sort, the directory walk -/

/-- The comparator Create hands to slices.SortFunc counts the separators of `ap` twice, so it
is the plain lexical order of the paths (as transcribed; documented, not a C15 violation). -/
theorem C15_create_cmp_lexical (ap bp : Str) :
    createCmp ap bp = if strLt ap bp then -1 else if strLt bp ap then 1 else 0 :=
  createCmp_eq ap bp

/-- Create as a whole (clone, sort, check, write), for ALL file lists: it succeeds exactly
when the file-list check accepts the sorted list and no valid file delivers more bytes than
Lstat declared; and whenever it succeeds the archive passes CheckZip with the same valid list,
has one intact entry per valid file of the INPUT list (name = path, data = content), extracts
successfully into a fresh target, and the regular files beneath the target are exactly those
entries with exactly their data.  (`sortFiles` is one sort by the comparator; since
slices.SortFunc is not stable the statement is also available for every other ordering:
`C15_roundtrip` quantifies over the list as handed to checkFiles.) -/
theorem C15_create_full (U : Uni) (files : List SrcFile) :
    ((createFull U files).isSome = true ↔
      ((checkFiles U ((sortFiles files).map (·.ent))).1.isErr = false ∧
       ∀ e ∈ (checkFiles U ((sortFiles files).map (·.ent))).2,
         (srcOf (sortFiles files) e).length ≤ e.size.toNat)) ∧
    ∀ (z : List ZEnt) (zipSize : Nat) (fs : FS) (dir : Path),
      createFull U files = some z → zipSize ≤ maxZipFile → FreshTarget fs dir →
      (checkZip U zipSize z).isErr = false ∧
      (checkZip U zipSize z).valid = (checkFiles U ((sortFiles files).map (·.ent))).1.valid ∧
      (∀ e ∈ z, ∃ s ∈ files, e.name = s.ent.path ∧ e.data = s.content) ∧
      (unzip U fs dir zipSize z).2 = true ∧
      ∀ rel c, rel ≠ [] →
        ((unzip U fs dir zipSize z).1.get (dir ++ rel) = some (.file c) ↔
          ∃ e ∈ z, rel = splitOn 47 e.name ∧ c = e.data) := by
  refine ⟨createFull_iff U files, ?_⟩
  intro z zipSize fs dir hc hz hfresh
  obtain ⟨h1, h2, -, h4, h5, h6⟩ := C15_roundtrip U (sortFiles files) z zipSize fs dir hc hz hfresh
  refine ⟨h1, h2, ?_, h5, h6⟩
  intro e he
  obtain ⟨s, hs, -, hn, hd⟩ := h4 e he
  exact ⟨s, (mem_sortFiles files s).mp hs, hn, hd⟩

example : (createFull ⟨fun _ => false, id⟩
    [⟨⟨[120,47,98], .regular, 1⟩, [7]⟩, ⟨⟨sCueModModule, .regular, 2⟩, [1,2]⟩]).map (·.map (·.name))
    = some [sCueModModule, [120,47,98]] := by decide +kernel

/-- "The verdict of the file-list check does not depend on the order of the list" is FALSE on
model and code alike when two entries share a path: a report for a path that was already
reported is dropped (`errPaths`), so `[module, pipe b, regular b]` is accepted (b omitted as
"not a regular file", the "multiple entries" error swallowed) while `[module, regular b, pipe b]`
is rejected.  Replayed on the implementation by the harness (`c15WitnessDupOrder`).  This is why
Create's sort (not stable beyond 12 entries) is modelled by a concrete stable sort and why
`C15_roundtrip` is stated for every ordering. -/
def C15_checkFiles_perm_stmt : Prop :=
  ∀ (U : Uni) (l l' : List FEnt), l.Perm l' →
    (checkFiles U l).1.isErr = (checkFiles U l').1.isErr

theorem C15_checkFiles_perm_false : ¬ C15_checkFiles_perm_stmt := by
  intro h
  have := h ⟨fun _ => false, id⟩
    [⟨sCueModModule, .regular, 1⟩, ⟨[98], .other, 4⟩, ⟨[98], .regular, 7⟩]
    [⟨sCueModModule, .regular, 1⟩, ⟨[98], .regular, 7⟩, ⟨[98], .other, 4⟩]
    (List.Perm.cons _ (List.Perm.swap _ _ _))
  revert this
  decide +kernel

/-- listFilesInDir, for ALL trees: whatever the walk lists is a regular file of the tree, at
its slash path, and not below cue.mod/vendor. -/
theorem C15_listdir_sound (root : DList) :
    ∀ f ∈ (listFilesInDir root).files,
      f ∈ allFilesList [] root ∧ f.kind = .regular ∧ isVendoredPackage f.path = false :=
  walkList_sound [] root

/-- CheckDir versus CheckFiles — the part that holds: on a tree without irregular files,
vendored paths, VCS directories and nested `cue.mod` entries (other than the root's), the walk
lists every regular file and omits nothing, so CheckDir IS CheckFiles on the tree's files. -/
theorem C15_dir_agrees_partial (U : Uni) (root : DList) (h : plainList [] root = true) :
    listFilesInDir root = ⟨allFilesList [] root, []⟩ ∧
    checkDir U root = ((checkFiles U (allFilesList [] root)).1, []) :=
  ⟨walkList_plain [] root h, checkDir_plain U root h⟩

/-- The full statement "CheckDir and CheckFiles report the same valid files for the same
regular files" is FALSE on model and code alike (known finding dir-vs-list-nested-cuemod). -/
def C15_dir_vs_list_stmt : Prop :=
  ∀ (U : Uni) (root : DList),
    (checkDir U root).1.valid = (checkFiles U (allFilesList [] root)).1.valid

/-- files cue.mod/module.cue, sub/x.cue and an EMPTY directory sub/cue.mod -/
def dirWitness : DList :=
  .cons sCueMod (.dir (.cons sModuleCue (.file 1) .nil))
    (.cons [115,117,98] (.dir (.cons sCueMod (.dir .nil) (.cons [120,46,99,117,101] (.file 1) .nil)))
      .nil)

theorem C15_dir_vs_list_false : ¬ C15_dir_vs_list_stmt := by
  intro h
  have := h ⟨fun _ => false, id⟩ dirWitness
  revert this
  decide +kernel

example : plainList [] (.cons sCueMod (.dir (.cons sModuleCue (.file 1) .nil))
    (.cons [97] (.dir (.cons [98] (.file 3) .nil)) .nil)) = true := by decide +kernel

/-! ### cache directory names (module.escapeString) -/

/-- The escaped form of a module path / version contains no upper-case letter. -/
theorem C15_escape_no_upper (s e : Str) (h : escapeString s = some e) :
    ∀ b ∈ e, ¬ (65 ≤ b ∧ b ≤ 90) :=
  escape_no_upper s e h

/-- Escaping is injective: two different versions never share an extraction directory, not even
on a case-insensitive file system (the escaped form has no upper-case letter). -/
theorem C15_escape_injective (s t e : Str) (hs : escapeString s = some e)
    (ht : escapeString t = some e) : s = t :=
  escape_injective s t e hs ht

example : escapeString [118,49,45,82,67] = some [118,49,45,33,114,33,99] := by decide +kernel

/-- The literal transcription of escapeString (two loops over the runes, `if !haveUpper
{ return s }`) computes the byte-level model the theorems are stated for. -/
theorem C15_escape_literal (s : Str) : escapeStringLit s = escapeString s :=
  escapeStringLit_eq s

/-- unescape (escape s) = s: "!x" ↦ "X", everything else literally (`unescapeString` is the
specification of the encoding; cue-lang/cue has no unescape function). -/
theorem C15_unescape_escape (s e : Str) (h : escapeString s = some e) :
    unescapeString e = some s :=
  unescape_escape s e h

/-- The extraction directory name `enc@encVer` of the module cache determines (path, version) —
what C16 trusts — for module paths without '@' (guaranteed by CheckPathWithoutVersion, which is
the parameter `ok` / `ok'` here: its verdict on the path; `sv` / `sv'` is the verdict of
semver.IsValid on the version). -/
theorem C15_cache_dir_injective (U : Uni) (ok ok' sv sv' : Bool) (p p' v v' d : Str)
    (hp : 64 ∉ p) (hp' : 64 ∉ p')
    (h : cacheDirName U ok sv p v = some d) (h' : cacheDirName U ok' sv' p' v' = some d) :
    p = p' ∧ v = v' ∧ (∀ b ∈ d, ¬ (65 ≤ b ∧ b ≤ 90)) := by
  obtain ⟨a, b⟩ := cacheDirName_injective U ok ok' sv sv' p p' v v' d hp hp' h h'
  exact ⟨a, b, cacheDirName_no_upper h⟩

example : cacheDirName ⟨fun _ => false, id⟩ true true [97,46,98] [118,49,45,82]
    = some [97,46,98,64,118,49,45,33,114] := by decide +kernel


end CueVerif.C15
