/-
C17 — `cue mod tidy` reaches a correct fixpoint and module files round-trip.

Only statements live here; proofs are in CueVerif/Proofs/{TidyFix,TidyOrder,TidyWitness,Modfile}.lean.
The model (`Tidy.tidy`, `Tidy.checkTidy`: Model/Tidy.lean) transcribes modload.Tidy / CheckTidy
with modpkgload / modrequirements underneath; the specification (`Tidy.specFlaws`,
`Tidy.specSel`, `Tidy.PReach`: Spec/Tidy.lean) is written from the property text.

Four clauses of the property are FALSE at full strength — on the model and, replayed by the
harness on the same universes, on the implementation: they are kept as `…_stmt`, refuted on a
concrete witness (`…_false`), and the strongest proved part is `…_partial` / the theorems next
to them.  One statement (soundness of the result w.r.t. the specification under four
exclusions) is believed true and is OPEN; it is tied by correspondence only (the `spec` op).
-/
import CueVerif.Proofs.TidyMvs
import CueVerif.Proofs.TidyFix
import CueVerif.Proofs.TidyOrder
import CueVerif.Proofs.TidyExamples
import CueVerif.Proofs.TidyWitness
import CueVerif.Proofs.Modfile
namespace CueVerif.C17
open CueVerif CueVerif.Tidy

/-! ### versions are consistent with minimal version selection (C14) -/

/-- The version the module graph of a requirement list selects for a path — what
`importFromModules` / `updateRoots` read through `ModuleGraph.Selected` — bounds every version
reachable in the pruned requirement graph main → roots → each root's own requirements … -/
theorem C17_mvs_upper (reg : Reg) (roots : List (MPath × Nat)) (mp : MPath) (v : Nat) :
    PReach reg roots (mp, v) → v ≤ specSel reg roots mp :=
  specSel_upper reg roots mp v

/-- … and is attained by a reachable node (or is "none"): it is the maximum, nothing higher. -/
theorem C17_mvs_attained (reg : Reg) (roots : List (MPath × Nat)) (mp : MPath) :
    specSel reg roots mp = 0 ∨ PReach reg roots (mp, specSel reg roots mp) :=
  specSel_attained reg roots mp

/-- The same, stated on C14's requirement-graph model (`Mvs.Reach`, whose terminal states
C14_terminal / C14_minimal_sufficient characterise for every schedule): for any injective
numbering of module paths, the selection is the maximum over `Mvs.Reach` from the main module. -/
theorem C17_mvs_is_C14_selection (reg : Reg) (roots : List (MPath × Nat)) (e : MPath → Nat)
    (hinj : ∀ a b, e a = e b → a = b) (hne : ∀ a, e a ≠ 0) (mp : MPath) :
    (∀ v, Mvs.Reach (mvsGraph reg roots e) [(0, 0)] (e mp, v) → v ≤ specSel reg roots mp) ∧
    (specSel reg roots mp = 0 ∨
      Mvs.Reach (mvsGraph reg roots e) [(0, 0)] (e mp, specSel reg roots mp)) :=
  specSel_mvs reg roots e hinj hne mp

/-- The model's `graphSel` (readModGraph + Selected) is that selection whenever every root's
module file can be read, and fails exactly when one cannot. -/
theorem C17_graph_selects (reg : Reg) (roots : List (MPath × Nat)) :
    (∀ g, graphSel reg roots = some g → g = specSel reg roots) ∧
    (graphSel reg roots = none ↔ ∃ r ∈ roots, reg.find r.1 r.2 = none) :=
  ⟨fun g h => graphSel_eq_specSel reg roots g h, graphSel_none_iff reg roots⟩

/-- FULL CLAUSE (false): every version tidy lists is the version minimal version selection picks
in the tidied file's own graph. -/
def C17_mvs_consistent_stmt : Prop :=
  ∀ (main : Mod) (mods : List Mod) (fuel : Nat) (ds : List Dep),
    tidy main (regOf mods) fuel = .ok ds →
    ∀ d ∈ ds, specSel (regOf mods) (ds.map (fun d => (d.mp, d.rank))) d.mp = d.rank

/-- Witness W1 (harness: `roots-graph-inconsistent`): main lists a v0.1.0 only; a requires b v0.1.0
and c v0.1.0; c v0.1.0 requires b v0.2.0; tidy lists b v0.1.0, its own graph selects b v0.2.0. -/
theorem C17_mvs_consistent_false : ¬ C17_mvs_consistent_stmt := by
  intro h
  have := h Witness.main1 Witness.mods1 60 Witness.deps1 Witness.w1_tidy
    ⟨Witness.mp [8,2] 0, 3, false⟩ (by decide)
  rw [Witness.w1_selected] at this
  exact absurd this (by decide)

/-! ### no unused entry; what "needed" means in the code -/

/-- Every module version tidy lists provided a package of the final package graph: some loaded
import path resolved to it (without error), the registry has that module version and it contains
the package directory.  (The code's rule: the roots are exactly the modules of the loaded
packages — all packages are "in all" because the main module's packages are and the flag
propagates along imports.) -/
theorem C17_no_unused (main : Mod) (reg : Reg) (fuel : Nat) (ds : List Dep)
    (h : tidy main reg fuel = .ok ds) :
    ∀ d ∈ ds, ∃ rs pkgs k imps m,
      resolveLoop (normMod main) reg fuel fuel (initReqs (normMod main)) = .ok (rs, pkgs) ∧
      (k, PkgRes.ok (Prov.ext d.mp d.rank) imps false) ∈ pkgs ∧
      loadOne (normMod main) reg rs k = PkgRes.ok (Prov.ext d.mp d.rank) imps false ∧
      reg.find d.mp d.rank = some m ∧ m.hasPkg k.path = true :=
  tidy_no_unused main reg fuel ds h

/-- Conversely every module a loaded package came from is listed, once (one entry per path). -/
theorem C17_providers_listed (pkgs : List (Imp × PkgRes)) :
    ((tidyRoots pkgs).map (·.1)).Nodup ∧
    (∀ k mp v imps bad, (k, PkgRes.ok (Prov.ext mp v) imps bad) ∈ pkgs → mp ∈ (tidyRoots pkgs).map (·.1)) ∧
    (∀ r ∈ tidyRoots pkgs, ∃ k imps bad, (k, PkgRes.ok (Prov.ext r.1 r.2) imps bad) ∈ pkgs) :=
  tidyRoots_spec pkgs

/-- FULL CLAUSE (false): the tidied file is right in the sense of the specification — every
needed import resolves uniquely in its build list, every provider is listed, every listed module
is used, every listed version is the selected one. -/
def C17_sound_complete_stmt : Prop :=
  ∀ (main : Mod) (mods : List Mod) (fuel : Nat) (ds : List Dep),
    tidy main (regOf mods) fuel = .ok ds → specFlaws main (regOf mods) ds fuel = []

/-- refuted by each of the three witnesses; W3 (harness: `ambiguous-in-build-list`) is used here:
package b/x lies in module t.test and in module t.test/b, both in the build list. -/
theorem C17_sound_complete_false : ¬ C17_sound_complete_stmt := by
  intro h
  have := h Witness.main3 Witness.mods3 60 Witness.deps3 Witness.w3_tidy
  rw [Witness.w3_flaws] at this
  exact absurd this (by decide)

/-- OPEN (believed true, tied by correspondence only: the harness puts `specFlaws` of every
implementation result to the driver; all disagreements observed fall in the excluded shapes).
Hypotheses: every listed version is the one the tidied file's own graph selects (no listed
version below the selected one, no promoted root whose requirements change the selection); a base
path listed at several majors has a default; no ambiguous import; the audit had enough fuel. -/
def C17_sound_complete_partial_stmt : Prop :=   -- OPEN
  ∀ (main : Mod) (mods : List Mod) (fuel : Nat) (ds : List Dep),
    tidy main (regOf mods) fuel = .ok ds →
    (∀ d ∈ ds, specSel (regOf mods) (ds.map (fun d => (d.mp, d.rank))) d.mp = d.rank) →
    (∀ d ∈ ds, ∀ d' ∈ ds, d.mp.base = d'.mp.base → d.mp.major ≠ d'.mp.major → ∃ e ∈ ds, e.mp.base = d.mp.base ∧ e.dflt = true) →
    Flaw.ambiguous ∉ specFlaws main (regOf mods) ds fuel →
    Flaw.fuel ∉ specFlaws main (regOf mods) ds fuel →
    specFlaws main (regOf mods) ds fuel = []

/-! ### fixpoint: tidy on its own output, and the tidiness check -/

/-- FULL CLAUSE (false): running tidy on its own output changes nothing and the check accepts it. -/
def C17_idem_stmt : Prop :=
  ∀ (main : Mod) (mods : List Mod) (fuel : Nat) (ds : List Dep),
    tidy main (regOf mods) fuel = .ok ds →
    tidy { main with deps := ds } (regOf mods) fuel = .ok ds ∧
    checkTidy { main with deps := ds } (regOf mods) fuel = .ok

/-- Witness W2 (harness: `roots-graph-inconsistent`, shape (c)): main lists u.test/d@v0, which
requires t.test/c@v1; c's package imports "u.test/d/n/x" and c requires u.test/d@v1.  Tidy lists
c@v1 and d@v0; on that file c is a root, its requirement brings d@v1 into the build list, tidy
answers c@v1 and d@v1 and the check answers "not tidy". -/
theorem C17_idem_false : ¬ C17_idem_stmt := by
  intro h
  have h2 := (h Witness.main2 Witness.mods2 60 Witness.deps2 Witness.w2_tidy).2
  rw [Witness.w2_second_differs.2] at h2
  exact absurd h2 (by decide)

/-- Two majors of one base path, one of them reached through an unqualified import (the shape of
finding `two-majors-no-default`, which `keepImpliedDefaults`, /repo 8593d77, addresses): on that
universe the major the unqualified import was resolved with is marked default, the result is a fixpoint,
the check accepts it and the specification finds no flaw.  (A TEST on one universe.) -/
theorem C17_two_majors_repaired :
    tidy Witness.mainR (regOf Witness.modsR) 60 = .ok Witness.depsR ∧
    checkTidy { Witness.mainR with deps := Witness.depsR } (regOf Witness.modsR) 60 = .ok ∧
    specFlaws Witness.mainR (regOf Witness.modsR) Witness.depsR 60 = [] :=
  ⟨Witness.r_tidy, Witness.r_stable.2.1, Witness.r_stable.2.2⟩

/-- The provable core of idempotence: the tidiness check is a fixpoint test.  Whenever
CheckTidy accepts a module file, Tidy succeeds on it and lists exactly the same module versions
with exactly the default marks the file's defaults induce — so `Tidy(Tidy(x)) = Tidy(x)` holds
precisely when the check accepts `Tidy(x)` (the excluded region is "the check rejects tidy's
output", which is what W2 exhibits).  `keepImpliedDefaults` is the identity in that situation. -/
theorem C17_idem_partial (main : Mod) (reg : Reg) (fuel : Nat) (hf : 0 < fuel)
    (h : checkTidy main reg fuel = .ok) :
    ∃ ds, tidy main reg fuel = .ok ds ∧
      (∀ mp v, (mp, v) ∈ (initReqs (normMod main)).roots ↔ ∃ d ∈ ds, d.mp = mp ∧ d.rank = v) ∧
      (∀ d ∈ ds, d.dflt = (lookupD (fileDflts (normMod main)) d.mp.base == some d.mp.major)) :=
  check_ok_tidy_noop main reg fuel hf h

/-- In full: on a file the check accepts, tidy returns the entries of the file as read (same
module versions, same default marks; as lists: `Tidy.check_ok_tidy_eq_deps`). -/
theorem C17_check_accepts_means_unchanged (main : Mod) (reg : Reg) (fuel : Nat) (hf : 0 < fuel)
    (h : checkTidy main reg fuel = .ok) :
    ∃ ds, tidy main reg fuel = .ok ds ∧ ∀ d, d ∈ ds ↔ d ∈ (normMod main).deps :=
  check_ok_tidy_same_deps main reg fuel hf h

-- non-vacuity: W1's tidied file is accepted by the check and is a fixpoint (a TEST on one universe)
example : Witness.okDeps (tidy { Witness.main1 with deps := Witness.deps1 } (regOf Witness.mods1) 60) Witness.deps1 = true ∧
    checkTidy { Witness.main1 with deps := Witness.deps1 } (regOf Witness.mods1) 60 = .ok := Witness.w1_stable

/-! ### order independence -/

/-- The outcome of Tidy and of CheckTidy does not depend on the order of the registry listing,
of the packages (directories / files) of any module, of the imports inside a package, or of the
dependency entries of any module file.  Hypotheses: path elements are proper element ids
(< 1000; the sort keys reserve larger numbers for major versions), module files have one entry
per module path, the registry has one entry per module version. -/
theorem C17_order (main main' : Mod) (mods mods' : List Mod) (fuel : Nat)
    (hm : ModPerm main main') (hs : Mod.small main)
    (hr : ∃ l, Forall₂ ModPerm mods l ∧ l.Perm mods') (hsm : ∀ m ∈ mods, Mod.small m)
    (hn : (mods.map (fun m => (m.mp, m.rank))).Nodup) :
    tidy main' (regOf mods') fuel = tidy main (regOf mods) fuel ∧
      checkTidy main' (regOf mods') fuel = checkTidy main (regOf mods) fuel :=
  tidy_order_indep main main' mods mods' fuel hm hs.paths hr hsm hn

/-- Permuting the registry listing alone never changes the registry the algorithm sees. -/
theorem C17_registry_listing (mods mods' : List Mod) (h : mods.Perm mods')
    (hn : (mods.map (fun m => (m.mp, m.rank))).Nodup) : regOf mods' = regOf mods :=
  regOf_perm mods mods' h hn

/-! ### module files: Parse ∘ Format = id; unknown or malformed fields are rejected

The model is tree level: `Modfile.encode` is what Format hands to the CUE printer, `Modfile.decode`
what Parse does with the evaluated data (closed schema of the file's language version, field
types, File.init); lexing/printing of the text is C08/C09's subject.  `L` carries the library
predicates decode takes as parameters (current language version, module-path / version checks). -/

theorem C17_modfile_roundtrip (L : Modfile.Lib) (f : Modfile.Modfile) (h : Modfile.WF L f) :
    Modfile.decode L (Modfile.encode f) = .ok f :=
  Modfile.decode_encode L f h

/-- closedness at every level: an unknown field is rejected wherever it occurs -/
theorem C17_modfile_unknown_rejected (L : Modfile.Lib) (top : Modfile.Fields) :
    (∀ k v, (k, v) ∈ top → k ∉ Modfile.topFields → Modfile.Rejected (Modfile.decode L (.struct top))) ∧
    (∀ lfs k v, Modfile.lookup Modfile.kLanguage top = some (.struct lfs) → (k, v) ∈ lfs → k ≠ Modfile.kVersion →
        Modfile.Rejected (Modfile.decode L (.struct top))) ∧
    (∀ sfs k v, Modfile.lookup Modfile.kSource top = some (.struct sfs) → (k, v) ∈ sfs → k ≠ Modfile.kKind →
        Modfile.Rejected (Modfile.decode L (.struct top))) ∧
    (∀ dfs fs m k v, Modfile.lookup Modfile.kDeps top = some (.struct dfs) → (m, .struct fs) ∈ dfs → (k, v) ∈ fs →
        k ∉ Modfile.depFields → Modfile.Rejected (Modfile.decode L (.struct top))) :=
  ⟨fun k v hm hk => Modfile.unknown_top_rejected L top k v hm hk,
   fun lfs k v hl hm hk => Modfile.unknown_language_field_rejected L top lfs k v hl hm hk,
   fun sfs k v hl hm hk => Modfile.unknown_source_field_rejected L top sfs k v hl hm hk,
   fun dfs fs m k v hl hm hf hk => Modfile.unknown_dep_field_rejected L top dfs fs m k v hl hm hf hk⟩

/-- a known field of the wrong type, or a missing mandatory one, is rejected -/
theorem C17_modfile_malformed_rejected (L : Modfile.Lib) (top : Modfile.Fields)
    (h : Modfile.Malformed top) : Modfile.Rejected (Modfile.decode L (.struct top)) :=
  Modfile.malformed_rejected L top h

/-- FULL CLAUSE (false): every field of an accepted module file survives Parse ∘ Format
("rejected rather than dropped"). -/
def C17_modfile_kept_stmt : Prop := Modfile.accepted_fields_kept_stmt

/-- the schema accepts `description: string`, the File structure has no place for it -/
theorem C17_modfile_kept_false : ¬ C17_modfile_kept_stmt := Modfile.accepted_fields_kept_false

/-- every accepted top-level field other than `description` is present again after Format
(`hv`: an empty `deps` struct denotes the same File as no `deps`) -/
theorem C17_modfile_kept_partial (L : Modfile.Lib) (top : Modfile.Fields) (f : Modfile.Modfile)
    (k : Modfile.Str) (v : Modfile.Val) (h : Modfile.decode L (.struct top) = .ok f)
    (hl : Modfile.lookup k top = some v) (hv : v ≠ .struct []) (hk : k ≠ Modfile.kDescription) :
    ∃ v', Modfile.lookup k (Modfile.encodeFields f) = some v' :=
  Modfile.accepted_fields_kept_partial L top f k v h hl hv hk

end CueVerif.C17
