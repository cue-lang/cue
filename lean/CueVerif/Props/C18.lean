/-
C18 — Workflow tasks run once, after everything they depend on, under every schedule.

The theorems are read off the invariant, which is proved in
CueVerif/Proofs/{Flow,FlowCycle}.lean.  The model (CueVerif/Model/Flow.lean) transcribes tools/flow's controller; a *run* is any sequence of
`Step`s: the result of any running task arrives next (successful or failed, with or without a
filled result), the re-initialisation that follows may discover any new tasks and any new
dependency edges, and the context may be cancelled at any point.  `Reachable g0 s` ranges
over every state of every such run of every workflow (`g0` = what `flow.New` discovers), so
each theorem below is quantified over all task graphs, all growth histories, all completion
orders and all failure/cancellation points.  History is recorded with a logical clock.
-/
import CueVerif.Proofs.Flow
import CueVerif.Proofs.FlowCycle
namespace CueVerif.C18
open CueVerif CueVerif.Flow

theorem cycleSpec : CycleSpec := fun n deps h => checkCycle_iff n deps h
theorem blockedSpec : BlockedSpec := fun n deps hwf hac S hS => no_blocked_set n deps hwf hac S hS

/-- the whole invariant, in every state of every run -/
theorem C18_invariant (g0 : Growth) (s : Ctl) (h : Reachable g0 s) : Inv s :=
  reachable_inv g0 s h

/-- **Dependencies first.**  Whenever a task has been started, every task it depended on at
that moment had its completion received strictly earlier (logical clock), had terminated
successfully, and — if it filled a result — that result is contained in the configuration the
started task's runner was handed. -/
theorem C18_deps_first (g0 : Growth) (s : Ctl) (h : Reachable g0 s) : DepsFirst s :=
  (C18_invariant g0 s h).depsFirst

/-- **At most once.**  In every state every task's runner has been started at most once, and
exactly the tasks that are Running or Terminated have been started. -/
theorem C18_once (g0 : Growth) (s : Ctl) (h : Reachable g0 s) : Once s :=
  (C18_invariant g0 s h).once

/-- **Forward only.**  Task states, run counters, recorded start data, the task set and the
dependency sets only ever move forward along a step. -/
theorem C18_forward (g0 : Growth) (s s' : Ctl) (h : Reachable g0 s) (hs : Step s s') (t : Nat) :
    (s.tasks t).state.rank ≤ (s'.tasks t).state.rank ∧
    (s.tasks t).runs ≤ (s'.tasks t).runs ∧
    (∀ k, (s.tasks t).startAt = some k → (s'.tasks t).startAt = some k ∧
        (s'.tasks t).startDeps = (s.tasks t).startDeps ∧ (s'.tasks t).startSeen = (s.tasks t).startSeen) ∧
    s.n ≤ s'.n ∧
    (∀ d, d ∈ (s.tasks t).deps → d ∈ (s'.tasks t).deps) :=
  step_forward s s' (C18_invariant g0 s h) hs t

/-- **All run.**  When the run loop has returned without an error and without cancellation,
every registered task — including those discovered on the way — has run exactly once and
terminated successfully. -/
theorem C18_all_run (g0 : Growth) (s : Ctl) (h : Reachable g0 s)
    (hstop : s.stopped = true) (herr : s.errs = false) (hc : s.cancelled = false) : AllRan s := by
  have hi := C18_invariant g0 s h
  intro t ht
  have hterm := hi.finished hstop herr hc t ht
  refine ⟨hterm, ?_, ?_⟩
  · cases hf : (s.tasks t).failed with
    | false => rfl
    | true => have := hi.failed_errs t ht hf; simp [herr] at this
  · exact ((hi.once t ht).2.1).2 (by rw [hterm]; decide)

/-- An error is only ever recorded because a task failed or because the dependency graph of
that state has a cycle.  Together with `C18_all_run` (its contrapositive gives `errs = false`):
in a state where the loop has returned without cancellation, no task has failed and the graph
of that state is acyclic, every task ran. -/
theorem C18_errs_cause (g0 : Growth) (s : Ctl) (h : Reachable g0 s) (he : s.errs = true) :
    (∃ t, t < s.n ∧ (s.tasks t).failed = true) ∨ Cyclic s.n s.deps := by
  rcases errs_cause g0 s h he with hf | hc
  · exact Or.inl hf
  · exact Or.inr ((checkCycle_iff s.n s.deps (C18_invariant g0 s h).wf).1 hc)

/-- **Progress / no deadlock.**  While the loop has not returned, no error is recorded,
nothing is left Ready and some task is Running (so the `select` always has a completion to
wait for); the defensive "deadlock" branch of `runLoop` is unreachable. -/
theorem C18_no_deadlock (g0 : Growth) (s : Ctl) (h : Reachable g0 s) :
    s.deadlock = false ∧
    (s.stopped = false → s.errs = false ∧ (∀ t, t < s.n → (s.tasks t).state ≠ .ready) ∧
      ∃ t, t < s.n ∧ (s.tasks t).state = .running) :=
  ⟨(C18_invariant g0 s h).no_deadlock, (C18_invariant g0 s h).live⟩

/-- **A failure stops everything.**  Receiving a failed completion records an error and
returns from the loop without touching any other task: nothing is dispatched. -/
theorem C18_fail_stops (s : Ctl) (i : Nat) (fill : Bool) (g : Growth) :
    (onComplete s i false fill g).stopped = true ∧ (onComplete s i false fill g).errs = true ∧
    (onComplete s i false fill g).n = s.n ∧
    (∀ t, t ≠ i → (onComplete s i false fill g).tasks t = s.tasks t) ∧
    ((onComplete s i false fill g).tasks i).runs = (s.tasks i).runs ∧
    ((onComplete s i false fill g).tasks i).state = .terminated :=
  failure_stops s i fill g

/-- Once the loop has returned — after a failure, a cancellation, a reported cycle or the
normal end — no step exists any more, so no dependant (nor any other task) is started. -/
theorem C18_stopped_final (s s' : Ctl) (h : s.stopped = true) : ¬ Step s s' :=
  stopped_final s s' h

/-- No started task ever had a failed task among its dependencies, in any state of any run. -/
theorem C18_no_dependant_of_failed (g0 : Growth) (s : Ctl) (h : Reachable g0 s)
    (t d k : Nat) (ht : t < s.n) (hk : (s.tasks t).startAt = some k)
    (hd : d ∈ (s.tasks t).startDeps) : (s.tasks d).failed = false :=
  ((C18_deps_first g0 s h) t ht k hk d hd).2.2.2.1

/-- **Cycles.**  `checkCycle` (the depth-first search of cycle.go) reports an error exactly
when some registered task depends, directly or indirectly, on itself. -/
theorem C18_cycle (n : Nat) (deps : Nat → List Nat) (h : WfDeps n deps) :
    checkCycle n deps = true ↔ Cyclic n deps :=
  checkCycle_iff n deps h

/-- While no error is recorded the dependency graph of every reachable state is acyclic. -/
theorem C18_acyclic (g0 : Growth) (s : Ctl) (h : Reachable g0 s) (he : s.errs = false) :
    ¬ Cyclic s.n s.deps := by
  have hi := C18_invariant g0 s h
  intro hc
  have := (C18_cycle s.n s.deps hi.wf).2 hc
  rw [hi.acyclic he] at this
  exact Bool.noConfusion this

/-- **Final value.**  In every state the configuration `Controller.Value()` returns is up to
date and is evaluated from the initial conjuncts plus exactly one conjunct per task that
filled a result. -/
theorem C18_final_value (g0 : Growth) (s : Ctl) (h : Reachable g0 s) : FinalValue s :=
  (C18_invariant g0 s h).value

/-- Hence two runs (any two schedules, of any two workflows) in which the same tasks filled
results build their configuration from the same conjuncts up to order.  (That unifying the
same conjuncts in a different order gives the same value is property C01.) -/
theorem C18_schedule_indep (g0 g0' : Growth) (s s' : Ctl)
    (h : Reachable g0 s) (h' : Reachable g0' s')
    (hsame : ∀ t, (t < s.n ∧ (s.tasks t).filled = true) ↔ (t < s'.n ∧ (s'.tasks t).filled = true)) :
    s.inst.Perm s'.inst :=
  final_perm s s' (C18_final_value g0 s h) (C18_final_value g0' s' h') hsame

/-! ### non-vacuity (tests of the definitions on concrete runs, not the property) -/

/-- a diamond 0 ← {1,2} ← 3 -/
def exDiamond : Growth := { newTasks := 4, newDeps := [(1, 0), (2, 0), (3, 1), (3, 2)] }

/-- a run of the diamond in which a task 4 appears (depending on 3 and 1) when task 0
completes, and the two middle tasks finish in the "wrong" order -/
def exRun : Ctl :=
  runSchedule (start (new exDiamond))
    [ { task := 0, grow := { newTasks := 1, newDeps := [(4, 3), (4, 1)] } },
      { task := 2 }, { task := 1 }, { task := 3 }, { task := 4 } ]

example : Reachable exDiamond exRun :=
  runSchedule_reachable exDiamond _ _ Reachable.init

-- the run ends normally with five tasks; task 3 was started after both middle tasks had ended
-- and saw both results
example : exRun.stopped = true ∧ exRun.errs = false ∧ exRun.cancelled = false ∧ exRun.n = 5 := by decide +kernel
example : (exRun.tasks 3).startDeps = [1, 2] ∧ (exRun.tasks 3).startSeen = [1, 2, 0] ∧
    (exRun.tasks 3).startAt = some 6 ∧ (exRun.tasks 1).endAt = some 5 ∧ (exRun.tasks 2).endAt = some 4 := by decide +kernel
example : exRun.inst = [4, 3, 1, 2, 0] := by decide +kernel

-- a failing run: task 1 fails while 2 is running; 3 (depends on 1 and 2) is never started
example : (let s := runSchedule (start (new exDiamond)) [{ task := 0 }, { task := 1, ok := false }, { task := 2 }]
    (s.stopped, s.errs, (s.tasks 3).runs, (s.tasks 2).state, (s.tasks 3).state)) =
    (true, true, 0, TState.running, TState.waiting) := by decide +kernel

-- a cyclic graph is reported and nothing runs
example : (let s := start (new { newTasks := 3, newDeps := [(0, 2), (1, 0), (2, 1)] })
    (s.errs, s.stopped, s.deadlock, (s.tasks 0).runs)) = (true, true, false, 0) := by decide +kernel
example : Cyclic 3 (fun i => if i = 0 then [2] else if i = 1 then [0] else if i = 2 then [1] else []) :=
  ⟨0, by decide, .trans (d := 2) (by decide) (.trans (d := 1) (by decide) (.edge (by decide)))⟩

end CueVerif.C18
