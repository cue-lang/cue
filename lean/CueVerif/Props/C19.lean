/-
C19 — Values are immutable: concurrent use gives sequential answers, no data races.

WHAT IS PROVED HERE IS NARROW (claims/C19.json says "partial"): the shared-state
PROTOCOLS behind the immutable facade that are small enough to model — the global
label/string intern table (internal/core/runtime/index.go) and the lock bracketing of
every function of package internal/core/runtime that touches the runtime's shared maps
and counters — over ALL numbers of goroutines and ALL interleavings.  Absence of data
races in the pointer-mutating evaluator is NOT a theorem about any pure model and is not
claimed; that half of the property is only observed (race detector + sequential-answer
comparison in the harness).

Only statements live here; the proofs are in Proofs/{LocksetMutex,Lockset}.lean (lock machine)
and Proofs/{InternStep,InternInv,Intern}.lean (intern table).
The protocols the theorems are applied to are REGENERATED from the source
(Bridge/C19.lean).
-/
import CueVerif.Proofs.Lockset
import CueVerif.Proofs.Intern
namespace CueVerif.C19
open CueVerif CueVerif.Lockset

/-! ### Eraser-style lockset theorems, generic in the protocols

For ANY data semantics, ANY set of protocols that pass the static check `wellLocked`
against a guard assignment `g` (variable ↦ mutex), ANY number of threads spawned at any
time and ANY interleaving. -/

/-- Every write happens under the write lock and every read under some
lock ⇒ no two conflicting accesses are ever simultaneously enabled. -/
theorem C19_lockset {D L : Type} (sem : Sem D L) (progs : List Prog) (initL : L → Prop) (d0 : D)
    (g : Loc → Lk) (strict : Bool) (hp : ∀ p ∈ progs, wellLocked g strict p = true)
    (s : St D L) (hr : Run sem progs initL d0 s) : ¬ Race s :=
  Lockset.no_race sem progs initL d0 g strict hp s hr

/-- a write holder excludes every other holder of the same mutex (this is the RWMutex
contract; it holds for all protocols, checked or not) -/
theorem C19_mutual_exclusion {D L : Type} (sem : Sem D L) (progs : List Prog) (initL : L → Prop)
    (d0 : D) (s : St D L) (hr : Run sem progs initL d0 s)
    (i j : Nat) (ti tj : Th L) (l : Lk) (hij : i ≠ j)
    (hi : s.ths[i]? = some ti) (hj : s.ths[j]? = some tj)
    (hw : ti.held.contains (l, true) = true) : holdsAny tj.held l = false :=
  Lockset.mutual_exclusion sem progs initL d0 s hr i j ti tj l hij hi hj hw

/-- no protocol ever unlocks a mutex it does not hold (Go: "fatal error: sync: unlock of
unlocked mutex"), on any path, explicit or deferred -/
theorem C19_no_fatal_unlock {D L : Type} (sem : Sem D L) (progs : List Prog) (initL : L → Prop)
    (d0 : D) (g : Loc → Lk) (strict : Bool) (hp : ∀ p ∈ progs, wellLocked g strict p = true)
    (s : St D L) (hr : Run sem progs initL d0 s) : ∀ t ∈ s.ths, ¬ FatalUnlock t :=
  Lockset.no_fatal_unlock sem progs initL d0 g strict hp s hr

/-- a finished call holds no lock (no leak on any return path) -/
theorem C19_no_lock_leak {D L : Type} (sem : Sem D L) (progs : List Prog) (initL : L → Prop)
    (d0 : D) (g : Loc → Lk) (strict : Bool) (hp : ∀ p ∈ progs, wellLocked g strict p = true)
    (s : St D L) (hr : Run sem progs initL d0 s) : ∀ t ∈ s.ths, t.st = .done → t.held = [] :=
  Lockset.no_lock_leak sem progs initL d0 g strict hp s hr

/-- protocols that pass the STRICT check (no lock taken, no lock-taking function called
while a lock is held) never deadlock: in every reachable state with an unfinished call
some thread can move -/
theorem C19_no_deadlock {D L : Type} (sem : Sem D L) (progs : List Prog) (initL : L → Prop)
    (d0 : D) (g : Loc → Lk) (hp : ∀ p ∈ progs, wellLocked g true p = true)
    (s : St D L) (hr : Run sem progs initL d0 s) : ¬ Deadlock sem s :=
  Lockset.no_deadlock sem progs initL d0 g hp s hr

-- non-vacuity: the check accepts the double-checked-locking protocol of getKey and rejects
-- a store under the read lock, a lookup without any lock, and a lock leaked on an early return
example : wellLocked Intern.guard true Intern.getKeyProg = true := by decide +kernel
example : wellLocked Intern.guard false
    [.acq "mutex" false, .acc "labelMap" .lookup, .acc "labelMap" .store, .rel "mutex" false] = false := by decide
example : wellLocked Intern.guard false [.acc "labelMap" .lookup, .ret] = false := by decide
example : wellLocked Intern.guard false [.acq "mutex" true, .br "ok" 1, .ret, .rel "mutex" true] = false := by decide

/-! ### the intern table: linearizability to an insert-once map

`Intern.IRun d0 s`: `s` is reachable from the table `d0` by any number of concurrent
`getKey(s)` / `IndexToString(i)` calls, interleaved instruction by instruction. -/

/-- the two protocols pass the strict lockset check — so C19_lockset, C19_no_deadlock …
apply to the intern table (stated on the model programs; Bridge.C19 states it for the
regenerated ones) -/
theorem C19_intern_wellLocked : ∀ p ∈ Intern.progs, wellLocked Intern.guard true p = true :=
  Intern.progs_wellLocked

set_option linter.unusedVariables false in
/-- The table only grows: every step extends `labels` at the end (or leaves it alone).  `hc` and
`hr` are not needed: this holds from any state (`Intern.steps_grows`). -/
theorem C19_intern_grows (d0 : Intern.Tab) (hc : Intern.Consistent d0) (s s' : Intern.State)
    (hr : Intern.IRun d0 s) (hs : Steps Intern.sem Intern.progs Intern.initL s s') :
    ∃ ext, s'.data.labels = s.data.labels ++ ext :=
  Intern.steps_grows hs

set_option linter.unusedVariables false in
/-- Indices are never reassigned (from any state: `hc`, `hr` are not needed). -/
theorem C19_intern_never_reassigned (d0 : Intern.Tab) (hc : Intern.Consistent d0)
    (s s' : Intern.State) (hr : Intern.IRun d0 s)
    (hs : Steps Intern.sem Intern.progs Intern.initL s s') (i : Nat) (k : Intern.Key)
    (h : s.data.labels[i]? = some k) : s'.data.labels[i]? = some k :=
  Intern.never_reassigned hs h

/-- No string is ever entered twice -/
theorem C19_intern_nodup (d0 : Intern.Tab) (hc : Intern.Consistent d0) (s : Intern.State)
    (hr : Intern.IRun d0 s) : s.data.labels.Nodup :=
  Intern.nodup d0 hc s hr

/-- A finished `getKey(s)` returned an index whose table entry is `s` -/
theorem C19_intern_result (d0 : Intern.Tab) (hc : Intern.Consistent d0) (s : Intern.State)
    (hr : Intern.IRun d0 s) (t : Th Intern.Loc) (ht : t ∈ s.ths)
    (hp : t.prog = Intern.getKeyProg) (hd : t.st = .done) :
    s.data.labels[t.loc.p]? = some t.loc.s :=
  Intern.result d0 hc s hr t ht hp hd

/-- Equal strings get equal indices and distinct strings distinct indices, whatever
the interleaving of the calls -/
theorem C19_intern_injective (d0 : Intern.Tab) (hc : Intern.Consistent d0) (s : Intern.State)
    (hr : Intern.IRun d0 s) (t u : Th Intern.Loc) (ht : t ∈ s.ths) (hu : u ∈ s.ths)
    (hpt : t.prog = Intern.getKeyProg) (hpu : u.prog = Intern.getKeyProg)
    (hdt : t.st = .done) (hdu : u.st = .done) :
    t.loc.s = u.loc.s ↔ t.loc.p = u.loc.p :=
  Intern.injective d0 hc s hr t u ht hu hpt hpu hdt hdu

/-- Whenever nobody holds the write lock, `labelMap` is exactly the inverse of
`labels` -/
theorem C19_intern_consistent (d0 : Intern.Tab) (hc : Intern.Consistent d0) (s : Intern.State)
    (hr : Intern.IRun d0 s) (hq : ∀ t ∈ s.ths, t.held.contains ("mutex", true) = false) :
    Intern.Consistent s.data :=
  Intern.consistent_quiescent d0 hc s hr hq

set_option linter.unusedVariables false in
/-- `IndexToString` of an index that is in the table returns its string, for ever: any call
started after the entry exists, whatever happens concurrently (from any state: `hc`, `hr` are
not needed). -/
theorem C19_intern_name (d0 : Intern.Tab) (hc : Intern.Consistent d0) (s s' : Intern.State)
    (hr : Intern.IRun d0 s) (i : Nat) (k : Intern.Key) (hk : s.data.labels[i]? = some k)
    (hs : Steps Intern.sem Intern.progs Intern.initL s s')
    (j : Nat) (t : Th Intern.Loc) (hj : s.ths.length ≤ j) (ht : s'.ths[j]? = some t)
    (hp : t.prog = Intern.indexToStringProg) (hi : t.loc.i = i) (hd : t.st = .done) :
    t.loc.out = some k :=
  Intern.name_stable hk hs hj ht hp hi hd

/-- LINEARIZABILITY, by linearization points.  Every step of every run is either
* a spawn (a new call starts, nothing else changes), or
* a step of one thread that leaves the abstract table (`labels`) and the thread's ghost
  result `lin` unchanged, or
* THE linearization step of a `getKey(k)` call that has not been linearized yet
  (`lin = none` before): the abstract insert-once table makes exactly the atomic
  transition `InternSpec.intern labels k = (r, labels')` and the call records `r`.
Together with `C19_intern_returns_lin` (a finished call returns the `r` of its own
linearization step) this is the linearization-point characterisation: every concurrent
history of `getKey` calls is equivalent to the sequential history of atomic `intern`s in
linearization order, each placed between its call and its return. -/
theorem C19_intern_linearizable (d0 : Intern.Tab) (hc : Intern.Consistent d0)
    (s s' : Intern.State) (hr : Intern.IRun d0 s) (hst : Intern.IStep s s') :
    (∃ t, s'.ths = s.ths ++ [t] ∧ t.loc.lin = none ∧ s'.data = s.data) ∨
    (∃ i t t', s.ths[i]? = some t ∧ s'.ths = s.ths.set i t' ∧
      ((t'.loc.lin = t.loc.lin ∧ s'.data.labels = s.data.labels) ∨
       (t.prog = Intern.getKeyProg ∧ t.loc.lin = none ∧ t'.loc.s = t.loc.s ∧
        ∃ r, t'.loc.lin = some r ∧
          InternSpec.intern s.data.labels t.loc.s = (r, s'.data.labels)))) :=
  Intern.linearizable d0 hc s s' hr hst

theorem C19_intern_returns_lin (d0 : Intern.Tab) (hc : Intern.Consistent d0) (s : Intern.State)
    (hr : Intern.IRun d0 s) (t : Th Intern.Loc) (ht : t ∈ s.ths)
    (hp : t.prog = Intern.getKeyProg) (hd : t.st = .done) :
    t.loc.lin = some t.loc.p :=
  Intern.returns_lin d0 hc s hr t ht hp hd

-- non-vacuity: a consistent non-empty initial table (the state after `init()` interned "_")
example : Intern.Consistent { map := [([95], 0)], labels := [[95]] } := by
  intro k i; simp only [Intern.lookup]; constructor
  · intro h; split at h
    · next hk => cases h; simp [hk]
    · cases h
  · intro h; cases i with
    | zero => simp at h; simp [h]
    | succ n => simp at h

end CueVerif.C19
