/-
C20 — `cue trim` removes only what is implied: the evaluated configuration is unchanged.

Proofs: CueVerif/Proofs/Trim.lean; the `BitVec 32` witnesses here, by evaluation.  The theorems are about
the removal CRITERION in the value model of Model/Trim.lean (any meet-semilattice of
values, conjunct multisets per path, value/default pairs, absent fields, pattern
conjuncts).  tools/trim/trimv3.go itself (which conjuncts it inspects, dependency linking,
AST rewriting) is NOT transcribed: every run of the check validates its output instead
(harness/c20*.go: evaluated result before = after at every path, idempotence, each removal
implied by the rest, and — for the flat family — each removal judged by `finalMask`).
-/
import CueVerif.Proofs.Trim
namespace CueVerif.C20
open CueVerif CueVerif.Trim

/-! ### removing what is implied preserves the result at every path -/

/-- Removing one conjunct that the rest of the package implies (`redundant`: the unified
package value is the same without it) leaves the fully evaluated, default-resolved result
unchanged at EVERY path — field present/absent included.  For every value lattice `L`,
path type `P` and conjunct multiset `A ++ c :: B`. -/
theorem C20_removal_sound {V P : Type} (L : SLB V) [DecidableEq V] (A : List (PkgConj P V))
    (c : PkgConj P V) (B : List (PkgConj P V)) (h : redundant (pkgSL L P) A c B) :
    ∀ p, finalAt L (A ++ B) p = finalAt L (A ++ c :: B) p :=
  removal_sound L A c B h

/-- Any sequence of removals, each of a conjunct redundant with respect to the CURRENT
multiset (whatever the "removable" side condition `ok` is), preserves the result at every
path. -/
theorem C20_iterated {V P K : Type} (L : SLB V) [DecidableEq V] (val : K → PkgConj P V)
    (ok : K → Prop) (C C' : List K) (h : Removal (pkgSL L P) val ok C C') :
    ∀ p, finalAt L (C'.map val) p = finalAt L (C.map val) p :=
  removal_final L val ok h

/-- … whereas removing two conjuncts that are each redundant with respect to the ORIGINAL
multiset is unsound (`x: 1`, `x: 1`): this is why trim must keep one "winner" per vertex
and re-judge against what is actually kept. -/
def C20_simultaneous_stmt : Prop :=
  ∀ (a b : Mask), redundant bits.toSL [] a [b] → redundant bits.toSL [a] b [] →
    unifyAll bits.toSL [] = unifyAll bits.toSL [a, b]

theorem C20_simultaneous_false : ¬ C20_simultaneous_stmt := by
  intro h
  have := h 1#32 1#32 (by decide) (by decide)
  revert this
  decide

/-- One winner per path suffices: if the kept conjuncts `Kp` contain, for the path `p`, a
conjunct that is alone as specific as the whole vertex there, the kept part has the same
value at `p` as the whole package (so any hitting set of the per-vertex winner sets is a
sound choice — `solveUndecideds`). -/
theorem C20_winners_per_path {S P : Type} (L : SL S) (Kp R : List (P → S)) (p : P)
    (h : ∃ w ∈ Kp, le L (w p) (unifyAll (L.pi P) (Kp ++ R) p)) :
    unifyAll (L.pi P) Kp p = unifyAll (L.pi P) (Kp ++ R) p :=
  winners_per_path L Kp R p h

/-! ### trimming again removes nothing more -/

/-- The specification-level trimmer (`trimModel`: one scan, dropping each removable conjunct
that is redundant w.r.t. what is currently left) performs a legal removal sequence … -/
theorem C20_model_removal {S K : Type} (L : SL S) [DecidableEq S] (val : K → S) (ok : K → Bool)
    (C : List K) : Removal L val (fun k => ok k = true) C (trimModel L val ok C) :=
  greedy_removal L val ok [] C

/-- … after which no removable conjunct is redundant any more (conjuncts judged early stay
non-redundant when later ones are removed) … -/
theorem C20_idem_spec {S K : Type} (L : SL S) [DecidableEq S] (val : K → S) (ok : K → Bool)
    (C : List K) : Maximal L val (fun k => ok k = true) (trimModel L val ok C) :=
  greedy_maximal L val ok C

/-- … so trimming the trimmed multiset again is the identity. -/
theorem C20_idempotent {S K : Type} (L : SL S) [DecidableEq S] (val : K → S) (ok : K → Bool)
    (C : List K) : trimModel L val ok (trimModel L val ok C) = trimModel L val ok C :=
  greedy_idem L val ok C

/-! ### defaults: trim compares with defaults applied on both sides -/

/-- trim's actual test (`equallySpecific`, `subsume.Profile{Defaults, LeftDefault}`):
keep `Kp`, drop `R`, whenever the kept part with defaults applied is subsumed by the
whole vertex with defaults applied.  As a general criterion this is FALSE: -/
def C20_winner_criterion_stmt : Prop :=
  ∀ (Kp R : List (DV Mask)),
    equallySpecific bits (unifyAll bits.dv (Kp ++ R)) (unifyAll bits.dv Kp) →
    resolve bits (unifyAll bits.dv Kp) = resolve bits (unifyAll bits.dv (Kp ++ R))

/-- witness (`C20_defaults_caveat`): atoms 1 ↦ bit 0, 3 ↦ bit 1, other ints ↦ bit 2;
`x: *1 | int` kept, `x: *3 | int` dropped.  The vertex is `1 | 3 | int` without a default,
the kept conjunct resolves to `1`, which the vertex subsumes — yet the result changes
from "incomplete" to `1`. -/
theorem C20_defaults_caveat : ¬ C20_winner_criterion_stmt := by
  intro h
  have := h [⟨7#32, 1#32⟩] [⟨7#32, 2#32⟩] (by decide)
  revert this
  decide

/-- The criterion is sound outside exactly this region: unless the whole vertex has lost
its default while the kept part still has one. -/
theorem C20_winner_criterion_partial {V : Type} (L : SLB V) [DecidableEq V] (Kp R : List (DV V))
    (hreg : ¬ ((unifyAll L.dv (Kp ++ R)).d = L.bot ∧ (unifyAll L.dv Kp).d ≠ L.bot))
    (h : equallySpecific L (unifyAll L.dv (Kp ++ R)) (unifyAll L.dv Kp)) :
    resolve L (unifyAll L.dv Kp) = resolve L (unifyAll L.dv (Kp ++ R)) := by
  rw [unifyAll_append] at *
  exact winner_partial L _ _ hreg h

/-- The hypothesis shape trim satisfies: when no DROPPED conjunct carries a default mark
(trimv3 `findDisjunctions` marks every conjunct of a disjunction as required) the region is
unreachable and the defaults-applied test is sound for every lattice and every multiset. -/
theorem C20_winner_criterion_unmarked {V : Type} (L : SLB V) [DecidableEq V] (Kp R : List (DV V))
    (hR : ∀ r ∈ R, r.unmarked)
    (h : equallySpecific L (unifyAll L.dv (Kp ++ R)) (unifyAll L.dv Kp)) :
    resolve L (unifyAll L.dv Kp) = resolve L (unifyAll L.dv (Kp ++ R)) := by
  rw [unifyAll_append] at *
  exact winner_unmarked L _ _ (unmarked_unifyAll L R hR) h

/-! ### conjuncts that must not count as winners -/

/-- A pattern-root conjunct (`[string]: 5`) may be as specific as the vertex `o` (value 5)
without being able to keep the field in existence: keeping only it makes `o` disappear. -/
def patRoot : Cj (DV Mask) := { val := ⟨1#32, 1#32⟩, pattern := true }   -- `[string]: 5`
def patDecl : Cj (DV Mask) := { val := ⟨3#32, 3#32⟩ }                    -- `o: int`

theorem C20_pattern_root_caveat :
    unifyAll bits.dv [patRoot.val] = unifyAll bits.dv [patRoot.val, patDecl.val] ∧
    finalMask [patRoot, patDecl] = some 1#32 ∧ finalMask [patRoot] = none := by
  decide

/-- … while dropping conjuncts is sound for field existence too as long as a plain
(non-pattern) conjunct is kept and the unified value is unchanged. -/
theorem C20_pattern_sound {S : Type} (L : SL S) (Kp R : List (Cj S))
    (hplain : Kp.any (fun c => !c.pattern) = true)
    (h : unifyAll L (Kp.map Cj.val) = unifyAll L ((Kp ++ R).map Cj.val)) :
    vertexValue L Kp = vertexValue L (Kp ++ R) :=
  pattern_sound L Kp R hplain h

/-- A conjunct found inside a selected disjunction branch (`d: 6 | string`, `o: d & int`:
the vertex `o` shows the conjuncts `6` and `int`) makes `int` LOOK redundant although it is
not redundant against what `d` really contributes (bit 0 = 6, bit 1 = other ints,
bit 2 = strings). -/
theorem C20_branch_conjunct_caveat :
    -- d = 5 (`6 | string`), the selected branch six = 1, int = 3
    le bits.toSL (1#32 : Mask) 5#32 ∧ redundant bits.toSL [(1#32 : Mask)] 3#32 [] ∧
      ¬ redundant bits.toSL [(5#32 : Mask)] 3#32 [] := by
  decide

/-! ### non-vacuity -/

-- a removable, redundant conjunct exists and the model trimmer drops exactly it
example : trimModel bits.toSL (fun m : Mask => m) (fun _ => true) [3#32, 1#32, 1#32] = [1#32] := by
  decide
-- a legal removal sequence of length 2 on a two-path package
example : Removal bits.toSL (fun m : Mask => m) (fun _ => True) [3#32, 1#32, 1#32] [1#32] :=
  .step [] _ [1#32, 1#32] _ trivial (by decide) (.step [] _ [1#32] _ trivial (by decide) (.refl _))
-- the unmarked hypothesis is met by `x: *1 | int` kept, `x: 1` dropped
example : equallySpecific bits (unifyAll bits.dv ([⟨7#32, 1#32⟩] ++ [⟨1#32, 1#32⟩]))
    (unifyAll bits.dv [⟨7#32, 1#32⟩]) := by decide

end CueVerif.C20
